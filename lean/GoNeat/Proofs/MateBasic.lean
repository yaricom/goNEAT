/-
  The crossover model (`Model/Mate.lean`) seen from outside: what a successful call of each building block returned,
  and what a successful walk over a plan (`walkR`, Proofs/MateWalk.lean) did - it only adds what it picks (`walkR_ind`),
  the genes it appends stand one for one for the entries of the plan that survive the conflict check (`walkR_plan`),
  their numbers are a sublist of the plan's numbers (`walkR_inns`).
-/
import GoNeat.Proofs.MateWalk
import GoNeat.Proofs.ListLemmas

namespace GoNeat.C04
open GoNeat Scalar
section
variable {W : Type}

theorem sameLink_iff (a b : Gene W) : a.sameLink b = true ↔ a.link = b.link := by
  unfold Gene.sameLink Gene.link
  simp only [Bool.and_eq_true, beq_iff_eq, Prod.mk.injEq, and_assoc]

theorem any_sameLink_iff (l : List (Gene W)) (g : Gene W) :
    l.any (·.sameLink g) = true ↔ g.link ∈ l.map (·.link) := by
  simp only [List.any_eq_true, List.mem_map, sameLink_iff]

theorem ensureNode_exact {nt : List (Trait W)} {t0 : Option Int} {nodes nodes' : List Node} {n : Node}
    (h : ensureNode nt t0 nodes n = .ok nodes') :
    (nodes.any (·.id == n.id) = true ∧ nodes' = nodes) ∨
    (nodes.any (·.id == n.id) = false ∧
      ∃ tr, childTraitRef nt t0 n.trait = .ok tr ∧ nodes' = nodeInsert nodes { n with trait := tr }) := by
  unfold ensureNode at h
  split at h
  · rename_i hany; cases h; exact Or.inl ⟨hany, rfl⟩
  · rename_i hany
    split at h
    · cases h
    · rename_i tr htr; cases h; exact Or.inr ⟨by simpa using hany, tr, htr, rfl⟩

theorem addChosen_exact (nt : List (Trait W)) (t0 : Option Int) (acc acc' : MateAcc W) (c : Chosen W) (dis : Bool)
    (h : addChosen nt t0 acc c dis = .ok acc') :
    (acc.genes.any (·.sameLink c.gene) = true ∧ acc' = acc) ∨
    (acc.genes.any (·.sameLink c.gene) = false ∧ ∃ sn dn n1 tr, c.srcN = some sn ∧ c.dstN = some dn ∧
      ensureNode nt t0 acc.nodes sn = .ok n1 ∧ ensureNode nt t0 n1 dn = .ok acc'.nodes ∧
      childTraitRef nt t0 c.gene.trait = .ok tr ∧
      acc'.genes = acc.genes ++ [{ c.gene with trait := tr, en := if dis then false else c.gene.en }]) := by
  unfold addChosen at h
  split at h
  · rename_i hany; cases h; exact Or.inl ⟨hany, rfl⟩
  · rename_i hany
    refine Or.inr ⟨by simpa using hany, ?_⟩
    split at h
    · rename_i sn dn hsn hdn
      split at h
      · cases h
      · rename_i n1 h1
        split at h
        · cases h
        · rename_i n2 h2
          split at h
          · cases h
          · rename_i tr htr
            cases h
            exact ⟨sn, dn, n1, tr, hsn, hdn, h1, h2, htr, rfl⟩
    · cases h

theorem addChosen_nodes {nt : List (Trait W)} {t0 : Option Int} {acc acc' : MateAcc W} {c : Chosen W} {dis : Bool}
    (h : addChosen nt t0 acc c dis = .ok acc') :
    (∀ m ∈ acc.nodes, m ∈ acc'.nodes) ∧
    ∀ m ∈ acc'.nodes, m ∈ acc.nodes ∨ ∃ n tr, (c.srcN = some n ∨ c.dstN = some n) ∧ m = { n with trait := tr } := by
  have ens {nodes nodes' : List Node} {n : Node} (he : ensureNode nt t0 nodes n = .ok nodes') :
      (∀ m ∈ nodes, m ∈ nodes') ∧ ∀ m ∈ nodes', m ∈ nodes ∨ ∃ tr, m = { n with trait := tr } := by
    rcases ensureNode_exact he with ⟨_, rfl⟩ | ⟨_, tr, _, rfl⟩
    · exact ⟨fun _ hm => hm, fun _ hm => Or.inl hm⟩
    · exact ⟨fun m hm => (mem_insertAt _ _ _ _).mpr (Or.inr hm),
        fun m hm => ((mem_insertAt _ _ _ _).mp hm).symm.imp id fun e => ⟨tr, e⟩⟩
  rcases addChosen_exact nt t0 acc acc' c dis h with ⟨_, rfl⟩ | ⟨_, sn, dn, n1, _, hsn, hdn, e1, e2, _, _⟩
  · exact ⟨fun _ hm => hm, fun _ hm => Or.inl hm⟩
  · refine ⟨fun m hm => (ens e2).1 m ((ens e1).1 m hm), fun m hm => ?_⟩
    rcases (ens e2).2 m hm with hm | ⟨tr, e⟩
    · exact ((ens e1).2 m hm).imp id fun ⟨tr, e⟩ => ⟨sn, tr, Or.inl hsn, e⟩
    · exact Or.inr ⟨dn, tr, Or.inr hdn, e⟩

def isIO (n : Node) : Bool := n.kind == Kind.input || n.kind == Kind.bias || n.kind == Kind.output

theorem isIO_iff (n : Node) (h : n.kind ≤ 3) : isIO n = true ↔ n.kind ≠ Kind.hidden := by
  unfold isIO
  have key : ∀ z : Nat, z ≤ 3 → ((z == 1 || z == 3 || z == 2) = true ↔ z ≠ 0) := by
    intro z hz
    have : z = 0 ∨ z = 1 ∨ z = 2 ∨ z = 3 := by omega
    rcases this with rfl | rfl | rfl | rfl <;> simp
  exact key n.kind h

/-- the child's copy of a parent's node: its trait pointer is redirected into the child's traits (where `ioNodes`
    succeeded the pointer resolves, first clause of `ioNodes_exact`, so the `.error` branch is never taken) -/
def ioCopy (nt : List (Trait W)) (t0 : Option Int) (n : Node) : Node :=
  { n with trait := match childTraitRef nt t0 n.trait with
                    | .ok tr => tr
                    | .error _ => none }

theorem ioNodes_exact {nt : List (Trait W)} {t0 : Option Int} {ns acc res : List Node}
    (h : ioNodes nt t0 ns acc = .ok res) :
    (∀ n ∈ ns, isIO n = true → childTraitRef nt t0 n.trait = .ok (ioCopy nt t0 n).trait) ∧
    res = ((ns.filter isIO).map (ioCopy nt t0)).foldl nodeInsert acc := by
  induction ns generalizing acc with
  | nil => cases h; exact ⟨fun _ hn => (nomatch hn), rfl⟩
  | cons n ns ih =>
    unfold ioNodes at h
    split at h
    · rename_i hio
      split at h
      · cases h
      · rename_i tr htr
        obtain ⟨r1, r2⟩ := ih h
        have hc : ioCopy nt t0 n = { n with trait := tr } := by unfold ioCopy; rw [htr]
        refine ⟨fun k hk hkio => ?_, ?_⟩
        · rcases List.mem_cons.mp hk with rfl | hk
          · rw [hc]; exact htr
          · exact r1 k hk hkio
        · rw [List.filter_cons_of_pos (show isIO n = true from hio), List.map_cons, List.foldl_cons, hc]
          exact r2
    · rename_i hio
      obtain ⟨r1, r2⟩ := ih h
      refine ⟨fun k hk hkio => ?_, ?_⟩
      · rcases List.mem_cons.mp hk with rfl | hk
        · exact absurd hkio hio
        · exact r1 k hk hkio
      · rw [List.filter_cons_of_neg (show ¬ isIO n = true from hio)]
        exact r2

theorem mem_ioNodes {nt : List (Trait W)} {t0 : Option Int} {ns acc res : List Node}
    (h : ioNodes nt t0 ns acc = .ok res) (m : Node) :
    m ∈ res ↔ m ∈ acc ∨ ∃ n ∈ ns, isIO n = true ∧ m = ioCopy nt t0 n := by
  rw [(ioNodes_exact h).2, mem_foldl_nodeInsert]
  simp only [List.mem_map, List.mem_filter]
  exact or_congr Iff.rfl ⟨fun ⟨n, hn, e⟩ => ⟨n, hn.1, hn.2, e.symm⟩, fun ⟨n, h1, h2, e⟩ => ⟨n, ⟨h1, h2⟩, e.symm⟩⟩

theorem shorter_longer_rec {P : Genome W → Genome W → Prop} {g og : Genome W} (h1 : P g og) (h2 : P og g) :
    P (shorter g og) (longer g og) := by
  unfold shorter longer
  split
  · exact h1
  · exact h2

theorem shorter_longer (g og : Genome W) :
    (shorter g og = g ∧ longer g og = og) ∨ (shorter g og = og ∧ longer g og = g) :=
  shorter_longer_rec (P := fun a b => (a = g ∧ b = og) ∨ (a = og ∧ b = g)) (Or.inl ⟨rfl, rfl⟩) (Or.inr ⟨rfl, rfl⟩)

/-- element-wise relation between two lists of equal length (core Lean has no `Forall₂`) -/
inductive Aligned {α β : Type} (R : α → β → Prop) : List α → List β → Prop where
  | nil : Aligned R [] []
  | cons {a b as bs} : R a b → Aligned R as bs → Aligned R (a :: as) (b :: bs)

namespace Aligned
variable {α β γ : Type} {R : α → β → Prop} {as : List α} {bs : List β}

theorem map_eq (f : α → γ) (g : β → γ) (h : ∀ a b, R a b → f a = g b) (hal : Aligned R as bs) : as.map f = bs.map g := by
  induction hal with
  | nil => rfl
  | cons hr _ ih => simp [h _ _ hr, ih]

theorem imp {S : α → β → Prop} (h : Aligned R as bs) (hrs : ∀ a ∈ as, ∀ b ∈ bs, R a b → S a b) : Aligned S as bs := by
  induction h with
  | nil => exact .nil
  | cons hr _ ih =>
    exact .cons (hrs _ List.mem_cons_self _ List.mem_cons_self hr)
      (ih fun a ha b hb => hrs a (List.mem_cons_of_mem _ ha) b (List.mem_cons_of_mem _ hb))

theorem left (h : Aligned R as bs) : ∀ a ∈ as, ∃ b ∈ bs, R a b := by
  induction h with
  | nil => intro a ha; cases ha
  | cons hr _ ih =>
    intro a ha
    rcases List.mem_cons.mp ha with rfl | ha
    · exact ⟨_, by simp, hr⟩
    · obtain ⟨b, hb, r⟩ := ih a ha; exact ⟨b, by simp [hb], r⟩

theorem right (h : Aligned R as bs) : ∀ b ∈ bs, ∃ a ∈ as, R a b := by
  induction h with
  | nil => intro b hb; cases hb
  | cons hr _ ih =>
    intro b hb
    rcases List.mem_cons.mp hb with rfl | hb
    · exact ⟨_, by simp, hr⟩
    · obtain ⟨a, ha, r⟩ := ih b hb; exact ⟨a, by simp [ha], r⟩

theorem comp {S : β → γ → Prop} {cs : List γ} (h : Aligned R as bs) (h' : Aligned S bs cs) :
    Aligned (fun a c => ∃ b ∈ bs, R a b ∧ S b c) as cs := by
  induction h generalizing cs with
  | nil => cases h'; exact .nil
  | cons hr _ ih =>
    cases h' with
    | cons hs h' =>
      exact .cons ⟨_, List.mem_cons_self, hr, hs⟩ ((ih h').imp fun _ _ _ _ ⟨b, hb, r⟩ => ⟨b, List.mem_cons_of_mem _ hb, r⟩)

theorem filterMap (f : α → Option β) (l : List α) (h : ∀ a ∈ l, (f a).isSome) :
    Aligned (fun a b => f a = some b) l (l.filterMap f) := by
  induction l with
  | nil => exact .nil
  | cons a l ih =>
    obtain ⟨b, hb⟩ := Option.isSome_iff_exists.mp (h a List.mem_cons_self)
    rw [List.filterMap_cons_some hb]
    exact .cons hb (ih (tl h))

end Aligned

variable {ε : Type}

theorem walkR_cons_ok {pick : ε → Rand (Chosen W × Bool)} {nt : List (Trait W)} {t0 : Option Int} {e : ε} {es : List ε}
    {a a' : MateAcc W} {rs rs' : List Nat} (h : walkR pick nt t0 (e :: es) a rs = .ok (a', rs')) :
    ∃ c dis r1 a1, pick e rs = .ok ((c, dis), r1) ∧ addChosen nt t0 a c dis = .ok a1 ∧ walkR pick nt t0 es a1 r1 = .ok (a', rs') := by
  rw [walkR] at h
  split at h
  · cases h
  · rename_i c dis r1 hp
    split at h
    · cases h
    · rename_i a1 ha; exact ⟨c, dis, r1, a1, hp, ha, h⟩

/-- a walk only ever adds what it picks (`S`); so what each such addition preserves holds at the end -/
theorem walkR_ind {pick : ε → Rand (Chosen W × Bool)} {nt : List (Trait W)} {t0 : Option Int} {es : List ε}
    {acc acc' : MateAcc W} {rs rs' : List Nat} {P : MateAcc W → Prop} {S : Chosen W → Prop}
    (h : walkR pick nt t0 es acc rs = .ok (acc', rs'))
    (hs : ∀ e ∈ es, ∀ c dis r r', pick e r = .ok ((c, dis), r') → S c)
    (step : ∀ c dis a a', S c → P a → addChosen nt t0 a c dis = .ok a' → P a') (hacc : P acc) : P acc' := by
  induction es generalizing acc rs with
  | nil => rw [walkR] at h; cases h; exact hacc
  | cons e es ih =>
    obtain ⟨c, dis, r1, a1, hp, ha, hw⟩ := walkR_cons_ok h
    exact ih hw (tl hs) (step c dis acc a1 (hs e List.mem_cons_self c dis rs r1 hp) hacc ha)

/-- the same-link conflict check of `addChosen` seen on the plan: an entry whose link is already in the child is dropped -/
def keepBy (lk : ε → Int × Int × Bool) : List (Int × Int × Bool) → List ε → List ε
  | _, [] => []
  | seen, o :: os => if lk o ∈ seen then keepBy lk seen os else o :: keepBy lk (seen ++ [lk o]) os

/-- **a walk realises its plan**: the genes it appends stand, one for one and in order, for the entries of the plan that
    survive the conflict check; `R g e` is what the pick for `e` makes of the appended gene `g`, `lk e` its link -/
theorem walkR_plan {pick : ε → Rand (Chosen W × Bool)} {nt : List (Trait W)} {t0 : Option Int}
    {lk : ε → Int × Int × Bool} {R : Gene W → ε → Prop} {es : List ε} {acc acc' : MateAcc W} {rs rs' : List Nat}
    (h : walkR pick nt t0 es acc rs = .ok (acc', rs'))
    (hp : ∀ e ∈ es, ∀ c dis r r', pick e r = .ok ((c, dis), r') → c.gene.link = lk e ∧
      ∀ tr, childTraitRef nt t0 c.gene.trait = .ok tr →
        R { c.gene with trait := tr, en := if dis then false else c.gene.en } e) :
    ∃ news, acc'.genes = acc.genes ++ news ∧ Aligned R news (keepBy lk (acc.genes.map (·.link)) es) := by
  induction es generalizing acc rs with
  | nil => rw [walkR] at h; cases h; exact ⟨[], (List.append_nil _).symm, .nil⟩
  | cons e es ih =>
    obtain ⟨c, dis, r1, a1, hpk, ha, hw⟩ := walkR_cons_ok h
    obtain ⟨hl, hr⟩ := hp e List.mem_cons_self c dis rs r1 hpk
    obtain ⟨news, hn, hal⟩ := ih hw (tl hp)
    rcases addChosen_exact nt t0 acc a1 c dis ha with ⟨hany, rfl⟩ | ⟨hany, _, _, _, tr, _, _, _, _, htr, hg⟩
    · refine ⟨news, hn, ?_⟩
      rw [keepBy, if_pos (hl ▸ (any_sameLink_iff _ _).mp hany)]; exact hal
    · have hnot : lk e ∉ acc.genes.map (·.link) := fun hm => by
        rw [← hl, ← any_sameLink_iff, hany] at hm; cases hm
      refine ⟨_ :: news, by rw [hn, hg, List.append_assoc]; rfl, ?_⟩
      rw [keepBy, if_neg hnot]
      refine .cons (hr tr htr) ?_
      rw [hg, List.map_append] at hal
      exact hl ▸ hal

theorem keepBy_all (lk : ε → Int × Int × Bool) (seen : List (Int × Int × Bool)) (es : List ε)
    (hd : (es.map lk).Pairwise (· ≠ ·)) (hs : ∀ e ∈ es, lk e ∉ seen) : keepBy lk seen es = es := by
  induction es generalizing seen with
  | nil => rfl
  | cons e es ih =>
    obtain ⟨h1, h2⟩ := List.pairwise_cons.mp hd
    rw [keepBy, if_neg (hs e List.mem_cons_self), ih _ h2]
    intro o ho hm
    rcases List.mem_append.mp hm with hm | hm
    · exact hs o (List.mem_cons_of_mem _ ho) hm
    · exact h1 _ (List.mem_map_of_mem ho) (List.mem_singleton.mp hm).symm

theorem walkR_inns {pick : ε → Rand (Chosen W × Bool)} {nt : List (Trait W)} {t0 : Option Int} {key : ε → Int}
    {es : List ε} {acc acc' : MateAcc W} {rs rs' : List Nat} (h : walkR pick nt t0 es acc rs = .ok (acc', rs'))
    (hp : ∀ e ∈ es, ∀ c dis r r', pick e r = .ok ((c, dis), r') → c.gene.inn = key e) :
    ∃ news, acc'.genes = acc.genes ++ news ∧ (news.map (·.inn)).Sublist (es.map key) ∧
      (acc.genes = [] → (news.map (·.inn)).head? = (es.map key).head?) := by
  induction es generalizing acc rs with
  | nil => rw [walkR] at h; cases h; exact ⟨[], (List.append_nil _).symm, .slnil, fun _ => rfl⟩
  | cons e es ih =>
    obtain ⟨c, dis, r1, a1, hpk, ha, hw⟩ := walkR_cons_ok h
    have hk := hp e List.mem_cons_self c dis rs r1 hpk
    obtain ⟨news, hn, hsub, _⟩ := ih hw (tl hp)
    rcases addChosen_exact nt t0 acc a1 c dis ha with ⟨hany, rfl⟩ | ⟨_, _, _, _, tr, _, _, _, _, _, hg⟩
    · exact ⟨news, hn, hsub.cons _, fun he => by rw [he] at hany; cases hany⟩
    · refine ⟨_ :: news, by rw [hn, hg, List.append_assoc]; rfl, ?_, fun _ => ?_⟩
      · rw [List.map_cons, List.map_cons, ← hk]; exact hsub.cons_cons _
      · rw [List.map_cons, List.map_cons, ← hk]; rfl

end

variable {W : Type} [Scalar W]

/-- the code's `!e1 || !e2 && rand.Float64() < 0.75`, by cases -/
theorem disableDraw_cases {e1 e2 dis : Bool} {rs rs' : List Nat} (h : disableDraw (W := W) e1 e2 rs = .ok (dis, rs')) :
    (e1 = false ∧ dis = true) ∨ (e1 = true ∧ e2 = true ∧ dis = false) ∨
    (e1 = true ∧ e2 = false ∧ ∃ f : W, Rand.float64 rs = .ok (f, rs') ∧ dis = lt f (ofDec 75 2)) := by
  unfold disableDraw at h
  cases e1
  · cases h; exact Or.inl ⟨rfl, rfl⟩
  · cases e2
    · simp only [Bool.not_true, Bool.false_eq_true, ↓reduceIte, Bool.not_false] at h
      split at h
      · cases h
      · rename_i f rs1 hf; cases h; exact Or.inr (Or.inr ⟨rfl, rfl, f, hf, rfl⟩)
    · cases h; exact Or.inr (Or.inl ⟨rfl, rfl, rfl⟩)

/-- the gene `avgChosen` builds from four coin flips and the enabled rule, with the node objects of its endpoints -/
def avgOfFlips (p1 p2 : Genome W) (x y : Gene W) (bT bI bO bR dis : Bool) : Chosen W :=
  { gene := { inn := x.inn, src := if bI then x.src else y.src, dst := if bO then x.dst else y.dst,
              recur := if bR then x.recur else y.recur, w := avg x.w y.w, mnum := avg x.mnum y.mnum, en := !dis,
              trait := if bT then x.trait else y.trait },
    srcN := if bI then nodeById p1.nodes x.src else nodeById p2.nodes y.src,
    dstN := if bO then nodeById p1.nodes x.dst else nodeById p2.nodes y.dst }

theorem avgChosen_exact {p1 p2 : Genome W} {x y : Gene W} {c : Chosen W} {rs rs' : List Nat}
    (h : avgChosen p1 p2 x y rs = .ok (c, rs')) :
    ∃ bT bI bO bR dis r, disableDraw (W := W) x.en y.en r = .ok (dis, rs') ∧ c = avgOfFlips p1 p2 x y bT bI bO bR dis := by
  unfold avgChosen at h
  split at h
  · cases h
  · rename_i fT _ _
    split at h
    · cases h
    · rename_i fI _ _
      split at h
      · cases h
      · rename_i fO _ _
        split at h
        · cases h
        · rename_i fR rs4 _
          split at h
          · cases h
          · rename_i dis _ hdd
            cases h
            exact ⟨gt fT (ofDec 5 1), gt fI (ofDec 5 1), gt fO (ofDec 5 1), gt fR (ofDec 5 1), dis, rs4, hdd, rfl⟩

/-- the code's average of two traits: the first parent's id, parameters averaged element-wise -/
def avgTrait (a b : Trait W) : Trait W := { id := a.id, params := List.zipWith avg a.params b.params }

theorem mateTraits_exact (ts1 ts2 nt : List (Trait W)) (h : mateTraits ts1 ts2 = .ok nt) :
    nt = List.zipWith avgTrait ts1 ts2 ∧ nt.length = ts1.length ∧
    (∀ p ∈ List.zip ts1 ts2, p.1.params.length = p.2.params.length) := by
  induction ts1 generalizing ts2 nt with
  | nil => unfold mateTraits at h; cases h; cases ts2 <;> simp
  | cons t1 r1 ih =>
    cases ts2 with
    | nil => unfold mateTraits at h; cases h
    | cons t2 r2 =>
      unfold mateTraits at h
      split at h
      · cases h
      · rename_i t ht
        split at h
        · cases h
        · rename_i ts hts
          cases h
          obtain ⟨e1, e2, e3⟩ := ih r2 ts hts
          unfold traitAvg at ht
          split at ht
          · cases ht
          · rename_i hlen
            cases ht
            refine ⟨by simp [e1, avgTrait], by simp [e2], ?_⟩
            intro p hp
            simp only [List.zip_cons_cons, List.mem_cons] at hp
            rcases hp with rfl | hp
            · simpa using hlen
            · exact e3 p hp

theorem matePrologue_exact (g og : Genome W) (nt : List (Trait W)) (t0 : Option Int) (nodes : List Node)
    (h : matePrologue g og = .ok (nt, t0, nodes)) :
    g.traits.length = og.traits.length ∧ mateTraits g.traits og.traits = .ok nt ∧
    ioNodes nt t0 og.nodes [] = .ok nodes ∧ t0 = g.traits.head?.map (·.id) := by
  unfold matePrologue at h
  split at h
  · cases h
  · split at h
    · cases h
    · rename_i hlen
      split at h
      · cases h
      · rename_i nt' hmt
        simp only at h
        split at h
        · cases h
        · rename_i nodes' hio
          cases h
          exact ⟨by simpa using hlen, hmt, hio, rfl⟩

theorem plainPair_exact {p1 p2 : Genome W} {x y : Gene W} {c : Chosen W} {dis : Bool} {r r' : List Nat}
    (h : plainPair p1 p2 x y r = .ok ((c, dis), r')) :
    (c = chooseFrom p1 x ∨ c = chooseFrom p2 y) ∧ ∃ r r', disableDraw (W := W) x.en y.en r = .ok (dis, r') := by
  unfold plainPair at h
  split at h
  · cases h
  · rename_i f r1 _
    split at h
    · cases h
    · rename_i dis' r2 hdd
      cases h
      refine ⟨?_, _, _, hdd⟩
      by_cases hf : lt f (ofDec 5 1) = true
      · exact Or.inl (if_pos hf)
      · exact Or.inr (if_neg hf)

theorem avgPair_exact {p1 p2 : Genome W} {x y : Gene W} {c : Chosen W} {dis : Bool} {r r' : List Nat}
    (h : avgPair p1 p2 x y r = .ok ((c, dis), r')) : dis = false ∧ avgChosen p1 p2 x y r = .ok (c, r') := by
  unfold avgPair at h
  split at h
  · cases h
  · rename_i hav; cases h; exact ⟨rfl, hav⟩

theorem crossover_ok {ε : Type} {g og : Genome W} {id : Int} {plan : Rand (List ε)} {pick : ε → Rand (Chosen W × Bool)}
    {rs rs' : List Nat} {c : Genome W} (h : crossover g og id plan pick rs = .ok (c, rs')) :
    ∃ nt t0 io es rs1 acc, matePrologue g og = .ok (nt, t0, io) ∧ plan rs = .ok (es, rs1) ∧
      walkR pick nt t0 es { nodes := io, genes := [] } rs1 = .ok (acc, rs') ∧
      c = { id := id, traits := nt, nodes := acc.nodes, genes := acc.genes } := by
  unfold crossover at h
  split at h
  · cases h
  · rename_i nt t0 io hpro
    split at h
    · cases h
    · rename_i es rs1 hpl
      split at h
      · cases h
      · rename_i acc rs2 hw
        cases h
        exact ⟨nt, t0, io, es, rs1, acc, hpro, hpl, hw, rfl⟩

theorem mpCrossover_ok {g og : Genome W} {id : Int} {f1 f2 : W} {pick : Slot W → Rand (Chosen W × Bool)}
    {rs rs' : List Nat} {c : Genome W} (h : crossover g og id (mpPlanR g og f1 f2) pick rs = .ok (c, rs')) :
    ∃ nt t0 io acc, matePrologue g og = .ok (nt, t0, io) ∧
      walkR pick nt t0 (mpPlan (p1Better f1 f2 g.genes.length og.genes.length) g.genes og.genes)
        { nodes := io, genes := [] } rs = .ok (acc, rs') ∧
      c = { id := id, traits := nt, nodes := acc.nodes, genes := acc.genes } := by
  obtain ⟨nt, t0, io, es, rs1, acc, hpro, hpl, hw, rfl⟩ := crossover_ok h
  cases hpl
  exact ⟨nt, t0, io, acc, hpro, hw, rfl⟩

theorem spCrossover_ok {g og : Genome W} {id : Int} {pick : Origin W → Rand (Chosen W × Bool)}
    {rs rs' : List Nat} {c : Genome W} (h : crossover g og id (spPlanR g og) pick rs = .ok (c, rs')) :
    ∃ nt t0 io cp rs1 acc, matePrologue g og = .ok (nt, t0, io) ∧
      Rand.intn (shorter g og).genes.length rs = .ok (cp, rs1) ∧
      walkR pick nt t0 (spPlan cp (shorter g og).genes (longer g og).genes 0 false) { nodes := io, genes := [] } rs1 =
        .ok (acc, rs') ∧
      c = { id := id, traits := nt, nodes := acc.nodes, genes := acc.genes } := by
  obtain ⟨nt, t0, io, es, rs1, acc, hpro, hpl, hw, rfl⟩ := crossover_ok h
  unfold spPlanR at hpl
  split at hpl
  · cases hpl
  · rename_i cp r1 hcp; cases hpl; exact ⟨nt, t0, io, cp, rs1, acc, hpro, hcp, hw, rfl⟩

end GoNeat.C04
