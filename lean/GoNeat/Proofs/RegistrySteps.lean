/-
  The registry side of the structural mutators (base of C01, C03, C16): they factor through steps (`LinkStep`,
  `LinkSteps`, `NodeStep`) that obtain their numbers from `resolveLink` / `resolveNode` of Spec/Registry.lean; the steps
  keep whatever obeys `RegLaws` (of a whole mutation: `Keeps`), in particular C03's invariant and "what is issued is
  fresh"; parametric mutators keep all bindings (`SameBinds`).
-/
import GoNeat.Proofs.RegistryLemmas
import GoNeat.Props.C05More

set_option linter.unusedSectionVars false

namespace GoNeat.C03
open GoNeat Scalar
variable {W : Type} [Scalar W]

/-- gene bindings / node roles of one genome -/
abbrev gb (g : Genome W) : List Bind := g.genes.map geneBind
abbrev gr (g : Genome W) : List Role := g.nodes.map nodeRole

theorem resolveLink_of_found {reg : Reg W} {s d : Int} {r : Bool} {i : Innov W}
    (hf : reg.records.find? (linkMatch s d r) = some i) (w : W) (tn : Int) : resolveLink reg s d r w tn = (i.inn, reg) := by
  unfold resolveLink; rw [hf]

/-- what an add-link / connect-sensors step does: nothing, or one gene whose number was resolved for its link -/
def LinkStep (g : Genome W) (reg : Reg W) (g' : Genome W) (reg' : Reg W) : Prop :=
  (g' = g ∧ reg' = reg) ∨
  ∃ (s d : Int) (r : Bool) (w : W) (tn k : Int) (gene : Gene W),
    resolveLink reg s d r w tn = (k, reg') ∧ geneBind gene = (k, s, d, r) ∧
    g' = { g with genes := geneInsert g.genes gene }

theorem LinkTail.step {g g' : Genome W} {reg reg' : Reg W} {s d : Int} {r : Bool}
    (h : MutateLemmas.LinkTail g reg s d r g' reg') : LinkStep g reg g' reg' := by
  obtain ⟨x, rfl, hs, hd, hr, _, _, w, tn, hres⟩ := h.gene
  exact .inr ⟨s, d, r, w, tn, x.inn, x, hres, by rw [← hs, ← hd, ← hr]; rfl, rfl⟩

theorem mutateAddLink_steps (g g' : Genome W) (reg reg' : Reg W) (o : MutOpts W) (rs rs' : List Nat) (res : Bool)
    (h : mutateAddLink g reg o rs = .ok ((g', reg', res), rs')) : LinkStep g reg g' reg' := by
  rcases MutateLemmas.mutateAddLink_cases h with ⟨_, rfl, rfl⟩ | ⟨_, _, _, _, _, _, _, _, ht⟩
  · exact .inl ⟨rfl, rfl⟩
  · exact LinkTail.step ht

/-- several link steps in a row (connect-sensors adds one gene per non-sensor node) -/
inductive LinkSteps : Genome W → Reg W → Genome W → Reg W → Prop where
  | refl (g : Genome W) (reg : Reg W) : LinkSteps g reg g reg
  | step {g g1 g' : Genome W} {reg reg1 reg' : Reg W} : LinkStep g reg g1 reg1 → LinkSteps g1 reg1 g' reg' → LinkSteps g reg g' reg'

theorem connectLoop_steps (sensor : Node) (outs : List Node) (g g' : Genome W) (reg reg' : Reg W) (added res : Bool)
    (rs rs' : List Nat) (h : connectLoop sensor outs g reg added rs = .ok ((g', reg', res), rs')) : LinkSteps g reg g' reg' := by
  induction outs generalizing g reg added rs with
  | nil =>
    obtain ⟨rfl, rfl, _⟩ := MutateLemmas.connectLoop_nil h
    exact .refl _ _
  | cons o os ih =>
    rcases MutateLemmas.connectLoop_cons h with ⟨_, _, h⟩ | ⟨_, _, _, _, ht, h⟩
    · exact ih _ _ _ _ h
    · exact .step (LinkTail.step ht) (ih _ _ _ _ h)

theorem mutateConnectSensors_steps (g g' : Genome W) (reg reg' : Reg W) (rs rs' : List Nat) (res : Bool)
    (h : mutateConnectSensors g reg rs = .ok ((g', reg', res), rs')) : LinkSteps g reg g' reg' := by
  rcases MutateLemmas.mutateConnectSensors_cases h with ⟨_, rfl, rfl⟩ | ⟨_, _, _, _, _, h⟩
  · exact .refl _ _
  · exact connectLoop_steps _ _ _ _ _ _ _ _ _ _ h

theorem resolveNode_of_found {reg : Reg W} {s d o : Int} {i : Innov W}
    (hf : reg.records.find? (nodeMatch s d o) = some i) : resolveNode reg s d o = ((i.newNode, i.inn, i.inn2), reg) := by
  unfold resolveNode; rw [hf]

/-- what an add-node step does: nothing structural (at most a gene disabled), or the split of a gene `old` of the
    genome with node id and numbers resolved for the request `(old.src, old.dst, old.inn)` -/
def NodeStep (g : Genome W) (reg : Reg W) (g' : Genome W) (reg' : Reg W) : Prop :=
  (gb g' = gb g ∧ g'.nodes = g.nodes ∧ reg' = reg) ∨
  ∃ (old : Gene W) (n k1 k2 : Int) (node : Node) (gene1 gene2 : Gene W) (g1 : Genome W),
    old ∈ g.genes ∧ resolveNode reg old.src old.dst old.inn = ((n, k1, k2), reg') ∧
    gb g1 = gb g ∧ g1.nodes = g.nodes ∧
    geneBind gene1 = (k1, old.src, n, old.recur) ∧ geneBind gene2 = (k2, n, old.dst, false) ∧ nodeRole node = (n, Kind.hidden) ∧
    g' = { g1 with genes := geneInsert (geneInsert g1.genes gene1) gene2, nodes := nodeInsert g1.nodes node }

theorem gb_setEnabledAt (g : Genome W) (k : Nat) (b : Bool) : gb ({ g with genes := setEnabledAt g.genes k b } : Genome W) = gb g :=
  modify_map_of_eq g.genes k _ C05.Gene.skel (fun _ => rfl)

theorem gb_addGene (g : Genome W) (x : Gene W) :
    (gb ({ g with genes := geneInsert g.genes x } : Genome W)).Perm (geneBind x :: gb g) :=
  (geneInsert_perm g.genes x).map geneBind

theorem gb_addSplit (g : Genome W) (x1 x2 : Gene W) (n : Node) :
    (gb ({ g with genes := geneInsert (geneInsert g.genes x1) x2, nodes := nodeInsert g.nodes n } : Genome W)).Perm
      (geneBind x2 :: geneBind x1 :: gb g) :=
  ((geneInsert_perm _ x2).trans ((geneInsert_perm _ x1).cons _)).map geneBind

theorem gr_addSplit (g : Genome W) (x1 x2 : Gene W) (n : Node) :
    (gr ({ g with genes := geneInsert (geneInsert g.genes x1) x2, nodes := nodeInsert g.nodes n } : Genome W)).Perm
      (nodeRole n :: gr g) :=
  (insertAt_perm _ _ n).map nodeRole

theorem mutateAddNode_steps (g g' : Genome W) (reg reg' : Reg W) (o : MutOpts W) (rs rs' : List Nat) (res : Bool)
    (h : mutateAddNode g reg o rs = .ok ((g', reg', res), rs')) : NodeStep g reg g' reg' := by
  have hc := MutateLemmas.mutateAddNode_cases h
  cases res with
  | false =>
    cases hc with
    | noop => exact .inl ⟨rfl, rfl, rfl⟩
    | known => exact .inl ⟨gb_setEnabledAt g _ false, rfl, rfl⟩
  | true =>
    obtain ⟨k, old, n, i1, i2, act, tr0, hold, _, rfl, hres⟩ := hc.split
    exact .inr ⟨old, n, i1, i2, _, _, _, { g with genes := setEnabledAt g.genes k false }, List.mem_of_getElem? hold, hres,
      gb_setEnabledAt g k false, rfl, rfl, rfl, rfl, rfl⟩

variable {I : Reg W → List Bind → List Role → Prop}

/-- local form: the mutated genome in front of an arbitrary rest `B0`, `R0` of the pool -/
theorem LinkStep.keeps (L : RegLaws I) {g g' : Genome W} {reg reg' : Reg W} (hs : LinkStep g reg g' reg') {B0 : List Bind}
    {R0 : List Role} (h : I reg (gb g ++ B0) (gr g ++ R0)) : I reg' (gb g' ++ B0) (gr g' ++ R0) := by
  rcases hs with ⟨rfl, rfl⟩ | ⟨s, d, r, w, tn, k, gene, hres, hb, rfl⟩
  · exact h
  · have hp : (gb ({ g with genes := geneInsert g.genes gene } : Genome W) ++ B0).Perm ((k, s, d, r) :: (gb g ++ B0)) :=
      hb ▸ (gb_addGene g gene).append_right B0
    exact L.congr (resolveLink_keeps L h hres) hp.subset hp.symm.subset (List.Subset.refl _)

theorem LinkSteps.keeps (L : RegLaws I) {g g' : Genome W} {reg reg' : Reg W} (hs : LinkSteps g reg g' reg') {B0 : List Bind}
    {R0 : List Role} (h : I reg (gb g ++ B0) (gr g ++ R0)) : I reg' (gb g' ++ B0) (gr g' ++ R0) := by
  induction hs with
  | refl => exact h
  | step h1 _ ih => exact ih (h1.keeps L h)

theorem NodeStep.keeps (L : RegLaws I) {g g' : Genome W} {reg reg' : Reg W} (hs : NodeStep g reg g' reg') {B0 : List Bind}
    {R0 : List Role} (h : I reg (gb g ++ B0) (gr g ++ R0)) : I reg' (gb g' ++ B0) (gr g' ++ R0) := by
  rcases hs with ⟨e1, e2, rfl⟩ | ⟨old, n, k1, k2, node, gene1, gene2, g1, hmem, hres, e1, e2, hb1, hb2, hn, hg'⟩
  · unfold gr; rw [e1, e2]; exact h
  · have hold : (old.inn, old.src, old.dst, old.recur) ∈ gb g ++ B0 :=
      List.mem_append_left _ (List.mem_map.mpr ⟨old, hmem, rfl⟩)
    have h' := resolveNode_keeps L h hold hres
    have hp : (gb g' ++ B0).Perm ((k1, old.src, n, old.recur) :: (k2, n, old.dst, false) :: (gb g ++ B0)) := by
      rw [hg', ← hb1, ← hb2, ← e1]
      exact ((gb_addSplit g1 gene1 gene2 node).trans (.swap _ _ _)).append_right B0
    have hr : (gr g' ++ R0).Perm ((n, Kind.hidden) :: (gr g ++ R0)) := by
      unfold gr
      rw [hg', ← hn, ← e2]
      exact (gr_addSplit g1 gene1 gene2 node).append_right R0
    exact L.congr h' hp.subset hp.symm.subset hr.subset

/-- the registry side of a structural mutation: whatever obeys `RegLaws` and holds of the registry and a pool of bindings
    that contains the genome's holds afterwards, with the new genome's bindings in place of the old one's -/
def Keeps (g : Genome W) (reg : Reg W) (g' : Genome W) (reg' : Reg W) : Prop :=
  ∀ (I : Reg W → List Bind → List Role → Prop), RegLaws I → ∀ (B0 : List Bind) (R0 : List Role),
    I reg (gb g ++ B0) (gr g ++ R0) → I reg' (gb g' ++ B0) (gr g' ++ R0)

theorem Keeps.refl (g : Genome W) (reg : Reg W) : Keeps g reg g reg := fun _ _ _ _ h => h
theorem Keeps.trans {g g1 g2 : Genome W} {reg reg1 reg2 : Reg W} (h1 : Keeps g reg g1 reg1) (h2 : Keeps g1 reg1 g2 reg2) :
    Keeps g reg g2 reg2 := fun I L B0 R0 h => h2 I L B0 R0 (h1 I L B0 R0 h)

theorem mutateAddLink_keeps {g g' : Genome W} {reg reg' : Reg W} {o : MutOpts W} {rs rs' : List Nat} {res : Bool}
    (h : mutateAddLink g reg o rs = .ok ((g', reg', res), rs')) : Keeps g reg g' reg' :=
  fun _ L _ _ => (mutateAddLink_steps g g' reg reg' o rs rs' res h).keeps L
theorem mutateConnectSensors_keeps {g g' : Genome W} {reg reg' : Reg W} {rs rs' : List Nat} {res : Bool}
    (h : mutateConnectSensors g reg rs = .ok ((g', reg', res), rs')) : Keeps g reg g' reg' :=
  fun _ L _ _ => (mutateConnectSensors_steps g g' reg reg' rs rs' res h).keeps L
theorem mutateAddNode_keeps {g g' : Genome W} {reg reg' : Reg W} {o : MutOpts W} {rs rs' : List Nat} {res : Bool}
    (h : mutateAddNode g reg o rs = .ok ((g', reg', res), rs')) : Keeps g reg g' reg' :=
  fun _ L _ _ => (mutateAddNode_steps g g' reg reg' o rs rs' res h).keeps L

theorem Inv.of_local {reg : Reg W} {gs : List (Genome W)} {g' : Genome W}
    (h : InvB reg (gb g' ++ binds gs) (gr g' ++ roles gs)) : Inv reg (g' :: gs) := by
  unfold Inv; rw [binds_cons, roles_cons]; exact h

/-- a structural mutation of a genome whose bindings the pool knows keeps C03's invariant, the result joining the pool -/
theorem Keeps.inv {g g' : Genome W} {reg reg' : Reg W} (hk : Keeps g reg g' reg') {gs : List (Genome W)} (h : Inv reg gs)
    (hb : ∀ b ∈ gb g, b ∈ binds gs) (hr : ∀ r ∈ gr g, r ∈ roles gs) : Inv reg' (g' :: gs) :=
  Inv.of_local (hk _ invB_laws _ _ (InvB.add_known h hb hr))

/-- the registry within a generation whose counters started at `(bi, bn)`: counters never fall below the start, and
    everything recorded in this generation was issued above the start -/
structure GenInv (bi bn : Int) (reg : Reg W) : Prop where
  innMono : bi ≤ reg.nextInn
  nodeMono : bn ≤ reg.nextNode
  recInns : ∀ k ∈ regInns reg, bi < k
  recNodes : ∀ k ∈ regNodes reg, bn < k

theorem GenInv.start (reg : Reg W) (h : reg.records = []) : GenInv reg.nextInn reg.nextNode reg :=
  ⟨Int.le_refl _, Int.le_refl _, by simp [regInns_def, h], by simp [regNodes_def, h]⟩

/-- the new registry keeps all old records (lookups of later requests still find them) -/
def RegExtends (a b : Reg W) : Prop := ∃ suf, b.records = a.records ++ suf
theorem RegExtends.refl (a : Reg W) : RegExtends a a := ⟨[], by simp⟩
theorem RegExtends.trans {a b c : Reg W} (h1 : RegExtends a b) (h2 : RegExtends b c) : RegExtends a c := by
  obtain ⟨s1, e1⟩ := h1; obtain ⟨s2, e2⟩ := h2
  exact ⟨s1 ++ s2, by rw [e2, e1, List.append_assoc]⟩

theorem Issue.genInv {bi bn : Int} {reg reg' : Reg W} {i : Innov W} (hi : Issue reg i reg') (hg : GenInv bi bn reg) :
    GenInv bi bn reg' ∧ (∀ k ∈ C03.recInns i, bi < k) ∧ (i.typ = 1 → bn < i.newNode) ∧ reg.nextInn ≤ reg'.nextInn ∧
      reg.nextNode ≤ reg'.nextNode ∧ RegExtends reg reg' := by
  rcases hi with ⟨hm, rfl⟩ | hm
  · exact ⟨hg, fun k hk => hg.recInns k (mem_regInns hm hk), fun t => hg.recNodes _ (mem_regNodes hm t), Int.le_refl _,
      Int.le_refl _, .refl _⟩
  · have h1 := hg.innMono
    have h2 := hg.nodeMono
    have hk : ∀ k ∈ C03.recInns i, bi < k := fun k hk => by have := (hm.inns k hk).1; omega
    have hn : i.typ = 1 → bn < i.newNode := fun t => by have := (hm.node t).1; omega
    refine ⟨⟨Int.le_trans h1 hm.innMono, Int.le_trans h2 hm.nodeMono, fun k hk' => ?_, fun k hk' => ?_⟩, hk, hn, hm.innMono,
      hm.nodeMono, ⟨[i], hm.recs⟩⟩
    · rw [regInns_snoc hm.recs, List.mem_append] at hk'
      exact hk'.elim (hg.recInns k) (hk k)
    · rw [regNodes_snoc hm.recs, List.mem_append] at hk'
      rcases hk' with hk' | hk'
      · exact hg.recNodes k hk'
      · split at hk'
        · rename_i t
          rw [List.mem_singleton.mp hk']; exact hn t
        · cases hk'

/-- what a mutation may add to a genome, relative to the counters `(bi, bn)` at the start of the generation -/
def IssuedAbove (bi bn : Int) (g g' : Genome W) : Prop :=
  (∀ x ∈ g'.genes, geneBind x ∈ gb g ∨ bi < x.inn) ∧ (∀ n ∈ g'.nodes, nodeRole n ∈ gr g ∨ bn < n.id)

/-- the facts `issued_fresh` states about one structural mutation -/
structure Issued (bi bn : Int) (g : Genome W) (reg : Reg W) (g' : Genome W) (reg' : Reg W) : Prop where
  gen : GenInv bi bn reg'
  innMono : reg.nextInn ≤ reg'.nextInn
  nodeMono : reg.nextNode ≤ reg'.nextNode
  ext : RegExtends reg reg'
  above : IssuedAbove bi bn g g'

/-- the registry `reg` has grown from `reg0` within a generation that started with the counters `(bi, bn)`, and every binding
    of the pool was held before (`B1`, `R1`) or is numbered above `(bi, bn)` -/
def IssuedI (bi bn : Int) (reg0 : Reg W) (B1 : List Bind) (R1 : List Role) (reg : Reg W) (B : List Bind) (R : List Role) : Prop :=
  GenInv bi bn reg ∧ reg0.nextInn ≤ reg.nextInn ∧ reg0.nextNode ≤ reg.nextNode ∧ RegExtends reg0 reg ∧
    (∀ b ∈ B, b ∈ B1 ∨ bi < b.1) ∧ (∀ r ∈ R, r ∈ R1 ∨ bn < r.1)

theorem issued_laws (bi bn : Int) (reg0 : Reg W) (B1 : List Bind) (R1 : List Role) : RegLaws (IssuedI bi bn reg0 B1 R1) where
  congr := fun ⟨a, b, c, d, e, f⟩ hs _ hr => ⟨a, b, c, d, fun x hx => e x (hs hx), fun x hx => f x (hr hx)⟩
  issue := fun ⟨a, b, c, d, e⟩ hi _ =>
    let ⟨a', _, _, b', c', d'⟩ := hi.genInv a
    ⟨a', Int.le_trans b b', Int.le_trans c c', d.trans d', e⟩
  link := fun {_ i _ _} ⟨a, b, c, d, e, f⟩ hi _ =>
    ⟨a, b, c, d, List.forall_mem_cons.mpr ⟨.inr (a.recInns _ (mem_regInns hi (inn_mem_recInns i))), e⟩, f⟩
  split := fun {_ i _ _ _} ⟨a, b, c, d, e, f⟩ hi t _ _ =>
    ⟨a, b, c, d, List.forall_mem_cons.mpr ⟨.inr (a.recInns _ (mem_regInns hi (inn_mem_recInns i))),
      List.forall_mem_cons.mpr ⟨.inr (a.recInns _ (mem_regInns hi (inn2_mem_recInns i t))), e⟩⟩,
     List.forall_mem_cons.mpr ⟨.inr (a.recNodes _ (mem_regNodes hi t)), f⟩⟩

/-- a structural mutation within a generation that started with the counters `(bi, bn)`: if every binding of the genome is
    one of `B1`, `R1` or numbered above `(bi, bn)`, so is every binding of the result; counters and records only grow -/
theorem Keeps.fresh {bi bn : Int} {g g' : Genome W} {reg reg' : Reg W} (hk : Keeps g reg g' reg') (hg : GenInv bi bn reg)
    {B1 : List Bind} {R1 : List Role} (hB : ∀ b ∈ gb g, b ∈ B1 ∨ bi < b.1) (hR : ∀ r ∈ gr g, r ∈ R1 ∨ bn < r.1) :
    IssuedI bi bn reg B1 R1 reg' (gb g') (gr g') := by
  have h0 : IssuedI bi bn reg B1 R1 reg (gb g ++ []) (gr g ++ []) := by
    rw [List.append_nil, List.append_nil]; exact ⟨hg, Int.le_refl _, Int.le_refl _, .refl _, hB, hR⟩
  have h1 := hk _ (issued_laws bi bn reg B1 R1) [] [] h0
  rwa [List.append_nil, List.append_nil] at h1

theorem Keeps.issued {bi bn : Int} {g g' : Genome W} {reg reg' : Reg W} (hk : Keeps g reg g' reg') (hg : GenInv bi bn reg) :
    Issued bi bn g reg g' reg' := by
  obtain ⟨a, b, c, d, e, f⟩ := hk.fresh hg (B1 := gb g) (R1 := gr g) (fun _ h => .inl h) (fun _ h => .inl h)
  exact ⟨a, b, c, d, fun x hx => e _ (List.mem_map_of_mem hx), fun n hn => f _ (List.mem_map_of_mem hn)⟩

theorem LinkStep.issued {bi bn : Int} {g g' : Genome W} {reg reg' : Reg W} (hs : LinkStep g reg g' reg') (hg : GenInv bi bn reg) :
    Issued bi bn g reg g' reg' := Keeps.issued (fun _ L _ _ => hs.keeps L) hg

theorem LinkSteps.issued {bi bn : Int} {g g' : Genome W} {reg reg' : Reg W} (hs : LinkSteps g reg g' reg') (hg : GenInv bi bn reg) :
    Issued bi bn g reg g' reg' := Keeps.issued (fun _ L _ _ => hs.keeps L) hg

theorem NodeStep.issued {bi bn : Int} {g g' : Genome W} {reg reg' : Reg W} (hs : NodeStep g reg g' reg') (hg : GenInv bi bn reg) :
    Issued bi bn g reg g' reg' := Keeps.issued (fun _ L _ _ => hs.keeps L) hg

theorem resolveLink_finds {reg reg' : Reg W} (s d : Int) (r : Bool) (w : W) (tn k : Int)
    (hres : resolveLink reg s d r w tn = (k, reg')) : ∃ i, reg'.records.find? (linkMatch s d r) = some i ∧ i.inn = k :=
  let ⟨i, _, hf, e⟩ := resolveLink_issue hres
  ⟨i, hf, e⟩

theorem resolveNode_finds {reg reg' : Reg W} (s d o n k1 k2 : Int)
    (hres : resolveNode reg s d o = ((n, k1, k2), reg')) :
    ∃ i, reg'.records.find? (nodeMatch s d o) = some i ∧ i.newNode = n ∧ i.inn = k1 ∧ i.inn2 = k2 :=
  let ⟨i, _, hf, e⟩ := resolveNode_issue hres
  ⟨i, hf, e⟩

theorem find?_extends {a b : Reg W} (h : RegExtends a b) (p : Innov W → Bool) (i : Innov W)
    (hf : a.records.find? p = some i) : b.records.find? p = some i := by
  obtain ⟨suf, e⟩ := h
  rw [e, List.find?_append, hf]; rfl

def SameBinds (g g' : Genome W) : Prop := gb g' = gb g ∧ gr g' = gr g

theorem SameBinds.refl (g : Genome W) : SameBinds g g := ⟨rfl, rfl⟩
theorem SameBinds.trans {a b c : Genome W} (h1 : SameBinds a b) (h2 : SameBinds b c) : SameBinds a c :=
  ⟨h2.1.trans h1.1, h2.2.trans h1.2⟩

theorem SameBinds.of_paramOnly {g g' : Genome W} (h : C05.ParamOnly g g') : SameBinds g g' := by
  have hn := congrArg (List.map (fun c : Int × Kind × Nat => (c.1, c.2.1))) h.nodes
  simp only [List.map_map] at hn
  exact ⟨h.genes, hn⟩

/-- **C03 (parametric mutators).** Weight, trait, toggle-enable and re-enable mutations leave every binding as it is. -/
theorem parametric_sameBinds (g g' : Genome W) (o : MutOpts W) (power rate : W) (mt : WeightMutator) (times : Nat)
    (rs rs' : List Nat) :
    (mutateLinkWeights g power rate mt rs = .ok (g', rs') → SameBinds g g') ∧
    (mutateRandomTrait g o rs = .ok (g', rs') → SameBinds g g') ∧
    (mutateLinkTrait g times rs = .ok (g', rs') → SameBinds g g') ∧
    (mutateNodeTrait g times rs = .ok (g', rs') → SameBinds g g') ∧
    (mutateToggleEnable g times rs = .ok (g', rs') → SameBinds g g') ∧
    (mutateGeneReEnable g = .ok g' → SameBinds g g') :=
  ⟨fun h => .of_paramOnly (C01.ParamRel.linkWeights h).only, fun h => .of_paramOnly (C01.ParamRel.randomTrait h).only, fun h => .of_paramOnly (C01.ParamRel.linkTrait h).only,
   fun h => .of_paramOnly (C01.ParamRel.nodeTrait h).only, fun h => .of_paramOnly (C01.ParamRel.toggleEnable h).only, fun h => .of_paramOnly (C01.ParamRel.reEnable h).only⟩

theorem mutateAllNonstructural_sameBinds (g g' : Genome W) (o : MutOpts W) (rs rs' : List Nat)
    (h : mutateAllNonstructural g o rs = .ok (g', rs')) : SameBinds g g' :=
  .of_paramOnly (C05.mutateAllNonstructural_paramOnly g g' o rs rs' h)

theorem Inv.add_copy {reg : Reg W} {gs : List (Genome W)} (h : Inv reg gs) (g' : Genome W)
    (hb : ∀ b ∈ gb g', b ∈ binds gs) (hr : ∀ r ∈ gr g', r ∈ roles gs) : Inv reg (g' :: gs) :=
  Inv.of_local (InvB.add_known h hb hr)

theorem Inv.add_same {reg : Reg W} {gs : List (Genome W)} (h : Inv reg gs) {g g' : Genome W} (hg : g ∈ gs)
    (hs : SameBinds g g') : Inv reg (g' :: gs) :=
  h.add_copy g' (hs.1 ▸ binds_of_mem hg) (hs.2 ▸ roles_of_mem hg)

end GoNeat.C03
