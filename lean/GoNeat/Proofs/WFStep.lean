/-
  What a structural mutation does to the genome alone (`C16.LStep`, one lemma per way of changing a genome; used by C01's
  pool closure and by the parallel obligations of C16), and that the first gene stays first and below every recorded number.
-/
import GoNeat.Proofs.WFLemmas
import GoNeat.Proofs.WFMate
import GoNeat.Proofs.RegistrySteps

namespace GoNeat.C01
open GoNeat Scalar
variable {W : Type} [Scalar W]

omit [Scalar W] in
theorem HeadBelowRecords.ext {reg reg' : Reg W} {g : Genome W} (h : HeadBelowRecords reg g) (ha : CounterAbove reg g)
    (he : RegExt reg reg') : HeadBelowRecords reg' g := by
  obtain ⟨new, e, p⟩ := he.recs
  intro h0 hh i hi
  have hm : h0 ∈ g.genes := List.mem_of_mem_take hh
  rw [e] at hi
  rcases List.mem_append.mp hi with hi | hi
  · exact h h0 hh i hi
  · have pi := p i hi
    have := ha.1 h0 hm
    exact ⟨fun t => by have := pi.1 t; omega, fun t => by have := pi.2 t; omega⟩

omit [Scalar W] in
theorem mem_take_one {α} {l : List α} {a : α} : a ∈ l.take 1 ↔ l.head? = some a := by
  rw [List.take_one, Option.mem_toList]

omit [Scalar W] in
theorem HeadBelowRecords.congr {reg : Reg W} {g g' : Genome W} (h : HeadBelowRecords reg g)
    (he : g'.genes.head?.map (·.inn) = g.genes.head?.map (·.inn)) : HeadBelowRecords reg g' := by
  intro h0 hh i hi
  rw [mem_take_one.mp hh] at he
  obtain ⟨f, hf, e⟩ := Option.map_eq_some_iff.mp he.symm
  have e : f.inn = h0.inn := e
  rw [← e]
  exact h f (mem_take_one.mpr hf) i hi

omit [Scalar W] in
theorem SameSkel.head {g g' : Genome W} (h : SameSkel g g') : g'.genes.head?.map (·.inn) = g.genes.head?.map (·.inn) := by
  have := congrArg List.head? h.inns
  simpa [List.head?_map] using this

omit [Scalar W] in
theorem geneInsert_head (genes : List (Gene W)) (x : Gene W) (hs : GenesSorted genes) (a : Int)
    (hh : genes.head?.map (·.inn) = some a) (hlt : a < x.inn) : (geneInsert genes x).head?.map (·.inn) = some a := by
  cases genes with
  | nil => simp at hh
  | cons h0 t =>
    simp only [List.head?_cons, Option.map_some, Option.some.injEq] at hh
    unfold geneInsert
    rw [insertAt_spec (fun y : Gene W => y.inn) (h0 :: t) x hs]
    split
    · simp [hh]
    · simp [hh, hlt]

omit [Scalar W] in
theorem head_eq_of_min {l : List (Gene W)} (hs : GenesSorted l) {a : Gene W} (ha : a ∈ l) (hmin : ∀ z ∈ l, a.inn ≤ z.inn) :
    l.head?.map (·.inn) = some a.inn := by
  cases l with
  | nil => cases ha
  | cons f t =>
    rcases List.mem_cons.mp ha with rfl | h'
    · rfl
    · have := (sorted_cons hs).2 a h'
      have := hmin f List.mem_cons_self
      omega

omit [Scalar W] in
theorem head_preserved (g g' : Genome W) (hw : WFT g) (hs' : GenesSorted g'.genes)
    (hold : ∀ y ∈ g.genes, ∃ z ∈ g'.genes, z.inn = y.inn)
    (hnew : ∀ z ∈ g'.genes, (∃ y ∈ g.genes, y.inn = z.inn) ∨ (∀ h0 ∈ g.genes.take 1, h0.inn < z.inn)) :
    g'.genes.head?.map (·.inn) = g.genes.head?.map (·.inn) := by
  cases hg : g.genes with
  | nil => exact absurd hg hw.wf.hasGene
  | cons h0 t =>
    have hs := hw.wf.genesSorted
    rw [hg] at hs hold hnew
    obtain ⟨z0, hz0, e0⟩ := hold h0 List.mem_cons_self
    -- the image of the old first gene carries the least number of the new list
    have hmin : ∀ z ∈ g'.genes, z0.inn ≤ z.inn := by
      intro z hz
      rcases hnew z hz with ⟨y, hy, e⟩ | h'
      · rcases List.mem_cons.mp hy with rfl | hy'
        · omega
        · have := (sorted_cons hs).2 y hy'
          omega
      · have := h' h0 (by simp)
        omega
    rw [head_eq_of_min hs' hz0 hmin, e0]
    rfl

omit [Scalar W] in
theorem setEnabledAt_step (g : Genome W) (k : Nat) (b : Bool) (hr : TraitRefsOwned g) :
    SameSkel g { g with genes := setEnabledAt g.genes k b } ∧
    TraitRefsOwned ({ g with genes := setEnabledAt g.genes k b } : Genome W) ∧
    (∀ y ∈ setEnabledAt g.genes k b, ∃ z ∈ g.genes, geneKey z = geneKey y ∧ z.trait = y.trait) := by
  have hk : ∀ y ∈ setEnabledAt g.genes k b, ∃ z ∈ g.genes, geneKey z = geneKey y ∧ z.trait = y.trait := by
    intro y hy
    unfold setEnabledAt at hy
    rcases mem_modify _ _ _ _ hy with h | ⟨z, hz, rfl⟩
    · exact ⟨y, h, rfl, rfl⟩
    · exact ⟨z, hz, rfl, rfl⟩
  refine ⟨⟨modify_map_of_eq g.genes k _ C05.Gene.skel (fun _ => rfl), rfl, rfl, rfl⟩, ⟨?_, hr.2⟩, hk⟩
  intro y hy
  obtain ⟨z, hz, _, e⟩ := hk y hy
  rw [← e]; exact hr.1 z hz

end GoNeat.C01

/-! ### `LStep` (L for local: the genome alone, no registry - not to be confused with `C03.LinkStep`, one resolved gene)

The fields are what `C01.Fits` asks of the new genome besides the registry side (`struct_closed`): `nodesOld`/`nodesNew` keep
the input/bias/output ids and `Retains`, `tids` the trait ids of `NodeLineage`, `head` the first gene's number (`SharedHead`,
`HeadBelowRecords`), `mods` "no modules"; `bindsOld` is what a thread's view of its genomes needs (`C16.ViewExt.trans`). -/

namespace GoNeat.C16
open GoNeat GoNeat.C03 GoNeat.C01 Scalar
variable {W : Type} [Scalar W]

/-- what a structural mutation does to a genome, without reference to the registry -/
structure LStep (g g' : Genome W) : Prop where
  bindsOld : ∀ b ∈ gb g, b ∈ gb g'
  nodesOld : ∀ n ∈ g.nodes, ∃ m ∈ g'.nodes, m.id = n.id ∧ m.kind = n.kind
  nodesNew : ∀ m ∈ g'.nodes, (∃ n ∈ g.nodes, n.id = m.id ∧ n.kind = m.kind) ∨ m.kind = Kind.hidden
  tids : traitIds g' = traitIds g
  head : g'.genes.head?.map (·.inn) = g.genes.head?.map (·.inn)
  mods : g'.modules = g.modules

theorem LStep.refl (g : Genome W) : LStep g g :=
  ⟨fun _ h => h, fun n h => ⟨n, h, rfl, rfl⟩, fun m h => .inl ⟨m, h, rfl, rfl⟩, rfl, rfl, rfl⟩

theorem LStep.trans {a b c : Genome W} (h1 : LStep a b) (h2 : LStep b c) : LStep a c :=
  ⟨fun b hb => h2.bindsOld b (h1.bindsOld b hb),
   fun n hn => by
     obtain ⟨m, hm, e1, e2⟩ := h1.nodesOld n hn
     obtain ⟨k, hk, e3, e4⟩ := h2.nodesOld m hm
     exact ⟨k, hk, e3.trans e1, e4.trans e2⟩,
   fun m hm => by
     rcases h2.nodesNew m hm with ⟨k, hk, e1, e2⟩ | h
     · rcases h1.nodesNew k hk with ⟨n, hn, e3, e4⟩ | h'
       · exact .inl ⟨n, hn, e3.trans e1, e4.trans e2⟩
       · exact .inr (e2 ▸ h')
     · exact .inr h,
   h2.tids.trans h1.tids, h2.head.trans h1.head, h2.mods.trans h1.mods⟩

theorem LStep.retains {g g' : Genome W} (h : LStep g g') : Retains g g' :=
  fun n hn _ => h.nodesOld n hn

theorem head_of_gb {g g' : Genome W} (hb : gb g' = gb g) : g'.genes.head?.map (·.inn) = g.genes.head?.map (·.inn) := by
  have h1 : ∀ l : List (Gene W), (l.map geneBind).head?.map (·.1) = l.head?.map (·.inn) := by
    intro l; cases l <;> rfl
  rw [← h1, ← h1]
  show (gb g').head?.map _ = (gb g).head?.map _
  rw [hb]

theorem lstep_of_same {g g' : Genome W} (hb : gb g' = gb g) (hr : gr g' = gr g) (ht : traitIds g' = traitIds g)
    (hm : g'.modules = g.modules) : LStep g g' := by
  refine ⟨fun b h => hb ▸ h, fun n hn => ?_, fun m hm' => ?_, ht, head_of_gb hb, hm⟩
  · have : nodeRole n ∈ gr g' := hr ▸ List.mem_map_of_mem hn
    obtain ⟨m, hm', e⟩ := List.mem_map.mp this
    simp only [nodeRole, Prod.mk.injEq] at e
    exact ⟨m, hm', e.1, e.2⟩
  · have : nodeRole m ∈ gr g := hr ▸ List.mem_map_of_mem hm'
    obtain ⟨n, hn, e⟩ := List.mem_map.mp this
    simp only [nodeRole, Prod.mk.injEq] at e
    exact .inl ⟨n, hn, e.1, e.2⟩

theorem lstep_of_skel {g g' : Genome W} (h : SameSkel g g') : LStep g g' := lstep_of_same h.genes h.nodes h.tids h.mods

theorem lstep_addGene (g : Genome W) (x : Gene W) (hw : WFT g)
    (hw' : WFT ({ g with genes := geneInsert g.genes x } : Genome W)) (hlt : ∀ h0 ∈ g.genes.take 1, h0.inn < x.inn) :
    LStep g ({ g with genes := geneInsert g.genes x } : Genome W) := by
  refine ⟨fun b hb => (gb_addGene g x).symm.subset (List.mem_cons_of_mem _ hb), fun n h => ⟨n, h, rfl, rfl⟩,
          fun m h => Or.inl ⟨m, h, rfl, rfl⟩, rfl, ?_, rfl⟩
  apply head_preserved g _ hw hw'.wf.genesSorted
  · intro y hy
    exact ⟨y, (mem_insertAt _ _ _ _).mpr (Or.inr hy), rfl⟩
  · intro z hz
    rcases (mem_insertAt _ _ _ _).mp hz with rfl | h
    · exact Or.inr hlt
    · exact Or.inl ⟨z, h, rfl⟩

theorem lstep_disable (g : Genome W) (k : Nat) (hw : WFT g) :
    LStep g ({ g with genes := setEnabledAt g.genes k false } : Genome W) ∧
    WFT ({ g with genes := setEnabledAt g.genes k false } : Genome W) ∧
    gb ({ g with genes := setEnabledAt g.genes k false } : Genome W) = gb g := by
  obtain ⟨hskel, hrefs1, _⟩ := setEnabledAt_step g k false hw.wf.traitRefs
  exact ⟨lstep_of_skel hskel, hskel.wft hrefs1 hw, hskel.genes⟩

theorem lstep_addSplit (g : Genome W) (x1 x2 : Gene W) (n : Node) (hw : WFT g)
    (hw' : WFT ({ g with genes := geneInsert (geneInsert g.genes x1) x2, nodes := nodeInsert g.nodes n } : Genome W))
    (hk : n.kind = Kind.hidden) (hlt1 : ∀ h0 ∈ g.genes.take 1, h0.inn < x1.inn) (hlt2 : ∀ h0 ∈ g.genes.take 1, h0.inn < x2.inn) :
    LStep g ({ g with genes := geneInsert (geneInsert g.genes x1) x2, nodes := nodeInsert g.nodes n } : Genome W) := by
  have hmem : ∀ y, y ∈ geneInsert (geneInsert g.genes x1) x2 ↔ y = x2 ∨ y = x1 ∨ y ∈ g.genes := by
    intro y; rw [mem_geneInsert, mem_geneInsert]
  refine ⟨fun b hb => (gb_addSplit g x1 x2 n).symm.subset (List.mem_cons_of_mem _ (List.mem_cons_of_mem _ hb)),
          fun m hm => ⟨m, (mem_nodeInsert _ _ _).mpr (.inr hm), rfl, rfl⟩, fun m hm => ?_, rfl, ?_, rfl⟩
  · rcases (mem_nodeInsert _ _ _).mp hm with rfl | h
    · exact .inr hk
    · exact .inl ⟨m, h, rfl, rfl⟩
  · apply head_preserved g _ hw hw'.wf.genesSorted
    · intro y hy
      exact ⟨y, (hmem y).mpr (.inr (.inr hy)), rfl⟩
    · intro z hz
      rcases (hmem z).mp hz with rfl | rfl | h
      · exact .inr hlt2
      · exact .inr hlt1
      · exact .inl ⟨z, h, rfl⟩

theorem ioIds_lstep {g g' : Genome W} (h : LStep g g') (hw : WFT g) (hw' : WFT g') : ioIds g' = ioIds g := by
  refine ioIds_ext hw.wf.nodesSorted hw'.wf.nodesSorted (fun m hm hk => ?_) (fun n hn hk => ?_)
  · rcases h.nodesNew m hm with ⟨n, hn, e1, e2⟩ | hk'
    · exact mem_ioIds.mpr ⟨n, hn, by rw [e2]; exact hk, e1⟩
    · exact absurd hk' hk
  · obtain ⟨m, hm, e1, e2⟩ := h.nodesOld n hn
    exact mem_ioIds.mpr ⟨m, hm, by rw [e2]; exact hk, e1⟩

end GoNeat.C16
