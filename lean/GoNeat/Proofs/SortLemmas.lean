/-
  Go's insertion sort (the model of `sort.Sort` for short slices, Model/GoSort.lean) returns a permutation of its
  input, sorted when the comparison satisfies `LessLaws`; so does `goSort`; the head of the result is minimal.
-/
import GoNeat.Model.GoSort
import GoNeat.Proofs.ListLemmas

namespace GoNeat

-- in every universe: `C01.goInsertionSort_mem` and `C03.go_mem` are stated so and are read off these two
section
universe u
variable {α : Type u}

theorem goInsertionSort_go_perm (less : α → α → Bool) (x : α) (revLeft acc : List α) :
    (goInsertionSort.go less x revLeft acc).Perm (x :: (revLeft.reverse ++ acc)) := by
  induction revLeft generalizing acc with
  | nil => simp [goInsertionSort.go]
  | cons y ys ih =>
    unfold goInsertionSort.go
    split
    · refine (ih (y :: acc)).trans ?_
      simp
    · exact List.perm_middle

theorem goInsertionSort_perm (less : α → α → Bool) (l : List α) : (goInsertionSort less l).Perm l := by
  unfold goInsertionSort
  suffices h : ∀ (init : List α), (l.foldl (fun sorted x => goInsertionSort.go less x sorted.reverse []) init).Perm (init ++ l) by
    simpa using h []
  induction l with
  | nil => intro init; simp
  | cons x xs ih =>
    intro init
    simp only [List.foldl_cons]
    refine (ih _).trans ?_
    have := goInsertionSort_go_perm less x init.reverse []
    simp only [List.reverse_reverse, List.append_nil] at this
    refine (List.Perm.append_right xs this).trans ?_
    simp only [List.cons_append]
    exact List.perm_middle.symm

end

variable {α : Type}

/-- the two order facts insertion sort needs from a strict comparison -/
structure LessLaws (less : α → α → Bool) : Prop where
  asymm : ∀ a b, less a b = true → less b a = false
  negTrans : ∀ a b c, less a b = false → less b c = false → less a c = false

theorem LessLaws.comap {β : Type} {less : α → α → Bool} (hl : LessLaws less) (f : β → α) :
    LessLaws (fun a b => less (f a) (f b)) :=
  ⟨fun a b => hl.asymm (f a) (f b), fun a b c => hl.negTrans (f a) (f b) (f c)⟩

theorem LessLaws.flip {less : α → α → Bool} (hl : LessLaws less) : LessLaws (fun a b => less b a) :=
  ⟨fun a b => hl.asymm b a, fun a b c h1 h2 => hl.negTrans c b a h2 h1⟩

def SortedBy (less : α → α → Bool) (l : List α) : Prop := l.Pairwise (fun a b => less b a = false)

theorem goInsertionSort_go_sorted (less : α → α → Bool) (hl : LessLaws less) (x : α) (revLeft acc : List α)
    (hs : SortedBy less (revLeft.reverse ++ acc)) (hacc : ∀ a ∈ acc, less x a = true) :
    SortedBy less (goInsertionSort.go less x revLeft acc) := by
  induction revLeft generalizing acc with
  | nil =>
    simp only [goInsertionSort.go, SortedBy, List.pairwise_cons]
    refine ⟨fun a ha => hl.asymm _ _ (hacc a ha), ?_⟩
    simpa [SortedBy] using hs
  | cons y ys ih =>
    unfold goInsertionSort.go
    split
    · rename_i hxy
      apply ih
      · simpa [SortedBy, List.append_assoc] using hs
      · intro a ha
        rcases List.mem_cons.mp ha with rfl | ha'
        · exact hxy
        · exact hacc a ha'
    · rename_i hxy
      have hxy' : less x y = false := by simpa using hxy
      simp only [SortedBy, List.reverse_cons, List.append_assoc, List.singleton_append] at hs ⊢
      rw [List.pairwise_append] at hs ⊢
      obtain ⟨h1, h2, h3⟩ := hs
      rw [List.pairwise_cons] at h2
      refine ⟨h1, ?_, ?_⟩
      · rw [List.pairwise_cons, List.pairwise_cons]
        refine ⟨?_, ⟨fun a ha => hl.asymm _ _ (hacc a ha), h2.2⟩⟩
        intro a ha
        rcases List.mem_cons.mp ha with rfl | ha'
        · exact hxy'
        · exact h2.1 a ha'
      · intro a ha b hb
        rcases List.mem_cons.mp hb with rfl | hb'
        · exact h3 a ha b (by simp)
        · rcases List.mem_cons.mp hb' with rfl | hb''
          · -- x against an element a before y: ¬ x < y and ¬ y < a give ¬ x < a
            exact hl.negTrans _ _ _ hxy' (h3 a ha y (by simp))
          · exact h3 a ha b (by simp [hb''])

theorem goInsertionSort_sorted (less : α → α → Bool) (hl : LessLaws less) (l : List α) : SortedBy less (goInsertionSort less l) :=
  List.foldlRecOn (motive := SortedBy less) l _ List.Pairwise.nil fun sorted hs x _ =>
    goInsertionSort_go_sorted less hl x sorted.reverse [] (by simpa using hs) (fun _ ha => nomatch ha)

theorem SortedBy.head_min {less : α → α → Bool} {l r : List α} {top : α} {rest : List α} (hs : SortedBy less r)
    (hp : r.Perm l) (h : r = top :: rest) (hirr : less top top = false) : ∀ x ∈ l, less x top = false := by
  intro x hx
  rw [h] at hs hp
  rcases List.mem_cons.mp (hp.mem_iff.mpr hx) with rfl | hm
  · exact hirr
  · exact (List.pairwise_cons.mp hs).1 x hm

theorem goInsertionSort_head_min (less : α → α → Bool) (hl : LessLaws less) (l : List α) (top : α) (rest : List α)
    (h : goInsertionSort less l = top :: rest) (hirr : less top top = false) : ∀ x ∈ l, less x top = false :=
  (goInsertionSort_sorted less hl l).head_min (goInsertionSort_perm less l) h hirr

/-! ### `goSort` (Model/GoSort.lean): the checked wrapper around the transliterated pdqsort.
    The three facts below hold unconditionally - the pdq branch is only taken when its result passed the
    executable "sorted permutation" check, every other case is `goInsertionSort`. -/

theorem goSort_small (less : α → α → Bool) (l : List α) (h : l.length ≤ 12) : goSort less l = goInsertionSort less l := by
  simp [goSort, h]

theorem sortedByB_iff (less : α → α → Bool) (l : List α) : sortedByB less l = true ↔ SortedBy less l := by
  induction l with
  | nil => simp [sortedByB, SortedBy]
  | cons x xs ih =>
    simp only [sortedByB, SortedBy, Bool.and_eq_true, List.all_eq_true, Bool.not_eq_eq_eq_not, Bool.not_true,
      List.pairwise_cons]
    rw [ih]; rfl

theorem goSortPdq?_spec (less : α → α → Bool) (l r : List α) (h : goSortPdq? less l = some r) :
    r.Perm l ∧ SortedBy less r := by
  unfold goSortPdq? at h
  simp only [List.getElem?_toArray] at h
  split at h
  · rename_i hc
    simp only [Bool.and_eq_true] at hc
    cases h
    refine ⟨?_, (sortedByB_iff _ _).mp hc.2⟩
    -- pdqsort sorts an array of indices; the result was accepted only if the indices are a permutation of `range n`,
    -- and a permutation of `range n` read through `l[·]?` is a permutation of `l`
    have hp := (List.isPerm_iff.mp hc.1).filterMap (fun i => l[i]?)
    rw [filterMap_getElem?_range] at hp
    exact hp
  · cases h

theorem goSort_cases (less : α → α → Bool) (l : List α) :
    goSort less l = goInsertionSort less l ∨ goSortPdq? less l = some (goSort less l) := by
  unfold goSort
  split
  · exact .inl rfl
  · split
    · rename_i r h; exact .inr h
    · exact .inl rfl

theorem goSort_perm (less : α → α → Bool) (l : List α) : (goSort less l).Perm l :=
  (goSort_cases less l).elim (fun e => e ▸ goInsertionSort_perm less l) (fun h => (goSortPdq?_spec less l _ h).1)

theorem goSort_sorted (less : α → α → Bool) (hl : LessLaws less) (l : List α) : SortedBy less (goSort less l) :=
  (goSort_cases less l).elim (fun e => e ▸ goInsertionSort_sorted less hl l) (fun h => (goSortPdq?_spec less l _ h).2)

theorem goSort_mem (less : α → α → Bool) (l : List α) (z : α) : z ∈ goSort less l ↔ z ∈ l :=
  (goSort_perm less l).mem_iff

theorem goSort_length (less : α → α → Bool) (l : List α) : (goSort less l).length = l.length :=
  (goSort_perm less l).length_eq

theorem goSort_head_min (less : α → α → Bool) (hl : LessLaws less) (l : List α) (top : α) (rest : List α)
    (h : goSort less l = top :: rest) (hirr : less top top = false) : ∀ x ∈ l, less x top = false :=
  (goSort_sorted less hl l).head_min (goSort_perm less l) h hirr

end GoNeat

namespace GoNeat.C01

theorem goInsertionSort_mem {α} (less : α → α → Bool) (l : List α) (z : α) : z ∈ goInsertionSort less l ↔ z ∈ l :=
  (goInsertionSort_perm less l).mem_iff

end GoNeat.C01
