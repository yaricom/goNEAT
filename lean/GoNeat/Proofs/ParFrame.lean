/-
  C16(b), the FRAME LEMMAS: the registry hypotheses of the structural-mutator theorems are STABLE under what the other
  goroutines may do between two registry operations of this one - append records and raise the counters.

  Sequentially (`C01.RegExt`, `C01.RegInv.ext`) an appended record carries numbers ABOVE the counters the genome was
  checked against.  Under interleaving this is false: a record stored after this thread's snapshot may carry a number
  that was drawn BEFORE it (thread B: fetch-add -> 7; thread A: snapshot, counter already 7; thread B: store record with 7).
  What stays true, and is all that is needed: the numbers of a record appended by another thread are not carried by
  this thread's genome (they were pending in the other thread, which owns them) - `ForeignTo` / `FreshRec`.
-/
import GoNeat.Proofs.RegistrySteps
import GoNeat.Spec.WFReg

set_option linter.unusedSectionVars false

namespace GoNeat.C16
open GoNeat GoNeat.C03
variable {W : Type}

-- `RegGrow`, `FreshRec` (below) and `invB_frame` have the fields and the statement of `C03.RegGrow`, `C03.FreshRec`,
-- `C03.invB_frame` (Proofs/RegistryLemmas.lean; `invB_frame` here only repacks the fields).  They stand a second time because
-- theorems the documents cite for C16 (`RegGrow.refl`, `RegGrow.trans`, `invB_frame`) are stated with these.

structure RegGrow (reg reg' : Reg W) (new : List (Innov W)) : Prop where
  inn : reg.nextInn ≤ reg'.nextInn
  node : reg.nextNode ≤ reg'.nextNode
  recs : reg'.records = reg.records ++ new

theorem RegGrow.refl (reg : Reg W) : RegGrow reg reg [] := ⟨Int.le_refl _, Int.le_refl _, by simp⟩

theorem RegGrow.trans {a b c : Reg W} {n1 n2 : List (Innov W)} (h1 : RegGrow a b n1) (h2 : RegGrow b c n2) :
    RegGrow a c (n1 ++ n2) :=
  ⟨Int.le_trans h1.inn h2.inn, Int.le_trans h1.node h2.node, by rw [h2.recs, h1.recs, List.append_assoc]⟩

def ForeignTo (g : Genome W) (r : Innov W) : Prop :=
  (∀ x ∈ g.genes, x.inn ∉ recInns r) ∧ (r.typ = 1 → ∀ n ∈ g.nodes, n.id ≠ r.newNode)
instance (g : Genome W) (r : Innov W) : Decidable (ForeignTo g r) := by unfold ForeignTo; infer_instance

theorem regInv_frame {reg reg' : Reg W} {new : List (Innov W)} {g : Genome W} (h : C01.RegInv reg g)
    (hg : RegGrow reg reg' new) (hok : C01.RegOk reg') (hf : ∀ r ∈ new, ForeignTo g r) : C01.RegInv reg' g := by
  refine ⟨?_, ⟨fun x hx => Int.le_trans (h.above.1 x hx) hg.inn, fun n hn => Int.le_trans (h.above.2 n hn) hg.node⟩, hok⟩
  intro i hi
  rw [hg.recs] at hi
  rcases List.mem_append.mp hi with hi | hi
  · exact h.compat i hi
  · obtain ⟨f1, f2⟩ := hf i hi
    refine ⟨fun _ x hx e => absurd (e ▸ inn_mem_recInns i) (f1 x hx),
            fun t => ⟨fun x hx e => absurd (e ▸ inn_mem_recInns i) (f1 x hx),
                      fun x hx e => absurd (e ▸ inn2_mem_recInns i t) (f1 x hx),
                      fun n hn e => absurd e (f2 t n hn)⟩⟩

/-- the sequential extension relation is the special case "numbers above the old counters" -/
theorem foreign_of_above {reg : Reg W} {g : Genome W} {r : Innov W} (ha : C01.CounterAbove reg g)
    (h2 : r.typ = 2 → reg.nextInn < r.inn)
    (h1 : r.typ = 1 → reg.nextInn < r.inn ∧ reg.nextInn < r.inn2 ∧ reg.nextNode < r.newNode)
    (ht : r.typ = 2 ∨ r.typ = 1) : ForeignTo g r := by
  refine ⟨fun x hx hm => ?_, fun t n hn e => ?_⟩
  · have hle := ha.1 x hx
    unfold recInns at hm
    rcases ht with t | t
    · have : ¬ r.typ = 1 := by omega
      simp only [this, if_false, List.mem_singleton] at hm
      have := h2 t; omega
    · simp only [t, if_true, List.mem_cons, List.not_mem_nil, or_false] at hm
      have := h1 t; omega
  · have := ha.2 n hn; have := h1 t; omega

structure FreshRec (B : List Bind) (R : List Role) (r : Innov W) : Prop where
  typ : r.typ = 2 ∨ r.typ = 1
  inns : ∀ b ∈ B, b.1 ∉ recInns r
  node : r.typ = 1 → ∀ p ∈ R, p.1 ≠ r.newNode
  split : r.typ = 1 → ∃ y ∈ B, y.1 = r.oldInn ∧ y.2.1 = r.inId ∧ y.2.2.1 = r.outId

theorem invB_frame {reg reg' : Reg W} {new : List (Innov W)} {B : List Bind} {R : List Role} (h : InvB reg B R)
    (hg : RegGrow reg reg' new) (hf : ∀ r ∈ new, FreshRec B R r)
    (hnd : (regInns reg').Nodup) (hnn : (regNodes reg').Nodup)
    (hbi : ∀ r ∈ new, ∀ k ∈ recInns r, k ≤ reg'.nextInn) (hbn : ∀ r ∈ new, r.typ = 1 → r.newNode ≤ reg'.nextNode) :
    InvB reg' B R :=
  C03.invB_frame h ⟨hg.inn, hg.node, hg.recs⟩ (fun r hr => ⟨(hf r hr).typ, (hf r hr).inns, (hf r hr).node, (hf r hr).split⟩)
    hnd hnn hbi hbn

theorem invB_counters {reg reg' : Reg W} {B : List Bind} {R : List Role} (h : InvB reg B R)
    (hr : reg'.records = reg.records) (hi : reg.nextInn ≤ reg'.nextInn) (hn : reg.nextNode ≤ reg'.nextNode) :
    InvB reg' B R := by
  have e1 : regInns reg' = regInns reg := by rw [regInns_def, regInns_def, hr]
  have e2 : regNodes reg' = regNodes reg := by rw [regNodes_def, regNodes_def, hr]
  exact invB_frame (new := []) h ⟨hi, hn, by rw [hr]; simp⟩ (fun _ hx => nomatch hx) (e1 ▸ h.compat.innsNodup)
    (e2 ▸ h.compat.nodesNodup) (fun _ hx => nomatch hx) (fun _ hx => nomatch hx)

structure Within (g : Genome W) (B : List Bind) (R : List Role) : Prop where
  B : ∀ x ∈ g.genes, geneBind x ∈ B
  R : ∀ n ∈ g.nodes, nodeRole n ∈ R

theorem within_iff {g : Genome W} {B : List Bind} {R : List Role} :
    Within g B R ↔ (∀ b ∈ gb g, b ∈ B) ∧ (∀ r ∈ gr g, r ∈ R) :=
  ⟨fun h => ⟨List.forall_mem_map.mpr h.B, List.forall_mem_map.mpr h.R⟩,
   fun h => ⟨List.forall_mem_map.mp h.1, List.forall_mem_map.mp h.2⟩⟩

theorem Within.mono {g : Genome W} {B B' : List Bind} {R R' : List Role} (h : Within g B R) (hB : ∀ b ∈ B, b ∈ B')
    (hR : ∀ r ∈ R, r ∈ R') : Within g B' R' :=
  ⟨fun x hx => hB _ (h.B x hx), fun n hn => hR _ (h.R n hn)⟩

theorem Within.same {g g' : Genome W} {B : List Bind} {R : List Role} (h : Within g B R) (hb : gb g' = gb g)
    (hr : gr g' = gr g) : Within g' B R := by
  rw [within_iff, hb, hr]
  exact within_iff.mp h

theorem Within.of_mem {g : Genome W} {gs : List (Genome W)} (h : g ∈ gs) : Within g (binds gs) (roles gs) :=
  ⟨fun _ hx => mem_binds_of_mem h hx, fun _ hn => mem_roles_of_mem h hn⟩

theorem mem_binds {gs : List (Genome W)} {b : Bind} : b ∈ binds gs ↔ ∃ g ∈ gs, b ∈ gb g := List.mem_flatMap
theorem mem_roles {gs : List (Genome W)} {p : Role} : p ∈ roles gs ↔ ∃ g ∈ gs, p ∈ gr g := List.mem_flatMap

theorem binds_within {gs : List (Genome W)} {B : List Bind} {R : List Role} (h : ∀ g ∈ gs, Within g B R) :
    (∀ b ∈ binds gs, b ∈ B) ∧ (∀ r ∈ roles gs, r ∈ R) :=
  ⟨fun b hb => by
     obtain ⟨g, hg, hbg⟩ := mem_binds.mp hb
     exact (within_iff.mp (h g hg)).1 b hbg,
   fun r hr => by
     obtain ⟨g, hg, hrg⟩ := mem_roles.mp hr
     exact (within_iff.mp (h g hg)).2 r hrg⟩

theorem regOk_of_invB {reg : Reg W} {B : List Bind} {R : List Role} (h : InvB reg B R) : C01.RegOk reg := by
  have hnd := h.compat.innsNodup
  refine ⟨fun i hi => ⟨fun _ => h.above.recInns _ (mem_regInns hi (inn_mem_recInns i)),
            fun t => ⟨h.above.recInns _ (mem_regInns hi (inn_mem_recInns i)),
                      h.above.recInns _ (mem_regInns hi (inn2_mem_recInns i t)),
                      h.above.recNodes _ (mem_regNodes hi t)⟩⟩, ?_⟩
  intro i hi j hj
  refine ⟨fun _ _ e => ?_, fun ti tj => ?_, fun ti tj => ?_⟩
  · have : i = j := rec_inj hnd hi hj (inn_mem_recInns i) (e ▸ inn_mem_recInns j)
    subst this; exact ⟨rfl, rfl, rfl⟩
  · constructor
    · intro e
      have : i = j := rec_inj hnd hi hj (inn_mem_recInns i) (e ▸ inn_mem_recInns j)
      subst this; omega
    · intro e
      have : i = j := rec_inj hnd hi hj (inn_mem_recInns i) (e ▸ inn2_mem_recInns j tj)
      subst this; omega
  · refine ⟨fun e => ?_, fun e => ?_, fun e => ?_⟩
    · have : i = j := rec_inj hnd hi hj (inn_mem_recInns i) (e ▸ inn_mem_recInns j)
      subst this; exact ⟨rfl, rfl⟩
    · have : i = j := rec_inj hnd hi hj (inn2_mem_recInns i ti) (e ▸ inn2_mem_recInns j tj)
      subst this; exact ⟨rfl, rfl⟩
    · have : i = j := rec_inj hnd hi hj (inn_mem_recInns i) (e ▸ inn2_mem_recInns j tj)
      subst this; exact inn_ne_inn2 hnd hi ti e

theorem regInv_of_invB {reg : Reg W} {B : List Bind} {R : List Role} (h : InvB reg B R) {g : Genome W}
    (hb : ∀ x ∈ g.genes, geneBind x ∈ B) (hr : ∀ n ∈ g.nodes, nodeRole n ∈ R) : C01.RegInv reg g := by
  refine ⟨?_, ⟨fun x hx => h.above.inns _ (hb x hx), fun n hn => h.above.ids _ (hr n hn)⟩, regOk_of_invB h⟩
  intro i hi
  have hrec := h.compat.recs i hi
  refine ⟨fun t x hx e => ?_, fun t => ?_⟩
  · have := (recOk_link t).mp hrec _ (hb x hx) e
    simp only [geneBind, Prod.mk.injEq] at this
    unfold Gene.link
    rw [this.2.1, this.2.2.1, this.2.2.2]
  · obtain ⟨⟨y, _, _, _, _, hall⟩, hb2, hro⟩ := (recOk_node t).mp hrec
    refine ⟨fun x hx e => ?_, fun x hx e => ?_, fun n hn e => ?_⟩
    · have := hall _ (hb x hx) e
      simp only [geneBind, Prod.mk.injEq] at this
      exact ⟨this.2.1, this.2.2.1⟩
    · have := hb2 _ (hb x hx) e
      simp only [geneBind, Prod.mk.injEq] at this
      exact ⟨this.2.1, this.2.2.1, this.2.2.2⟩
    · exact hro _ (hr n hn) e

end GoNeat.C16
