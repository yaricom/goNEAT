/-
  C16(b), the ABSTRACT model: consistency of the shared innovation registry under ARBITRARY interleavings
  (model: GoNeat/Model/RegistryPar.lean: requests instead of programs, natural numbers, a ghost log instead of genomes).
  The executor itself - the goroutines as programs over the real registry - is Proofs/ParFrameLogic.lean,
  Proofs/ParFrameSound.lean … Props/C16Par.lean; its invariant `GInv` contains what `Inv` says here (pending numbers owned,
  pairwise distinct, unrecorded, at most the counters; one number one link), and `par_mutation_consistent` says of the real
  registry and genomes what `interleaved_consistent` says of the ghost log.  This file is the small version of that argument,
  readable on its own; a new registry operation or guarantee is to be added THERE.

  `CInv` is the invariant of ONE fetch-add counter (issued numbers, numbers held by records, numbers a thread
  holds in its `pc` between issue and store = "pending" numbers), generic in the counter; `Chan` adds what the numbers
  mean; `Inv`, the whole-state invariant, is two `Chan`s and "the records only grow".
  Non-vacuity: a concrete epoch in which two threads store DIFFERENT numbers for the same link / split.

  CORE LEAN ONLY.
-/
import GoNeat.Model.RegistryPar

namespace GoNeat.RegPar

theorem getElem?_set_some {α : Type} {l : List α} {i j : Nat} {a u : α}
    (h : (l.set i a)[j]? = some u) : (j = i ∧ u = a) ∨ (j ≠ i ∧ l[j]? = some u) := by
  rw [List.getElem?_set] at h
  by_cases hij : i = j
  · subst hij
    rw [if_pos rfl] at h
    split at h
    · left; exact ⟨rfl, (Option.some.inj h).symm⟩
    · cases h
  · right
    rw [if_neg hij] at h
    exact ⟨fun e => hij e.symm, h⟩

theorem functional_append {α β : Type} {l₁ l₂ : List (α × β)} (h₁ : Functional l₁) (h₂ : Functional l₂)
    (hd : ∀ a b b', (a, b) ∈ l₁ → (a, b') ∈ l₂ → False) : Functional (l₁ ++ l₂) := by
  intro a b b' hb hb'
  rcases List.mem_append.1 hb with hb | hb <;> rcases List.mem_append.1 hb' with hb' | hb'
  · exact h₁ a b b' hb hb'
  · exact (hd a b b' hb hb').elim
  · exact (hd a b' b hb' hb).elim
  · exact h₂ a b b' hb hb'

theorem functional_of_subset {α β : Type} {l₁ l₂ : List (α × β)} (h : Functional l₂)
    (hs : ∀ b ∈ l₁, b ∈ l₂) : Functional l₁ :=
  fun a b b' hb hb' => h a b b' (hs _ hb) (hs _ hb')

theorem functional_of_nodup_keys {α β : Type} :
    ∀ {l : List (α × β)}, (l.map Prod.fst).Nodup → Functional l
  | [], _ => fun _ _ _ h => by cases h
  | x :: l, h => by
    rw [List.map_cons, List.nodup_cons] at h
    intro a b b' hb hb'
    rcases List.mem_cons.1 hb with hb | hb <;> rcases List.mem_cons.1 hb' with hb' | hb'
    · rw [← hb'] at hb; exact (Prod.mk.inj hb).2
    · exfalso; apply h.1; rw [← hb]; exact List.mem_map.2 ⟨(a, b'), hb', rfl⟩
    · exfalso; apply h.1; rw [← hb']; exact List.mem_map.2 ⟨(a, b), hb, rfl⟩
    · exact functional_of_nodup_keys h.2 a b b' hb hb'

theorem functional_flatMap_snoc {β : Type} {f : Rec → List (Nat × β)} {recs : List Rec} {r : Rec}
    (h : Functional (recs.flatMap f)) (hr : Functional (f r))
    (hfresh : ∀ n ∈ (f r).map Prod.fst, ∀ r' ∈ recs, n ∉ (f r').map Prod.fst) : Functional ((recs ++ [r]).flatMap f) := by
  rw [List.flatMap_append, List.flatMap_singleton]
  refine functional_append h hr ?_
  intro a b b' hb hb'
  obtain ⟨r', hr', hb⟩ := List.mem_flatMap.1 hb
  exact hfresh a (List.mem_map_of_mem (f := Prod.fst) hb') r' hr' (List.mem_map_of_mem (f := Prod.fst) hb)

theorem mem_flatMap_snoc {β : Type} {f : Rec → List β} {recs : List Rec} {r : Rec} {b : β} :
    b ∈ (recs ++ [r]).flatMap f ↔ b ∈ recs.flatMap f ∨ b ∈ f r := by
  rw [List.flatMap_append, List.flatMap_singleton, List.mem_append]

def Pc.pendInn : Pc → List Nat
  | .linkStore n => [n]
  | .nodeNeedInn2 _ n1 => [n1]
  | .nodeStore _ n1 n2 => [n1, n2]
  | _ => []

def Pc.pendNode : Pc → List Nat
  | .nodeNeedInn1 nid => [nid]
  | .nodeNeedInn2 nid _ => [nid]
  | .nodeStore nid _ _ => [nid]
  | _ => []

/-- `base` = the counter at the start of the epoch, `ctr` = now, `issued` = the ghost list of fetch-add results,
    `keys r` = the numbers record `r` holds, `pend pc` = the numbers a thread at `pc` holds privately -/
structure CInv (base ctr : Nat) (issued : List Nat) (recs : List Rec) (keys : Rec → List Nat)
    (pend : Pc → List Nat) (threads : List Thread) : Prop where
  base_le : base ≤ ctr
  issued_nodup : issued.Nodup
  issued_rng : ∀ n ∈ issued, base < n ∧ n ≤ ctr
  keys_le : ∀ r ∈ recs, ∀ n ∈ keys r, n ≤ ctr
  pend_issued : ∀ (i : Nat) (t : Thread), threads[i]? = some t → ∀ n ∈ pend t.pc, n ∈ issued
  pend_fresh : ∀ (i : Nat) (t : Thread), threads[i]? = some t → ∀ n ∈ pend t.pc, ∀ r ∈ recs, n ∉ keys r
  pend_nodup : ∀ (i : Nat) (t : Thread), threads[i]? = some t → (pend t.pc).Nodup
  pend_cross : ∀ (i j : Nat) (t u : Thread), i ≠ j → threads[i]? = some t → threads[j]? = some u →
    ∀ n ∈ pend t.pc, n ∉ pend u.pc

section CInvLemmas
variable {base ctr : Nat} {issued : List Nat} {recs : List Rec} {keys : Rec → List Nat}
  {pend : Pc → List Nat} {threads threads' : List Thread}

theorem CInv.of_anc (h : CInv base ctr issued recs keys pend threads)
    (hanc : ∀ (j : Nat) (u : Thread), threads'[j]? = some u →
      ∃ u₀ : Thread, threads[j]? = some u₀ ∧ (pend u.pc).Sublist (pend u₀.pc)) :
    CInv base ctr issued recs keys pend threads' where
  base_le := h.base_le
  issued_nodup := h.issued_nodup
  issued_rng := h.issued_rng
  keys_le := h.keys_le
  pend_issued := fun j u hj n hn => by
    obtain ⟨u₀, hj₀, hs⟩ := hanc j u hj
    exact h.pend_issued j u₀ hj₀ n (hs.subset hn)
  pend_fresh := fun j u hj n hn => by
    obtain ⟨u₀, hj₀, hs⟩ := hanc j u hj
    exact h.pend_fresh j u₀ hj₀ n (hs.subset hn)
  pend_nodup := fun j u hj => by
    obtain ⟨u₀, hj₀, hs⟩ := hanc j u hj
    exact (h.pend_nodup j u₀ hj₀).sublist hs
  pend_cross := fun j k u v hjk hj hk n hn hn' => by
    obtain ⟨u₀, hj₀, hs⟩ := hanc j u hj
    obtain ⟨v₀, hk₀, hs'⟩ := hanc k v hk
    exact h.pend_cross j k u₀ v₀ hjk hj₀ hk₀ n (hs.subset hn) (hs'.subset hn')

theorem CInv.init (hiss : issued = []) (hkeys : ∀ r ∈ recs, ∀ n ∈ keys r, n ≤ ctr)
    (hp : ∀ (i : Nat) (t : Thread), threads[i]? = some t → pend t.pc = []) :
    CInv ctr ctr issued recs keys pend threads where
  base_le := Nat.le_refl _
  issued_nodup := hiss ▸ List.nodup_nil
  issued_rng := hiss ▸ nofun
  keys_le := hkeys
  pend_issued := fun i t hi n hn => by rw [hp i t hi] at hn; cases hn
  pend_fresh := fun i t hi n hn => by rw [hp i t hi] at hn; cases hn
  pend_nodup := fun i t hi => by rw [hp i t hi]; exact List.nodup_nil
  pend_cross := fun i _ t _ _ hi _ n hn => by rw [hp i t hi] at hn; cases hn

theorem CInv.shrink (h : CInv base ctr issued recs keys pend threads) {i : Nat} {t t' : Thread}
    (hi : threads[i]? = some t) (hs : (pend t'.pc).Sublist (pend t.pc)) :
    CInv base ctr issued recs keys pend (threads.set i t') := by
  refine h.of_anc (fun j u hj => ?_)
  rcases getElem?_set_some hj with ⟨rfl, rfl⟩ | ⟨_, hj⟩
  · exact ⟨t, hi, hs⟩
  · exact ⟨u, hj, List.Sublist.refl _⟩

theorem CInv.addRec (h : CInv base ctr issued recs keys pend threads) {r : Rec}
    (hle : ∀ n ∈ keys r, n ≤ ctr)
    (hfr : ∀ (j : Nat) (u : Thread), threads[j]? = some u → ∀ n ∈ pend u.pc, n ∉ keys r) :
    CInv base ctr issued (recs ++ [r]) keys pend threads where
  base_le := h.base_le
  issued_nodup := h.issued_nodup
  issued_rng := h.issued_rng
  keys_le := List.forall_mem_append.2 ⟨h.keys_le, List.forall_mem_singleton.2 hle⟩
  pend_issued := h.pend_issued
  pend_fresh := fun j u hj n hn =>
    List.forall_mem_append.2 ⟨h.pend_fresh j u hj n hn, List.forall_mem_singleton.2 (hfr j u hj n hn)⟩
  pend_nodup := h.pend_nodup
  pend_cross := h.pend_cross

theorem CInv.store (h : CInv base ctr issued recs keys pend threads) {i : Nat} {t t' : Thread} {r : Rec}
    (hi : threads[i]? = some t) (hk : ∀ n ∈ keys r, n ∈ pend t.pc) (hp : pend t'.pc = []) :
    CInv base ctr issued (recs ++ [r]) keys pend (threads.set i t') := by
  have h1 : CInv base ctr issued recs keys pend (threads.set i t') :=
    h.shrink hi (by rw [hp]; exact List.nil_sublist _)
  refine h1.addRec ?_ ?_
  · intro n hn; exact (h.issued_rng n (h.pend_issued i t hi n (hk n hn))).2
  · intro j u hj n hn hnr
    rcases getElem?_set_some hj with ⟨rfl, rfl⟩ | ⟨hji, hj⟩
    · rw [hp] at hn; cases hn
    · exact h.pend_cross j i u t hji hj hi n hn (hk n hnr)

theorem CInv.issue (h : CInv base ctr issued recs keys pend threads) {i : Nat} {t t' : Thread}
    (hi : threads[i]? = some t) (hp : pend t'.pc = pend t.pc ++ [ctr + 1]) :
    CInv base (ctr + 1) (issued ++ [ctr + 1]) recs keys pend (threads.set i t') := by
  have hle : ∀ (j : Nat) (u : Thread), threads[j]? = some u → ∀ n ∈ pend u.pc, n ≤ ctr :=
    fun j u hj n hn => (h.issued_rng n (h.pend_issued j u hj n hn)).2
  have hold : ∀ (j : Nat) (u : Thread), (threads.set i t')[j]? = some u → ∀ n ∈ pend u.pc,
      (j = i ∧ n = ctr + 1) ∨ (n ≤ ctr ∧ ∃ u₀ : Thread, threads[j]? = some u₀ ∧ n ∈ pend u₀.pc) := by
    intro j u hj n hn
    rcases getElem?_set_some hj with ⟨rfl, rfl⟩ | ⟨_, hj⟩
    · rw [hp] at hn
      rcases List.mem_append.1 hn with hn | hn
      · exact Or.inr ⟨hle _ t hi n hn, t, hi, hn⟩
      · exact Or.inl ⟨rfl, List.mem_singleton.1 hn⟩
    · exact Or.inr ⟨hle j u hj n hn, u, hj, hn⟩
  refine
    { base_le := Nat.le_succ_of_le h.base_le
      issued_nodup := ?_, issued_rng := ?_, keys_le := ?_, pend_issued := ?_, pend_fresh := ?_
      pend_nodup := ?_, pend_cross := ?_ }
  · refine List.nodup_append.2 ⟨h.issued_nodup, (by simp), ?_⟩
    intro a ha b hb
    rw [List.mem_singleton.1 hb]
    have := (h.issued_rng a ha).2; omega
  · intro n hn
    rcases List.mem_append.1 hn with hn | hn
    · have := h.issued_rng n hn; exact ⟨this.1, Nat.le_succ_of_le this.2⟩
    · rw [List.mem_singleton.1 hn]; have := h.base_le; omega
  · intro r hr n hn; exact Nat.le_succ_of_le (h.keys_le r hr n hn)
  · intro j u hj n hn
    rcases hold j u hj n hn with ⟨_, hn⟩ | ⟨_, u₀, hj₀, hn₀⟩
    · exact List.mem_append_right _ (List.mem_singleton.2 hn)
    · exact List.mem_append_left _ (h.pend_issued j u₀ hj₀ n hn₀)
  · intro j u hj n hn r hr hnr
    rcases hold j u hj n hn with ⟨_, hn⟩ | ⟨_, u₀, hj₀, hn₀⟩
    · exact Nat.not_succ_le_self ctr (hn ▸ h.keys_le r hr n hnr : ctr + 1 ≤ ctr)
    · exact h.pend_fresh j u₀ hj₀ n hn₀ r hr hnr
  · intro j u hj
    rcases getElem?_set_some hj with ⟨rfl, rfl⟩ | ⟨_, hj⟩
    · rw [hp]
      refine List.nodup_append.2 ⟨h.pend_nodup _ t hi, (by simp), ?_⟩
      intro a ha b hb
      rw [List.mem_singleton.1 hb]
      have := hle _ t hi a ha; omega
    · exact h.pend_nodup j u hj
  · intro j k u v hjk hj hk n hn hn'
    rcases hold j u hj n hn with ⟨hji, e⟩ | ⟨hn, u₀, hj₀, hn₀⟩ <;>
      rcases hold k v hk n hn' with ⟨hki, e'⟩ | ⟨hn', v₀, hk₀, hn₀'⟩
    · exact hjk (hji.trans hki.symm)
    · exact Nat.not_succ_le_self ctr (e ▸ hn' : ctr + 1 ≤ ctr)
    · exact Nat.not_succ_le_self ctr (e' ▸ hn : ctr + 1 ≤ ctr)
    · exact h.pend_cross j k u₀ v₀ hjk hj₀ hk₀ n hn₀ hn₀'

end CInvLemmas

/-- everything the epoch keeps about ONE counter: who holds its numbers (`own`) and what they mean - `bind r` = the
    (number, meaning) pairs of record `r`, `log` = the pairs put into genes; a binding is one of the start (`recs₀`) or its
    number was issued since.  `Inv` is two channels (innovation numbers / links, node ids / roles) plus "the records only grow". -/
structure Chan {β : Type} (bind : Rec → List (Nat × β)) (pend : Pc → List Nat) (recs₀ : List Rec) (base ctr : Nat)
    (issued : List Nat) (log : List (Nat × β)) (recs : List Rec) (threads : List Thread) : Prop where
  own : CInv base ctr issued recs (fun r => (bind r).map Prod.fst) pend threads
  func : Functional (recs.flatMap bind)
  log_sub : ∀ b ∈ log, b ∈ recs.flatMap bind
  origin : ∀ b ∈ recs.flatMap bind, b.1 ∈ issued ∨ b ∈ recs₀.flatMap bind

section ChanLemmas
variable {β : Type} {bind : Rec → List (Nat × β)} {pend : Pc → List Nat} {recs₀ recs : List Rec} {base ctr : Nat}
  {issued : List Nat} {log log' : List (Nat × β)} {threads : List Thread} {i : Nat} {t t' : Thread}

theorem Chan.init (hiss : issued = []) (hlog : log = []) (hle : ∀ r ∈ recs, ∀ b ∈ bind r, b.1 ≤ ctr)
    (hf : Functional (recs.flatMap bind)) (hp : ∀ (i : Nat) (t : Thread), threads[i]? = some t → pend t.pc = []) :
    Chan bind pend recs ctr ctr issued log recs threads :=
  ⟨CInv.init hiss (fun r hr n hn => by obtain ⟨b, hb, rfl⟩ := List.mem_map.1 hn; exact hle r hr b hb) hp, hf,
    fun b hb => (by rw [hlog] at hb; cases hb), fun _ hb => Or.inr hb⟩

/-- a micro-step that leaves this counter and the records alone -/
theorem Chan.quiet (h : Chan bind pend recs₀ base ctr issued log recs threads) (hi : threads[i]? = some t)
    (hp : (pend t'.pc).Sublist (pend t.pc)) (hlog : ∀ b ∈ log', b ∈ log ∨ b ∈ recs.flatMap bind) :
    Chan bind pend recs₀ base ctr issued log' recs (threads.set i t') :=
  ⟨h.own.shrink hi hp, h.func, fun b hb => (hlog b hb).elim (h.log_sub b) id, h.origin⟩

theorem Chan.still (h : Chan bind pend recs₀ base ctr issued log recs threads) (hi : threads[i]? = some t)
    (hp : pend t'.pc = pend t.pc) : Chan bind pend recs₀ base ctr issued log recs (threads.set i t') :=
  h.quiet hi (hp ▸ List.Sublist.refl _) (fun _ hb => Or.inl hb)

theorem Chan.issue (h : Chan bind pend recs₀ base ctr issued log recs threads) (hi : threads[i]? = some t)
    (hp : pend t'.pc = pend t.pc ++ [ctr + 1]) :
    Chan bind pend recs₀ base (ctr + 1) (issued ++ [ctr + 1]) log recs (threads.set i t') :=
  ⟨h.own.issue hi hp, h.func, h.log_sub, fun b hb => (h.origin b hb).imp_left (List.mem_append_left _)⟩

/-- the thread stores a record made of exactly the numbers it holds (none, for a record that has no number of this counter) -/
theorem Chan.store (h : Chan bind pend recs₀ base ctr issued log recs threads) (hi : threads[i]? = some t) {r : Rec}
    (hk : (bind r).map Prod.fst = pend t.pc) (hp : pend t'.pc = []) (hlog : ∀ b ∈ log', b ∈ log ∨ b ∈ bind r) :
    Chan bind pend recs₀ base ctr issued log' (recs ++ [r]) (threads.set i t') := by
  refine ⟨h.own.store hi (fun n hn => hk ▸ hn) hp, ?_,
    fun b hb => mem_flatMap_snoc.2 ((hlog b hb).imp_left (h.log_sub b)), fun b hb => ?_⟩
  · exact functional_flatMap_snoc h.func (functional_of_nodup_keys (hk ▸ h.own.pend_nodup i t hi))
      (fun n hn => h.own.pend_fresh i t hi n (hk ▸ hn))
  · rcases mem_flatMap_snoc.1 hb with hb | hb
    · exact h.origin b hb
    · exact Or.inl (h.own.pend_issued i t hi _ (hk ▸ List.mem_map_of_mem hb))

theorem Chan.final (h : Chan bind pend recs₀ base ctr issued log recs threads) :
    Functional log ∧ issued.Nodup ∧ (∀ n ∈ issued, base < n) ∧ (∀ b ∈ log, b.1 ∈ issued ∨ b ∈ recs₀.flatMap bind) :=
  ⟨functional_of_subset h.func h.log_sub, h.own.issued_nodup, fun n hn => (h.own.issued_rng n hn).1,
    fun b hb => h.origin b (h.log_sub b hb)⟩

end ChanLemmas

structure Inv (linkOf : Nat → Link) (s₀ : Shared) (st : State) : Prop where
  inn : Chan (Rec.bindings linkOf) Pc.pendInn s₀.records s₀.nextInn st.shared.nextInn st.shared.issuedInn st.shared.log
    st.shared.records st.threads
  node : Chan Rec.nodeBindings Pc.pendNode s₀.records s₀.nextNode st.shared.nextNode st.shared.issuedNode st.shared.nodeLog
    st.shared.records st.threads
  grows : ∃ ext, st.shared.records = s₀.records ++ ext

section InvLemmas
variable {linkOf : Nat → Link} {s₀ : Shared} {st : State} {i : Nat} {t : Thread}

/-- a snapshot and the no-op fallbacks are `quiet` for both counters, a fetch-add is `issue` for its counter, a store is
    `store` for both -/
theorem Inv.stepThread (h : Inv linkOf s₀ st) (hi : st.threads[i]? = some t) :
    Inv linkOf s₀ ⟨(stepThread linkOf st.shared t).1, st.threads.set i (stepThread linkOf st.shared t).2⟩ := by
  have found : ∀ {r : Rec} {p : Rec → Bool}, st.shared.records.find? p = some r → ∀ {β : Type} (f : Rec → List β), ∀ b ∈ f r,
      b ∈ st.shared.records.flatMap f :=
    fun hr _ f b hb => List.mem_flatMap.2 ⟨_, List.mem_of_find?_eq_some hr, hb⟩
  have noop : Inv linkOf s₀ ⟨st.shared, st.threads.set i t⟩ := ⟨h.inn.still hi rfl, h.node.still hi rfl, h.grows⟩
  have snoc : ∀ r, ∃ ext, st.shared.records ++ [r] = s₀.records ++ ext := fun r => by
    obtain ⟨ext, he⟩ := h.grows
    exact ⟨ext ++ [r], by rw [he, List.append_assoc]⟩
  obtain ⟨todo, pc⟩ := t
  cases todo with
  | nil => exact noop
  | cons rq rest =>
    cases rq with
    | addLink l =>
      cases pc with
      | idle =>
        simp only [GoNeat.RegPar.stepThread]
        split
        next r hr =>
          exact ⟨h.inn.quiet hi (List.nil_sublist _) (fun b hb => (List.mem_append.1 hb).imp_right (found hr _ b)),
            h.node.still hi rfl, h.grows⟩
        next => exact ⟨h.inn.still hi rfl, h.node.still hi rfl, h.grows⟩
      | linkNeedInn => exact ⟨h.inn.issue hi rfl, h.node.still hi rfl, h.grows⟩
      | linkStore n =>
        exact ⟨h.inn.store hi rfl rfl (fun _ hb => List.mem_append.1 hb), h.node.store hi rfl rfl (fun _ hb => Or.inl hb),
          snoc (.link l n)⟩
      | _ => exact noop
    | addNode old =>
      cases pc with
      | idle =>
        simp only [GoNeat.RegPar.stepThread]
        split
        next r hr =>
          exact ⟨h.inn.quiet hi (List.nil_sublist _) (fun b hb => (List.mem_append.1 hb).imp_right (found hr _ b)),
            h.node.quiet hi (List.nil_sublist _) (fun b hb => (List.mem_append.1 hb).imp_right (found hr _ b)), h.grows⟩
        next => exact ⟨h.inn.still hi rfl, h.node.still hi rfl, h.grows⟩
      | nodeNeedNode => exact ⟨h.inn.still hi rfl, h.node.issue hi rfl, h.grows⟩
      | nodeNeedInn1 nid => exact ⟨h.inn.issue hi rfl, h.node.still hi rfl, h.grows⟩
      | nodeNeedInn2 nid n1 => exact ⟨h.inn.issue hi rfl, h.node.still hi rfl, h.grows⟩
      | nodeStore nid n1 n2 =>
        exact ⟨h.inn.store hi rfl rfl (fun _ hb => List.mem_append.1 hb), h.node.store hi rfl rfl (fun _ hb => List.mem_append.1 hb),
          snoc _⟩
      | _ => exact noop

end InvLemmas

theorem step_eq (linkOf : Nat → Link) (st : State) (i : Nat) :
    step linkOf st i =
      match st.threads[i]? with
      | none => st
      | some t => ⟨(stepThread linkOf st.shared t).1, st.threads.set i (stepThread linkOf st.shared t).2⟩ := by
  unfold step
  cases st.threads[i]? with
  | none => rfl
  | some t => rfl

theorem Inv.step {linkOf : Nat → Link} {s₀ : Shared} {st : State} (h : Inv linkOf s₀ st) (i : Nat) :
    Inv linkOf s₀ (step linkOf st i) := by
  unfold GoNeat.RegPar.step
  cases hi : st.threads[i]? with
  | none => exact h
  | some t => exact h.stepThread hi

theorem Inv.run {linkOf : Nat → Link} {s₀ : Shared} (sched : List Nat) {st : State} (h : Inv linkOf s₀ st) :
    Inv linkOf s₀ (runSched linkOf st sched) := by
  induction sched generalizing st with
  | nil => exact h
  | cons i sched ih => exact ih (h.step i)

theorem initState_pc {s₀ : Shared} {progs : List (List Req)} {i : Nat} {t : Thread}
    (h : (initState s₀ progs).threads[i]? = some t) : t.pc = .idle := by
  simp only [initState, List.getElem?_map] at h
  cases hp : progs[i]? with
  | none => rw [hp] at h; cases h
  | some p => rw [hp] at h; cases h; rfl

theorem Inv.init {linkOf : Nat → Link} {s₀ : Shared} (h₀ : RegInv₀ linkOf s₀) (progs : List (List Req)) :
    Inv linkOf s₀ (initState s₀ progs) := by
  obtain ⟨hlog, hnlog, hii, hin⟩ := h₀.log_empty
  exact ⟨Chan.init hii hlog h₀.bindings_le h₀.functional (fun i t hi => by rw [initState_pc hi]; rfl),
    Chan.init hin hnlog h₀.nodes_le h₀.nodeFunctional (fun i t hi => by rw [initState_pc hi]; rfl),
    [], (List.append_nil _).symm⟩

theorem interleaved_consistent (linkOf : Nat → Link) (progs : List (List Req)) (sched : List Nat) (s₀ : Shared)
    (h₀ : RegInv₀ linkOf s₀) :
    let s := (runSched linkOf (initState s₀ progs) sched).shared
    -- an innovation number denotes one connection, a node id one role
    Functional s.log ∧ Functional s.nodeLog ∧
    Functional (s.records.flatMap (Rec.bindings linkOf)) ∧ Functional (s.records.flatMap Rec.nodeBindings) ∧
    -- issued numbers are pairwise distinct and above the epoch's base counters
    s.issuedInn.Nodup ∧ (∀ n ∈ s.issuedInn, s₀.nextInn < n) ∧
    s.issuedNode.Nodup ∧ (∀ n ∈ s.issuedNode, s₀.nextNode < n) ∧
    -- every number a thread put into a gene is either freshly issued in this epoch or keeps the meaning the
    -- registry gave it before
    (∀ b ∈ s.log, b.1 ∈ s.issuedInn ∨ b ∈ s₀.records.flatMap (Rec.bindings linkOf)) ∧
    (∀ b ∈ s.nodeLog, b.1 ∈ s.issuedNode ∨ b ∈ s₀.records.flatMap Rec.nodeBindings) ∧
    -- the log agrees with the records (a stored record and the genes that use its numbers say the same)
    (∀ b ∈ s.log, b ∈ s.records.flatMap (Rec.bindings linkOf)) ∧
    -- the records only grow
    (∃ ext, s.records = s₀.records ++ ext) := by
  intro s
  have h : Inv linkOf s₀ (runSched linkOf (initState s₀ progs) sched) := Inv.run sched (Inv.init h₀ progs)
  obtain ⟨fl, nd, ab, org⟩ := h.inn.final
  obtain ⟨fl', nd', ab', org'⟩ := h.node.final
  exact ⟨fl, fl', h.inn.func, h.node.func, nd, ab, nd', ab', org, org', h.inn.log_sub, h.grows⟩

/-! ### non-vacuity: a concrete epoch with a race

  The registry starts with one link record (`1→3` has number 1) and one node record (gene 2 = `2→3` was split by
  node 4 into genes 5 and 6); both counters stand at 10.  Threads 0 and 1 both request the NEW link `1→4` and
  then both split gene 1; thread 2 requests things the registry already knows.  The schedule lets threads 0
  and 1 take their snapshots before either of them stores, so both miss the other's record: the resulting
  registry has TWO records for the link `1→4` (numbers 11 and 12) and TWO records for the split of gene 1
  (nodes 11 and 12, genes 13/15 and 14/16) — duplicates are possible in parallel — and yet every number has a
  single meaning (the theorem applies; its hypotheses are satisfiable). -/
namespace Example

def linkOf : Nat → Link
  | 1 => ⟨1, 3, false⟩
  | 2 => ⟨2, 3, false⟩
  | _ => ⟨0, 0, false⟩

def s₀ : Shared :=
  { records := [.link ⟨1, 3, false⟩ 1, .node 2 3 2 4 5 6]
    nextInn := 10, nextNode := 10, log := [], nodeLog := [], issuedInn := [], issuedNode := [] }

def progs : List (List Req) :=
  [ [.addLink ⟨1, 4, false⟩, .addNode 1],
    [.addLink ⟨1, 4, false⟩, .addNode 1],
    [.addLink ⟨1, 3, false⟩, .addNode 2] ]

/-- threads 0 and 1 in lock-step (snapshot, snapshot, issue, issue, store, store, …), thread 2 in between;
    picks of a non-existent thread (7) and of finished threads at the end are no-ops -/
def sched : List Nat :=
  [0, 1, 2, 0, 1, 0, 1,            -- add-link: both snapshot, (thread 2 reuses record 1), both issue, both store
   0, 1, 0, 1, 2, 7, 0, 1, 0, 1, 0, 1,  -- add-node: both snapshot, both fetch a node id, (thread 2 reuses), 2×2 inns, both store
   0, 2, 1]

theorem regInv₀ : RegInv₀ linkOf s₀ where
  bindings_le := by decide
  nodes_le := by decide
  functional := functional_of_nodup_keys (by decide)
  nodeFunctional := functional_of_nodup_keys (by decide)
  nodeRecs := by
    intro src dst old nid n1 n2 h
    simp only [s₀, List.mem_cons, List.not_mem_nil, or_false, reduceCtorEq, false_or, Rec.node.injEq] at h
    obtain ⟨rfl, rfl, rfl, -⟩ := h
    exact ⟨rfl, rfl⟩
  log_empty := ⟨rfl, rfl, rfl, rfl⟩

theorem final_records :
    (runSched linkOf (initState s₀ progs) sched).shared.records =
      s₀.records ++ [.link ⟨1, 4, false⟩ 11, .link ⟨1, 4, false⟩ 12,
                     .node 1 3 1 11 13 15, .node 1 3 1 12 14 16] := by decide +kernel

theorem final_threads :
    (runSched linkOf (initState s₀ progs) sched).threads = [⟨[], .idle⟩, ⟨[], .idle⟩, ⟨[], .idle⟩] := by decide +kernel

theorem final_logs :
    (runSched linkOf (initState s₀ progs) sched).shared.log =
      [(1, ⟨1, 3, false⟩), (11, ⟨1, 4, false⟩), (12, ⟨1, 4, false⟩), (5, ⟨2, 4, false⟩), (6, ⟨4, 3, false⟩),
       (13, ⟨1, 11, false⟩), (15, ⟨11, 3, false⟩), (14, ⟨1, 12, false⟩), (16, ⟨12, 3, false⟩)] ∧
    (runSched linkOf (initState s₀ progs) sched).shared.nodeLog = [(4, ⟨2⟩), (11, ⟨1⟩), (12, ⟨1⟩)] ∧
    (runSched linkOf (initState s₀ progs) sched).shared.issuedInn = [11, 12, 13, 14, 15, 16] ∧
    (runSched linkOf (initState s₀ progs) sched).shared.issuedNode = [11, 12] := by decide +kernel

example :
    let s := (runSched linkOf (initState s₀ progs) sched).shared
    (∃ l n m, n ≠ m ∧ Rec.link l n ∈ s.records ∧ Rec.link l m ∈ s.records) ∧
    (∃ src dst old nid nid' a b c d, nid ≠ nid' ∧
      Rec.node src dst old nid a b ∈ s.records ∧ Rec.node src dst old nid' c d ∈ s.records) := by
  intro s
  refine ⟨⟨⟨1, 4, false⟩, 11, 12, by decide, ?_, ?_⟩, ⟨1, 3, 1, 11, 12, 13, 15, 14, 16, by decide, ?_, ?_⟩⟩ <;>
    (show _ ∈ (runSched linkOf (initState s₀ progs) sched).shared.records; rw [final_records]; decide)

example :
    let s := (runSched linkOf (initState s₀ progs) sched).shared
    Functional s.log ∧ Functional s.nodeLog ∧
    Functional (s.records.flatMap (Rec.bindings linkOf)) ∧ Functional (s.records.flatMap Rec.nodeBindings) ∧
    s.issuedInn.Nodup ∧ (∀ n ∈ s.issuedInn, s₀.nextInn < n) ∧
    s.issuedNode.Nodup ∧ (∀ n ∈ s.issuedNode, s₀.nextNode < n) ∧
    (∀ b ∈ s.log, b.1 ∈ s.issuedInn ∨ b ∈ s₀.records.flatMap (Rec.bindings linkOf)) ∧
    (∀ b ∈ s.nodeLog, b.1 ∈ s.issuedNode ∨ b ∈ s₀.records.flatMap Rec.nodeBindings) ∧
    (∀ b ∈ s.log, b ∈ s.records.flatMap (Rec.bindings linkOf)) ∧
    (∃ ext, s.records = s₀.records ++ ext) :=
  interleaved_consistent linkOf progs sched s₀ regInv₀

end Example

end GoNeat.RegPar
