/-
  C16(b), THE JOIN: from the goroutines' postconditions and the global invariant at the join to the population-level
  invariants of C01 (`PoolOk`) and C03 (`Inv` for the history extended by the babies).
-/
import GoNeat.Proofs.ParFrameSpecies
import GoNeat.Proofs.ParFrameSound

set_option linter.unusedSectionVars false

namespace GoNeat.C16
open GoNeat GoNeat.C03 GoNeat.C01 Scalar
variable {W : Type} [Scalar W]

theorem poolOk_join {reg0 regF : Reg W} {P0 : List (Genome W)} {G : Ghost} (hglob : GlobOk reg0.nextInn regF G)
    (Pf : List (Genome W)) (hm : ∀ m ∈ Pf, GenOk reg0 P0 G.B G.R m) : PoolOk regF Pf := by
  intro m hmP
  obtain ⟨wm, ⟨g0m, fm, sm⟩, ⟨x, hx⟩, ⟨bm, rm⟩⟩ := hm m hmP
  have hdm : HeadLe reg0.nextInn m := (fits_headLe fm).of_step sm
  refine ⟨wm, by rw [sm.mods]; exact fm.nomod, regInv_of_invB hglob.inv bm rm, ?_, ?_, ?_⟩
  · intro h0 hh i hi
    have hle := hdm h0 hh
    refine ⟨fun _ => ?_, fun t1 => ⟨?_, ?_⟩⟩
    · have := hglob.rec_above _ (mem_regInns hi (inn_mem_recInns i)); omega
    · have := hglob.rec_above _ (mem_regInns hi (inn_mem_recInns i)); omega
    · have := hglob.rec_above _ (mem_regInns hi (inn2_mem_recInns i t1)); omega
  · intro b hb
    obtain ⟨wb, ⟨g0b, fb, sb⟩, _, ⟨_, rb⟩⟩ := hm b hb
    refine ⟨fun n hn k hk e => ?_, ?_, ?_⟩
    · exact hglob.inv.roles _ (rm n hn) _ (rb k hk) e
    · rw [sm.tids, sb.tids, (fm.nodes x hx).2.1, (fb.nodes x hx).2.1]
    · rw [ioIds_lstep sm fm.wft wm, ioIds_lstep sb fb.wft wb, (fm.nodes x hx).2.2, (fb.nodes x hx).2.2]
  · intro b hb
    obtain ⟨wb, ⟨g0b, fb, sb⟩, _, ⟨_, rb⟩⟩ := hm b hb
    unfold SharedHead
    rw [sm.head, sb.head]
    exact (fm.head x hx).trans (fb.head x hx).symm

theorem inv_cleared {bi : Int} {regF : Reg W} {G : Ghost} (hglob : GlobOk bi regF G) (Hf : List (Genome W))
    (hw : ∀ g ∈ Hf, Within g G.B G.R) : C03.Inv ({ regF with records := [] } : Reg W) Hf :=
  have ⟨hB, hR⟩ := binds_within hw
  { genes := fun a ha b hb e => hglob.inv.genes a (hB a ha) b (hB b hb) e,
    roles := fun a ha b hb e => hglob.inv.roles a (hR a ha) b (hR b hb) e,
    compat := { recs := fun i hi => by simp at hi, innsNodup := by simp [regInns_def], nodesNodup := by simp [regNodes_def] },
    above := { inns := fun b hb => hglob.inv.above.inns b (hB b hb), ids := fun p hp => hglob.inv.above.ids p (hR p hp),
               recInns := by simp [regInns_def], recNodes := by simp [regNodes_def] } }

theorem collect_mem (threads : List (Prog W (BRes W))) (arrival : List Nat) (babies : List (Org W))
    (h : collect threads arrival = .ok babies) :
    ∀ b ∈ babies, ∃ (t : Nat) (bs : List (Org W)) (uid : Nat) (rs' : List Nat), threads[t]? = some (Prog.done (Except.ok ((bs, uid), rs'))) ∧ b ∈ bs := by
  induction arrival generalizing babies with
  | nil => simp only [collect, Except.ok.injEq] at h; subst h; simp
  | cons t ts ih =>
    unfold collect at h
    split at h
    · rename_i bs uid rs' ht
      split at h
      · cases h
      · rename_i rest hrest
        simp only [Except.ok.injEq] at h
        subst h
        intro b hb
        rcases List.mem_append.mp hb with hb | hb
        · exact ⟨t, bs, uid, rs', ht, hb⟩
        · exact ih rest hrest b hb
    · cases h
    · cases h

theorem decodeAll_spec (uid : Nat) (babies : List (Org W)) :
    (decodeAll uid babies).map (·.uid) = List.range' uid babies.length ∧
    (decodeAll uid babies).map (·.genome) = babies.map (·.genome) := by
  induction babies generalizing uid with
  | nil => exact ⟨rfl, rfl⟩
  | cons b bs ih =>
    obtain ⟨h1, h2⟩ := ih (uid + 1)
    simp only [decodeAll, List.map_cons, List.length_cons, List.range'_succ, h1, h2]
    exact ⟨rfl, rfl⟩

def specPost (reg0 : Reg W) (P0 H : List (Genome W)) (species : List (Species W)) (t : Nat) : Local W → BRes W → Prop :=
  match species[t]? with
  | some s => SpeciesPost reg0 P0 s.expectedOffspring.toNat (view0 H)
  | none => fun _ _ => True

theorem epochCtx_of (X H : List (Genome W)) (p1 : Pop W) (hP1 : PoolOk p1.reg (X ++ genomesOfPop p1)) (hc1 : PopC03 H p1)
    (hX : ∀ g ∈ X, GenomeIn H g) : EpochCtx p1.reg H (X ++ genomesOfPop p1) := by
  refine ⟨hc1.inv, hP1, fun g hg => ?_⟩
  rcases List.mem_append.mp hg with hx | hg
  · exact hX g hx
  · obtain ⟨s, hs, x, hx, rfl⟩ := mem_genomesOfPop.mp hg
    exact hc1.cov s hs x hx

theorem species_start_covered (X H : List (Genome W)) (o : EpochOpts W) (generation : Int) (p1 : Pop W) (ex : ExecState)
    (streams : List (List Nat)) (hP1 : PoolOk p1.reg (X ++ genomesOfPop p1)) (hc1 : PopC03 H p1) (hX : ∀ g ∈ X, GenomeIn H g) :
    Covered p1.reg.nextInn (specPost p1.reg (X ++ genomesOfPop p1) H p1.species) (binds H) (roles H)
      ({ reg := p1.reg, threads := speciesThreads o generation p1 ex streams } : PState W (BRes W)) := by
  have ctx := epochCtx_of X H p1 hP1 hc1 hX
  refine ⟨⟨binds H, roles H, [], []⟩, fun _ => view0 H,
    GInv.init hc1.inv (by simp [regInns_def, hc1.norec]) (Int.le_refl _), fun t q hq => ?_⟩
  obtain ⟨s, hs, rfl⟩ := speciesThreads_getElem? o generation p1 ex streams hq
  have hsm : s ∈ p1.species := List.mem_of_getElem? hs
  unfold specPost
  rw [hs]
  exact reproduceSpeciesP_valid ctx o generation s _ p1.reg p1.nextUid _ (view0 H)
    (fun x hx => List.mem_append_right _ (mem_genomesOfPop.mpr ⟨s, hsm, x, hx, rfl⟩))
    (fun sp hsp x hx => List.mem_append_right _ (mem_genomesOfPop.mpr ⟨sp, mem_sorted_species hsp, x, hx, rfl⟩))
    ⟨fun _ hb => hb, fun _ hp => hp⟩

theorem species_done (X H : List (Genome W)) (o : EpochOpts W) (generation : Int) (p1 : Pop W) (ex : ExecState)
    (streams : List (List Nat)) (sched : List Nat) (hP1 : PoolOk p1.reg (X ++ genomesOfPop p1)) (hc1 : PopC03 H p1)
    (hX : ∀ g ∈ X, GenomeIn H g) :
    let st := runSched ({ reg := p1.reg, threads := speciesThreads o generation p1 ex streams } : PState W (BRes W)) sched
    ∃ G Ls, GInv p1.reg.nextInn (binds H) (roles H) st.threads.length st.reg G Ls ∧
      ∀ t a, st.threads[t]? = some (.done a) → ∃ s, p1.species[t]? = some s ∧
        SpeciesPost p1.reg (X ++ genomesOfPop p1) s.expectedOffspring.toNat (view0 H) (Ls t) a := by
  intro st
  obtain ⟨G, Ls, hg, hpost⟩ := threads_done (sched_sound sched (species_start_covered X H o generation p1 ex streams hP1 hc1 hX))
  refine ⟨G, Ls, hg, fun t a ht => ?_⟩
  have hp := hpost t a ht
  have htl : t < p1.species.length := by
    have := (List.getElem?_eq_some_iff.mp ht).1
    rw [runSched_length] at this
    simpa [speciesThreads] using this
  unfold specPost at hp
  rw [List.getElem?_eq_getElem htl] at hp
  exact ⟨_, List.getElem?_eq_getElem htl, hp⟩

theorem parReproduce_facts (X H : List (Genome W)) (o : EpochOpts W) (generation : Int) (p1 p2 : Pop W) (ex : ExecState)
    (ps : ParSchedule) (hP1 : PoolOk p1.reg (X ++ genomesOfPop p1)) (hc1 : PopC03 H p1) (hX : ∀ g ∈ X, GenomeIn H g)
    (h : parReproducePhase o generation p1 ex ps = .ok p2) :
    ∃ (babies : List (Org W)) (regF : Reg W) (G : Ghost),
      babies.length = o.popSize ∧
      speciate o { p1 with reg := regF } (decodeAll p1.nextUid babies) = .ok p2 ∧
      GlobOk p1.reg.nextInn regF G ∧ (∀ b ∈ binds H, b ∈ G.B) ∧ (∀ r ∈ roles H, r ∈ G.R) ∧
      (∀ b ∈ babies, GenOk p1.reg (X ++ genomesOfPop p1) G.B G.R b.genome) ∧
      p1.reg.nextInn ≤ regF.nextInn ∧ p1.reg.nextNode ≤ regF.nextNode := by
  unfold parReproducePhase at h
  simp only at h
  split at h
  · cases h
  split at h
  · cases h
  rename_i babies hcol
  split at h
  · cases h
  rename_i hlen
  obtain ⟨G, Ls, hg, hpost⟩ := species_done X H o generation p1 ex ps.streams ps.sched hP1 hc1 hX
  have hmono := runSched_mono ps.sched ({ reg := p1.reg, threads := speciesThreads o generation p1 ex ps.streams } : PState W (BRes W))
  refine ⟨babies, _, G, by simpa using hlen, h, hg.glob, hg.baseB, hg.baseR, ?_, hmono.1, hmono.2.1⟩
  intro b hb
  obtain ⟨t, bs, uid, rs', ht, hbm⟩ := collect_mem _ _ _ hcol b hb
  obtain ⟨s, _, _, hall, _⟩ := hpost t _ ht
  exact (hall b hbm).mono (hg.loc t).subB (hg.loc t).subR

end GoNeat.C16
