/-
  C02 "without error": the six parametric mutators and their chain `mutateAllNonstructural` never return an
  implementation error on a genome that has at least one gene, one node and one trait (`Basic`), and keep the sizes
  and the trait shape (`Like`).
  Kind A.
-/
import GoNeat.Proofs.NoErrorBase
import GoNeat.Props.C05More

set_option linter.unusedSectionVars false

namespace GoNeat.NoErr
open GoNeat Scalar
variable {W : Type} [Scalar W]

/-- the parameter counts of the traits, in trait order (`NewTraitAvrg` demands equal counts) -/
def shape (g : Genome W) : List Nat := g.traits.map (·.params.length)

structure Basic (g : Genome W) : Prop where
  genes : g.genes ≠ []
  nodes : g.nodes ≠ []
  traits : g.traits ≠ []

instance (g : Genome W) : Decidable (Basic g) :=
  if h : g.genes ≠ [] ∧ g.nodes ≠ [] ∧ g.traits ≠ [] then isTrue ⟨h.1, h.2.1, h.2.2⟩ else isFalse (fun b => h ⟨b.1, b.2, b.3⟩)

structure Like (g g' : Genome W) : Prop where
  genes : g.genes.length ≤ g'.genes.length
  nodes : g.nodes.length ≤ g'.nodes.length
  shape : shape g' = shape g

theorem Like.refl (g : Genome W) : Like g g := ⟨Nat.le_refl _, Nat.le_refl _, rfl⟩
theorem Like.trans {a b c : Genome W} (h1 : Like a b) (h2 : Like b c) : Like a c :=
  ⟨Nat.le_trans h1.genes h2.genes, Nat.le_trans h1.nodes h2.nodes, h2.shape.trans h1.shape⟩

theorem Like.traitsLen {g g' : Genome W} (h : Like g g') : g'.traits.length = g.traits.length := by
  have := congrArg List.length h.shape
  simpa [NoErr.shape] using this

theorem Like.basic {g g' : Genome W} (h : Like g g') (b : Basic g) : Basic g' := by
  refine ⟨?_, ?_, ?_⟩
  · have := h.genes; have := List.length_pos_iff.mpr b.genes; exact List.length_pos_iff.mp (by omega)
  · have := h.nodes; have := List.length_pos_iff.mpr b.nodes; exact List.length_pos_iff.mp (by omega)
  · have := h.traitsLen; have := List.length_pos_iff.mpr b.traits; exact List.length_pos_iff.mp (by omega)

theorem traitAt_safe (g : Genome W) (i : Int) (h0 : 0 ≤ i) (h : i.toNat < g.traits.length) :
    SafeE (fun _ => True) (traitAt g i) := by
  unfold traitAt
  rw [if_neg (by omega)]
  split
  · next hn => rw [List.getElem?_eq_none_iff] at hn; omega
  · trivial

theorem traitAt_safe_nat (g : Genome W) (k : Nat) (h : k < g.traits.length) : SafeE (fun _ => True) (traitAt g (k : Int)) :=
  traitAt_safe g k (by omega) (by simpa using h)

theorem safe_linkWeightsLoop (power rate : W) (mt : WeightMutator) (severe : Bool) (gc ep : W) (l : List (Gene W)) (num : W)
    (rs : List Nat) : Safe (fun l' => l'.length = l.length) (linkWeightsLoop power rate mt severe gc ep l num rs) := by
  induction l generalizing num rs with
  | nil => simp [linkWeightsLoop, Safe]
  | cons x xs ih =>
    unfold linkWeightsLoop
    simp only
    split
    · next e he =>
      split at he
      · cases he
      · split at he
        · cases he
        · have hf := safe_float64 (W := W) rs
          split at he
          · next e' he' => cases he; exact hf.err he'
          · split at he <;> cases he
    · next gp cgp rs1 he =>
      have hs := safe_signedUnit (W := W) rs1
      split
      · next e he2 => exact hs.err he2
      · next su rs2 he2 =>
        split
        · next e he3 =>
          split at he3
          · have hf := safe_float64 (W := W) rs2
            split at he3
            · next e' he' => cases he3; exact hf.err he'
            · split at he3
              · cases he3
              · split at he3 <;> cases he3
          · cases he3
        · next w' rs4 he3 =>
          have hi := ih (add num one) rs4
          split
          · next e he4 => exact hi.err he4
          · next xs' rs5 he4 =>
            rw [he4] at hi
            show (_ :: xs').length = (x :: xs).length
            simp only [List.length_cons]; exact congrArg (· + 1) hi

theorem safe_mutateLinkWeights (g : Genome W) (power rate : W) (mt : WeightMutator) (rs : List Nat) (hb : g.genes ≠ []) :
    Safe (Like g) (mutateLinkWeights g power rate mt rs) := by
  unfold mutateLinkWeights
  rw [if_neg (by simpa using hb)]
  have hf := safe_float64 (W := W) rs
  split
  · next e he => exact hf.err he
  · next f rs1 he =>
    simp only
    have hl := safe_linkWeightsLoop power rate mt (gt f (ofDec 5 1)) (ofInt g.genes.length)
      (mul (ofInt g.genes.length) (ofDec 8 1)) g.genes zero rs1
    split
    · next e he2 => exact hl.err he2
    · next genes rs2 he2 =>
      rw [he2] at hl
      exact ⟨by show g.genes.length ≤ genes.length; exact Nat.le_of_eq hl.symm, Nat.le_refl _, rfl⟩

theorem safe_traitMutateParams (power prob : W) (ps : List W) (rs : List Nat) :
    Safe (fun ps' => ps'.length = ps.length) (traitMutateParams power prob ps rs) := by
  induction ps generalizing rs with
  | nil => simp [traitMutateParams, Safe]
  | cons p ps ih =>
    unfold traitMutateParams
    have hf := safe_float64 (W := W) rs
    split
    · next e he => exact hf.err he
    · next f rs1 he =>
      simp only
      split
      · next e he2 =>
        split at he2
        · have hs := safe_signedUnit (W := W) rs1
          split at he2
          · next e' he' => cases he2; exact hs.err he'
          · cases he2
        · cases he2
      · next p' rs3 he2 =>
        have hi := ih rs3
        split
        · next e he3 => exact hi.err he3
        · next ps' rs4 he3 =>
          rw [he3] at hi
          show (p' :: ps').length = (p :: ps).length
          simp only [List.length_cons]; exact congrArg (· + 1) hi

theorem safe_mutateRandomTrait (g : Genome W) (o : MutOpts W) (rs : List Nat) (hb : g.traits ≠ []) :
    Safe (Like g) (mutateRandomTrait g o rs) := by
  unfold mutateRandomTrait
  rw [if_neg (by simpa using hb)]
  have hi := safe_intn g.traits.length (List.length_pos_iff.mpr hb) rs
  split
  · next e he => exact hi.err he
  · next k rs1 he =>
    rw [he] at hi
    split
    · next hn => rw [List.getElem?_eq_none_iff] at hn; have hk : k < g.traits.length := hi; omega
    · next t ht =>
      have hp := safe_traitMutateParams o.traitMutationPower o.traitParamMutProb t.params rs1
      split
      · next e he2 => exact hp.err he2
      · next ps rs2 he2 =>
        rw [he2] at hp
        exact ⟨Nat.le_refl _, Nat.le_refl _, set_map_id g.traits k t _ _ ht hp⟩

theorem safe_traitDraws {Q : Genome W → Prop} (g : Genome W) (len : Nat) (hlen : 0 < len) (ht : g.traits ≠ []) (rs : List Nat)
    (k : Nat → Option Int → List Nat → R (Genome W)) (hk : ∀ i tr rs2, Safe Q (k i tr rs2)) :
    Safe Q (match Rand.intn g.traits.length rs with
      | .error e => .error e
      | .ok (t, rs1) =>
        match Rand.intn len rs1 with
        | .error e => .error e
        | .ok (i, rs2) =>
          match traitAt g t with
          | .error e => .error e
          | .ok tr => k i tr rs2) := by
  have h1 := safe_intn g.traits.length (List.length_pos_iff.mpr ht) rs
  rcases he : Rand.intn g.traits.length rs with e | ⟨t, rs1⟩
  · exact h1.err he
  dsimp only
  rcases he2 : Rand.intn len rs1 with e | ⟨i, rs2⟩
  · exact (safe_intn len hlen rs1).err he2
  dsimp only
  rcases he3 : traitAt g t with e | tr
  · exact (traitAt_safe_nat g t (h1.post he)).err he3
  · exact hk i tr rs2

theorem safe_mutateLinkTrait (times : Nat) (g : Genome W) (rs : List Nat) (hg : g.genes ≠ []) (ht : g.traits ≠ []) :
    Safe (Like g) (mutateLinkTrait g times rs) := by
  induction times generalizing g rs with
  | zero =>
    unfold mutateLinkTrait
    rw [if_neg (by simp [hg, ht])]
    exact Like.refl g
  | succ n ih =>
    unfold mutateLinkTrait
    rw [if_neg (by simp [hg, ht])]
    refine safe_traitDraws g g.genes.length (List.length_pos_iff.mpr hg) ht rs _ (fun k tr rs2 => ?_)
    have hl : Like g { g with genes := g.genes.modify k (fun x => { x with trait := tr }) } := ⟨by simp, Nat.le_refl _, rfl⟩
    exact (ih { g with genes := g.genes.modify k (fun x => { x with trait := tr }) } rs2
      (by intro h; apply hg; simpa using congrArg List.length h) ht).mono (fun a ha => hl.trans ha)

theorem safe_mutateNodeTrait (times : Nat) (g : Genome W) (rs : List Nat) (hg : g.nodes ≠ []) (ht : g.traits ≠ []) :
    Safe (Like g) (mutateNodeTrait g times rs) := by
  induction times generalizing g rs with
  | zero =>
    unfold mutateNodeTrait
    rw [if_neg (by simp [hg, ht])]
    exact Like.refl g
  | succ n ih =>
    unfold mutateNodeTrait
    rw [if_neg (by simp [hg, ht])]
    refine safe_traitDraws g g.nodes.length (List.length_pos_iff.mpr hg) ht rs _ (fun k tr rs2 => ?_)
    have hl : Like g { g with nodes := g.nodes.modify k (fun x => { x with trait := tr }) } := ⟨Nat.le_refl _, by simp, rfl⟩
    exact (ih { g with nodes := g.nodes.modify k (fun x => { x with trait := tr }) } rs2
      (by intro h; apply hg; simpa using congrArg List.length h) ht).mono (fun a ha => hl.trans ha)

theorem safe_mutateToggleEnable (times : Nat) (g : Genome W) (rs : List Nat) (hg : g.genes ≠ []) :
    Safe (Like g) (mutateToggleEnable g times rs) := by
  induction times generalizing g rs with
  | zero =>
    unfold mutateToggleEnable
    rw [if_neg (by simp [hg])]
    exact Like.refl g
  | succ n ih =>
    unfold mutateToggleEnable
    rw [if_neg (by simp [hg])]
    have h1 := safe_intn g.genes.length (List.length_pos_iff.mpr hg) rs
    split
    · next e he => exact h1.err he
    · next k rs1 he =>
      rw [he] at h1
      split
      · next hn => rw [List.getElem?_eq_none_iff] at hn; have hk : k < g.genes.length := h1; omega
      · next gene hgene =>
        simp only
        split
        · have hl : Like g { g with genes := setEnabledAt g.genes k false } := ⟨by simp [setEnabledAt], Nat.le_refl _, rfl⟩
          have hg' : setEnabledAt g.genes k false ≠ [] := by
            intro h; apply hg; have := congrArg List.length h; simpa [setEnabledAt] using this
          exact (ih { g with genes := setEnabledAt g.genes k false } rs1 hg').mono (fun a ha => hl.trans ha)
        · exact ih g rs1 hg

theorem safe_mutateGeneReEnable (g : Genome W) (hg : g.genes ≠ []) : SafeE (Like g) (mutateGeneReEnable g) := by
  unfold mutateGeneReEnable
  rw [if_neg (by simp [hg])]
  exact ⟨by simp [C05.reenableFirst_length], Nat.le_refl _, rfl⟩

theorem safe_stageF (prob : W) (f : Genome W → Rand (Genome W)) (g : Genome W) (rs : List Nat)
    (hf : ∀ rs, Safe (Like g) (f g rs)) : Safe (Like g) (C05.stage prob f g rs) := by
  unfold C05.stage
  have h1 := safe_float64 (W := W) rs
  split
  · next e he => exact h1.err he
  · split
    · exact hf _
    · exact Like.refl g

theorem safe_stage_then {g0 g : Genome W} (hb : Basic g0) (hl : Like g0 g) (prob : W) (f : Genome W → Rand (Genome W))
    (rs : List Nat) (hf : Basic g → ∀ rs, Safe (Like g) (f g rs)) (k : Genome W → List Nat → R (Genome W))
    (hk : ∀ g1 rs1, Like g0 g1 → Safe (Like g0) (k g1 rs1)) :
    Safe (Like g0) (match C05.stage prob f g rs with
      | .error e => .error e
      | .ok (g1, rs1) => k g1 rs1) := by
  have h1 := safe_stageF prob f g rs (hf (hl.basic hb))
  generalize C05.stage prob f g rs = r at h1 ⊢
  rcases r with e | ⟨g1, rs1⟩
  · exact h1.of_error
  · exact hk g1 rs1 (hl.trans h1)

theorem safe_mutateAllNonstructural (g : Genome W) (o : MutOpts W) (rs : List Nat) (hb : Basic g) :
    Safe (Like g) (mutateAllNonstructural g o rs) := by
  rw [C05.mutateAllNonstructural_eq]
  refine safe_stage_then hb (Like.refl g) _ _ rs (fun b rs => safe_mutateRandomTrait g o rs b.traits) _ (fun g1 rs1 l1 => ?_)
  refine safe_stage_then hb l1 _ _ rs1 (fun b rs => safe_mutateLinkTrait 1 g1 rs b.genes b.traits) _ (fun g2 rs2 l2 => ?_)
  refine safe_stage_then hb l2 _ _ rs2 (fun b rs => safe_mutateNodeTrait 1 g2 rs b.nodes b.traits) _ (fun g3 rs3 l3 => ?_)
  refine safe_stage_then hb l3 _ _ rs3 (fun b rs => safe_mutateLinkWeights g3 _ _ _ rs b.genes) _ (fun g4 rs4 l4 => ?_)
  refine safe_stage_then hb l4 _ _ rs4 (fun b rs => safe_mutateToggleEnable 1 g4 rs b.genes) _ (fun g5 rs5 l5 => ?_)
  refine (safe_stageF o.mutateGeneReenableProb _ g5 rs5 (fun rs => ?_)).mono (fun a ha => l5.trans ha)
  have h6 := safe_mutateGeneReEnable g5 (l5.basic hb).genes
  split
  · next e he => exact h6.err he
  · next g' he => exact h6.post he

end GoNeat.NoErr
