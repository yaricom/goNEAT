/-
  C01 helper lemmas at population level: which genomes a population holds after speciation / spawning.
-/
import GoNeat.Proofs.WFLemmas
import GoNeat.Proofs.EpochFrame
import GoNeat.Props.C06Spawn

namespace GoNeat.C01
open GoNeat Scalar
variable {W : Type} [Scalar W]

omit [Scalar W] in
theorem mem_allOrgs {p : Pop W} {x : Org W} : x ∈ allOrgs p ↔ ∃ s ∈ p.species, x ∈ s.orgs := by
  unfold allOrgs; simp [List.mem_flatMap]

theorem speciateLoop_orgs (o : EpochOpts W) (p p' : Pop W) (orgs : List (Org W)) (h : speciateLoop o p orgs = .ok p') :
    (∀ x ∈ allOrgs p', x ∈ allOrgs p ∨ x ∈ orgs) ∧ p'.reg = p.reg :=
  have ⟨hp, _, _, hr⟩ := speciateLoop_perm h
  ⟨fun x hx => (List.mem_append.mp (hp.mem_iff.mp hx)).symm, hr⟩

theorem speciate_orgs (o : EpochOpts W) (p p' : Pop W) (orgs : List (Org W)) (h : speciate o p orgs = .ok p') :
    (∀ x ∈ allOrgs p', x ∈ allOrgs p ∨ x ∈ orgs) ∧ p'.reg = p.reg :=
  speciateLoop_orgs o p p' orgs (speciate_ok h).2

omit [Scalar W] in
theorem finalize_allOrgs (p : Pop W) : ∀ x ∈ allOrgs (finalizeReproduction p),
    ∃ y ∈ allOrgs p, y.uid ∉ p.organisms ∧ x = { y with genome := { y.genome with id := x.genome.id } } := by
  intro x hx
  rw [allOrgs_eq, (orgsOf_finalize p).1] at hx
  obtain ⟨y, hy, e⟩ := renumber_mem hx
  obtain ⟨hy1, hy2⟩ := List.mem_filter.mp hy
  exact ⟨y, hy1, by simpa using hy2, e⟩

theorem refsOk_of_wft {g : Genome W} (hw : WFT g) (hm : g.modules = []) : C06.RefsOk g := by
  refine ⟨hw.wf.traitRefs, hw.wf.endpoints, ?_, ?_⟩ <;> simp [hm]

theorem sameSkel_of_topology {g m : Genome W} (h : C06.SameTopology g m) : SameSkel g m := by
  refine ⟨?_, by rw [h.nodes], by unfold traitIds; rw [h.traits], h.modules⟩
  have := congrArg (List.map (fun c : Int × Int × Int × Bool × Bool × Option Int => (c.1, c.2.1, c.2.2.1, c.2.2.2.1))) h.genes
  simp only [List.map_map, Function.comp_def, C05.Gene.core] at this
  exact this

theorem traitRefs_of_topology {g m : Genome W} (h : C06.SameTopology g m) (hr : TraitRefsOwned g) : TraitRefsOwned m := by
  have hok : ∀ t, TraitRefOk g t → TraitRefOk m t := by
    intro t ht
    unfold TraitRefOk traitIds at ht ⊢
    rwa [h.traits]
  refine ⟨fun x hx => ?_, fun n hn => hok _ (hr.2 n (h.nodes ▸ hn))⟩
  have : C05.Gene.core x ∈ g.genes.map C05.Gene.core := h.genes ▸ List.mem_map_of_mem hx
  obtain ⟨y, hy, e⟩ := List.mem_map.mp this
  have et : y.trait = x.trait := by
    have := congrArg (fun c : Int × Int × Int × Bool × Bool × Option Int => c.2.2.2.2.2) e
    simpa [C05.Gene.core] using this
  exact hok _ (et ▸ hr.1 y hy)

theorem spawnLoop_members (g : Genome W) (hw : WFT g) (hm : g.modules = []) (n : Nat) (count : Int) (uid : Nat)
    (rs rs' : List Nat) (orgs : List (Org W)) (h : spawnLoop g n count uid rs = .ok (orgs, rs')) :
    ∀ x ∈ orgs, WFT x.genome ∧ SameSkel g x.genome := by
  intro x hx
  have ht := (C06.spawnLoop_topology g (refsOk_of_wft hw hm) n count uid orgs rs rs' h).2 x hx
  have hs := sameSkel_of_topology ht
  exact ⟨hs.wft (traitRefs_of_topology ht hw.wf.traitRefs) hw, hs⟩

end GoNeat.C01
