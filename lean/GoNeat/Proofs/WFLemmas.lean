/-
  Base of C01, C03, C16: the ordered insertion exactly as the code has it (equal-key branch included), `WF` as a property of a
  genome's skeleton (`WF.congr`, `SameSkel`), and the registry invariant `RegInv` read gene by gene and node by node (`GeneOk`,
  `NodeOk`, `regInv_iff`).
-/
import GoNeat.Spec.WFReg
import GoNeat.Proofs.ListLemmas

namespace GoNeat.C01
open GoNeat

theorem scanBack_spec (key : Int) (rev : List Int) (i dflt : Nat)
    (hlen : rev.length = i + 1) (hdec : rev.Pairwise (fun a b => b < a)) :
    ((∀ k ∈ rev, key < k) → scanBack key rev i dflt = dflt) ∧
    ((∃ k ∈ rev, k ≤ key) → scanBack key rev i dflt = (rev.filter (fun k => decide (k < key))).length) := by
  induction rev generalizing i with
  | nil => simp at hlen
  | cons k ks ih =>
    simp only [List.length_cons, Nat.add_right_cancel_iff] at hlen
    rw [List.pairwise_cons] at hdec
    obtain ⟨hk, hks⟩ := hdec
    unfold scanBack
    by_cases h1 : key = k
    · subst h1
      simp only [↓reduceIte]
      refine ⟨fun h => absurd (h key (by simp)) (by omega), fun _ => ?_⟩
      have : (ks.filter (fun k => decide (k < key))) = ks := by
        apply List.filter_eq_self.mpr
        intro a ha; simpa using hk a ha
      simp [this, hlen]
    · simp only [h1, ↓reduceIte]
      by_cases h2 : key > k
      · simp only [h2, ↓reduceIte]
        refine ⟨fun h => absurd (h k (by simp)) (by omega), fun _ => ?_⟩
        have : (ks.filter (fun k => decide (k < key))) = ks := by
          apply List.filter_eq_self.mpr
          intro a ha; have := hk a ha; simp; omega
        have h2' : k < key := h2
        simp [this, hlen, h2']
      · simp only [h2, ↓reduceIte]
        have hlt : key < k := by omega
        cases ks with
        | nil =>
          refine ⟨fun _ => by simp [scanBack], ?_⟩
          rintro ⟨a, ha, hle⟩
          simp at ha; omega
        | cons k2 ks2 =>
          have hl2 : (k2 :: ks2).length = (i - 1) + 1 := by simp at hlen ⊢; omega
          obtain ⟨ih1, ih2⟩ := ih (i - 1) hl2 hks
          refine ⟨fun h => ih1 (fun a ha => h a (List.mem_cons_of_mem _ ha)), ?_⟩
          rintro ⟨a, ha, hle⟩
          have ha' : a ∈ k2 :: ks2 := by
            rcases List.mem_cons.mp ha with rfl | h
            · omega
            · exact h
          rw [ih2 ⟨a, ha', hle⟩]
          have : ¬ k < key := by omega
          simp [List.filter_cons, this]

theorem pairwise_le_last {α} (f : α → Int) (l : List α) (hs : l.Pairwise (fun a b => f a < f b)) (last : α)
    (hl : l.getLast? = some last) : ∀ y ∈ l, f y ≤ f last := by
  obtain ⟨pre, rfl⟩ := List.getLast?_eq_some_iff.mp hl
  rw [List.pairwise_append] at hs
  intro y hy
  rcases List.mem_append.mp hy with h | h
  · exact Int.le_of_lt (hs.2.2 y h last (by simp))
  · simp at h; subst h; exact Int.le_refl _

/-- a key equal to the *last* one goes behind it: the `>=` of the quick-append test in the Go code -/
theorem insertIndex_eq (keys : List Int) (key : Int) (hs : keys.Pairwise (· < ·)) :
    insertIndex keys key =
      if keys.getLast? = some key then keys.length else (keys.filter (fun k => decide (k < key))).length := by
  unfold insertIndex
  cases hl : keys.getLast? with
  | none =>
    have : keys = [] := by simpa using hl
    subst this; simp
  | some last =>
    have hmax : ∀ k ∈ keys, k ≤ last := pairwise_le_last id keys hs last hl
    simp only
    by_cases hge : key ≥ last
    · simp only [hge, ↓reduceIte]
      by_cases he : last = key
      · simp [he]
      · have : (keys.filter (fun k => decide (k < key))) = keys := by
          apply List.filter_eq_self.mpr
          intro a ha; have := hmax a ha; simp; omega
        simp [he, this]
    · simp only [hge, ↓reduceIte]
      have hne : ¬ (last = key) := by omega
      simp only [Option.some.injEq, hne, ↓reduceIte]
      cases hh : keys.head? with
      | none =>
        have : keys = [] := by simpa using hh
        subst this; simp at hl
      | some first =>
        simp only
        obtain ⟨tl, rfl⟩ : ∃ tl, keys = first :: tl := by
          cases keys with
          | nil => simp at hh
          | cons a t => simp at hh; exact ⟨t, by rw [hh]⟩
        have hmin : ∀ k ∈ first :: tl, first ≤ k := by
          intro k hk
          rw [List.pairwise_cons] at hs
          rcases List.mem_cons.mp hk with rfl | h
          · omega
          · have := hs.1 k h; omega
        by_cases hle : key ≤ first
        · simp only [hle, ↓reduceIte]
          have : ((first :: tl).filter (fun k => decide (k < key))) = [] := by
            apply List.filter_eq_nil_iff.mpr
            intro a ha; have := hmin a ha; simp; omega
          simp [this]
        · simp only [hle, ↓reduceIte]
          have hdec : (first :: tl).reverse.Pairwise (fun a b => b < a) := by
            rw [List.pairwise_reverse]; exact hs
          have hlen : (first :: tl).reverse.length = ((first :: tl).length - 1) + 1 := by simp
          have := (scanBack_spec key (first :: tl).reverse ((first :: tl).length - 1) (first :: tl).length hlen hdec).2
            ⟨first, by simp, by omega⟩
          rw [this, List.filter_reverse, List.length_reverse]

theorem sorted_split {α} (f : α → Int) (l : List α) (key : Int) (hs : l.Pairwise (fun a b => f a < f b)) :
    l = l.filter (fun x => decide (f x < key)) ++ l.filter (fun x => !decide (f x < key)) := by
  induction l with
  | nil => simp
  | cons a t ih =>
    rw [List.pairwise_cons] at hs
    by_cases h : f a < key
    · simp only [List.filter_cons, h, decide_true, ↓reduceIte, Bool.not_true, Bool.false_eq_true, List.cons_append]
      congr 1; exact ih hs.2
    · have hall : ∀ x ∈ t, ¬ f x < key := fun x hx => by have := hs.1 x hx; omega
      have h1 : t.filter (fun x => decide (f x < key)) = [] := by
        apply List.filter_eq_nil_iff.mpr; intro x hx; simpa using hall x hx
      have h2 : t.filter (fun x => !decide (f x < key)) = t := by
        apply List.filter_eq_self.mpr; intro x hx; simpa using hall x hx
      simp [h, h1, h2]

theorem insertAt_spec {α} (f : α → Int) (l : List α) (a : α) (hs : l.Pairwise (fun x y => f x < f y)) :
    insertAt l (insertIndex (l.map f) (f a)) a =
      if (l.map f).getLast? = some (f a) then l ++ [a]
      else l.filter (fun x => decide (f x < f a)) ++ a :: l.filter (fun x => !decide (f x < f a)) := by
  have hs' : (l.map f).Pairwise (· < ·) := by rw [List.pairwise_map]; exact hs
  rw [insertIndex_eq _ _ hs']
  by_cases h : (l.map f).getLast? = some (f a)
  · simp [h, insertAt]
  · simp only [h, ↓reduceIte]
    have hf : ((l.map f).filter (fun k => decide (k < f a))).length = (l.filter (fun x => decide (f x < f a))).length := by
      rw [List.filter_map, List.length_map]; rfl
    rw [hf]
    unfold insertAt
    have hsplit := sorted_split f l (f a) hs
    generalize hA : l.filter (fun x => decide (f x < f a)) = A at *
    generalize hB : l.filter (fun x => !decide (f x < f a)) = B at *
    rw [hsplit]
    simp

theorem insertAt_sorted {α} (f : α → Int) (l : List α) (a : α) (hs : l.Pairwise (fun x y => f x < f y))
    (hnew : ∀ x ∈ l, f x ≠ f a) :
    (insertAt l (insertIndex (l.map f) (f a)) a).Pairwise (fun x y => f x < f y) ∧
    (insertAt l (insertIndex (l.map f) (f a)) a).Perm (a :: l) := by
  refine ⟨?_, insertAt_perm _ _ _⟩
  rw [insertAt_spec f l a hs]
  have hlast : ¬ (l.map f).getLast? = some (f a) := by
    intro h
    have := List.mem_of_getLast? h
    obtain ⟨x, hx, hfx⟩ := List.mem_map.mp this
    exact hnew x hx hfx
  simp only [hlast, ↓reduceIte]
  have hsplit := sorted_split f l (f a) hs
  rw [hsplit] at hs
  rw [List.pairwise_append] at hs ⊢
  refine ⟨hs.1, ?_, ?_⟩
  · rw [List.pairwise_cons]
    refine ⟨?_, hs.2.1⟩
    intro b hb
    have hb' := List.mem_filter.mp hb
    have := hnew b hb'.1
    have h2 : ¬ f b < f a := by simpa using hb'.2
    omega
  · intro x hx y hy
    rcases List.mem_cons.mp hy with rfl | hy
    · simpa using (List.mem_filter.mp hx).2
    · exact hs.2.2 x hx y hy


theorem sorted_inns_nodup {W : Type} (l : List (Gene W)) (h : GenesSorted l) : (l.map (·.inn)).Nodup := by
  rw [List.Nodup, List.pairwise_map]
  exact h.imp (fun h => by omega)

theorem sorted_ids_nodup (l : List Node) (h : NodesSorted l) : (l.map (·.id)).Nodup := by
  rw [List.Nodup, List.pairwise_map]
  exact h.imp (fun h => by omega)

variable {W : Type}

/-- the part of a node `WF` looks at (apart from trait references) -/
def Node.shape (n : Node) : Int × Kind := (n.id, n.kind)

theorem traitsConsecutive_congr (g g' : Genome W) (ht : traitIds g' = traitIds g) (h : TraitsConsecutive g) :
    TraitsConsecutive g' := by
  unfold TraitsConsecutive at h ⊢
  unfold traitIds at ht h
  cases hg : g.traits with
  | nil => simp [hg] at h
  | cons t ts =>
    simp only [hg] at h
    cases hg' : g'.traits with
    | nil => rw [hg, hg'] at ht; simp at ht
    | cons t' ts' =>
      simp only
      have hlen : g'.traits.length = g.traits.length := by
        have := congrArg List.length ht; simpa using this
      have hid : t'.id = t.id := by
        rw [hg, hg'] at ht; simp at ht; exact ht.1
      unfold traitIds
      rw [ht, hg] at *
      rw [h, hid]
      rw [hg'] at hlen
      simp only [List.length_cons] at hlen ⊢
      rw [hlen]

theorem WF.congr (g g' : Genome W)
    (hi : g'.genes.map (·.inn) = g.genes.map (·.inn))
    (hl : g'.genes.map Gene.link = g.genes.map Gene.link)
    (hn : g'.nodes.map Node.shape = g.nodes.map Node.shape)
    (ht : traitIds g' = traitIds g)
    (hr : TraitRefsOwned g') (h : WF g) : WF g' := by
  have hids : nodeIds g' = nodeIds g := by
    unfold nodeIds
    have := congrArg (List.map Prod.fst) hn
    simpa [List.map_map, Node.shape, Function.comp_def] using this
  refine ⟨?_, ?_, ?_, ?_, hr, ?_, ?_, ?_, traitsConsecutive_congr g g' ht h.traits⟩
  · have := h.genesSorted
    unfold GenesSorted at this ⊢
    rw [← List.pairwise_map (f := fun x : Gene W => x.inn) (R := (· < ·))] at this ⊢
    rw [hi]; exact this
  · have := h.linksDistinct
    unfold LinksDistinct at this ⊢
    rw [← List.pairwise_map (f := Gene.link) (R := (· ≠ ·))] at this ⊢
    rw [hl]; exact this
  · have := h.nodesSorted
    unfold NodesSorted at this ⊢
    rw [← List.pairwise_map (f := fun n : Node => n.id) (R := (· < ·))] at this ⊢
    have e : g'.nodes.map (fun n => n.id) = g.nodes.map (fun n => n.id) := hids
    rw [e]; exact this
  · intro x hx
    obtain ⟨y, hy, hxy⟩ := exists_of_map_eq Gene.link hl hx
    have := h.endpoints y hy
    unfold Gene.link at hxy
    simp only [Prod.mk.injEq] at hxy
    rw [hids, ← hxy.1, ← hxy.2.1]; exact this
  · intro x hx n hn' hid
    obtain ⟨y, hy, hxy⟩ := exists_of_map_eq Gene.link hl hx
    obtain ⟨m, hm, hmn⟩ := exists_of_map_eq Node.shape hn hn'
    unfold Gene.link at hxy
    unfold Node.shape at hmn
    simp only [Prod.mk.injEq] at hxy hmn
    have := h.noSensorTarget y hy m hm (by rw [hmn.1, hid, hxy.2.1])
    unfold Node.isSensor at this ⊢
    rw [← hmn.2]; exact this
  · intro he
    have := h.hasGene
    have h2 : (g'.genes.map (·.inn)).length = (g.genes.map (·.inn)).length := by rw [hi]
    simp [he] at h2
    exact this (List.eq_nil_of_length_eq_zero h2.symm)
  · obtain ⟨n, hn', hk⟩ := h.hasOutput
    have : Node.shape n ∈ g'.nodes.map Node.shape := by rw [hn]; exact List.mem_map_of_mem hn'
    obtain ⟨m, hm, hmn⟩ := List.mem_map.mp this
    refine ⟨m, hm, ?_⟩
    unfold Node.shape at hmn
    simp only [Prod.mk.injEq] at hmn
    rw [hmn.2]; exact hk

def geneKey (x : Gene W) : Int × (Int × Int × Bool) := (x.inn, x.link)

structure SameSkel (g g' : Genome W) : Prop where
  genes : g'.genes.map geneKey = g.genes.map geneKey
  nodes : g'.nodes.map Node.shape = g.nodes.map Node.shape
  tids : traitIds g' = traitIds g
  mods : g'.modules = g.modules

theorem SameSkel.refl (g : Genome W) : SameSkel g g := ⟨rfl, rfl, rfl, rfl⟩
theorem SameSkel.trans {a b c : Genome W} (h1 : SameSkel a b) (h2 : SameSkel b c) : SameSkel a c :=
  ⟨h2.genes.trans h1.genes, h2.nodes.trans h1.nodes, h2.tids.trans h1.tids, h2.mods.trans h1.mods⟩

theorem SameSkel.inns {g g' : Genome W} (h : SameSkel g g') : g'.genes.map (·.inn) = g.genes.map (·.inn) := by
  have := congrArg (List.map Prod.fst) h.genes
  simpa [List.map_map, geneKey, Function.comp_def] using this
theorem SameSkel.links {g g' : Genome W} (h : SameSkel g g') : g'.genes.map Gene.link = g.genes.map Gene.link := by
  have := congrArg (List.map Prod.snd) h.genes
  simpa [List.map_map, geneKey, Function.comp_def] using this

theorem traitRefOk_congr (g g' : Genome W) (ht : traitIds g' = traitIds g) (t : Option Int) (h : TraitRefOk g t) :
    TraitRefOk g' t := by
  unfold TraitRefOk at h ⊢
  cases t with
  | none => trivial
  | some id => simp only at h ⊢; rw [ht]; exact h

theorem Retains.of_shape (g g' : Genome W) (hn : g'.nodes.map Node.shape = g.nodes.map Node.shape) : Retains g g' := by
  intro n hn' _
  have : Node.shape n ∈ g'.nodes.map Node.shape := by rw [hn]; exact List.mem_map_of_mem hn'
  obtain ⟨m, hm, hmn⟩ := List.mem_map.mp this
  unfold Node.shape at hmn
  simp only [Prod.mk.injEq] at hmn
  exact ⟨m, hm, hmn.1, hmn.2⟩

theorem Retains.refl (g : Genome W) : Retains g g := fun n hn _ => ⟨n, hn, rfl, rfl⟩

theorem Retains.trans {a b c : Genome W} (h1 : Retains a b) (h2 : Retains b c) : Retains a c := by
  intro n hn hk
  obtain ⟨m, hm, hid, hkind⟩ := h1 n hn hk
  obtain ⟨k, hk', hid', hkind'⟩ := h2 m hm (by rw [hkind]; exact hk)
  exact ⟨k, hk', by rw [hid', hid], by rw [hkind', hkind]⟩

/-- what `RegInv` asks of one gene, given by its key -/
def GeneOk (reg : Reg W) (k : Int × (Int × Int × Bool)) : Prop :=
  k.1 ≤ reg.nextInn ∧ ∀ i ∈ reg.records,
    (i.typ = 2 → k.1 = i.inn → k.2 = (i.inId, i.outId, i.recur)) ∧
    (i.typ = 1 → (k.1 = i.inn → k.2.1 = i.inId ∧ k.2.2.1 = i.newNode) ∧
                 (k.1 = i.inn2 → k.2.1 = i.newNode ∧ k.2.2.1 = i.outId ∧ k.2.2.2 = false))

/-- what `RegInv` asks of one node, given by its shape -/
def NodeOk (reg : Reg W) (s : Int × Kind) : Prop :=
  s.1 ≤ reg.nextNode ∧ ∀ i ∈ reg.records, i.typ = 1 → s.1 = i.newNode → s.2 = Kind.hidden

theorem regInv_iff {reg : Reg W} {g : Genome W} :
    RegInv reg g ↔ (∀ x ∈ g.genes, GeneOk reg (geneKey x)) ∧ (∀ n ∈ g.nodes, NodeOk reg (Node.shape n)) ∧ RegOk reg := by
  constructor
  · intro h
    refine ⟨fun x hx => ⟨h.above.1 x hx, fun i hi => ⟨fun t e => (h.compat i hi).1 t x hx e, fun t => ⟨fun e => ?_, fun e => ?_⟩⟩⟩,
      fun n hn => ⟨h.above.2 n hn, fun i hi t e => ((h.compat i hi).2 t).2.2 n hn e⟩, h.ok⟩
    · exact ((h.compat i hi).2 t).1 x hx e
    · exact ((h.compat i hi).2 t).2.1 x hx e
  · rintro ⟨hg, hn, hok⟩
    refine ⟨fun i hi => ⟨fun t x hx e => ((hg x hx).2 i hi).1 t e, fun t => ⟨fun x hx e => ?_, fun x hx e => ?_, fun n hn' e => ?_⟩⟩,
      ⟨fun x hx => (hg x hx).1, fun n hn' => (hn n hn').1⟩, hok⟩
    · exact (((hg x hx).2 i hi).2 t).1 e
    · exact (((hg x hx).2 i hi).2 t).2 e
    · exact (hn n hn').2 i hi t e

structure RegExt (reg reg' : Reg W) : Prop where
  inn : reg.nextInn ≤ reg'.nextInn
  node : reg.nextNode ≤ reg'.nextNode
  recs : ∃ new : List (Innov W), reg'.records = reg.records ++ new ∧
    ∀ r ∈ new, (r.typ = 2 → reg.nextInn < r.inn) ∧
               (r.typ = 1 → reg.nextInn < r.inn ∧ reg.nextInn < r.inn2 ∧ reg.nextNode < r.newNode)

theorem RegExt.refl (reg : Reg W) : RegExt reg reg := ⟨Int.le_refl _, Int.le_refl _, [], by simp, by simp⟩

theorem RegExt.trans {a b c : Reg W} (h1 : RegExt a b) (h2 : RegExt b c) : RegExt a c := by
  obtain ⟨n1, e1, p1⟩ := h1.recs
  obtain ⟨n2, e2, p2⟩ := h2.recs
  refine ⟨Int.le_trans h1.inn h2.inn, Int.le_trans h1.node h2.node, n1 ++ n2, by rw [e2, e1, List.append_assoc], ?_⟩
  intro r hr
  rcases List.mem_append.mp hr with h | h
  · exact p1 r h
  · have := p2 r h
    have hi := h1.inn
    have hn := h1.node
    exact ⟨fun t => by have := this.1 t; omega, fun t => by have := this.2 t; omega⟩

theorem GeneOk.ext {reg reg' : Reg W} {k : Int × (Int × Int × Bool)} (h : GeneOk reg k) (he : RegExt reg reg') :
    GeneOk reg' k := by
  obtain ⟨new, e, p⟩ := he.recs
  refine ⟨Int.le_trans h.1 he.inn, fun i hi => ?_⟩
  rw [e] at hi
  rcases List.mem_append.mp hi with hi | hi
  · exact h.2 i hi
  · have hk := h.1
    refine ⟨fun t e' => ?_, fun t => ⟨fun e' => ?_, fun e' => ?_⟩⟩
    · have := (p i hi).1 t; omega
    · have := (p i hi).2 t; omega
    · have := (p i hi).2 t; omega

theorem NodeOk.ext {reg reg' : Reg W} {s : Int × Kind} (h : NodeOk reg s) (he : RegExt reg reg') : NodeOk reg' s := by
  obtain ⟨new, e, p⟩ := he.recs
  refine ⟨Int.le_trans h.1 he.node, fun i hi t e' => ?_⟩
  rw [e] at hi
  rcases List.mem_append.mp hi with hi | hi
  · exact h.2 i hi t e'
  · have hk := h.1
    have := (p i hi).2 t
    omega

theorem RegInv.ext {reg reg' : Reg W} {g : Genome W} (h : RegInv reg g) (he : RegExt reg reg') (hok : RegOk reg') :
    RegInv reg' g := by
  rw [regInv_iff] at h ⊢
  exact ⟨fun x hx => (h.1 x hx).ext he, fun n hn => (h.2.1 n hn).ext he, hok⟩

theorem SameSkel.wft {g g' : Genome W} (h : SameSkel g g') (hr : TraitRefsOwned g') (hw : WFT g) : WFT g' := by
  refine ⟨WF.congr g g' h.inns h.links h.nodes h.tids hr hw.wf, ?_, ?_⟩
  · intro t ht
    have : t.id ∈ traitIds g := by rw [← h.tids]; exact List.mem_map_of_mem ht
    obtain ⟨t0, ht0, e⟩ := List.mem_map.mp this
    rw [← e]; exact hw.tnz t0 ht0
  · intro n hn
    obtain ⟨m, hm, e⟩ := exists_of_map_eq Node.shape h.nodes hn
    unfold Node.shape at e
    simp only [Prod.mk.injEq] at e
    rw [← e.2]; exact hw.kinds m hm

theorem SameSkel.retains {g g' : Genome W} (h : SameSkel g g') : Retains g g' := Retains.of_shape g g' h.nodes

theorem SameSkel.regInv {g g' : Genome W} (h : SameSkel g g') (reg : Reg W) (hi : RegInv reg g) : RegInv reg g' := by
  rw [regInv_iff] at hi ⊢
  refine ⟨fun x hx => ?_, fun n hn => ?_, hi.2.2⟩
  · obtain ⟨y, hy, e⟩ := exists_of_map_eq geneKey h.genes hx
    exact e ▸ hi.1 y hy
  · obtain ⟨m, hm, e⟩ := exists_of_map_eq Node.shape h.nodes hn
    exact e ▸ hi.2.1 m hm

end GoNeat.C01
