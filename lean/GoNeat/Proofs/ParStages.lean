/-
  C16(b): the programs of Model/ParEpoch.lean cut into named stages.  `mutateAddLinkP` and `connectOneP` end in the same
  tail (`linkTailP`): look the link up in a snapshot, reuse the record found or draw trait and weight, fetch a number and
  store a record; what the caller does with the new gene is a parameter.  `reproduceOneP` is the choice `planBaby` of the
  sequential `reproduceOne` followed by the program `makeBabyP`.
-/
import GoNeat.Proofs.ReproCases
import GoNeat.Proofs.MutateLemmas

namespace GoNeat.C16
open GoNeat Scalar
variable {W : Type} [Scalar W] {β : Type}

omit [Scalar W] in
theorem runSched_induction {α : Type} (P : PState W α → Prop) (hstep : ∀ st i, P st → P (pstep st i)) (sched : List Nat) :
    ∀ st, P st → P (runSched st sched) := by
  induction sched with
  | nil => intro st h; exact h
  | cons i is ih => intro st h; exact ih _ (hstep st i h)

/-- `pr` tests the recurrence flag of a record (`· == r` or, for `r = false`, `!·`); `dup` is the exit taken when the
    genome already has the recorded gene, `fin` continues with the gene to insert and the rest of the stream -/
def linkTailP (g : Genome W) (s d : Int) (r : Bool) (pr : Bool → Bool) (rs : List Nat) (dup : Prog W (Except Stop β))
    (fin : Gene W → List Nat → Prog W (Except Stop β)) : Prog W (Except Stop β) :=
  .snap fun recs =>
  match recs.find? (fun i => i.typ == 2 && i.inId == s && i.outId == d && pr i.recur) with
  | some inn =>
    match traitAt g inn.traitNum with
    | .error e => .done (.error e)
    | .ok tr =>
      let gene : Gene W := { inn := inn.inn, src := s, dst := d, recur := r, w := inn.w, mnum := zero, en := true, trait := tr }
      if g.haveGene gene then dup else fin gene rs
  | none =>
    match Rand.intn g.traits.length rs with
    | .error e => .done (.error e)
    | .ok (traitNum, rs1) =>
      match newLinkWeight (W := W) rs1 with
      | .error e => .done (.error e)
      | .ok (w, rs2) =>
        .nextInn fun innId =>
        match traitAt g traitNum with
        | .error e => .done (.error e)
        | .ok tr =>
          .store (linkRec s d r innId w traitNum)
            (fin { inn := innId, src := s, dst := d, recur := r, w := w, mnum := w, en := true, trait := tr } rs2)

theorem linkTailP_run {γ : Type} (pack : Except Stop β × Reg W → R γ) (hpe : ∀ e reg', pack (.error e, reg') = .error e)
    (g : Genome W) (reg : Reg W) (s d : Int) (r : Bool) (pr : Bool → Bool) (rs : List Nat) (dup : Prog W (Except Stop β))
    (fin : Gene W → List Nat → Prog W (Except Stop β)) (dupS : R γ) (finS : Gene W → Reg W → List Nat → R γ)
    (hdup : pack (dup.run reg) = dupS) (hfin : ∀ x reg' rs', pack ((fin x rs').run reg') = finS x reg' rs') :
    pack ((linkTailP g s d r pr rs dup fin).run reg) = linkTailS g reg s d r pr rs dupS finS ∧
      ((linkTailP g s d r pr rs dup fin).run reg = dup.run reg ∨
       (∃ e reg', (linkTailP g s d r pr rs dup fin).run reg = (.error e, reg')) ∨
       ∃ x reg' rs', (linkTailP g s d r pr rs dup fin).run reg = (fin x rs').run reg') := by
  unfold linkTailP linkTailS
  simp only [Prog.run]
  generalize List.find? _ reg.records = fi
  rcases fi with _ | inn
  · simp only
    rcases Rand.intn g.traits.length rs with e | ⟨tn, rs1⟩
    · exact ⟨hpe _ _, .inr (.inl ⟨_, _, rfl⟩)⟩
    dsimp only
    rcases newLinkWeight (W := W) rs1 with e | ⟨w, rs2⟩
    · exact ⟨hpe _ _, .inr (.inl ⟨_, _, rfl⟩)⟩
    simp only [Prog.run]
    rcases traitAt g tn with e | tr
    · exact ⟨hpe _ _, .inr (.inl ⟨_, _, rfl⟩)⟩
    · exact ⟨hfin _ _ _, .inr (.inr ⟨_, _, _, rfl⟩)⟩
  · simp only
    rcases traitAt g inn.traitNum with e | tr
    · exact ⟨hpe _ _, .inr (.inl ⟨_, _, rfl⟩)⟩
    dsimp only
    split
    · exact ⟨hdup, .inl rfl⟩
    · exact ⟨hfin _ _ _, .inr (.inr ⟨_, _, _, rfl⟩)⟩

theorem connectOneP_eq (sensor output : Node) (g : Genome W) (added : Bool) (rs : List Nat) :
    connectOneP sensor output g added rs =
      if g.genes.any (fun x => x.src == sensor.id && x.dst == output.id) then .done (.ok (some (g, added), rs))
      else linkTailP g sensor.id output.id false (!·) rs (.done (.ok (none, rs)))
        (fun x rs' => .done (.ok (some ({ g with genes := geneInsert g.genes x }, true), rs'))) := rfl

theorem mutateAddLinkP_eq (g : Genome W) (o : MutOpts W) (rs : List Nat) :
    mutateAddLinkP g o rs =
      if g.genes.isEmpty then .done (.error (.error "genesis:noGenes"))
      else if !g.nodes.any (·.kind == Kind.output) then .done (.error (.error "genesis:noOutputs"))
      else
        match Rand.float64 (W := W) rs with
        | .error e => .done (.error e)
        | .ok (f, rs1) =>
          match findOpenLink g (g.nodes.takeWhile (·.isSensor)).length (lt f o.recurOnlyProb) o.newLinkTries none rs1 with
          | .error e => .done (.error e)
          | .ok ((_, false), rs2) => .done (.ok ((g, false), rs2))
          | .ok ((none, true), rs2) => .done (.ok ((g, true), rs2))
          | .ok ((some (n1, n2), true), rs2) =>
            linkTailP g n1.id n2.id (lt f o.recurOnlyProb) (· == lt f o.recurOnlyProb) rs2 (.done (.ok ((g, false), rs2)))
              (fun x rs' =>
                if n1.id == n2.id && !lt f o.recurOnlyProb then .done (.error (.error "wrongGeneCreated"))
                else .done (.ok (({ g with genes := geneInsert g.genes x }, true), rs'))) := rfl

def makeBabyP (o : EpochOpts W) (generation : Int) (champ : Org W) (st : ReproState W) : Plan W → List Nat → Prog W (SRes W)
  | .super g0, rs =>
    (superChampMutP o g0 st.superChamp rs).bind fun r =>
      match r with
      | .error e => .done (.error e)
      | .ok ((g1, ms), rs') =>
        let last := st.superChamp == 1 && champ.isPopChampion
        let st' := finishP generation g1 ms false last (if last then champ.originalFitness else zero) st
        .done (.ok ({ st' with superChamp := st.superChamp - 1 }, rs'))
  | .clone g0, rs => .done (.ok ({ finishP generation g0 false false false zero st with champCloneDone := true }, rs))
  | .mutate g0 mate, rs =>
    (mutateBabyP o g0 rs).bind fun r =>
      match r with
      | .error e => .done (.error e)
      | .ok ((g1, ms), rs3) => .done (.ok (finishP generation g1 ms mate false zero st, rs3))
  | .asIs child, rs => .done (.ok (finishP generation child false true false zero st, rs))

theorem reproduceOneP_eq (o : EpochOpts W) (generation : Int) (s : Species W) (sorted : List (Species W)) (champ : Org W)
    (count : Int) (st : ReproState W) (rs : List Nat) :
    reproduceOneP o generation s sorted champ count st rs =
      match planBaby o s sorted champ count st rs with
      | .error e => .done (.error e)
      | .ok (pl, rs') => makeBabyP o generation champ st pl rs' :=
  chooseBaby_eq (fun e => Prog.done (Except.error e)) (makeBabyP o generation champ st) o s sorted champ count st rs

theorem speciesThreads_getElem? (o : EpochOpts W) (generation : Int) (p1 : Pop W) (ex : ExecState) (streams : List (List Nat))
    {t : Nat} {q : Prog W (BRes W)} (h : (speciesThreads o generation p1 ex streams)[t]? = some q) :
    ∃ s, p1.species[t]? = some s ∧
      q = reproduceSpeciesP o generation s (ex.sortedIds.filterMap (fun i => p1.species.find? (·.id == i))) p1.reg p1.nextUid
        (streams.getD t []) := by
  simp only [speciesThreads, List.getElem?_map, List.getElem?_zipIdx] at h
  cases hs : p1.species[t]? with
  | none => rw [hs] at h; cases h
  | some s =>
    rw [hs] at h
    simp only [Option.map_some, Option.some.injEq] at h
    exact ⟨s, rfl, by simpa using h.symm⟩

omit [Scalar W] in
theorem mem_sorted_species {p1 : Pop W} {ex : ExecState} {sp : Species W}
    (h : sp ∈ ex.sortedIds.filterMap (fun i => p1.species.find? (·.id == i))) : sp ∈ p1.species := by
  obtain ⟨i, _, hi⟩ := List.mem_filterMap.mp h
  exact List.mem_of_find?_eq_some hi

end GoNeat.C16
