/-
  What the Kind A theorems about searches and sorts assume of a scalar type's `<` and `==` (`Scalar.lt`, `Scalar.eq`):
  true of float64 values that are not NaN and of every ordered field.  The speciation search and the sort of a species
  need a strict weak order (`C08.StrictWeak`), the sort also that `==` is its incomparability (`C10.EqLaw`), the scan for
  the best champion of a trial only irreflexivity and transitivity (`C19.LtOrder`).  The integers of Proofs/ScalarInt
  satisfy all of them; the ordered-field proofs are in Props/C10Exact.lean.  Core Lean only.
-/
import GoNeat.Proofs.ScalarInt

namespace GoNeat
open Scalar
variable {W : Type} [Scalar W]

namespace C08
structure StrictWeak (W : Type) [Scalar W] : Prop where
  irrefl : ∀ a : W, lt a a = false
  trans : ∀ a b c : W, lt a b = true → lt b c = true → lt a c = true
  weak : ∀ a b c : W, lt a b = true → lt a c = true ∨ lt c b = true
end C08

namespace C19
structure LtOrder (W : Type) [Scalar W] : Prop where
  irrefl : ∀ a : W, lt a a = false
  trans : ∀ a b c : W, lt a b = true → lt b c = true → lt a c = true
end C19

theorem C08.StrictWeak.ltOrder (hw : C08.StrictWeak W) : C19.LtOrder W := ⟨hw.irrefl, hw.trans⟩

namespace C10

def EqLaw (W : Type) [Scalar W] : Prop := ∀ a b : W, eq a b = true ↔ (lt a b = false ∧ lt b a = false)

theorem lt_asymm (hw : C08.StrictWeak W) (a b : W) (h : lt a b = true) : lt b a = false := by
  cases hba : lt b a with
  | false => rfl
  | true => have := hw.trans a b a h hba; rw [hw.irrefl] at this; cases this

theorem lt_negTrans (hw : C08.StrictWeak W) (a b c : W) (h1 : lt a b = false) (h2 : lt b c = false) : lt a c = false := by
  cases hac : lt a c with
  | false => rfl
  | true =>
    rcases hw.weak a c b hac with h | h
    · rw [h1] at h; cases h
    · rw [h2] at h; cases h

open GoNeat.ExactInt in
theorem int_order_laws : C08.StrictWeak Int ∧ EqLaw Int := by
  refine ⟨⟨?_, ?_, ?_⟩, ?_⟩
  · intro a; simp [Scalar.lt]
  · intro a b c; simp only [Scalar.lt, decide_eq_true_eq]; omega
  · intro a b c; simp only [Scalar.lt, decide_eq_true_eq]; omega
  · intro a b; simp only [Scalar.eq, Scalar.lt, decide_eq_true_eq, decide_eq_false_iff_not]; omega

end C10

end GoNeat
