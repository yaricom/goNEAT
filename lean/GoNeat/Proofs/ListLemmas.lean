/-
  Facts about core list functions that several properties need and core Lean does not state in this form, and about the
  ordered insertion of Model/Genome.lean (`insertAt`, `geneInsert`, `nodeInsert`) as a list operation.
  CORE LEAN ONLY.
-/
import GoNeat.Model.Genome

namespace GoNeat

theorem tl {α} {p : α → Prop} {a : α} {l : List α} (h : ∀ z ∈ a :: l, p z) : ∀ z ∈ l, p z :=
  fun z hz => h z (List.mem_cons_of_mem _ hz)

theorem snoc_all {α} {p : α → Prop} {a : α} {l : List α} (h : ∀ z ∈ l, p z) (ha : p a) : ∀ z ∈ l ++ [a], p z :=
  fun z hz => (List.mem_append.mp hz).elim (h z) (fun hz => List.mem_singleton.mp hz ▸ ha)

theorem getD_set_ne {α : Type} (p : List α) {i j : Nat} (v d : α) (h : j ≠ i) :
    (p.set i v).getD j d = p.getD j d := by
  rw [List.getD_eq_getElem?_getD, List.getD_eq_getElem?_getD, List.getElem?_set_ne (Ne.symm h)]

theorem getD_set_self {α : Type} (p : List α) {i : Nat} (v d : α) (h : i < p.length) : (p.set i v).getD i d = v := by
  rw [List.getD_eq_getElem?_getD, List.getElem?_set_self h]
  rfl

theorem getD_set {α : Type} (p : List α) (i j : Nat) (v d : α) :
    (p.set i v).getD j d = if j = i ∧ i < p.length then v else p.getD j d := by
  by_cases hj : j = i
  · subst hj
    by_cases hl : j < p.length
    · rw [getD_set_self p v d hl, if_pos ⟨rfl, hl⟩]
    · rw [if_neg (fun h => hl h.2), List.set_eq_of_length_le (Nat.le_of_not_lt hl)]
  · rw [getD_set_ne p v d hj, if_neg (fun h => hj h.1)]

theorem mem_modify {α} (f : α → α) (l : List α) (i : Nat) (x : α) (h : x ∈ l.modify i f) : x ∈ l ∨ ∃ y ∈ l, x = f y := by
  obtain ⟨j, hj⟩ := List.getElem?_of_mem h
  by_cases hij : i = j
  · rw [hij, List.getElem?_modify_eq] at hj
    obtain ⟨y, hy, rfl⟩ := Option.map_eq_some_iff.mp hj
    exact .inr ⟨y, List.mem_of_getElem? hy, rfl⟩
  · rw [List.getElem?_modify_ne _ _ hij] at hj
    exact .inl (List.mem_of_getElem? hj)

theorem mem_modify_of_mem {α} (l : List α) (i : Nat) (f : α → α) (a : α) (h : a ∈ l) : a ∈ l.modify i f ∨ f a ∈ l.modify i f := by
  obtain ⟨j, hj⟩ := List.getElem?_of_mem h
  by_cases hij : i = j
  · exact .inr (List.mem_of_getElem? (i := j) (by rw [hij, List.getElem?_modify_eq, hj]; rfl))
  · exact .inl (List.mem_of_getElem? (i := j) (by rw [List.getElem?_modify_ne _ _ hij, hj]))

theorem modify_getElem_mem {α} (l : List α) (i : Nat) (f : α → α) (a : α) (h : l[i]? = some a) : f a ∈ l.modify i f :=
  List.mem_of_getElem? (i := i) (by rw [List.getElem?_modify_eq, h]; rfl)

theorem find_unique {α} (l : List α) (p : α → Bool) (y : α) (hy : y ∈ l) (hp : p y = true) (hu : ∀ z ∈ l, p z = true → z = y) :
    l.find? p = some y := by
  cases h : l.find? p with
  | none => exact absurd hp (List.find?_eq_none.mp h y hy)
  | some z => rw [hu z (List.mem_of_find?_eq_some h) (List.find?_some h)]

theorem modify_map_of_eq {α β} (l : List α) (k : Nat) (f : α → α) (p : α → β) (h : ∀ a, p (f a) = p a) :
    (l.modify k f).map p = l.map p := by
  induction l generalizing k with
  | nil => simp
  | cons x xs ih => cases k with
    | zero => simp [List.modify, h]
    | succ k => simp [List.modify_succ_cons, ih]

theorem sum_map_modify {α} (f : α → Nat) (g : α → α) (c : Nat) (hg : ∀ a, f (g a) = f a + c) :
    ∀ (t : List α) (k : Nat), k < t.length → ((t.modify k g).map f).sum = (t.map f).sum + c
  | [], k, hk => absurd hk (Nat.not_lt_zero k)
  | a :: t, 0, _ => by
    rw [List.modify_zero_cons, List.map_cons, List.sum_cons, hg, List.map_cons, List.sum_cons]
    omega
  | a :: t, k + 1, hk => by
    rw [List.modify_succ_cons, List.map_cons, List.sum_cons, sum_map_modify f g c hg t k (Nat.lt_of_succ_lt_succ hk),
      List.map_cons, List.sum_cons, Nat.add_assoc]

theorem set_map_id {α β} (l : List α) (k : Nat) (a b : α) (p : α → β) (h : l[k]? = some a) (hp : p b = p a) :
    (l.set k b).map p = l.map p := by
  induction l generalizing k with
  | nil => simp
  | cons x xs ih => cases k with
    | zero => simp at h; subst h; simp [hp]
    | succ k => simp at h; simp [ih k h]

theorem filterMap_getElem?_range {α} (l : List α) : (List.range l.length).filterMap (fun i => l[i]?) = l := by
  induction l with
  | nil => rfl
  | cons x xs ih =>
    rw [List.length_cons, List.range_succ_eq_map, List.filterMap_cons]
    simp only [List.getElem?_cons_zero, List.filterMap_map]
    congr 1

theorem filterMap_eq_map_of {α β} (f : α → Option β) (g : α → β) (l : List α) (h : ∀ x ∈ l, f x = some (g x)) :
    l.filterMap f = l.map g := by
  induction l with
  | nil => rfl
  | cons a as ih => rw [List.filterMap_cons_some (h a (by simp)), ih (fun x hx => h x (by simp [hx])), List.map_cons]

theorem map_map_of {α β : Type} (g : α → β) (l : List α) (f : α → α) (hf : ∀ a, g (f a) = g a) :
    (l.map f).map g = l.map g := by
  rw [List.map_map]
  exact List.map_congr_left (fun s _ => hf s)

theorem nodup_map_inj {α β : Type} (f : α → β) {l : List α} (hnd : (l.map f).Nodup) {x y : α} (hx : x ∈ l) (hy : y ∈ l)
    (h : f x = f y) : x = y := by
  induction l with
  | nil => cases hx
  | cons a as ih =>
    simp only [List.map_cons, List.nodup_cons, List.mem_map, not_exists, not_and] at hnd
    rcases List.mem_cons.mp hx with rfl | hx' <;> rcases List.mem_cons.mp hy with rfl | hy'
    · rfl
    · exact absurd h.symm (hnd.1 y hy')
    · exact absurd h (hnd.1 x hx')
    · exact ih hnd.2 hx' hy'

theorem idxOf_unique {α β} {f : α → β} {l : List α} (hnd : (l.map f).Nodup) {a : β} {s t : Nat}
    (hs : (l[s]?).map f = some a) (ht : (l[t]?).map f = some a) : s = t := by
  have hs' : (l.map f)[s]? = some a := by rw [List.getElem?_map]; exact hs
  have ht' : (l.map f)[t]? = some a := by rw [List.getElem?_map]; exact ht
  obtain ⟨h1, e1⟩ := List.getElem?_eq_some_iff.mp hs'
  obtain ⟨h2, e2⟩ := List.getElem?_eq_some_iff.mp ht'
  have hp := List.pairwise_iff_getElem.mp hnd
  rcases Nat.lt_trichotomy s t with h | h | h
  · exact absurd (e1.trans e2.symm) (hp s t h1 h2 h)
  · exact h
  · exact absurd (e2.trans e1.symm) (hp t s h2 h1 h)

theorem exists_of_map_eq {α β} (f : α → β) {l l' : List α} (h : l'.map f = l.map f) {x : α} (hx : x ∈ l') :
    ∃ y ∈ l, f y = f x := by
  have : f x ∈ l.map f := by rw [← h]; exact List.mem_map_of_mem hx
  obtain ⟨y, hy, hfy⟩ := List.mem_map.mp this
  exact ⟨y, hy, hfy⟩

theorem nodup_map_range {α : Type} (f : Nat → α) (n : Nat) (hinj : ∀ a b, f a = f b → a = b) :
    ((List.range n).map f).Nodup := by
  rw [List.nodup_iff_pairwise_ne, List.pairwise_map]
  exact (List.nodup_iff_pairwise_ne.mp List.nodup_range).imp (fun h e => h (hinj _ _ e))

theorem zip_self_all {α} (q : α → α → Bool) (hq : ∀ a, q a a = true) (l : List α) :
    (List.zip l l).all (fun (a, b) => q a b) = true := by
  induction l with
  | nil => rfl
  | cons a t ih => simp only [List.zip_cons_cons, List.all_cons, hq, ih, Bool.and_self]

theorem any_congr_mem {α : Type} (l : List α) (p q : α → Bool) (h : ∀ o ∈ l, p o = q o) : l.any p = l.any q := by
  induction l with
  | nil => rfl
  | cons a l ih =>
    simp only [List.any_cons]
    rw [h a (by simp), ih (fun o ho => h o (by simp [ho]))]

theorem all_congr_mem {α : Type} (l : List α) (f g : α → Bool) (h : ∀ a ∈ l, f a = g a) : l.all f = l.all g := by
  induction l with
  | nil => rfl
  | cons a l ih =>
    simp only [List.all_cons]
    rw [h a (by simp), ih (fun a' h' => h a' (by simp [h']))]

theorem find_congr {α} {p q : α → Bool} (l : List α) (h : ∀ a ∈ l, p a = q a) : l.find? p = l.find? q := by
  induction l with
  | nil => rfl
  | cons a l ih =>
    simp only [List.find?_cons, h a (by simp)]
    rw [ih (fun b hb => h b (by simp [hb]))]

theorem find?_and_const {α} (l : List α) (p q : α → Bool) (k : Prop) [Decidable k] (h : ∀ e ∈ l, (q e = true ↔ k)) :
    l.find? (fun e => p e && q e) = if k then l.find? p else none := by
  split
  · next hk => exact find_congr l fun e he => by rw [(h e he).mpr hk, Bool.and_true]
  · next hk => exact List.find?_eq_none.mpr fun e he hp => hk ((h e he).mp (Bool.and_eq_true_iff.mp hp).2)

/-- a search through the blocks `f m` of a list keyed without repetition, when the thing sought can only lie in the block
    with key `c`, is the search of that one block -/
theorem find?_flatMap_key {α β κ : Type} [DecidableEq κ] (key : α → κ) (f : α → List β) (p : β → Bool) (c : κ)
    (r : α → Option β) (M : List α) (hd : (M.map key).Nodup)
    (h : ∀ m ∈ M, (f m).find? p = if key m = c then r m else none) :
    (M.flatMap f).find? p = (M.find? (key · == c)).bind r := by
  induction M with
  | nil => rfl
  | cons m ms ih =>
    rw [List.map_cons, List.nodup_cons] at hd
    rw [List.flatMap_cons, List.find?_append, h m (by simp), ih hd.2 (fun x hx => h x (by simp [hx])), List.find?_cons]
    by_cases hmc : key m = c
    · have hrest : ms.find? (key · == c) = none :=
        List.find?_eq_none.mpr fun x hx hp => hd.1 (List.mem_map.mpr ⟨x, hx, (beq_iff_eq.mp hp).trans hmc.symm⟩)
      simp [hmc, hrest]
    · have hq : (key m == c) = false := by simpa using hmc
      simp [hq, hmc]

theorem countP_congr' {α} (l : List α) (p q : α → Bool) (h : ∀ a ∈ l, p a = q a) : l.countP p = l.countP q :=
  List.countP_congr fun a ha => by rw [h a ha]

theorem lookup_of_mem {α β} [BEq α] [LawfulBEq α] {l : List (α × β)} (hl : (l.map Prod.fst).Nodup) {p : α × β}
    (hp : p ∈ l) : l.lookup p.1 = some p.2 := by
  induction l with
  | nil => cases hp
  | cons q t ih =>
    obtain ⟨hq, ht⟩ := List.nodup_cons.mp hl
    rcases List.mem_cons.mp hp with rfl | hp
    · exact List.lookup_cons_self
    · have : (p.1 == q.1) = false := beq_false_of_ne fun e => hq (e ▸ List.mem_map_of_mem hp)
      rw [List.lookup_cons, this]
      exact ih ht hp

theorem mem_of_lookup {α β} [BEq α] [LawfulBEq α] (l : List (α × β)) (k : α) (v : β) (h : l.lookup k = some v) :
    (k, v) ∈ l := by
  obtain ⟨l₁, l₂, rfl, -⟩ := List.lookup_eq_some_iff.mp h
  exact List.mem_append_right _ List.mem_cons_self

theorem perm_pair {α} {l : List α} {a b : α} (h : l.Perm [a, b]) : l = [a, b] ∨ l = [b, a] := by
  match l, h.length_eq with
  | [c, d], _ =>
    rcases List.mem_cons.mp (h.mem_iff.mp List.mem_cons_self) with rfl | hc
    · exact .inl (by rw [List.perm_singleton.mp ((List.perm_cons c).mp h)])
    · obtain rfl := List.mem_singleton.mp hc
      exact .inr (by rw [List.perm_singleton.mp ((List.perm_cons c).mp (h.trans (List.Perm.swap _ _ _)))])

/-! ### ordered insertion (Model/Genome.lean) only inserts, whatever the position -/

theorem insertAt_perm {α} (l : List α) (i : Nat) (a : α) : (insertAt l i a).Perm (a :: l) := by
  unfold insertAt
  refine List.perm_middle.trans ?_
  rw [List.take_append_drop]

theorem mem_insertAt {α} (l : List α) (i : Nat) (a x : α) : x ∈ insertAt l i a ↔ x = a ∨ x ∈ l := by
  rw [(insertAt_perm l i a).mem_iff, List.mem_cons]

theorem insertAt_sublist {α} (l : List α) (i : Nat) (a : α) : l.Sublist (insertAt l i a) := by
  unfold insertAt
  have h : (l.take i ++ l.drop i).Sublist (l.take i ++ a :: l.drop i) :=
    List.Sublist.append (List.Sublist.refl _) (List.sublist_cons_self a _)
  rwa [List.take_append_drop] at h

theorem insertAt_length {α} (l : List α) (i : Nat) (a : α) : (insertAt l i a).length = l.length + 1 :=
  (insertAt_perm l i a).length_eq

theorem insertAt_ne_nil {α} (l : List α) (i : Nat) (a : α) : insertAt l i a ≠ [] := by
  unfold insertAt; simp

/-- a list made of `old`, in its order, and `new`, taken apart again by a test that tells the two apart -/
theorem filter_split {α} (p : α → Bool) {l new old : List α} (hsub : old.Sublist l) (hp : l.Perm (new ++ old))
    (ho : ∀ x ∈ old, p x = true) (hn : ∀ x ∈ new, p x = false) :
    l.filter p = old ∧ (l.filter (fun x => !p x)).Perm new := by
  have h1 : (new ++ old).filter p = old := by
    rw [List.filter_append, List.filter_eq_nil_iff.mpr (fun x hx => by simp [hn x hx]), List.filter_eq_self.mpr ho]; rfl
  have h2 : (new ++ old).filter (fun x => !p x) = new := by
    rw [List.filter_append, List.filter_eq_self.mpr (fun x hx => by simp [hn x hx]),
      List.filter_eq_nil_iff.mpr (fun x hx => by simp [ho x hx]), List.append_nil]
  refine ⟨?_, h2 ▸ hp.filter _⟩
  -- `old` is a sublist of `l.filter p` of the same length
  have hs := hsub.filter p
  rw [List.filter_eq_self.mpr ho] at hs
  exact (hs.eq_of_length (h1 ▸ (hp.filter p).length_eq).symm).symm

theorem filter_insertAt_length {α} (p : α → Bool) (l : List α) (i : Nat) (a : α) (ha : p a = true) :
    ((insertAt l i a).filter p).length = (l.filter p).length + 1 := by
  rw [((insertAt_perm l i a).filter p).length_eq, List.filter_cons_of_pos ha, List.length_cons]

section
variable {W : Type}

theorem geneInsert_perm (l : List (Gene W)) (x : Gene W) : (geneInsert l x).Perm (x :: l) := insertAt_perm _ _ _
theorem geneInsert_sublist (l : List (Gene W)) (x : Gene W) : l.Sublist (geneInsert l x) := insertAt_sublist _ _ _
theorem geneInsert_length (l : List (Gene W)) (x : Gene W) : (geneInsert l x).length = l.length + 1 := insertAt_length _ _ _
theorem mem_geneInsert (l : List (Gene W)) (x y : Gene W) : y ∈ geneInsert l x ↔ y = x ∨ y ∈ l := mem_insertAt _ _ _ _

theorem foldl_geneInsert_perm (added l : List (Gene W)) : (added.foldl geneInsert l).Perm (l ++ added) := by
  induction added generalizing l with
  | nil => simp
  | cons a as ih =>
    simp only [List.foldl_cons]
    refine (ih _).trans ?_
    refine ((geneInsert_perm l a).append_right as).trans ?_
    simpa using (List.perm_middle (a := a) (l₁ := l) (l₂ := as)).symm

theorem foldl_geneInsert_sublist (added l : List (Gene W)) : l.Sublist (added.foldl geneInsert l) := by
  induction added generalizing l with
  | nil => simp
  | cons a as ih => simp only [List.foldl_cons]; exact (geneInsert_sublist l a).trans (ih _)

end

theorem mem_nodeInsert (l : List Node) (a x : Node) : x ∈ nodeInsert l a ↔ x = a ∨ x ∈ l := mem_insertAt _ _ _ _
theorem nodeInsert_length (l : List Node) (n : Node) : (nodeInsert l n).length = l.length + 1 := insertAt_length _ _ _

theorem mem_foldl_nodeInsert (cs acc : List Node) (m : Node) : m ∈ cs.foldl nodeInsert acc ↔ m ∈ acc ∨ m ∈ cs := by
  induction cs generalizing acc with
  | nil => simp
  | cons c cs ih => rw [List.foldl_cons, ih, mem_nodeInsert, List.mem_cons, or_assoc, or_left_comm]

end GoNeat
