/-
  Characterisation of the mutators (Model/Mutate.lean): `haveGene` needs an existing link, what `setEnabledAt` touches,
  and one inversion lemma per structural mutator (`mutateAddLink_cases`, `connectOne_cases`,
  `mutateConnectSensors_cases`, `mutateAddNode_cases`) stating every `ok` outcome with the guard facts and the registry
  branch taken (`LinkTail`, `AddNodeOut`).  Add-link and connect-sensors are a prefix followed by one shared tail
  (`linkTailS`, `mutateAddLink_eq`, `connectOne_eq`), inverted once by `linkTailS_cases`.  Also the connect-sensors loop.
  Core Lean only; every lemma holds for every scalar type.
-/
import GoNeat.Spec.Registry
import GoNeat.Proofs.ListLemmas

namespace GoNeat.C04

theorem int31nLoop_lt (n max : Nat) (hn : 0 < n) (rs rs' : List Nat) (v : Nat)
    (h : Rand.int31nLoop n max rs = .ok (v, rs')) : v < n := by
  induction rs with
  | nil => simp [Rand.int31nLoop] at h
  | cons x rs ih =>
    unfold Rand.int31nLoop at h
    simp only at h
    split at h
    · exact ih h
    · simp only [Except.ok.injEq, Prod.mk.injEq] at h
      rw [← h.1]; exact Nat.mod_lt _ hn

theorem intn_lt (n : Nat) (rs rs' : List Nat) (v : Nat) (h : Rand.intn n rs = .ok (v, rs')) : v < n := by
  unfold Rand.intn at h
  split at h
  · cases h
  · rename_i hn
    split at h
    · split at h
      · cases h
      · simp only [Except.ok.injEq, Prod.mk.injEq] at h
        rw [← h.1]
        have := @Nat.and_le_right (Rand.int31OfRaw ‹Nat›) (n - 1)
        omega
    · exact int31nLoop_lt n _ (by omega) rs rs' v h

end GoNeat.C04

namespace GoNeat.C03
variable {W : Type}

theorem linkMatch_iff (s d : Int) (r : Bool) (i : Innov W) :
    linkMatch s d r i = true ↔ i.typ = 2 ∧ i.inId = s ∧ i.outId = d ∧ i.recur = r := by
  unfold linkMatch; simp [and_assoc]
theorem nodeMatch_iff (s d o : Int) (i : Innov W) :
    nodeMatch s d o i = true ↔ i.typ = 1 ∧ i.inId = s ∧ i.outId = d ∧ i.oldInn = o := by
  unfold nodeMatch; simp [and_assoc]

theorem mem_setEnabledAt (l : List (Gene W)) (k : Nat) (b : Bool) (x : Gene W) (h : x ∈ setEnabledAt l k b) :
    ∃ y ∈ l, geneBind x = geneBind y := by
  rcases mem_modify _ _ _ _ h with h | ⟨y, hy, rfl⟩
  · exact ⟨x, h, rfl⟩
  · exact ⟨y, hy, rfl⟩

end GoNeat.C03

namespace GoNeat.MutateLemmas
open GoNeat Scalar
variable {W : Type}

/-! ### `haveGene` needs a gene with the same endpoints

(what a false `haveGene` excludes, given the registry invariant, is `C01.haveGene_false` in WFStruct) -/

theorem haveGene_false (g : Genome W) (gene : Gene W)
    (h : ∀ y ∈ g.genes, ¬ (y.src = gene.src ∧ y.dst = gene.dst)) : g.haveGene gene = false := by
  have hany : g.genes.any (·.sameLink gene) = false := by
    rw [List.any_eq_false]
    intro y hy hs
    simp only [Gene.sameLink, Bool.and_eq_true, beq_iff_eq] at hs
    exact h y hy ⟨hs.1.1, hs.1.2⟩
  unfold Genome.haveGene
  split <;> split <;> simp [hany]

theorem traitAt_ok (g : Genome W) (i : Int) (tr : Option Int) (h : traitAt g i = .ok tr) :
    ∃ t ∈ g.traits, tr = some t.id := by
  unfold traitAt at h
  split at h
  · cases h
  · split at h
    · cases h
    · rename_i t ht
      cases h
      exact ⟨t, List.mem_of_getElem? ht, rfl⟩

variable [Scalar W]

/-- once the endpoints `s → d` and the flag `r` are chosen: the gene's number comes from the first matching record
    (and `haveGene` does not find the gene in the genome), or it is fresh and the innovation is recorded -/
inductive LinkTail (g : Genome W) (reg : Reg W) (s d : Int) (r : Bool) : Genome W → Reg W → Prop
  | recorded {i : Innov W} {tr : Option Int} (hf : reg.records.find? (C03.linkMatch s d r) = some i)
      (htr : traitAt g i.traitNum = .ok tr)
      (hh : g.haveGene { inn := i.inn, src := s, dst := d, recur := r, w := i.w, mnum := zero, en := true, trait := tr } = false) :
      LinkTail g reg s d r
        { g with genes := (geneInsert g.genes
            { inn := i.inn, src := s, dst := d, recur := r, w := i.w, mnum := zero, en := true, trait := tr }) } reg
  | fresh {tn : Int} {w : W} {tr : Option Int} (hf : reg.records.find? (C03.linkMatch s d r) = none)
      (htr : traitAt g tn = .ok tr) :
      LinkTail g reg s d r
        { g with genes := (geneInsert g.genes
            { inn := reg.nextInn + 1, src := s, dst := d, recur := r, w := w, mnum := w, en := true, trait := tr }) }
        (reg.nextInnovation.2.store { typ := 2, inId := s, outId := d, inn := reg.nextInn + 1, inn2 := 0, w := w,
                                      traitNum := tn, newNode := 0, oldInn := 0, recur := r })

theorem LinkTail.gene {g g' : Genome W} {reg reg' : Reg W} {s d : Int} {r : Bool} (h : LinkTail g reg s d r g' reg') :
    ∃ x : Gene W, g' = { g with genes := geneInsert g.genes x } ∧ x.src = s ∧ x.dst = d ∧ x.recur = r ∧ x.en = true ∧
      (∃ t ∈ g.traits, x.trait = some t.id) ∧ ∃ w tn, C03.resolveLink reg s d r w tn = (x.inn, reg') := by
  cases h with
  | @recorded i tr hf htr hh =>
    refine ⟨_, rfl, rfl, rfl, rfl, rfl, traitAt_ok g _ _ htr, i.w, i.traitNum, ?_⟩
    unfold C03.resolveLink
    rw [hf]
  | @fresh tn w tr hf htr =>
    refine ⟨_, rfl, rfl, rfl, rfl, rfl, traitAt_ok g _ _ htr, w, tn, ?_⟩
    unfold C03.resolveLink
    rw [hf]
    rfl

theorem findOpenLink_found (g : Genome W) (fns : Nat) (doRecur : Bool) (tries : Nat) (last p : Option (Node × Node))
    (rs rs' : List Nat) (h : findOpenLink g fns doRecur tries last rs = .ok ((p, true), rs')) :
    ∃ n1 n2, p = some (n1, n2) ∧ n1 ∈ g.nodes ∧ n2 ∈ g.nodes ∧ n2.isSensor = false ∧
      ∀ y ∈ g.genes, ¬ (y.src = n1.id ∧ y.dst = n2.id ∧ y.recur = doRecur) := by
  induction tries generalizing last rs with
  | zero => simp [findOpenLink] at h
  | succ t ih =>
    unfold findOpenLink at h
    split at h
    · cases h
    · split at h
      · rename_i m1 m2 h1 h2
        simp only at h
        split at h
        · exact ih _ _ h
        · rename_i hle
          split at h
          · exact ih _ _ h
          · simp only [Except.ok.injEq, Prod.mk.injEq, and_true] at h
            simp only [Bool.or_eq_true, not_or, Bool.not_eq_true] at hle
            refine ⟨m1, m2, h.1.symm, List.mem_of_getElem? h1, List.mem_of_getElem? h2, hle.1, ?_⟩
            intro y hy ⟨hs, hd, hr⟩
            have := List.any_eq_false.mp hle.2 y hy
            simp [hs, hd, hr] at this
      · cases h

def _root_.GoNeat.linkRec (s d : Int) (r : Bool) (k : Int) (w : W) (tn : Int) : Innov W :=
  { typ := 2, inId := s, outId := d, inn := k, inn2 := 0, w := w, traitNum := tn, newNode := 0, oldInn := 0, recur := r }

/-- the tail as the model runs it on one registry.  `pr` tests the recurrence flag of a record (`· == r` or, for
    `r = false`, `!·`); `dup` is the exit taken when the genome already has the recorded gene, `fin` continues with the
    gene to insert, the registry and the rest of the stream -/
def _root_.GoNeat.linkTailS {γ : Type} (g : Genome W) (reg : Reg W) (s d : Int) (r : Bool) (pr : Bool → Bool) (rs : List Nat)
    (dup : R γ) (fin : Gene W → Reg W → List Nat → R γ) : R γ :=
  match reg.records.find? (fun i => i.typ == 2 && i.inId == s && i.outId == d && pr i.recur) with
  | some inn =>
    match traitAt g inn.traitNum with
    | .error e => .error e
    | .ok tr =>
      let gene : Gene W := { inn := inn.inn, src := s, dst := d, recur := r, w := inn.w, mnum := zero, en := true, trait := tr }
      if g.haveGene gene then dup else fin gene reg rs
  | none =>
    match Rand.intn g.traits.length rs with
    | .error e => .error e
    | .ok (traitNum, rs1) =>
      match newLinkWeight (W := W) rs1 with
      | .error e => .error e
      | .ok (w, rs2) =>
        match traitAt g traitNum with
        | .error e => .error e
        | .ok tr =>
          fin { inn := reg.nextInn + 1, src := s, dst := d, recur := r, w := w, mnum := w, en := true, trait := tr }
            (reg.nextInnovation.2.store (linkRec s d r (reg.nextInn + 1) w traitNum)) rs2

/-- `connectOne` and `mutateAddLink` are, word for word, a prefix followed by `linkTailS`: the two equations hold by `rfl`
    and say nothing beyond how Model/Mutate.lean is written; an edit of either function there has to be repeated here -/
theorem _root_.GoNeat.connectOne_eq (sensor output : Node) (g : Genome W) (reg : Reg W) (added : Bool) (rs : List Nat) :
    connectOne sensor output g reg added rs =
      if g.genes.any (fun x => x.src == sensor.id && x.dst == output.id) then .ok (some (g, reg, added), rs)
      else linkTailS g reg sensor.id output.id false (!·) rs (.ok (none, rs))
        (fun x reg' rs' => .ok (some ({ g with genes := geneInsert g.genes x }, reg', true), rs')) := rfl

theorem _root_.GoNeat.mutateAddLink_eq (g : Genome W) (reg : Reg W) (o : MutOpts W) (rs : List Nat) :
    mutateAddLink g reg o rs =
      if g.genes.isEmpty then .error (.error "genesis:noGenes")
      else if !g.nodes.any (·.kind == Kind.output) then .error (.error "genesis:noOutputs")
      else
        match Rand.float64 (W := W) rs with
        | .error e => .error e
        | .ok (f, rs1) =>
          match findOpenLink g (g.nodes.takeWhile (·.isSensor)).length (lt f o.recurOnlyProb) o.newLinkTries none rs1 with
          | .error e => .error e
          | .ok ((_, false), rs2) => .ok ((g, reg, false), rs2)
          | .ok ((none, true), rs2) => .ok ((g, reg, true), rs2)
          | .ok ((some (n1, n2), true), rs2) =>
            linkTailS g reg n1.id n2.id (lt f o.recurOnlyProb) (· == lt f o.recurOnlyProb) rs2 (.ok ((g, reg, false), rs2))
              (fun x reg' rs' =>
                if n1.id == n2.id && !lt f o.recurOnlyProb then .error (.error "wrongGeneCreated")
                else .ok (({ g with genes := geneInsert g.genes x }, reg', true), rs')) := rfl

theorem linkTailS_cases {γ : Type} {g : Genome W} {reg : Reg W} {s d : Int} {r : Bool} {pr : Bool → Bool} {rs : List Nat}
    {dup : R γ} {fin : Gene W → Reg W → List Nat → R γ} {res : γ × List Nat} (hpr : pr = (· == r))
    (h : linkTailS g reg s d r pr rs dup fin = .ok res) :
    (dup = .ok res ∧ ∃ x : Gene W, x.src = s ∧ x.dst = d ∧ g.haveGene x = true) ∨
    ∃ x reg' rs', fin x reg' rs' = .ok res ∧ LinkTail g reg s d r { g with genes := geneInsert g.genes x } reg' := by
  subst hpr
  unfold linkTailS at h
  split at h
  · rename_i inn hf
    split at h
    · cases h
    · rename_i tr htr
      dsimp only at h
      split at h
      · rename_i hh
        exact .inl ⟨h, _, rfl, rfl, hh⟩
      · rename_i hh
        exact .inr ⟨_, _, _, h, .recorded hf htr (Bool.eq_false_iff.mpr hh)⟩
  · rename_i hf
    split at h
    · cases h
    · split at h
      · cases h
      · split at h
        · cases h
        · rename_i tr htr
          exact .inr ⟨_, _, _, h, .fresh hf htr⟩

/-- every `ok` outcome of add-link: nothing happened (no open pair found, or the recorded innovation is already a gene
    of this genome), or the link tail ran for an open pair of nodes -/
theorem mutateAddLink_cases {g g' : Genome W} {reg reg' : Reg W} {o : MutOpts W} {rs rs' : List Nat} {res : Bool}
    (h : mutateAddLink g reg o rs = .ok ((g', reg', res), rs')) :
    (res = false ∧ g' = g ∧ reg' = reg) ∨
    (res = true ∧ ∃ n1 ∈ g.nodes, ∃ n2 ∈ g.nodes, ∃ r : Bool, n2.isSensor = false ∧
      (∀ y ∈ g.genes, ¬ (y.src = n1.id ∧ y.dst = n2.id ∧ y.recur = r)) ∧ LinkTail g reg n1.id n2.id r g' reg') := by
  rw [mutateAddLink_eq] at h
  split at h
  · cases h
  split at h
  · cases h
  split at h
  · cases h
  split at h
  · cases h
  · cases h
    exact .inl ⟨rfl, rfl, rfl⟩
  · rename_i hp
    obtain ⟨_, _, hp, _⟩ := findOpenLink_found _ _ _ _ _ _ _ _ hp
    cases hp
  · rename_i n1 n2 rs2 hp
    obtain ⟨_, _, hq, hn1, hn2, hsens, hno⟩ := findOpenLink_found _ _ _ _ _ _ _ _ hp
    cases hq
    rcases linkTailS_cases rfl h with ⟨hd, _⟩ | ⟨x, reg1, rs3, hfin, ht⟩
    · cases hd
      exact .inl ⟨rfl, rfl, rfl⟩
    · split at hfin
      · cases hfin
      · cases hfin
        exact .inr ⟨rfl, n1, hn1, n2, hn2, _, hsens, hno, ht⟩

/-- one target: a gene sensor→target is already there and nothing happens, or none is and the link tail runs.
    The "innovation already in this genome" exit (`none`) is dead: `haveGene` needs a gene with the same endpoints,
    which the first test has just excluded. -/
theorem connectOne_cases {sensor output : Node} {g : Genome W} {reg : Reg W} {added : Bool} {rs rs' : List Nat}
    {r : Option (Genome W × Reg W × Bool)} (h : connectOne sensor output g reg added rs = .ok (r, rs')) :
    (r = some (g, reg, added) ∧ ∃ y ∈ g.genes, y.src = sensor.id ∧ y.dst = output.id) ∨
    ((∀ y ∈ g.genes, ¬ (y.src = sensor.id ∧ y.dst = output.id)) ∧
      ∃ g' reg', r = some (g', reg', true) ∧ LinkTail g reg sensor.id output.id false g' reg') := by
  rw [connectOne_eq] at h
  by_cases hany : g.genes.any (fun x => x.src == sensor.id && x.dst == output.id) = true
  · rw [if_pos hany] at h
    cases h
    obtain ⟨y, hy, hc⟩ := List.any_eq_true.mp hany
    simp only [Bool.and_eq_true, beq_iff_eq] at hc
    exact .inl ⟨rfl, y, hy, hc⟩
  · rw [if_neg hany] at h
    have hno : ∀ y ∈ g.genes, ¬ (y.src = sensor.id ∧ y.dst = output.id) := by
      intro y hy ⟨h1, h2⟩
      exact hany (List.any_eq_true.mpr ⟨y, hy, by simp [h1, h2]⟩)
    refine .inr ⟨hno, ?_⟩
    rcases linkTailS_cases (funext fun b => by cases b <;> rfl) h with ⟨_, x, hs, hd, hh⟩ | ⟨x, reg1, rs1, hfin, ht⟩
    · rw [haveGene_false g x (by rw [hs, hd]; exact hno)] at hh
      cases hh
    · cases hfin
      exact ⟨_, _, rfl, ht⟩

theorem connectLoop_nil {sensor : Node} {g g' : Genome W} {reg reg' : Reg W} {added res : Bool} {rs rs' : List Nat}
    (h : connectLoop sensor [] g reg added rs = .ok ((g', reg', res), rs')) : g' = g ∧ reg' = reg ∧ res = added := by
  simp only [connectLoop, Except.ok.injEq, Prod.mk.injEq] at h
  exact ⟨h.1.1.symm, h.1.2.1.symm, h.1.2.2.symm⟩

theorem connectLoop_cons {sensor o : Node} {os : List Node} {g g' : Genome W} {reg reg' : Reg W} {added res : Bool}
    {rs rs' : List Nat} (h : connectLoop sensor (o :: os) g reg added rs = .ok ((g', reg', res), rs')) :
    ((∃ y ∈ g.genes, y.src = sensor.id ∧ y.dst = o.id) ∧
      ∃ rs1, connectLoop sensor os g reg added rs1 = .ok ((g', reg', res), rs')) ∨
    ((∀ y ∈ g.genes, ¬ (y.src = sensor.id ∧ y.dst = o.id)) ∧ ∃ g1 reg1 rs1, LinkTail g reg sensor.id o.id false g1 reg1 ∧
      connectLoop sensor os g1 reg1 true rs1 = .ok ((g', reg', res), rs')) := by
  unfold connectLoop at h
  split at h
  · cases h
  · rename_i h1
    rcases connectOne_cases h1 with ⟨hr, _⟩ | ⟨_, _, _, hr, _⟩ <;> cases hr
  · rename_i h1
    rcases connectOne_cases h1 with ⟨hr, hy⟩ | ⟨hno, _, _, hr, ht⟩ <;> cases hr
    · exact .inl ⟨hy, _, h⟩
    · exact .inr ⟨hno, _, _, _, ht, h⟩

/-- every `ok` outcome of connect-sensors: nothing happened (no disconnected sensor), or the loop ran for one sensor of
    the genome that no gene leaves, over the non-sensor nodes -/
theorem mutateConnectSensors_cases {g g' : Genome W} {reg reg' : Reg W} {res : Bool} {rs rs' : List Nat}
    (h : mutateConnectSensors g reg rs = .ok ((g', reg', res), rs')) :
    (res = false ∧ g' = g ∧ reg' = reg) ∨
    ∃ sensor ∈ g.nodes, sensor.isSensor = true ∧ (∀ x ∈ g.genes, x.src ≠ sensor.id) ∧
      ∃ rs1, connectLoop sensor (g.nodes.filter (fun n => !n.isSensor)) g reg false rs1 = .ok ((g', reg', res), rs') := by
  unfold mutateConnectSensors at h
  split at h
  · cases h
  · simp only at h
    split at h
    · simp only [Except.ok.injEq, Prod.mk.injEq] at h
      obtain ⟨⟨rfl, rfl, rfl⟩, _⟩ := h
      exact .inl ⟨rfl, rfl, rfl⟩
    · split at h
      · cases h
      · split at h
        · cases h
        · rename_i sensor hk
          have hmem := List.mem_of_getElem? hk
          simp only [List.mem_filter, Bool.not_eq_true'] at hmem
          obtain ⟨⟨hsn, hsens⟩, hdis⟩ := hmem
          refine .inr ⟨sensor, hsn, hsens, fun x hx hsrc => ?_, _, h⟩
          have := List.any_eq_false.mp hdis x hx
          simp [hsrc] at this

theorem connectOne_spec (sensor output : Node) (g : Genome W) (reg : Reg W) (added : Bool) (rs rs' : List Nat)
    (r : Option (Genome W × Reg W × Bool)) (h : connectOne sensor output g reg added rs = .ok (r, rs')) :
    (r = some (g, reg, added) ∧ ∃ y ∈ g.genes, y.src = sensor.id ∧ y.dst = output.id) ∨
    (∃ (gene : Gene W) (reg1 : Reg W), r = some ({ g with genes := geneInsert g.genes gene }, reg1, true) ∧
      gene.src = sensor.id ∧ gene.dst = output.id ∧ gene.recur = false ∧ gene.en = true ∧
      (∃ t ∈ g.traits, gene.trait = some t.id) ∧
      ∀ y ∈ g.genes, ¬ (y.src = sensor.id ∧ y.dst = output.id)) := by
  rcases connectOne_cases h with ⟨hr, hy⟩ | ⟨hno, g', reg', hr, ht⟩
  · exact .inl ⟨hr, hy⟩
  · obtain ⟨x, rfl, hs, hd, hrc, hen, htr, _⟩ := ht.gene
    exact .inr ⟨x, reg', hr, hs, hd, hrc, hen, htr, hno⟩

/-- what the loop over the targets `os` does to a genome: it inserts a list `new` of genes, one for every
    target id that no gene from the sensor reaches yet -/
structure ConnectLoopRel (sensor : Node) (os : List Node) (g g' : Genome W) (reg reg' : Reg W) (added res : Bool) : Prop where
  id : g'.id = g.id
  nodes : g'.nodes = g.nodes
  traits : g'.traits = g.traits
  modules : g'.modules = g.modules
  witness : ∃ new : List (Gene W), g'.genes = new.foldl geneInsert g.genes ∧
    (∀ x ∈ new, x.src = sensor.id ∧ x.recur = false ∧ x.en = true ∧ (∃ t ∈ g.traits, x.trait = some t.id) ∧
        (∃ o ∈ os, o.id = x.dst) ∧ ∀ y ∈ g.genes, ¬ (y.src = sensor.id ∧ y.dst = x.dst)) ∧
    (new.map (·.dst)).Nodup ∧
    (∀ o ∈ os, (∃ y ∈ g.genes, y.src = sensor.id ∧ y.dst = o.id) ∨ o.id ∈ new.map (·.dst)) ∧
    res = (added || !new.isEmpty) ∧ (new = [] → g' = g ∧ reg' = reg)

theorem connectLoop_spec (sensor : Node) (os : List Node) (g g' : Genome W) (reg reg' : Reg W) (added res : Bool)
    (rs rs' : List Nat) (h : connectLoop sensor os g reg added rs = .ok ((g', reg', res), rs')) :
    ConnectLoopRel sensor os g g' reg reg' added res := by
  induction os generalizing g reg added rs with
  | nil =>
    obtain ⟨rfl, rfl, rfl⟩ := connectLoop_nil h
    exact ⟨rfl, rfl, rfl, rfl, [], rfl, by simp, by simp, by simp, by simp, fun _ => ⟨rfl, rfl⟩⟩
  | cons o os ih =>
    rcases connectLoop_cons h with ⟨hlinked, rs1, h⟩ | ⟨hno, g1, reg1, rs1, ht, h⟩
    · obtain ⟨i1, i2, i3, i4, new, n1, n2, n3, n4, n5, n6⟩ := ih _ _ _ _ h
      refine ⟨i1, i2, i3, i4, new, n1, ?_, n3, ?_, n5, n6⟩
      · intro x hx
        obtain ⟨a, b, c, d, ⟨o', ho', e⟩, f⟩ := n2 x hx
        exact ⟨a, b, c, d, ⟨o', List.mem_cons_of_mem _ ho', e⟩, f⟩
      · intro o' ho'
        rcases List.mem_cons.mp ho' with rfl | ho'
        · exact .inl hlinked
        · exact n4 o' ho'
    · obtain ⟨gene, rfl, hsrc, hdst, hrec, hen, htr, _⟩ := ht.gene
      obtain ⟨i1, i2, i3, i4, new, n1, n2, n3, n4, n5, n6⟩ := ih _ _ _ _ h
      simp only at i1 i2 i3 i4 n1 n2 n4
      have hgmem : gene ∈ geneInsert g.genes gene := (mem_geneInsert _ _ _).mpr (.inl rfl)
      refine ⟨i1, i2, i3, i4, gene :: new, by simpa using n1, ?_, ?_, ?_, by simp [n5], by simp⟩
      · intro x hx
        rcases List.mem_cons.mp hx with rfl | hx
        · exact ⟨hsrc, hrec, hen, htr, ⟨o, List.mem_cons_self, hdst.symm⟩, by rw [hdst]; exact hno⟩
        · obtain ⟨a, b, c, d, ⟨o', ho', e⟩, f⟩ := n2 x hx
          exact ⟨a, b, c, d, ⟨o', List.mem_cons_of_mem _ ho', e⟩,
            fun y hy => f y ((mem_geneInsert _ _ _).mpr (.inr hy))⟩
      · simp only [List.map_cons, List.nodup_cons]
        refine ⟨?_, n3⟩
        intro hmem
        obtain ⟨x, hx, hxd⟩ := List.mem_map.mp hmem
        exact (n2 x hx).2.2.2.2.2 gene hgmem ⟨hsrc, hxd.symm⟩
      · intro o' ho'
        rcases List.mem_cons.mp ho' with rfl | ho'
        · exact .inr (by simp [hdst])
        · rcases n4 o' ho' with ⟨y, hy, hys, hyd⟩ | hin
          · rcases (mem_geneInsert _ _ _).mp hy with rfl | hy
            · exact .inr (by simp [hyd])
            · exact .inl ⟨y, hy, hys, hyd⟩
          · exact .inr (by simp [hin])

theorem splittable_iff (g : Genome W) (x : Gene W) :
    splittable g x = true ↔ x.en = true ∧ ∀ s, nodeById g.nodes x.src = some s → s.kind ≠ Kind.bias := by
  unfold splittable
  cases nodeById g.nodes x.src <;> simp

theorem pickSplitSmall_spec (g : Genome W) (l : List (Gene W)) (i : Nat) (rs rs' : List Nat) (k : Nat)
    (h : pickSplitSmall g l i rs = .ok (some k, rs')) : ∃ x, i ≤ k ∧ l[k - i]? = some x ∧ splittable g x = true := by
  induction l generalizing i rs with
  | nil => simp [pickSplitSmall] at h
  | cons y ys ih =>
    have hstep : (∃ x, i + 1 ≤ k ∧ ys[k - (i + 1)]? = some x ∧ splittable g x = true) →
        ∃ x, i ≤ k ∧ (y :: ys)[k - i]? = some x ∧ splittable g x = true := by
      rintro ⟨x, hle, hx, hs⟩
      refine ⟨x, by omega, ?_, hs⟩
      have : k - i = (k - (i + 1)) + 1 := by omega
      rw [this]
      simpa using hx
    unfold pickSplitSmall at h
    split at h
    · rename_i hsp
      split at h
      · cases h
      · simp only [Except.ok.injEq, Prod.mk.injEq, Option.some.injEq] at h
        obtain ⟨rfl, _⟩ := h
        exact ⟨y, Nat.le_refl _, by simp, hsp⟩
      · exact hstep (ih _ _ h)
    · exact hstep (ih _ _ h)

theorem pickSplitLarge_spec (g : Genome W) (tries : Nat) (rs rs' : List Nat) (k : Nat)
    (h : pickSplitLarge g tries rs = .ok (some k, rs')) : ∃ x, g.genes[k]? = some x ∧ splittable g x = true := by
  induction tries generalizing rs with
  | zero => simp [pickSplitLarge] at h
  | succ t ih =>
    unfold pickSplitLarge at h
    split at h
    · cases h
    · split at h
      · cases h
      · rename_i x hx
        split at h
        · rename_i hsp
          simp only [Except.ok.injEq, Prod.mk.injEq, Option.some.injEq] at h
          obtain ⟨rfl, _⟩ := h
          exact ⟨x, hx, hsp⟩
        · exact ih _ h

theorem _root_.GoNeat.setEnabledAt_length (l : List (Gene W)) (k : Nat) (b : Bool) : (setEnabledAt l k b).length = l.length :=
  List.length_modify _ _ _

theorem _root_.GoNeat.setEnabledAt_getElem? (genes : List (Gene W)) (k i : Nat) (b : Bool) :
    (setEnabledAt genes k b)[i]? = if k = i then genes[i]?.map (fun x => { x with en := b }) else genes[i]? := by
  unfold setEnabledAt
  rw [List.getElem?_modify]
  split <;> simp

/-- position by position a gene is untouched, or sits at `k` and has only its flag set to `v` -/
theorem _root_.GoNeat.setEnabledAt_pointwise {l : List (Gene W)} {k i : Nat} {v : Bool} {a b : Gene W}
    (ha : l[i]? = some a) (hb : (setEnabledAt l k v)[i]? = some b) : b = a ∨ (k = i ∧ b = { a with en := v }) := by
  rw [setEnabledAt_getElem?, ha] at hb
  split at hb
  · next hk => exact .inr ⟨hk, (Option.some.inj hb).symm⟩
  · exact .inl (Option.some.inj hb).symm

/-- re-enable is `setEnabledAt` at the first disabled gene; with none, the index is the length and nothing is touched -/
theorem _root_.GoNeat.reenableFirst_eq (l : List (Gene W)) :
    reenableFirst l = setEnabledAt l (l.findIdx (fun x => !x.en)) true := by
  induction l with
  | nil => rfl
  | cons x xs ih =>
    unfold reenableFirst
    rw [List.findIdx_cons]
    cases hx : !x.en
    · rw [if_neg Bool.false_ne_true, ih]; rfl
    · rfl

/-- the genome after its gene `old` at position `k` was split: `old` disabled, a hidden node `n` inserted, and the genes
    `old.src → n` (number `i1`, weight 1, `old`'s flag) and `n → old.dst` (number `i2`, `old`'s weight, non-recurrent) -/
def splitAt (g : Genome W) (k : Nat) (old : Gene W) (n i1 i2 : Int) (act : Nat) (tr0 : Option Int) : Genome W :=
  { g with
    genes := geneInsert (geneInsert (setEnabledAt g.genes k false)
        { inn := i1, src := old.src, dst := n, recur := old.recur, w := one, mnum := zero, en := true, trait := old.trait })
        { inn := i2, src := n, dst := old.dst, recur := false, w := old.w, mnum := zero, en := true, trait := old.trait },
    nodes := nodeInsert g.nodes { id := n, kind := Kind.hidden, act := act, trait := tr0 } }

/-- every `ok` outcome of add-node (last index: the result flag): nothing happened; the chosen gene was disabled but the
    node its record names is already in the genome; or the gene was split with the recorded / with fresh numbers -/
inductive AddNodeOut (g : Genome W) (reg : Reg W) : Genome W → Reg W → Bool → Prop
  | noop : AddNodeOut g reg g reg false
  | known {k : Nat} {old : Gene W} {i : Innov W} (hk : g.genes[k]? = some old) (hsp : splittable g old = true)
      (hf : reg.records.find? (C03.nodeMatch old.src old.dst old.inn) = some i) (hn : g.hasNode i.newNode = true) :
      AddNodeOut g reg { g with genes := setEnabledAt g.genes k false } reg false
  | recorded {k : Nat} {old : Gene W} {i : Innov W} {tr0 : Option Int} (hk : g.genes[k]? = some old)
      (hsp : splittable g old = true) (hf : reg.records.find? (C03.nodeMatch old.src old.dst old.inn) = some i)
      (hn : g.hasNode i.newNode = false) (htr : traitAt g 0 = .ok tr0) :
      AddNodeOut g reg (splitAt g k old i.newNode i.inn i.inn2 defaultActivation tr0) reg true
  | fresh {k : Nat} {old : Gene W} {tr0 : Option Int} {act : Nat} (hk : g.genes[k]? = some old)
      (hsp : splittable g old = true) (hf : reg.records.find? (C03.nodeMatch old.src old.dst old.inn) = none)
      (htr : traitAt g 0 = .ok tr0) :
      AddNodeOut g reg (splitAt g k old (reg.nextNode + 1) (reg.nextInn + 1) (reg.nextInn + 1 + 1) act tr0)
        ((reg.nextNodeId.2.nextInnovation.2.nextInnovation.2).store
          { typ := 1, inId := old.src, outId := old.dst, inn := reg.nextInn + 1, inn2 := reg.nextInn + 1 + 1, w := zero,
            traitNum := 0, newNode := reg.nextNode + 1, oldInn := old.inn, recur := false }) true

theorem AddNodeOut.split {g g' : Genome W} {reg reg' : Reg W} (h : AddNodeOut g reg g' reg' true) :
    ∃ k old n i1 i2 act tr0, g.genes[k]? = some old ∧ splittable g old = true ∧ g' = splitAt g k old n i1 i2 act tr0 ∧
      C03.resolveNode reg old.src old.dst old.inn = ((n, i1, i2), reg') := by
  cases h with
  | recorded hk hsp hf hn htr =>
    refine ⟨_, _, _, _, _, _, _, hk, hsp, rfl, ?_⟩
    unfold C03.resolveNode
    rw [hf]
  | fresh hk hsp hf htr =>
    refine ⟨_, _, _, _, _, _, _, hk, hsp, rfl, ?_⟩
    unfold C03.resolveNode
    rw [hf]
    rfl

theorem mutateAddNode_cases {g g' : Genome W} {reg reg' : Reg W} {o : MutOpts W} {rs rs' : List Nat} {res : Bool}
    (h : mutateAddNode g reg o rs = .ok ((g', reg', res), rs')) : AddNodeOut g reg g' reg' res := by
  unfold mutateAddNode at h
  split at h
  · simp only [Except.ok.injEq, Prod.mk.injEq] at h
    obtain ⟨⟨rfl, rfl, rfl⟩, _⟩ := h
    exact .noop
  · simp only at h
    split at h
    · cases h
    · simp only [Except.ok.injEq, Prod.mk.injEq] at h
      obtain ⟨⟨rfl, rfl, rfl⟩, _⟩ := h
      exact .noop
    · rename_i k rs1 hpick
      have hsp : ∃ x, g.genes[k]? = some x ∧ splittable g x = true := by
        split at hpick
        · obtain ⟨x, _, hx, hs⟩ := pickSplitSmall_spec g g.genes 0 rs rs1 k hpick
          exact ⟨x, by simpa using hx, hs⟩
        · exact pickSplitLarge_spec g 20 rs rs1 k hpick
      obtain ⟨old, hold, hsplit⟩ := hsp
      rw [hold] at h
      simp only at h
      split at h
      · rename_i inn hfind
        split at h
        · cases h
        · rename_i tr0 htr
          split at h
          · rename_i hhas
            simp only [Except.ok.injEq, Prod.mk.injEq] at h
            obtain ⟨⟨rfl, rfl, rfl⟩, _⟩ := h
            exact .known hold hsplit hfind hhas
          · rename_i hhas
            simp only [Except.ok.injEq, Prod.mk.injEq] at h
            obtain ⟨⟨rfl, rfl, rfl⟩, _⟩ := h
            exact .recorded hold hsplit hfind (Bool.eq_false_iff.mpr hhas) htr
      · rename_i hfind
        split at h
        · cases h
        · rename_i tr0 htr
          split at h
          · cases h
          · simp only [Except.ok.injEq, Prod.mk.injEq] at h
            obtain ⟨⟨rfl, rfl, rfl⟩, _⟩ := h
            exact .fresh hold hsplit hfind htr

end GoNeat.MutateLemmas
