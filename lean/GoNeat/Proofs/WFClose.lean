/-
  C01's pool invariant: `Fits reg P g` (`g` is well-formed, satisfies the registry invariant, is of the node lineage of and
  shares its first gene with every member of the pool `P`) and `PoolOk reg P` (every member fits).  Every operator keeps
  both; a structural mutator shows `StructOut`, and `StructOut.closed` does the rest.
-/
import GoNeat.Proofs.WFStep
import GoNeat.Proofs.WFMate2

namespace GoNeat.C01
open GoNeat Scalar
variable {W : Type} [Scalar W]

omit [Scalar W] in
theorem SharedHead.symm {a b : Genome W} (h : SharedHead a b) : SharedHead b a := Eq.symm h
omit [Scalar W] in
theorem SharedHead.trans {a b c : Genome W} (h1 : SharedHead a b) (h2 : SharedHead b c) : SharedHead a c := Eq.trans h1 h2

structure Fits (reg : Reg W) (P : List (Genome W)) (g : Genome W) : Prop where
  wft : WFT g
  nomod : g.modules = []
  rinv : RegInv reg g
  hbr : HeadBelowRecords reg g
  nodes : ∀ b ∈ P, NodeLineage g b
  head : ∀ b ∈ P, SharedHead g b

instance (reg : Reg W) (P : List (Genome W)) (g : Genome W) : Decidable (Fits reg P g) :=
  if h : WFT g ∧ g.modules = [] ∧ RegInv reg g ∧ HeadBelowRecords reg g ∧ (∀ b ∈ P, NodeLineage g b) ∧ (∀ b ∈ P, SharedHead g b)
  then isTrue ⟨h.1, h.2.1, h.2.2.1, h.2.2.2.1, h.2.2.2.2.1, h.2.2.2.2.2⟩
  else isFalse (fun f => h ⟨f.wft, f.nomod, f.rinv, f.hbr, f.nodes, f.head⟩)

def PoolOk (reg : Reg W) (P : List (Genome W)) : Prop := ∀ g ∈ P, Fits reg P g
instance (reg : Reg W) (P : List (Genome W)) : Decidable (PoolOk reg P) := by unfold PoolOk; infer_instance

omit [Scalar W] in
theorem PoolOk.add {reg : Reg W} {P : List (Genome W)} {c : Genome W} (hP : PoolOk reg P) (hc : Fits reg P c) :
    PoolOk reg (P ++ [c]) := by
  intro g hg
  rcases List.mem_append.mp hg with hg' | hg'
  · have f := hP g hg'
    refine ⟨f.wft, f.nomod, f.rinv, f.hbr, ?_, ?_⟩
    · intro b hb
      rcases List.mem_append.mp hb with hb' | hb'
      · exact f.nodes b hb'
      · simp only [List.mem_singleton] at hb'; subst hb'; exact (hc.nodes g hg').symm
    · intro b hb
      rcases List.mem_append.mp hb with hb' | hb'
      · exact f.head b hb'
      · simp only [List.mem_singleton] at hb'; subst hb'; exact (hc.head g hg').symm
  · simp only [List.mem_singleton] at hg'
    subst hg'
    refine ⟨hc.wft, hc.nomod, hc.rinv, hc.hbr, ?_, ?_⟩
    · intro b hb
      rcases List.mem_append.mp hb with hb' | hb'
      · exact hc.nodes b hb'
      · simp only [List.mem_singleton] at hb'; subst hb'; exact NodeLineage.refl _ hc.wft.wf.nodesSorted
    · intro b hb
      rcases List.mem_append.mp hb with hb' | hb'
      · exact hc.head b hb'
      · simp only [List.mem_singleton] at hb'; subst hb'; rfl

omit [Scalar W] in
theorem Fits.ext {reg reg' : Reg W} {P : List (Genome W)} {g : Genome W} (h : Fits reg P g) (he : RegExt reg reg')
    (hok : RegOk reg') : Fits reg' P g :=
  ⟨h.wft, h.nomod, h.rinv.ext he hok, h.hbr.ext h.rinv.above he, h.nodes, h.head⟩

omit [Scalar W] in
theorem PoolOk.ext {reg reg' : Reg W} {P : List (Genome W)} (h : PoolOk reg P) (he : RegExt reg reg') (hok : RegOk reg') :
    PoolOk reg' P := fun g hg => (h g hg).ext he hok

omit [Scalar W] in
theorem ioIds_of_shape (g g' : Genome W) (h : g'.nodes.map Node.shape = g.nodes.map Node.shape) : ioIds g' = ioIds g := by
  have key : ∀ l : List Node, (l.filter (fun n => n.kind != Kind.hidden)).map (·.id) =
      ((l.map Node.shape).filter (fun p => p.2 != Kind.hidden)).map (·.1) := by
    intro l
    induction l with
    | nil => rfl
    | cons a t ih =>
      simp only [List.filter_cons, List.map_cons, Node.shape]
      split <;> simp_all
  unfold ioIds
  rw [key, key, h]

omit [Scalar W] in
theorem SameSkel.nodeLineage {g g' b : Genome W} (hs : SameSkel g g') (hl : NodeLineage g b) : NodeLineage g' b := by
  refine ⟨?_, by rw [hs.tids]; exact hl.2.1, by rw [ioIds_of_shape g g' hs.nodes]; exact hl.2.2⟩
  intro m hm' k hk e
  obtain ⟨n, hn, en⟩ := exists_of_map_eq Node.shape hs.nodes hm'
  unfold Node.shape at en
  simp only [Prod.mk.injEq] at en
  rw [← en.2]; exact hl.1 n hn k hk (by rw [en.1, e])

omit [Scalar W] in
theorem Fits.skel {reg : Reg W} {P : List (Genome W)} {g g' : Genome W} (h : Fits reg P g) (hs : SameSkel g g')
    (hr : TraitRefsOwned g') : Fits reg P g' := by
  refine ⟨hs.wft hr h.wft, by rw [hs.mods]; exact h.nomod, hs.regInv reg h.rinv, h.hbr.congr hs.head,
    fun b hb => hs.nodeLineage (h.nodes b hb), fun b hb => ?_⟩
  have := h.head b hb
  unfold SharedHead at this ⊢
  rw [hs.head]; exact this

omit [Scalar W] in
theorem PoolOk.skel {reg : Reg W} {P P' : List (Genome W)} (h : PoolOk reg P)
    (hre : ∀ g' ∈ P', ∃ g ∈ P, SameSkel g g' ∧ TraitRefsOwned g') : PoolOk reg P' := by
  intro g' hg'
  obtain ⟨g, hg, hs, hr⟩ := hre g' hg'
  have f := (h g hg).skel hs hr
  refine ⟨f.wft, f.nomod, f.rinv, f.hbr, fun b' hb' => ?_, fun b' hb' => ?_⟩ <;> obtain ⟨b, hb, hsb, _⟩ := hre b' hb'
  · exact (hsb.nodeLineage (f.nodes b hb).symm).symm
  · exact (f.head b hb).trans hsb.head.symm

/-! What the pool invariant says of the registry and of node roles, as a statement over bindings that obeys `C03.RegLaws`:
every binding agrees with the registry (`Sound`) and no node id has two roles (the first clause of `NodeLineage`, pairwise).
A step the registry justifies (`C03.Keeps`) keeps it; the rest of `Fits` is about the genome alone (`C16.LStep`). -/

def PoolI (reg : Reg W) (B : List C03.Bind) (R : List C03.Role) : Prop := Sound reg B R ∧ C03.ConsistentR R

omit [Scalar W] in
theorem poolI_laws : C03.RegLaws (PoolI (W := W)) where
  congr := fun h hs hs' hr => ⟨sound_laws.congr h.1 hs hs' hr, fun a ha b hb e => h.2 a (hr ha) b (hr hb) e⟩
  issue := fun h hi hs => ⟨sound_laws.issue h.1 hi hs, h.2⟩
  link := fun h hi t => ⟨sound_laws.link h.1 hi t, h.2⟩
  split := fun {reg i B R y} h hi t hy ho => by
    have hid : ∀ a ∈ R, a.1 = i.newNode → a.2 = Kind.hidden := fun a ha e => (h.1.nodes a ha).2 i hi t e
    refine ⟨sound_laws.split h.1 hi t hy ho, fun a ha b hb e => ?_⟩
    rcases List.mem_cons.mp ha with rfl | ha <;> rcases List.mem_cons.mp hb with rfl | hb
    · rfl
    · exact (hid b hb e.symm).symm
    · exact hid a ha e
    · exact h.2 a ha b hb e

theorem poolI_of {reg : Reg W} {P : List (Genome W)} {g : Genome W} (hP : PoolOk reg P) (hf : Fits reg P g) :
    PoolI reg (C03.gb g ++ C03.binds P) (C03.gr g ++ C03.roles P) := by
  have hin : ∀ x, x = g ∨ x ∈ P → WFT x ∧ RegInv reg x ∧ ∀ y, y = g ∨ y ∈ P → x = y ∨ NodeLineage x y := by
    rintro x (rfl | hx)
    · exact ⟨hf.wft, hf.rinv, fun y hy => hy.elim (fun e => .inl e.symm) (fun hy => .inr (hf.nodes y hy))⟩
    · exact ⟨(hP x hx).wft, (hP x hx).rinv, fun y hy => hy.elim (fun e => .inr (e ▸ (hf.nodes x hx).symm))
        (fun hy => .inr ((hP x hx).nodes y hy))⟩
  have mb : ∀ b ∈ C03.gb g ++ C03.binds P, ∃ x, (x = g ∨ x ∈ P) ∧ b ∈ C03.gb x := fun b hb =>
    (List.mem_append.mp hb).elim (fun h => ⟨g, .inl rfl, h⟩) (fun h => let ⟨x, hx, hb⟩ := List.mem_flatMap.mp h; ⟨x, .inr hx, hb⟩)
  have mr : ∀ r ∈ C03.gr g ++ C03.roles P, ∃ x, (x = g ∨ x ∈ P) ∧ r ∈ C03.gr x := fun r hr =>
    (List.mem_append.mp hr).elim (fun h => ⟨g, .inl rfl, h⟩) (fun h => let ⟨x, hx, hr⟩ := List.mem_flatMap.mp h; ⟨x, .inr hx, hr⟩)
  refine ⟨⟨fun b hb => ?_, fun r hr => ?_, hf.rinv.ok⟩, fun a ha b hb e => ?_⟩
  · obtain ⟨x, hx, hb⟩ := mb b hb
    exact (regInv_iff_sound.mp (hin x hx).2.1).genes b hb
  · obtain ⟨x, hx, hr⟩ := mr r hr
    exact (regInv_iff_sound.mp (hin x hx).2.1).nodes r hr
  · obtain ⟨x, hx, ha⟩ := mr a ha
    obtain ⟨y, hy, hb⟩ := mr b hb
    obtain ⟨n, hn, rfl⟩ := List.mem_map.mp ha
    obtain ⟨m, hm, rfl⟩ := List.mem_map.mp hb
    rcases (hin x hx).2.2 y hy with rfl | hl
    · rw [node_unique x.nodes (hin x hx).1.wf.nodesSorted n m hn hm e]
    · exact hl.1 n hn m hm e

/-- `RegExt reg ·` says nothing of the bindings, so it obeys the laws trivially -/
theorem _root_.GoNeat.C03.Keeps.regExt {g g' : Genome W} {reg reg' : Reg W} (hk : C03.Keeps g reg g' reg') : RegExt reg reg' :=
  hk (fun r _ _ => RegExt reg r) ⟨fun h _ _ _ => h, fun h hi _ => h.trans hi.regExt, fun h _ _ => h, fun h _ _ _ _ => h⟩ [] []
    (RegExt.refl reg)

theorem _root_.GoNeat.C03.Keeps.regInv {g g' : Genome W} {reg reg' : Reg W} (hk : C03.Keeps g reg g' reg') (hi : RegInv reg g) :
    RegInv reg' g' := by
  have h := hk Sound sound_laws [] [] (by rw [List.append_nil, List.append_nil]; exact regInv_iff_sound.mp hi)
  rw [List.append_nil, List.append_nil] at h
  exact regInv_iff_sound.mpr h

theorem _root_.GoNeat.C03.Keeps.hbr {g g' : Genome W} {reg reg' : Reg W} (hk : C03.Keeps g reg g' reg') (hi : RegInv reg g)
    (hb : HeadBelowRecords reg g) (hs : C16.LStep g g') : HeadBelowRecords reg' g' :=
  (hb.ext hi.above hk.regExt).congr hs.head

theorem struct_closed {reg reg' : Reg W} {P : List (Genome W)} {g g' : Genome W} (hP : PoolOk reg P) (hf : Fits reg P g)
    (hk : C03.Keeps g reg g' reg') (hs : C16.LStep g g') (hw' : WFT g') : Fits reg' P g' ∧ PoolOk reg' P := by
  obtain ⟨hsound, hroles⟩ := hk PoolI poolI_laws _ _ (poolI_of hP hf)
  have hext := hk.regExt
  have hi' : RegInv reg' g' := regInv_iff_sound.mpr (hsound.mono (List.subset_append_left _ _) (List.subset_append_left _ _))
  refine ⟨⟨hw', by rw [hs.mods]; exact hf.nomod, hi', (hf.hbr.ext hf.rinv.above hext).congr hs.head, fun b hb =>
    ⟨fun m hm k hk e => ?_, by rw [hs.tids]; exact (hf.nodes b hb).2.1, by rw [C16.ioIds_lstep hs hf.wft hw']; exact (hf.nodes b hb).2.2⟩,
    fun b hb => ?_⟩, hP.ext hext hsound.ok⟩
  · exact hroles _ (List.mem_append_left _ (List.mem_map_of_mem hm)) _ (List.mem_append_right _ (C03.mem_roles_of_mem hb hk)) e
  · have := hf.head b hb
    unfold SharedHead at this ⊢
    rw [hs.head]; exact this

/-- what a structural mutator has to show; the step is an `LStep` only when the first gene is below every recorded number
    (else a gene with a recorded number may come to stand first) -/
def StructOut (g : Genome W) (reg : Reg W) (g' : Genome W) (reg' : Reg W) : Prop :=
  WFT g' ∧ RegInv reg' g' ∧ C03.Keeps g reg g' reg' ∧ (HeadBelowRecords reg g → C16.LStep g g')

theorem StructOut.refl {g : Genome W} {reg : Reg W} (hw : WFT g) (hi : RegInv reg g) : StructOut g reg g reg :=
  ⟨hw, hi, .refl _ _, fun _ => .refl _⟩

theorem StructOut.closed {reg reg' : Reg W} {P : List (Genome W)} {g g' : Genome W} (h : StructOut g reg g' reg')
    (hP : PoolOk reg P) (hf : Fits reg P g) : Fits reg' P g' ∧ PoolOk reg' P :=
  struct_closed hP hf h.2.2.1 (h.2.2.2 hf.hbr) h.1

theorem child_closed {reg : Reg W} {P : List (Genome W)} {g og c : Genome W} {id : Int} {nh : Bool}
    (h1 : Fits reg P g) (h2 : Fits reg P og) (hl : NodeLineage g og) (hh : SharedHead g og) (ho : MateOut g og id c nh) :
    Fits reg P c := by
  obtain ⟨w, _, _, m, s1, _, nl, ri⟩ := mateOut_closed g og id c nh h1.wft h2.wft hl hh ho
  -- the child's first gene carries the number of its parent's first gene
  exact ⟨w, m, ri reg h1.rinv h2.rinv, h1.hbr.congr s1, fun b hb => nl b (h1.nodes b hb) (h2.nodes b hb),
    fun b hb => SharedHead.trans s1 (h1.head b hb)⟩

end GoNeat.C01
