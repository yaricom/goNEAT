/-
  A small exact `Scalar` instance on `Int` (core only), used for non-vacuity examples and machine-checked
  counterexamples (the solver properties C12, C13 among them), and a toy `ActivateByType` on it.
  Only `zero one add sub mul neg abs lt le eq ofInt` are meaningful; the remaining fields are placeholders
  that no solver definition uses.
-/
import GoNeat.Model.Scalar

namespace GoNeat.ExactInt

@[instance_reducible] def intScalar : Scalar Int where
  zero := 0
  one := 1
  add := (· + ·)
  sub := (· - ·)
  mul := (· * ·)
  div := (· / ·)
  neg := fun x => -x
  abs := fun x => (x.natAbs : Int)
  lt := fun a b => decide (a < b)
  le := fun a b => decide (a ≤ b)
  eq := fun a b => decide (a = b)
  ofInt := id
  ofDec := fun m e => (m / 10 ^ e : Nat)
  ofUnit63 := fun _ => 0
  floorInt := id
  floor := id
  fmod1 := fun _ => 0
  f32IsOne := fun x => x == 1
  f32Ge03 := fun x => decide (x ≥ 1)
  maxVal := 2 ^ 1023

scoped instance : Scalar Int := intScalar

/-- toy activator table: 14 = linear, 15 = absolute value, 17 = null (as in activations.go), 16 = clip to [-1,1] -/
def sigmaInt (a : Nat) (x : Int) : Option Int :=
  match a with
  | 14 => some x
  | 15 => some (x.natAbs : Int)
  | 16 => some (if x < -1 then -1 else if x > 1 then 1 else x)
  | 17 => some 0
  | _ => none

end GoNeat.ExactInt
