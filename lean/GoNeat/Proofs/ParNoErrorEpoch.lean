/-
  C16 / C02 "without error" for the PARALLEL executor, part 3: every scheduler, the channel, the join, the whole epoch.

  The rely/guarantee pair of Proofs/ParNoError.lean survives every pick of every scheduler (`runSched_safe`).  The only model
  error `collect` itself can produce is "par:goroutineNotFinished", when a goroutine whose result is awaited has not returned;
  the babies of all goroutines add up to `PopSize`, so the size check cannot fire.  A `Prog` is a well-founded tree: a
  goroutine returns after finitely many of its own steps whatever the others do, so the hypothesis `PhaseExec` ("the schedule
  is an execution") is satisfiable for every input (`exists_complete_schedule`).
  Kind A.
-/
import GoNeat.Proofs.ParNoErrorSpecies
import GoNeat.Proofs.ParFrameEpoch
import GoNeat.Proofs.NoErrorEpoch

set_option linter.unusedSectionVars false

namespace GoNeat.C16
open GoNeat Scalar GoNeat.NoErr GoNeat.C01 GoNeat.C02 GoNeat.C09
variable {W : Type} [Scalar W] {α : Type}

def SchedOk (T : Nat) (Post : Nat → α → Prop) (st : PState W α) : Prop :=
  TraitRecs T st.reg.records ∧ ∀ t p, st.threads[t]? = some p → PSafe T (Post t) p

theorem pstep_safe {T : Nat} {Post : Nat → α → Prop} {st : PState W α} (h : SchedOk T Post st) (i : Nat) :
    SchedOk T Post (pstep st i) := by
  unfold pstep
  split
  · exact h
  · next p hp =>
    have hsafe := h.2 i p hp
    have hthreads : ∀ (q : Prog W α), PSafe T (Post i) q →
        ∀ t p', (st.threads.set i q)[t]? = some p' → PSafe T (Post t) p' := by
      intro q hq t p' ht
      rw [List.getElem?_set] at ht
      split at ht
      · next hit =>
        subst hit
        split at ht
        · cases ht; exact hq
        · cases ht
      · exact h.2 t p' ht
    cases hsafe with
    | done hpost => exact ⟨h.1, hthreads _ (.done hpost)⟩
    | snap hk => exact ⟨h.1, hthreads _ (hk _ h.1)⟩
    | nextNode hk => exact ⟨h.1, hthreads _ (hk _)⟩
    | nextInn hk => exact ⟨h.1, hthreads _ (hk _)⟩
    | store hi hk =>
      refine ⟨?_, hthreads _ hk⟩
      intro j hj
      simp only [Prog.step, Reg.store, List.mem_append, List.mem_singleton] at hj
      rcases hj with hj | rfl
      · exact h.1 j hj
      · exact hi

theorem runSched_safe {T : Nat} {Post : Nat → α → Prop} (sched : List Nat) :
    ∀ {st : PState W α}, SchedOk T Post st → SchedOk T Post (runSched st sched) :=
  fun {st} => runSched_induction (SchedOk T Post) (fun _ i h => pstep_safe h i) sched st

def quotaOf (p1 : Pop W) (t : Nat) : Nat := (p1.species.map (fun s => s.expectedOffspring.toNat)).getD t 0

theorem valid_getD (streams : List (List Nat)) (h : ∀ s ∈ streams, Valid s) (i : Nat) : Valid (streams.getD i []) := by
  unfold List.getD
  cases hs : streams[i]? with
  | none => intro x hx; cases hx
  | some s => exact h s (List.mem_of_getElem? hs)

theorem speciesThreads_safe (hlaw : UnitMulLe W) (hpick : PickLaw W) (o : EpochOpts W) (ha : ActOk o.mopts) (generation : Int)
    (p1 : Pop W) (ex : ExecState) (streams : List (List Nat)) (hstreams : ∀ s ∈ streams, Valid s) (S : List Nat)
    (hne1 : ∀ s ∈ p1.species, s.orgs ≠ [])
    (hsne : (ex.sortedIds.filterMap (fun i => p1.species.find? (·.id == i))) ≠ [])
    (henv : PoolEnv S p1.reg (genomesOfPop p1)) :
    SchedOk S.length (fun t => OkV (Delivers S (quotaOf p1 t)))
      ({ reg := p1.reg, threads := speciesThreads o generation p1 ex streams } : PState W (BRes W)) := by
  refine ⟨henv.recs, ?_⟩
  intro t q hq
  obtain ⟨s, hs, rfl⟩ := speciesThreads_getElem? o generation p1 ex streams hq
  have hq : quotaOf p1 t = s.expectedOffspring.toNat := by simp [quotaOf, List.getD, hs]
  show PSafe S.length (OkV (Delivers S (quotaOf p1 t))) _
  rw [hq]
  exact reproduceSpeciesP_safe hlaw hpick o ha generation p1.reg p1.nextUid _ (valid_getD streams hstreams _)
    (ReproEnv.of_pop henv hne1 hsne (List.mem_of_getElem? hs))

def CollectPost (S : List Nat) (quota : Nat → Nat) (threads : List (Prog W (BRes W))) (arrival : List Nat) :
    Except Stop (List (Org W)) → Prop
  | .ok babies => babies.length = (arrival.map quota).sum ∧ ∀ b ∈ babies, shape b.genome = S
  | .error .outOfRandom => True
  | .error (.error msg) => msg = "par:goroutineNotFinished" ∧ ∃ t ∈ arrival, ∀ a, threads[t]? ≠ some (.done a)

theorem collect_safe {T : Nat} (S : List Nat) (quota : Nat → Nat) (threads : List (Prog W (BRes W)))
    (hs : ∀ t p, threads[t]? = some p → PSafe T (OkV (Delivers S (quota t))) p) (arrival : List Nat) :
    CollectPost S quota threads arrival (collect threads arrival) := by
  induction arrival with
  | nil => exact ⟨rfl, by intro b hb; cases hb⟩
  | cons t ts ih =>
    unfold collect
    split
    · next bs uid rs' ht =>
      have hd : OkV (Delivers S (quota t)) True (.ok ((bs, uid), rs')) := (hs t _ ht).result
      obtain ⟨⟨hlen, hshape⟩, _⟩ := hd
      cases hc : collect threads ts with
      | error e =>
        rw [hc] at ih
        cases e with
        | outOfRandom => trivial
        | error m =>
          obtain ⟨h1, t', h2, h3⟩ := ih
          exact ⟨h1, t', List.mem_cons_of_mem _ h2, h3⟩
      | ok rest =>
        rw [hc] at ih
        obtain ⟨h1, h2⟩ := ih
        refine ⟨?_, ?_⟩
        · simp only [List.length_append, List.map_cons, List.sum_cons]
          rw [h1]; exact congrArg (· + _) hlen
        · intro b hb
          rcases List.mem_append.mp hb with hb | hb
          · exact hshape b hb
          · exact h2 b hb
    · next e ht =>
      have hd : OkV (Delivers S (quota t)) True (.error e) := (hs t _ ht).result
      cases e with
      | outOfRandom => trivial
      | error m => exact hd.elim
    · next h1 h2 =>
      refine ⟨rfl, t, List.mem_cons_self, ?_⟩
      intro a ha
      cases a with
      | error e => exact h2 e ha
      | ok v => obtain ⟨⟨bs, uid⟩, rs'⟩ := v; exact h1 bs uid rs' ha

theorem range_map_getD (qs : List Nat) : (List.range qs.length).map (fun t => qs.getD t 0) = qs := by
  apply List.ext_getElem
  · simp
  · intro i h1 h2
    simp only [List.length_map, List.length_range] at h1
    simp [List.getD, h1]

theorem quota_sum (qs : List Nat) (arrival : List Nat) (h : arrival.Perm (List.range qs.length)) :
    (arrival.map (fun t => qs.getD t 0)).sum = qs.sum := by
  rw [(h.map _).sum_nat, range_map_getD]

theorem decodeAll_mem (uid : Nat) (babies : List (Org W)) :
    ∀ x ∈ decodeAll uid babies, ∃ u, ∃ b ∈ babies, x = decodeBaby u b := by
  induction babies generalizing uid with
  | nil => intro x hx; cases hx
  | cons b bs ih =>
    intro x hx
    simp only [decodeAll, List.mem_cons] at hx
    rcases hx with rfl | hx
    · exact ⟨uid, b, List.mem_cons_self, rfl⟩
    · obtain ⟨u, b', hb', e⟩ := ih (uid + 1) x hx
      exact ⟨u, b', List.mem_cons_of_mem _ hb', e⟩

theorem done_of_result {p : Prog W α} (h : p.result?.isSome = true) : ∃ a, p = .done a := by
  cases p <;> simp [Prog.result?] at h
  exact ⟨_, rfl⟩

/-- **the schedule describes an execution of the Go program**: when the main goroutine reads the channel, every species
    goroutine has returned (`wg.Wait()` in the closer goroutine, `close(resChan)`, `range resChan` ends only then), and
    every result is delivered exactly once (`arrival` is a permutation of the goroutine indices).  Decidable. -/
def PhaseExec (o : EpochOpts W) (generation : Int) (p1 : Pop W) (ex : ExecState) (ps : ParSchedule) : Prop :=
  (∀ q ∈ (runSched ({ reg := p1.reg, threads := speciesThreads o generation p1 ex ps.streams } : PState W (BRes W)) ps.sched).threads,
      q.result?.isSome = true) ∧
  ps.arrival.Perm (List.range (speciesThreads o generation p1 ex ps.streams).length)

instance (o : EpochOpts W) (generation : Int) (p1 : Pop W) (ex : ExecState) (ps : ParSchedule) :
    Decidable (PhaseExec o generation p1 ex ps) := by unfold PhaseExec; infer_instance

def ExecPost {β : Type} (Q : β → Prop) (exec : Prop) : Except Stop β → Prop
  | .ok b => Q b
  | .error .outOfRandom => True
  | .error (.error msg) => ¬ exec ∧ (msg = "par:goroutineNotFinished" ∨ msg = "par:arrivalNotAPermutation")

theorem ExecPost.ne {β : Type} {Q : β → Prop} {exec : Prop} {r : Except Stop β} (h : ExecPost Q exec r) (hex : exec) (msg : String) :
    r ≠ .error (.error msg) := by
  intro e; rw [e] at h; exact h.1 hex

theorem speciesThreads_length (o : EpochOpts W) (generation : Int) (p1 : Pop W) (ex : ExecState) (streams : List (List Nat)) :
    (speciesThreads o generation p1 ex streams).length = p1.species.length := by
  simp [speciesThreads]

theorem parReproducePhase_safe (hlaw : UnitMulLe W) (hpick : PickLaw W) (o : EpochOpts W) (ha : ActOk o.mopts)
    (hct : eq o.compatThreshold zero = false) (hpop : 1 ≤ o.popSize) (generation : Int) (p1 : Pop W) (ex : ExecState)
    (ps : ParSchedule) (hstreams : ∀ s ∈ ps.streams, Valid s) (S : List Nat)
    (hne1 : ∀ s ∈ p1.species, s.orgs ≠ [])
    (hsne : (ex.sortedIds.filterMap (fun i => p1.species.find? (·.id == i))) ≠ [])
    (henv : PoolEnv S p1.reg (genomesOfPop p1))
    (hq : quotaSum p1.species = o.popSize) (hnn : ∀ s ∈ p1.species, 0 ≤ s.expectedOffspring) :
    ExecPost (fun p2 => (∀ x ∈ allOrgs p2, x ∈ allOrgs p1 ∨ Newborn S x) ∧ p2.organisms = p1.organisms)
      (PhaseExec o generation p1 ex ps) (parReproducePhase o generation p1 ex ps) := by
  have hstart := speciesThreads_safe hlaw hpick o ha generation p1 ex ps.streams hstreams S hne1 hsne henv
  have hend := runSched_safe ps.sched hstart
  have hlenT := runSched_length ps.sched
    ({ reg := p1.reg, threads := speciesThreads o generation p1 ex ps.streams } : PState W (BRes W))
  have hcol := collect_safe S (quotaOf p1) _ hend.2 ps.arrival
  unfold parReproducePhase
  simp only
  split
  · next hperm => exact ⟨fun hex => hperm hex.2, Or.inr rfl⟩
  · next hperm =>
    have hperm' : ps.arrival.Perm (List.range (speciesThreads o generation p1 ex ps.streams).length) := by
      simpa using hperm
    split
    · next e he =>
      rw [he] at hcol
      cases e with
      | outOfRandom => trivial
      | error m =>
        obtain ⟨hm, t, ht, hnot⟩ := hcol
        refine ⟨fun hex => ?_, Or.inl hm⟩
        have htl : t < (speciesThreads o generation p1 ex ps.streams).length :=
          List.mem_range.mp (hperm'.mem_iff.mp ht)
        rw [← hlenT] at htl
        obtain ⟨a, hda⟩ := done_of_result (hex.1 _ (List.getElem_mem htl))
        exact hnot a (by rw [List.getElem?_eq_getElem htl, hda])
    · next babies he =>
      rw [he] at hcol
      obtain ⟨hlen, hshape⟩ := hcol
      have hsum : babies.length = o.popSize := by
        rw [speciesThreads_length] at hperm'
        have h1 : (ps.arrival.map (quotaOf p1)).sum = (p1.species.map (fun s => s.expectedOffspring.toNat)).sum := by
          have := quota_sum (p1.species.map (fun s => s.expectedOffspring.toNat)) ps.arrival (by simpa using hperm')
          exact this
        have h2 := toNat_sum_of_nonneg p1.species hnn
        have : ((babies.length : Nat) : Int) = (o.popSize : Int) := by rw [hlen, h1, h2, hq]
        exact_mod_cast this
      rw [if_neg (by simpa using hsum)]
      obtain ⟨hdu, hdg⟩ := decodeAll_spec p1.nextUid babies
      have hdne : decodeAll p1.nextUid babies ≠ [] := by
        intro e
        have := congrArg List.length hdu
        rw [e] at this
        simp at this
        omega
      have hsp := safe_speciate o ({ p1 with reg := (runSched ({ reg := p1.reg, threads := speciesThreads o generation p1 ex ps.streams } :
        PState W (BRes W)) ps.sched).reg }) (decodeAll p1.nextUid babies) hdne hct
      obtain ⟨p2, hp2, _⟩ := hsp.ok
      rw [hp2]
      have hnb : ∀ x ∈ decodeAll p1.nextUid babies, Newborn S x := by
        intro x hx
        obtain ⟨u, b, hb, rfl⟩ := decodeAll_mem _ _ x hx
        exact ⟨hshape b hb, rfl⟩
      have hpost := speciate_newborn hp2 hnb
      exact hpost

theorem pstep_done_stable (st : PState W α) (i t : Nat) (a : α) (h : st.threads[t]? = some (.done a)) :
    (pstep st i).threads[t]? = some (.done a) := by
  unfold pstep
  split
  · exact h
  · next p hp =>
    simp only
    rw [List.getElem?_set]
    split
    · next hit =>
      subst hit
      rw [hp] at h
      cases h
      have hlt : i < st.threads.length := (List.getElem?_eq_some_iff.mp hp).1
      simp [hlt, Prog.step]
    · exact h

theorem runSched_done_stable (sched : List Nat) (st : PState W α) (t : Nat) (a : α) (h : st.threads[t]? = some (.done a)) :
    (runSched st sched).threads[t]? = some (.done a) :=
  runSched_induction (fun st' => st'.threads[t]? = some (.done a)) (fun st' i h' => pstep_done_stable st' i t a h') sched st h

theorem runSched_append (st : PState W α) (s1 s2 : List Nat) : runSched st (s1 ++ s2) = runSched (runSched st s1) s2 := by
  simp [runSched, List.foldl_append]

theorem pstep_self (st : PState W α) (i : Nat) (p : Prog W α) (hp : st.threads[i]? = some p) :
    (pstep st i).threads[i]? = some (p.step st.reg).1 ∧ (pstep st i).reg = (p.step st.reg).2 := by
  have hlt : i < st.threads.length := (List.getElem?_eq_some_iff.mp hp).1
  unfold pstep
  rw [hp]
  simp [hlt]

theorem finish_thread (p : Prog W α) : ∀ (st : PState W α) (i : Nat), st.threads[i]? = some p →
    ∃ n a, (runSched st (List.replicate n i)).threads[i]? = some (.done a) := by
  have next : ∀ (st : PState W α) (i : Nat) (q : Prog W α), (pstep st i).threads[i]? = some q →
      (∃ n a, (runSched (pstep st i) (List.replicate n i)).threads[i]? = some (.done a)) →
      ∃ n a, (runSched st (List.replicate n i)).threads[i]? = some (.done a) := by
    intro st i q _ ⟨n, a, h⟩
    exact ⟨n + 1, a, by rw [List.replicate_succ]; exact h⟩
  induction p with
  | done a => intro st i h; exact ⟨0, a, h⟩
  | snap k ih =>
    intro st i h
    have h1 := (pstep_self st i _ h).1
    exact next st i _ h1 (ih _ _ i h1)
  | nextNode k ih =>
    intro st i h
    have h1 := (pstep_self st i _ h).1
    exact next st i _ h1 (ih _ _ i h1)
  | nextInn k ih =>
    intro st i h
    have h1 := (pstep_self st i _ h).1
    exact next st i _ h1 (ih _ _ i h1)
  | store r k ih =>
    intro st i h
    have h1 := (pstep_self st i _ h).1
    exact next st i _ h1 (ih _ i h1)

theorem exists_complete_schedule (st : PState W α) :
    ∃ sched, ∀ q ∈ (runSched st sched).threads, q.result?.isSome = true := by
  have hk : ∀ k, k ≤ st.threads.length → ∃ sched, ∀ t, t < k → ∃ a, (runSched st sched).threads[t]? = some (.done a) := by
    intro k
    induction k with
    | zero => intro _; exact ⟨[], fun t ht => absurd ht (Nat.not_lt_zero t)⟩
    | succ k ih =>
      intro hle
      obtain ⟨sched, hs⟩ := ih (by omega)
      have hlt : k < (runSched st sched).threads.length := by rw [runSched_length]; omega
      obtain ⟨n, a, hfin⟩ := finish_thread _ (runSched st sched) k (List.getElem?_eq_getElem hlt)
      refine ⟨sched ++ List.replicate n k, fun t ht => ?_⟩
      rw [runSched_append]
      rcases Nat.lt_or_ge t k with h' | h'
      · obtain ⟨a', ha'⟩ := hs t h'
        exact ⟨a', runSched_done_stable _ _ t a' ha'⟩
      · have : t = k := by omega
        subst this
        exact ⟨a, hfin⟩
  obtain ⟨sched, hs⟩ := hk st.threads.length (Nat.le_refl _)
  refine ⟨sched, fun q hq => ?_⟩
  obtain ⟨t, ht, rfl⟩ := List.getElem_of_mem hq
  obtain ⟨a, ha⟩ := hs t (by rw [runSched_length] at ht; exact ht)
  rw [List.getElem?_eq_getElem ht] at ha
  simp only [Option.some.injEq] at ha
  rw [ha]
  rfl

/-- `PhaseExec` for the population the sequential preparation produces -/
def IsExecution (o : EpochOpts W) (generation : Int) (p : Pop W) (ps : ParSchedule) (rs : List Nat) : Prop :=
  match prepareForReproduction o p rs with
  | .error _ => True
  | .ok ((p1, ex), _) => PhaseExec o generation p1 ex ps

instance (o : EpochOpts W) (generation : Int) (p : Pop W) (ps : ParSchedule) (rs : List Nat) :
    Decidable (IsExecution o generation p ps rs) := by
  unfold IsExecution
  split <;> infer_instance

theorem parEpoch_core (hlaw : UnitMulLe W) (hpick : PickLaw W) (S : List Nat) (o : EpochOpts W) (p : Pop W) (h : Hyp S o p)
    (generation : Int) (ps : ParSchedule) (hstreams : ∀ s ∈ ps.streams, Valid s) (rs : List Nat) (hv : Valid rs) :
    ExecPost (fun r => (∀ x ∈ allOrgs r.1, Newborn S x) ∧ Valid r.2) (IsExecution o generation p ps rs)
      (parEpoch o generation p ps rs) := by
  have hprep := safe_prepare o p rs h.pop.nonempty h.species_ne h.pop.size h.opts.popSize h.quota
  unfold parEpoch IsExecution
  cases he : prepareForReproduction o p rs with
  | error e =>
    rw [he] at hprep
    cases e with
    | outOfRandom => trivial
    | error m => exact hprep.elim
  | ok v =>
    obtain ⟨⟨p1, ex⟩, rs1⟩ := v
    have hsne := prepare_order_ne o p p1 ex rs rs1 he
    obtain ⟨hne1, henv1, ht, hn, hu1⟩ := prepared_facts S o p h rs rs1 p1 ex he
    have hrep := parReproducePhase_safe hlaw hpick o h.opts.acts h.opts.compat h.opts.popSize generation p1 ex ps hstreams S
      hne1 hsne henv1 ht hn
    simp only
    cases hr : parReproducePhase o generation p1 ex ps with
    | error e =>
      rw [hr] at hrep
      cases e with
      | outOfRandom => trivial
      | error m => exact hrep
    | ok p2 =>
      rw [hr] at hrep
      obtain ⟨horgs, horg2⟩ := hrep
      exact ⟨finalize_newborn hu1 horgs horg2, (prepareForReproduction_det o p).valid hv he⟩

end GoNeat.C16
