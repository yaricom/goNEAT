/-
  What a successful run of each composite step of an epoch consists of: `speciate`, `reproducePhase`, `nextEpoch`, `spawn`
  are chains of `match … with | .error e => .error e | .ok … => …`; each lemma below reads the chain off a run that
  returned, once, so that the property files reason about the parts.  Likewise what `speciateOne` does to a population
  and what survives the loop of `finalizeReproduction`.
-/
import GoNeat.Model.Epoch

namespace GoNeat
open Scalar
variable {W : Type} [Scalar W]

theorem speciateOne_ok {o : EpochOpts W} {p p' : Pop W} {org : Org W} (h : speciateOne o p org = .ok p') :
    (∃ i, (p.species.isEmpty = false ∧ bestCompatible o org.genome p.species 0 none maxVal = some i) ∧
      p' = { p with species := p.species.modify i (fun s => { s with orgs := s.orgs ++ [org] }) }) ∨
    (∃ s : Species W, s.id = p.lastSpecies + 1 ∧ s.age = 1 ∧ s.isNovel = true ∧ s.orgs = [org] ∧
      (p.species.isEmpty = true ∨ bestCompatible o org.genome p.species 0 none maxVal = none) ∧
      p' = { p with lastSpecies := p.lastSpecies + 1, species := p.species ++ [s] }) := by
  unfold speciateOne at h
  simp only at h
  split at h
  · next he => cases h; exact .inr ⟨_, rfl, rfl, rfl, rfl, .inl he, rfl⟩
  · next he =>
    split at h
    · cases h
    · split at h
      · next i hb => cases h; exact .inl ⟨i, ⟨by simpa using he, hb⟩, rfl⟩
      · next hb => cases h; exact .inr ⟨_, rfl, rfl, rfl, rfl, .inr hb, rfl⟩

/-- a property of (organisms placed so far, population) that every `speciateOne` carries on holds after the loop -/
theorem speciateLoop_induct {o : EpochOpts W} (I : List (Org W) → Pop W → Prop)
    (hstep : ∀ done p org p', I done p → speciateOne o p org = .ok p' → I (done ++ [org]) p') :
    ∀ {orgs done p p'}, I done p → speciateLoop o p orgs = .ok p' → I (done ++ orgs) p' := by
  intro orgs
  induction orgs with
  | nil =>
    intro done p p' hi h
    simp only [speciateLoop, Except.ok.injEq] at h
    subst h
    simpa using hi
  | cons org rest ih =>
    intro done p p' hi h
    unfold speciateLoop at h
    split at h
    · cases h
    · next p1 h1 =>
      have := ih (hstep done p org p1 hi h1) h
      simpa using this

theorem speciate_ok {o : EpochOpts W} {p p' : Pop W} {orgs : List (Org W)} (h : speciate o p orgs = .ok p') :
    orgs ≠ [] ∧ speciateLoop o p orgs = .ok p' := by
  unfold speciate at h
  split at h
  · cases h
  · next hne => exact ⟨by simpa using hne, h⟩

omit [Scalar W] in
theorem renumber_mem {l : List (Org W)} {k : Int} {x : Org W} (h : x ∈ renumber l k) :
    ∃ y ∈ l, x = { y with genome := { y.genome with id := x.genome.id } } := by
  induction l generalizing k with
  | nil => simp [renumber] at h
  | cons a t ih =>
    unfold renumber at h
    rcases List.mem_cons.mp h with rfl | h'
    · exact ⟨a, List.mem_cons_self, rfl⟩
    · obtain ⟨y, hy, e⟩ := ih h'
      exact ⟨y, List.mem_cons_of_mem _ hy, e⟩

omit [Scalar W] in
theorem renumber_append (a b : List (Org W)) (c : Int) : renumber (a ++ b) c = renumber a c ++ renumber b (c + a.length) := by
  induction a generalizing c with
  | nil => simp [renumber]
  | cons x xs ih =>
    simp only [List.cons_append, renumber, ih, List.length_cons, List.cons.injEq, true_and]
    congr 2
    omega

omit [Scalar W] in
theorem renumber_ids (l : List (Org W)) (c : Int) :
    (renumber l c).map (·.genome.id) = (List.range l.length).map (fun (i : Nat) => c + (i : Int)) := by
  induction l generalizing c with
  | nil => rfl
  | cons x xs ih =>
    simp only [renumber, List.map_cons, List.length_cons, List.range_succ_eq_map, List.map_map, ih]
    congr 1
    · simp
    · apply List.map_congr_left
      intro i _
      simp only [Function.comp]
      omega

omit [Scalar W] in
theorem purgeOrAgeLoop_mem {ss : List (Species W)} {k : Int} {s' : Species W} (h : s' ∈ purgeOrAgeLoop ss k) :
    ∃ s ∈ ss, s.orgs ≠ [] ∧ ∃ k', s' = { s with isNovel := false, age := if s.isNovel then s.age else s.age + 1,
                                                 orgs := renumber s.orgs k' } := by
  induction ss generalizing k with
  | nil => simp [purgeOrAgeLoop] at h
  | cons s t ih =>
    unfold purgeOrAgeLoop at h
    split at h
    · obtain ⟨s0, hs0, r⟩ := ih h
      exact ⟨s0, List.mem_cons_of_mem _ hs0, r⟩
    · next hne =>
      rcases List.mem_cons.mp h with rfl | h'
      · exact ⟨s, List.mem_cons_self, by simpa using hne, k, rfl⟩
      · obtain ⟨s0, hs0, r⟩ := ih h'
        exact ⟨s0, List.mem_cons_of_mem _ hs0, r⟩

theorem reproducePhase_ok {o : EpochOpts W} {gen : Int} {p p' : Pop W} {ex : ExecState} {rs rs' : List Nat}
    (h : reproducePhase o gen p ex rs = .ok (p', rs')) :
    ∃ babies reg uid,
      reproduceAll o gen (ex.sortedIds.filterMap (fun i => p.species.find? (·.id == i))) p.species p.reg p.nextUid [] rs =
        .ok ((babies, reg, uid), rs') ∧
      babies.length = o.popSize ∧ babies ≠ [] ∧
      speciateLoop o { p with reg := reg, nextUid := uid } babies = .ok p' := by
  unfold reproducePhase at h
  simp only at h
  split at h
  · cases h
  · next babies reg uid rs1 hall =>
    split at h
    · cases h
    · next hlen =>
      split at h
      · cases h
      · next p2 hsp =>
        simp only [Except.ok.injEq, Prod.mk.injEq] at h
        obtain ⟨rfl, rfl⟩ := h
        obtain ⟨hne, hloop⟩ := speciate_ok hsp
        exact ⟨babies, reg, uid, hall, by simpa using hlen, hne, hloop⟩

theorem nextEpoch_ok {o : EpochOpts W} {gen : Int} {p p' : Pop W} {rs rs' : List Nat}
    (h : nextEpoch o gen p rs = .ok (p', rs')) :
    ∃ p1 ex rs1 p2, prepareForReproduction o p rs = .ok ((p1, ex), rs1) ∧
      reproducePhase o gen p1 ex rs1 = .ok (p2, rs') ∧ p' = finalizeReproduction p2 := by
  unfold nextEpoch at h
  split at h
  · cases h
  · next p1 ex rs1 hprep =>
    split at h
    · cases h
    · next p2 rs2 hrep =>
      simp only [Except.ok.injEq, Prod.mk.injEq] at h
      obtain ⟨rfl, rfl⟩ := h
      exact ⟨p1, ex, rs1, p2, hprep, hrep, rfl⟩

theorem nextEpoch_records (o : EpochOpts W) (gen : Int) (p p' : Pop W) (rs rs' : List Nat)
    (h : nextEpoch o gen p rs = .ok (p', rs')) : p'.reg.records = [] := by
  obtain ⟨_, _, _, p2, _, _, rfl⟩ := nextEpoch_ok h
  rfl

theorem spawnLoop_induct {g : Genome W} (I : Nat → Int → Nat → List (Org W) → Prop) (hnil : ∀ c u, I 0 c u [])
    (hcons : ∀ n c u d d' rs1 rs2 rest, g.duplicate c = .ok d → mutateLinkWeights d one one .gaussian rs1 = .ok (d', rs2) →
      I n (c + 1) (u + 1) rest → I (n + 1) c u (newOrganism u d' 1 :: rest))
    {n : Nat} {count : Int} {uid : Nat} {orgs : List (Org W)} {rs rs' : List Nat}
    (h : spawnLoop g n count uid rs = .ok (orgs, rs')) : I n count uid orgs := by
  induction n generalizing count uid orgs rs rs' with
  | zero => simp only [spawnLoop, Except.ok.injEq, Prod.mk.injEq] at h; obtain ⟨rfl, _⟩ := h; exact hnil _ _
  | succ n ih =>
    unfold spawnLoop at h
    split at h
    · cases h
    · next d hd =>
      split at h
      · cases h
      · next d' rs1 hw =>
        split at h
        · cases h
        · next rest rs2 hrest =>
          simp only [Except.ok.injEq, Prod.mk.injEq] at h
          obtain ⟨rfl, _⟩ := h
          exact hcons _ _ _ _ _ _ _ _ hd hw (ih hrest)

theorem spawnLoop_mem {g : Genome W} {n : Nat} {count : Int} {uid : Nat} {orgs : List (Org W)} {rs rs' : List Nat}
    (h : spawnLoop g n count uid rs = .ok (orgs, rs')) : ∀ x ∈ orgs, ∃ u d, x = newOrganism u d 1 :=
  spawnLoop_induct (fun _ _ _ l => ∀ x ∈ l, ∃ u d, x = newOrganism u d 1) (fun _ _ _ hx => nomatch hx)
    (fun _ _ _ _ _ _ _ _ _ _ ih x hx => (List.mem_cons.mp hx).elim (fun e => ⟨_, _, e⟩) (ih x)) h

theorem spawn_ok {o : EpochOpts W} {g : Genome W} {p : Pop W} {rs rs' : List Nat} (h : spawn o g rs = .ok (p, rs')) :
    o.popSize ≠ 0 ∧ ∃ orgs lastNode nextInn, spawnLoop g o.popSize 0 0 rs = .ok (orgs, rs') ∧
      g.lastNodeId = .ok lastNode ∧ g.nextGeneInnov = .ok nextInn ∧ orgs ≠ [] ∧
      speciateLoop o { species := [], organisms := orgs.map (·.uid), lastSpecies := 0, highestFitness := zero,
                       epochsHighestLastChanged := 0,
                       reg := { records := [], nextInn := nextInn - 1, nextNode := lastNode + 1 },
                       nextUid := o.popSize } orgs = .ok p := by
  unfold spawn at h
  split at h
  · cases h
  · next hsize =>
    split at h
    · cases h
    · next orgs rs1 hloop =>
      split at h
      · cases h
      · next lastNode hln =>
        split at h
        · cases h
        · next nextInn hni =>
          simp only at h
          split at h
          · cases h
          · next p1 hsp =>
            simp only [Except.ok.injEq, Prod.mk.injEq] at h
            obtain ⟨rfl, rfl⟩ := h
            obtain ⟨hne, hsl⟩ := speciate_ok hsp
            exact ⟨hsize, orgs, lastNode, nextInn, hloop, hln, hni, hne, hsl⟩

end GoNeat
