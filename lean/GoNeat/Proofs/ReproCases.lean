/-
  `reproduceOne` in two steps: the choice of what the next baby is made from (`planBaby`, draws only, no registry), and
  the making of it (`makeBaby`: at most one program over the registry, then the baby is numbered and appended).
  `reproduceOne_eq` is the one place where `reproduceOne` is taken apart; every statement about one offspring rests on
  it (prefix determinism apart: `reproduceOne_det`, Proofs/PrefixDet2.lean), and `reproduceAll_lift` carries a statement about one offspring to all species.
  The two parent-choosing stages are `C16.pickDad` and `C16.mateChild` of Model/ParEpoch.lean.
-/
import GoNeat.Model.ParEpoch

namespace GoNeat
open Scalar C16
variable {W : Type} [Scalar W]

/-- the structural stage of `mutateBaby` (its `afterStruct`) -/
def structStage (o : EpochOpts W) (g : Genome W) (reg : Reg W) (f1 : W) (rs1 : List Nat) : R (Genome W × Reg W × Bool) :=
  if lt f1 o.mutateAddNodeProb then
    match mutateAddNode g reg o.mopts rs1 with
    | .error e => .error e
    | .ok ((g', reg', _), rs2) => .ok ((g', reg', true), rs2)
  else
    match Rand.float64 (W := W) rs1 with
    | .error e => .error e
    | .ok (f2, rs2) =>
      if lt f2 o.mutateAddLinkProb then
        match mutateAddLink g reg o.mopts rs2 with
        | .error e => .error e
        | .ok ((g', reg', _), rs3) => .ok ((g', reg', true), rs3)
      else
        match Rand.float64 (W := W) rs2 with
        | .error e => .error e
        | .ok (f3, rs3) =>
          if lt f3 o.mutateConnectSensors then mutateConnectSensors g reg rs3
          else .ok ((g, reg, false), rs3)

theorem mutateBaby_eq (o : EpochOpts W) (g : Genome W) (reg : Reg W) (rs : List Nat) :
    mutateBaby o g reg rs =
      match Rand.float64 (W := W) rs with
      | .error e => .error e
      | .ok (f1, rs1) =>
        match structStage o g reg f1 rs1 with
        | .error e => .error e
        | .ok ((g', reg', true), rs') => .ok ((g', reg', true), rs')
        | .ok ((g', reg', false), rs') =>
          match mutateAllNonstructural g' o.mopts rs' with
          | .error e => .error e
          | .ok (g'', rs'') => .ok ((g'', reg', false), rs'') := rfl

/-- `mutated` of the super-champion branch of `reproduceOne` -/
def superMutated (o : EpochOpts W) (g0 : Genome W) (reg : Reg W) (superChamp : Int) (rs : List Nat) :
    R (Genome W × Reg W × Bool) :=
  if superChamp > 1 then
    match Rand.float64 (W := W) rs with
    | .error e => .error e
    | .ok (f, rs1) =>
      if lt f (ofDec 8 1) || eq o.mutateAddLinkProb zero then
        match mutateLinkWeights g0 o.mopts.weightMutPower one .gaussian rs1 with
        | .error e => .error e
        | .ok (g1, rs2) => .ok ((g1, reg, false), rs2)
      else
        match mutateAddLink g0 reg o.mopts rs1 with
        | .error e => .error e
        | .ok ((g1, reg1, _), rs2) => .ok ((g1, reg1, true), rs2)
  else .ok ((g0, reg, false), rs)

/-- what the next baby is made from -/
inductive Plan (W : Type) where
  /-- a duplicate of the champion, to go through `superMutated` -/
  | super (g0 : Genome W)
  /-- a duplicate of the champion, kept as it is -/
  | clone (g0 : Genome W)
  /-- a duplicate of a member (`mate = false`) or a crossover (`mate = true`), to go through `mutateBaby` -/
  | mutate (g0 : Genome W) (mate : Bool)
  /-- a crossover kept as it is -/
  | asIs (child : Genome W)

def Plan.genome : Plan W → Genome W
  | .super g0 => g0
  | .clone g0 => g0
  | .mutate g0 _ => g0
  | .asIs child => child

/-- the choices of `reproduceOne` up to the genome the baby starts from -/
def planBaby (o : EpochOpts W) (s : Species W) (sorted : List (Species W)) (champ : Org W) (count : Int)
    (st : ReproState W) : Rand (Plan W) := fun rs =>
  if st.superChamp > 0 then
    match champ.genome.duplicate count with
    | .error e => .error e
    | .ok g0 => .ok (.super g0, rs)
  else if !st.champCloneDone && s.expectedOffspring > 5 then
    match champ.genome.duplicate count with
    | .error e => .error e
    | .ok g0 => .ok (.clone g0, rs)
  else
    match Rand.float64 (W := W) rs with
    | .error e => .error e
    | .ok (f, rs1) =>
      match Rand.intn s.orgs.length rs1 with
      | .error e => .error e
      | .ok (k, rs2) =>
        match s.orgs[k]? with
        | none => .error (.error "panic:index")
        | some mom =>
          if lt f o.mutateOnlyProb || s.orgs.length == 1 then
            match mom.genome.duplicate count with
            | .error e => .error e
            | .ok g0 => .ok (.mutate g0 false, rs2)
          else
            match Rand.float64 (W := W) rs2 with
            | .error e => .error e
            | .ok (f2, rs3) =>
              match pickDad o s sorted f2 rs3 with
              | .error e => .error e
              | .ok (dad, rs4) =>
                match Rand.float64 (W := W) rs4 with
                | .error e => .error e
                | .ok (f3, rs5) =>
                  match mateChild o mom dad count f3 rs5 with
                  | .error e => .error e
                  | .ok (child, rs7) =>
                    match Rand.float64 (W := W) rs7 with
                    | .error e => .error e
                    | .ok (f5, rs8) =>
                      if gt f5 o.mateOnlyProb || dad.genome.id == mom.genome.id ||
                         eq (compatibility o.compat dad.genome mom.genome) zero then .ok (.mutate child true, rs8)
                      else .ok (.asIs child, rs8)

/-- `finish` of `reproduceOne`: the baby with genome `g` is numbered and appended; `reg` is the registry it was made under -/
def addBaby (generation : Int) (g : Genome W) (reg : Reg W) (mutStruct mateBaby popChild : Bool) (hf : W)
    (st : ReproState W) : ReproState W :=
  { st with reg := reg, nextUid := st.nextUid + 1,
            babies := st.babies ++ [{ newOrganism st.nextUid g generation with
              mutStructBaby := mutStruct, mateBaby := mateBaby, isPopChampionChild := popChild, highestFitness := hf }] }

/-- the rest of `reproduceOne` -/
def makeBaby (o : EpochOpts W) (generation : Int) (champ : Org W) (st : ReproState W) : Plan W → Rand (ReproState W)
  | .super g0, rs =>
    match superMutated o g0 st.reg st.superChamp rs with
    | .error e => .error e
    | .ok ((g1, reg1, ms), rs') =>
      let last := st.superChamp == 1 && champ.isPopChampion
      .ok ({ addBaby generation g1 reg1 ms false last (if last then champ.originalFitness else zero) st with
             superChamp := st.superChamp - 1 }, rs')
  | .clone g0, rs => .ok ({ addBaby generation g0 st.reg false false false zero st with champCloneDone := true }, rs)
  | .mutate g0 mate, rs =>
    match mutateBaby o g0 st.reg rs with
    | .error e => .error e
    | .ok ((g1, reg1, ms), rs') => .ok (addBaby generation g1 reg1 ms mate false zero st, rs')
  | .asIs child, rs => .ok (addBaby generation child st.reg false true false zero st, rs)

/-- `reproduceOne` with the making of the baby left open: `k` is what happens to the plan, `err` how a failed draw is
    reported.  `reproduceOne` is the instance `err := .error`, `k := makeBaby …`; `C16.reproduceOneP` is another. -/
def chooseBaby {γ : Type} (err : Stop → γ) (k : Plan W → List Nat → γ) (o : EpochOpts W) (s : Species W)
    (sorted : List (Species W)) (champ : Org W) (count : Int) (st : ReproState W) (rs : List Nat) : γ :=
  if st.superChamp > 0 then
    match champ.genome.duplicate count with
    | .error e => err e
    | .ok g0 => k (.super g0) rs
  else if !st.champCloneDone && s.expectedOffspring > 5 then
    match champ.genome.duplicate count with
    | .error e => err e
    | .ok g0 => k (.clone g0) rs
  else
    match Rand.float64 (W := W) rs with
    | .error e => err e
    | .ok (f, rs1) =>
      if lt f o.mutateOnlyProb || s.orgs.length == 1 then
        match Rand.intn s.orgs.length rs1 with
        | .error e => err e
        | .ok (i, rs2) =>
          match s.orgs[i]? with
          | none => err (.error "panic:index")
          | some mom =>
            match mom.genome.duplicate count with
            | .error e => err e
            | .ok g0 => k (.mutate g0 false) rs2
      else
        match Rand.intn s.orgs.length rs1 with
        | .error e => err e
        | .ok (i, rs2) =>
          match s.orgs[i]? with
          | none => err (.error "panic:index")
          | some mom =>
            match Rand.float64 (W := W) rs2 with
            | .error e => err e
            | .ok (f2, rs3) =>
              match pickDad o s sorted f2 rs3 with
              | .error e => err e
              | .ok (dad, rs4) =>
                match Rand.float64 (W := W) rs4 with
                | .error e => err e
                | .ok (f3, rs5) =>
                  match mateChild o mom dad count f3 rs5 with
                  | .error e => err e
                  | .ok (child, rs7) =>
                    match Rand.float64 (W := W) rs7 with
                    | .error e => err e
                    | .ok (f5, rs8) =>
                      if gt f5 o.mateOnlyProb || dad.genome.id == mom.genome.id ||
                         eq (compatibility o.compat dad.genome mom.genome) zero then k (.mutate child true) rs8
                      else k (.asIs child) rs8

theorem chooseBaby_eq {γ : Type} (err : Stop → γ) (k : Plan W → List Nat → γ) (o : EpochOpts W) (s : Species W)
    (sorted : List (Species W)) (champ : Org W) (count : Int) (st : ReproState W) (rs : List Nat) :
    chooseBaby err k o s sorted champ count st rs =
      match planBaby o s sorted champ count st rs with
      | .error e => err e
      | .ok (pl, rs') => k pl rs' := by
  -- `planBaby` draws the member index before it tests `mutateOnlyProb`, `reproduceOne` after the test, in either branch: the
  -- same draw from the same stream, so the order of draws is unchanged; this is what the equation says beyond bookkeeping.
  -- Case analysis on each discriminant in turn (`split` is slow on terms of this size); both sides then reduce, `dsimp only`
  -- exposes the next discriminant
  unfold chooseBaby planBaby
  by_cases h1 : st.superChamp > 0
  · rw [if_pos h1, if_pos h1]
    cases champ.genome.duplicate count <;> rfl
  · rw [if_neg h1, if_neg h1]
    by_cases h2 : (!st.champCloneDone && decide (s.expectedOffspring > 5)) = true
    · rw [if_pos h2, if_pos h2]
      cases champ.genome.duplicate count <;> rfl
    · rw [if_neg h2, if_neg h2]
      obtain e | ⟨f, rs1⟩ := Rand.float64 (W := W) rs
      · rfl
      dsimp only
      obtain e | ⟨i, rs2⟩ := Rand.intn s.orgs.length rs1
      · cases (lt f o.mutateOnlyProb || s.orgs.length == 1) <;> rfl
      dsimp only
      obtain _ | mom := s.orgs[i]?
      · cases (lt f o.mutateOnlyProb || s.orgs.length == 1) <;> rfl
      dsimp only
      by_cases h3 : (lt f o.mutateOnlyProb || s.orgs.length == 1) = true
      · rw [if_pos h3, if_pos h3]
        cases mom.genome.duplicate count <;> rfl
      rw [if_neg h3, if_neg h3]
      obtain e | ⟨f2, rs3⟩ := Rand.float64 (W := W) rs2
      · rfl
      dsimp only
      obtain e | ⟨dad, rs4⟩ := pickDad o s sorted f2 rs3
      · rfl
      dsimp only
      obtain e | ⟨f3, rs5⟩ := Rand.float64 (W := W) rs4
      · rfl
      dsimp only
      obtain e | ⟨child, rs7⟩ := mateChild o mom dad count f3 rs5
      · rfl
      dsimp only
      obtain e | ⟨f5, rs8⟩ := Rand.float64 (W := W) rs7
      · rfl
      dsimp only
      cases (gt f5 o.mateOnlyProb || dad.genome.id == mom.genome.id || eq (compatibility o.compat dad.genome mom.genome) zero) <;> rfl

/-- `reproduceOne` is `chooseBaby` continued by `makeBaby`, by unfolding: the branches of `reproduceOne` stand in the order of
    `chooseBaby`, its local `finish` is `addBaby`, its `mutated` is `superMutated`, its `dadR`/`childR` are `pickDad`/`mateChild`.
    An edit of any of these in Model/Epoch.lean or Model/ParEpoch.lean breaks this `rfl` first. -/
theorem reproduceOne_def (o : EpochOpts W) (generation : Int) (s : Species W) (sorted : List (Species W)) (champ : Org W)
    (count : Int) (st : ReproState W) (rs : List Nat) :
    reproduceOne o generation s sorted champ count st rs =
      chooseBaby Except.error (makeBaby o generation champ st) o s sorted champ count st rs := rfl

theorem reproduceOne_eq (o : EpochOpts W) (generation : Int) (s : Species W) (sorted : List (Species W)) (champ : Org W)
    (count : Int) (st : ReproState W) (rs : List Nat) :
    reproduceOne o generation s sorted champ count st rs =
      match planBaby o s sorted champ count st rs with
      | .error e => .error e
      | .ok (pl, rs') => makeBaby o generation champ st pl rs' :=
  (reproduceOne_def o generation s sorted champ count st rs).trans
    (chooseBaby_eq Except.error (makeBaby o generation champ st) o s sorted champ count st rs)

theorem reproduceOne_ok {o : EpochOpts W} {generation : Int} {s : Species W} {sorted : List (Species W)} {champ : Org W}
    {count : Int} {st st' : ReproState W} {rs rs' : List Nat}
    (h : reproduceOne o generation s sorted champ count st rs = .ok (st', rs')) :
    ∃ pl rs1, planBaby o s sorted champ count st rs = .ok (pl, rs1) ∧ makeBaby o generation champ st pl rs1 = .ok (st', rs') := by
  rw [reproduceOne_eq] at h
  rcases hp : planBaby o s sorted champ count st rs with e | ⟨pl, rs1⟩
  · rw [hp] at h
    cases h
  · rw [hp] at h
    exact ⟨pl, rs1, rfl, h⟩

theorem planBaby_super {o : EpochOpts W} {s : Species W} {sorted : List (Species W)} {champ : Org W} {count : Int}
    {st : ReproState W} (rs : List Nat) (h : st.superChamp > 0) :
    planBaby o s sorted champ count st rs =
      match champ.genome.duplicate count with
      | .error e => .error e
      | .ok g0 => .ok (.super g0, rs) := by
  unfold planBaby
  rw [if_pos h]

theorem planBaby_clone {o : EpochOpts W} {s : Species W} {sorted : List (Species W)} {champ : Org W} {count : Int}
    {st : ReproState W} (rs : List Nat) (h : ¬ st.superChamp > 0) (hdone : st.champCloneDone = false)
    (hq : s.expectedOffspring > 5) :
    planBaby o s sorted champ count st rs =
      match champ.genome.duplicate count with
      | .error e => .error e
      | .ok g0 => .ok (.clone g0, rs) := by
  unfold planBaby
  rw [if_neg h, if_pos (by rw [hdone]; exact decide_eq_true hq)]

theorem superMutated_last (o : EpochOpts W) (g0 : Genome W) (reg : Reg W) {superChamp : Int} (rs : List Nat)
    (h : ¬ superChamp > 1) : superMutated o g0 reg superChamp rs = .ok ((g0, reg, false), rs) :=
  if_neg h

theorem pickOtherSpecies_mem (s : Species W) (sorted : List (Species W)) (n : Nat) (cur sp : Species W)
    (rs rs' : List Nat) (h : pickOtherSpecies s sorted n cur rs = .ok (sp, rs')) : sp = cur ∨ sp ∈ sorted := by
  induction n generalizing cur rs with
  | zero => unfold pickOtherSpecies at h; cases h; exact Or.inl rfl
  | succ k ih =>
    unfold pickOtherSpecies at h
    split at h
    · split at h
      · cases h
      · simp only at h
        split at h
        · cases h
        · split at h
          · cases h
          · rename_i sp' hsp
            rcases ih _ _ h with rfl | h'
            · exact Or.inr (List.mem_of_getElem? hsp)
            · exact Or.inr h'
    · cases h; exact Or.inl rfl

theorem pickDad_from {o : EpochOpts W} {s : Species W} {sorted : List (Species W)} {f2 : W} {rs3 rs4 : List Nat} {dad : Org W}
    (h : pickDad o s sorted f2 rs3 = .ok (dad, rs4)) : dad ∈ s.orgs ∨ ∃ sp ∈ sorted, dad ∈ sp.orgs := by
  unfold pickDad at h
  split at h
  · split at h
    · cases h
    · split at h
      · cases h
      · rename_i d hd
        cases h
        exact .inl (List.mem_of_getElem? hd)
  · split at h
    · cases h
    · rename_i sp rs5 hpick
      split at h
      · cases h
      · rename_i d hd
        cases h
        have hdm : dad ∈ sp.orgs := List.mem_of_mem_head? hd
        rcases pickOtherSpecies_mem _ _ _ _ _ _ _ hpick with rfl | hsp
        · exact .inl hdm
        · exact .inr ⟨sp, hsp, hdm⟩

theorem mateChild_cases {o : EpochOpts W} {mom dad : Org W} {count : Int} {f3 : W} {rs5 rs7 : List Nat} {child : Genome W}
    (h : mateChild o mom dad count f3 rs5 = .ok (child, rs7)) :
    ∃ rs, mateMultipoint mom.genome dad.genome count mom.originalFitness dad.originalFitness rs = .ok (child, rs7) ∨
      mateMultipointAvg mom.genome dad.genome count mom.originalFitness dad.originalFitness rs = .ok (child, rs7) ∨
      mateSinglePoint mom.genome dad.genome count rs = .ok (child, rs7) := by
  unfold mateChild at h
  split at h
  · exact ⟨_, .inl h⟩
  · split at h
    · cases h
    · split at h
      · exact ⟨_, .inr (.inl h)⟩
      · exact ⟨_, .inr (.inr h)⟩

/-- where the genome a baby starts from comes from: a duplicate of the champion or of a member of the species, or a
    crossover of a member with a member of this or of another (sorted) species -/
inductive Source (s : Species W) (sorted : List (Species W)) (champ : Org W) : Genome W → Prop where
  | dup (p : Org W) (id : Int) (g0 : Genome W) : (p = champ ∨ p ∈ s.orgs) → p.genome.duplicate id = .ok g0 →
      Source s sorted champ g0
  | mate (mom dad : Org W) (g0 : Genome W) (id : Int) (rs rs' : List Nat) :
      mom ∈ s.orgs → (dad ∈ s.orgs ∨ ∃ sp ∈ sorted, dad ∈ sp.orgs) →
      (mateMultipoint mom.genome dad.genome id mom.originalFitness dad.originalFitness rs = .ok (g0, rs') ∨
       mateMultipointAvg mom.genome dad.genome id mom.originalFitness dad.originalFitness rs = .ok (g0, rs') ∨
       mateSinglePoint mom.genome dad.genome id rs = .ok (g0, rs')) → Source s sorted champ g0

theorem planBaby_source {o : EpochOpts W} {s : Species W} {sorted : List (Species W)} {champ : Org W} {count : Int}
    {st : ReproState W} {rs rs' : List Nat} {pl : Plan W}
    (h : planBaby o s sorted champ count st rs = .ok (pl, rs')) : Source s sorted champ pl.genome := by
  revert h
  unfold planBaby
  by_cases h1 : st.superChamp > 0
  · rw [if_pos h1]
    rcases hd : champ.genome.duplicate count with e | g0
    · nofun
    · intro h
      cases h
      exact .dup champ count g0 (.inl rfl) hd
  rw [if_neg h1]
  by_cases h2 : (!st.champCloneDone && decide (s.expectedOffspring > 5)) = true
  · rw [if_pos h2]
    rcases hd : champ.genome.duplicate count with e | g0
    · nofun
    · intro h
      cases h
      exact .dup champ count g0 (.inl rfl) hd
  rw [if_neg h2]
  rcases Rand.float64 (W := W) rs with e | ⟨f, rs1⟩
  · nofun
  dsimp only
  rcases Rand.intn s.orgs.length rs1 with e | ⟨i, rs2⟩
  · nofun
  dsimp only
  rcases hm : s.orgs[i]? with _ | mom
  · nofun
  dsimp only
  have hmom : mom ∈ s.orgs := List.mem_of_getElem? hm
  by_cases h3 : (lt f o.mutateOnlyProb || s.orgs.length == 1) = true
  · rw [if_pos h3]
    rcases hd : mom.genome.duplicate count with e | g0
    · nofun
    · intro h
      cases h
      exact .dup mom count g0 (.inr hmom) hd
  rw [if_neg h3]
  rcases Rand.float64 (W := W) rs2 with e | ⟨f2, rs3⟩
  · nofun
  dsimp only
  rcases hdad : pickDad o s sorted f2 rs3 with e | ⟨dad, rs4⟩
  · nofun
  dsimp only
  rcases Rand.float64 (W := W) rs4 with e | ⟨f3, rs5⟩
  · nofun
  dsimp only
  rcases hchild : mateChild o mom dad count f3 rs5 with e | ⟨child, rs7⟩
  · nofun
  dsimp only
  obtain ⟨rs6, hmate⟩ := mateChild_cases hchild
  have hsrc : Source s sorted champ child := .mate mom dad child count rs6 rs7 hmom (pickDad_from hdad) hmate
  rcases Rand.float64 (W := W) rs7 with e | ⟨f5, rs8⟩
  · nofun
  dsimp only
  intro h
  split at h
  · cases h
    exact hsrc
  · cases h
    exact hsrc

/-- at most one structural mutation, resolved against the registry -/
inductive StructStep (o : MutOpts W) (g : Genome W) (reg : Reg W) (g1 : Genome W) (reg1 : Reg W) : Prop where
  | none : g1 = g → reg1 = reg → StructStep o g reg g1 reg1
  | node (b : Bool) (rs rs' : List Nat) : mutateAddNode g reg o rs = .ok ((g1, reg1, b), rs') → StructStep o g reg g1 reg1
  | link (b : Bool) (rs rs' : List Nat) : mutateAddLink g reg o rs = .ok ((g1, reg1, b), rs') → StructStep o g reg g1 reg1
  | sensors (b : Bool) (rs rs' : List Nat) : mutateConnectSensors g reg rs = .ok ((g1, reg1, b), rs') →
      StructStep o g reg g1 reg1

/-- a mutation that leaves the structure alone -/
inductive ParamStep (o : MutOpts W) (g g1 : Genome W) : Prop where
  | none : g1 = g → ParamStep o g g1
  | weights (power rate : W) (mt : WeightMutator) (rs rs' : List Nat) :
      mutateLinkWeights g power rate mt rs = .ok (g1, rs') → ParamStep o g g1
  | all (rs rs' : List Nat) : mutateAllNonstructural g o rs = .ok (g1, rs') → ParamStep o g g1

/-- the baby's genome `g1` and the registry `reg1` after it, from the genome `g0` it starts from under `reg` -/
def Grown (o : MutOpts W) (g0 : Genome W) (reg : Reg W) (g1 : Genome W) (reg1 : Reg W) : Prop :=
  ∃ gm, StructStep o g0 reg gm reg1 ∧ ParamStep o gm g1

theorem Grown.refl (o : MutOpts W) (g : Genome W) (reg : Reg W) : Grown o g reg g reg := ⟨g, .none rfl rfl, .none rfl⟩

theorem structStage_ok {o : EpochOpts W} {g g1 : Genome W} {reg reg1 : Reg W} {f1 : W} {rs1 rs2 : List Nat} {b : Bool}
    (h : structStage o g reg f1 rs1 = .ok ((g1, reg1, b), rs2)) : StructStep o.mopts g reg g1 reg1 := by
  unfold structStage at h
  split at h
  · split at h
    · cases h
    · rename_i hmut
      cases h
      exact .node _ _ _ hmut
  · split at h
    · cases h
    · split at h
      · split at h
        · cases h
        · rename_i hmut
          cases h
          exact .link _ _ _ hmut
      · split at h
        · cases h
        · split at h
          · exact .sensors _ _ _ h
          · cases h
            exact .none rfl rfl

theorem mutateBaby_grown {o : EpochOpts W} {g g' : Genome W} {reg reg' : Reg W} {ms : Bool} {rs rs' : List Nat}
    (h : mutateBaby o g reg rs = .ok ((g', reg', ms), rs')) : Grown o.mopts g reg g' reg' := by
  rw [mutateBaby_eq] at h
  split at h
  · cases h
  · split at h
    · cases h
    · rename_i hst
      cases h
      exact ⟨_, structStage_ok hst, .none rfl⟩
    · rename_i hst
      split at h
      · cases h
      · rename_i hns
        cases h
        exact ⟨_, structStage_ok hst, .all _ _ hns⟩

theorem superMutated_grown {o : EpochOpts W} {g g' : Genome W} {reg reg' : Reg W} {sc : Int} {ms : Bool} {rs rs' : List Nat}
    (h : superMutated o g reg sc rs = .ok ((g', reg', ms), rs')) : Grown o.mopts g reg g' reg' := by
  unfold superMutated at h
  split at h
  · split at h
    · cases h
    · split at h
      · split at h
        · cases h
        · rename_i hw
          cases h
          exact ⟨_, .none rfl rfl, .weights _ _ _ _ _ hw⟩
      · split at h
        · cases h
        · rename_i hl
          cases h
          exact ⟨_, .link _ _ _ hl, .none rfl⟩
  · cases h
    exact .refl _ _ _

/-- exactly one baby is appended, numbered with the next allocation id, otherwise a fresh organism -/
def Appended (generation : Int) (g1 : Genome W) (st st' : ReproState W) : Prop :=
  ∃ ms mb pc hf, st'.babies = st.babies ++ [{ newOrganism st.nextUid g1 generation with
      mutStructBaby := ms, mateBaby := mb, isPopChampionChild := pc, highestFitness := hf }] ∧ st'.nextUid = st.nextUid + 1

theorem makeBaby_ok {o : EpochOpts W} {generation : Int} {champ : Org W} {st st' : ReproState W} {pl : Plan W} {rs rs' : List Nat}
    (h : makeBaby o generation champ st pl rs = .ok (st', rs')) :
    ∃ g1, Grown o.mopts pl.genome st.reg g1 st'.reg ∧ Appended generation g1 st st' := by
  cases pl with
  | super g0 =>
    rw [makeBaby] at h
    split at h
    · cases h
    · rename_i g1 reg1 ms rs1 hm
      cases h
      exact ⟨g1, superMutated_grown hm, _, _, _, _, rfl, rfl⟩
  | clone g0 =>
    cases h
    exact ⟨g0, .refl _ _ _, _, _, _, _, rfl, rfl⟩
  | mutate g0 mate =>
    rw [makeBaby] at h
    split at h
    · cases h
    · rename_i g1 reg1 ms rs1 hm
      cases h
      exact ⟨g1, mutateBaby_grown hm, _, _, _, _, rfl, rfl⟩
  | asIs child =>
    cases h
    exact ⟨child, .refl _ _ _, _, _, _, _, rfl, rfl⟩

theorem reproduceOne_baby {o : EpochOpts W} {generation : Int} {s : Species W} {sorted : List (Species W)} {champ : Org W}
    {count : Int} {st st' : ReproState W} {rs rs' : List Nat}
    (h : reproduceOne o generation s sorted champ count st rs = .ok (st', rs')) :
    ∃ g0 g1, Source s sorted champ g0 ∧ Grown o.mopts g0 st.reg g1 st'.reg ∧ Appended generation g1 st st' := by
  obtain ⟨pl, rs1, hp, hm⟩ := reproduceOne_ok h
  obtain ⟨g1, hg, ha⟩ := makeBaby_ok hm
  exact ⟨pl.genome, g1, planBaby_source hp, hg, ha⟩

/-- the one walk over `reproduceLoop`: what every `reproduceOne` call carries from "`k + 1` offspring to make" to "`k` to
    make" holds of the final state with none left (`I k st`: `k` offspring still to make, running state `st`) -/
theorem reproduceLoop_induct {o : EpochOpts W} {generation : Int} {s : Species W} {sorted : List (Species W)} {champ : Org W}
    {I : Nat → ReproState W → Prop}
    (step : ∀ k count st rs st' rs', I (k + 1) st → reproduceOne o generation s sorted champ count st rs = .ok (st', rs') → I k st')
    {n : Nat} {count : Int} {st st' : ReproState W} {rs rs' : List Nat}
    (h : reproduceLoop o generation s sorted champ n count st rs = .ok (st', rs')) (h0 : I n st) : I 0 st' := by
  induction n generalizing count st rs with
  | zero =>
    unfold reproduceLoop at h
    cases h
    exact h0
  | succ k ih =>
    unfold reproduceLoop at h
    split at h
    · cases h
    · rename_i st1 rs1 h1
      exact ih h (step k count st rs st1 rs1 h0 h1)

theorem reproduceSpecies_ok {o : EpochOpts W} {generation : Int} {s : Species W} {sorted : List (Species W)} {reg reg' : Reg W}
    {uid uid' : Nat} {babies : List (Org W)} {rs rs' : List Nat}
    (h : reproduceSpecies o generation s sorted reg uid rs = .ok ((babies, reg', uid'), rs')) :
    ∃ champ st, s.orgs.head? = some champ ∧
      reproduceLoop o generation s sorted champ s.expectedOffspring.toNat 0
        { superChamp := champ.superChampOffspring, champCloneDone := false, reg := reg, nextUid := uid, babies := [] } rs =
        .ok (st, rs') ∧ babies = st.babies ∧ reg' = st.reg ∧ uid' = st.nextUid := by
  unfold reproduceSpecies at h
  split at h
  · split at h <;> cases h
  · rename_i champ hc
    dsimp only at h
    split at h
    · cases h
    · rename_i st rs1 hl
      cases h
      exact ⟨champ, st, hc, hl, rfl, rfl, rfl⟩

/-- the one walk over `reproduceAll`: `I rest reg uid babies rs` speaks of the species still to reproduce, the registry, the
    allocation counter, the babies made so far and the stream at that moment; if every `reproduceSpecies` call carries it on,
    it holds at the end with no species left -/
theorem reproduceAll_induct {o : EpochOpts W} {generation : Int} {sorted ss : List (Species W)}
    {I : List (Species W) → Reg W → Nat → List (Org W) → List Nat → Prop}
    (step : ∀ s rest, s ∈ ss → ∀ reg uid acc rs bs reg' uid' rs', I (s :: rest) reg uid acc rs →
      reproduceSpecies o generation s sorted reg uid rs = .ok ((bs, reg', uid'), rs') → I rest reg' uid' (acc ++ bs) rs')
    {reg reg' : Reg W} {uid uid' : Nat} {acc babies : List (Org W)} {rs rs' : List Nat}
    (h : reproduceAll o generation sorted ss reg uid acc rs = .ok ((babies, reg', uid'), rs')) (h0 : I ss reg uid acc rs) :
    I [] reg' uid' babies rs' := by
  induction ss generalizing reg uid acc rs with
  | nil =>
    unfold reproduceAll at h
    cases h
    exact h0
  | cons s t ih =>
    unfold reproduceAll at h
    split at h
    · cases h
    · rename_i bs reg1 uid1 rs1 h1
      exact ih (fun s' rest hs' => step s' rest (List.mem_cons_of_mem _ hs')) h
        (step s t List.mem_cons_self _ _ _ _ _ _ _ _ h0 h1)

theorem reproduceAll_lift {o : EpochOpts W} {generation : Int} {sorted ss : List (Species W)} {I : Reg W → Nat → List (Org W) → Prop}
    (hone : ∀ s ∈ ss, ∀ champ, s.orgs.head? = some champ → ∀ acc count st rs st' rs', I st.reg st.nextUid (acc ++ st.babies) →
      reproduceOne o generation s sorted champ count st rs = .ok (st', rs') → I st'.reg st'.nextUid (acc ++ st'.babies))
    {reg reg' : Reg W} {uid uid' : Nat} {acc babies : List (Org W)} {rs rs' : List Nat}
    (h : reproduceAll o generation sorted ss reg uid acc rs = .ok ((babies, reg', uid'), rs')) (h0 : I reg uid acc) :
    I reg' uid' babies := by
  refine reproduceAll_induct (I := fun _ r u bs _ => I r u bs) ?_ h h0
  intro s _ hs reg uid acc rs bs reg' uid' rs' hI hsp
  obtain ⟨champ, st, hc, hl, rfl, rfl, rfl⟩ := reproduceSpecies_ok hsp
  exact reproduceLoop_induct (I := fun _ st => I st.reg st.nextUid (acc ++ st.babies))
    (fun _ count st rs st' rs' => hone s hs champ hc acc count st rs st' rs') hl (by rw [List.append_nil]; exact hI)

theorem reproduceAll_babies {o : EpochOpts W} {generation : Int} {sorted ss : List (Species W)} {φ : Org W → Prop}
    (hφ : ∀ uid g ms mb pc hf, φ { newOrganism uid g generation with
      mutStructBaby := ms, mateBaby := mb, isPopChampionChild := pc, highestFitness := hf })
    {reg reg' : Reg W} {uid uid' : Nat} {acc babies : List (Org W)} {rs rs' : List Nat}
    (h : reproduceAll o generation sorted ss reg uid acc rs = .ok ((babies, reg', uid'), rs')) (hacc : ∀ b ∈ acc, φ b) :
    ∀ b ∈ babies, φ b := by
  refine reproduceAll_lift (I := fun _ _ bs => ∀ b ∈ bs, φ b) ?_ h hacc
  intro s _ champ _ acc count st rs st' rs' hI hone b hb
  obtain ⟨_, g1, _, _, ms, mb, pc, hf, hbab, _⟩ := reproduceOne_baby hone
  rw [hbab, ← List.append_assoc] at hb
  rcases List.mem_append.mp hb with hb | hb
  · exact hI b hb
  · rw [List.mem_singleton.mp hb]
    exact hφ _ _ _ _ _ _

end GoNeat
