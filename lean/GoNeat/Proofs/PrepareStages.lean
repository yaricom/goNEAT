/-
  The stages of `prepareForReproduction`, each characterised once.

  After the fitness adjustment the phase writes only four things into the species it keeps: the quota, the age of last
  improvement, and the reservation and population-champion flag of members.  `bare` erases exactly these, so "a stage
  touches nothing else" reads `out.map bare = in.map bare`, and every key the later proofs follow (ids, ages, allocation
  ids, marks, fitness values, genomes) is a function of `bare`.  Quota assignment, fix-up and the zero-quota purge write
  the quota only (`noQuota`).  The quantitative content of the two loops of `giveBabiesToTheBest` is carried by the
  step relations `Steal` and `Give`.
-/
import GoNeat.Model.Epoch
import GoNeat.Proofs.SortLemmas

namespace GoNeat
open Scalar
variable {W : Type} [Scalar W] {κ : Type}

omit [Scalar W] in
theorem markOrgs_map {k : Org W → κ} (hk : ∀ (x : Org W) (c e : Bool), k { x with isChampion := c, toEliminate := e } = k x)
    (n : Int) (l : List (Org W)) (i : Nat) : (markOrgs n l i).map k = l.map k := by
  induction l generalizing i with
  | nil => rfl
  | cons x xs ih => simp only [markOrgs, List.map_cons, ih, hk]

theorem markOrgs_length (k : Int) (l : List (Org W)) (i : Nat) : (markOrgs k l i).length = l.length := by
  induction l generalizing i with
  | nil => rfl
  | cons x xs ih => simp [markOrgs, ih]

theorem markOrgs_getElem? (k : Int) (l : List (Org W)) (i j : Nat) :
    (markOrgs k l i)[j]? = (l[j]?).map (fun x =>
      { x with isChampion := if i + j = 0 then true else x.isChampion,
               toEliminate := if ((i + j : Nat) : Int) ≥ k then true else x.toEliminate }) := by
  induction l generalizing i j with
  | nil => simp [markOrgs]
  | cons x xs ih =>
    cases j with
    | zero => simp [markOrgs]
    | succ j =>
      simp only [markOrgs, List.getElem?_cons_succ, ih]
      have : i + 1 + j = i + (j + 1) := by omega
      rw [this]

namespace C09

theorem filter_unmarked_markOrgs (k : Int) (l : List (Org W)) (i : Nat) (hun : ∀ x ∈ l, x.toEliminate = false) :
    ((markOrgs k l i).filter (fun x => !x.toEliminate)).map (·.uid) = (l.take (k - i).toNat).map (·.uid) := by
  induction l generalizing i with
  | nil => simp [markOrgs]
  | cons x xs ih =>
    have hx := hun x (by simp)
    have ih' := ih (i + 1) (fun y hy => hun y (by simp [hy]))
    simp only [markOrgs, List.filter_cons]
    by_cases hk : (i : Int) ≥ k
    · -- this and all later positions are marked
      have h0 : (k - i).toNat = 0 := by omega
      have h1 : (k - ((i + 1 : Nat) : Int)).toNat = 0 := by omega
      simp only [hk, ↓reduceIte, Bool.not_true, Bool.false_eq_true, h0, List.take_zero, List.map_nil]
      rw [h1] at ih'
      simpa using ih'
    · have hpos : (k - i).toNat = (k - ((i + 1 : Nat) : Int)).toNat + 1 := by omega
      simp only [hk, ↓reduceIte, hx, Bool.not_false, hpos, List.take_succ_cons, List.map_cons]
      rw [ih']

end C09

/-- the age debt `adjustFitness` charges a species (with the code's `0 ↦ 1`) -/
def ageDebt (o : EpochOpts W) (s : Species W) : Int :=
  if (s.age - s.ageOfLastImprovement + 1) - o.dropOffAge = 0 then 1 else (s.age - s.ageOfLastImprovement + 1) - o.dropOffAge

def adjustedOrgs (o : EpochOpts W) (s : Species W) : List (Org W) :=
  sortOrgsDesc (s.orgs.map (adjustOrg (ageDebt o s) s.age o s.orgs.length))

theorem adjustFitness_ok (o : EpochOpts W) (s s' : Species W) (h : adjustFitness o s = .ok s') :
    ∃ (a : Int) (m : W), adjustedOrgs o s ≠ [] ∧
      s' = { s with orgs := markOrgs (floorInt (add (mul o.survivalThresh (ofInt s.orgs.length)) one)) (adjustedOrgs o s) 0,
                    ageOfLastImprovement := a, maxFitnessEver := m } := by
  unfold adjustFitness at h
  simp only at h
  split at h
  · cases h
  · rename_i top rest hsort
    cases h
    exact ⟨_, _, by rw [adjustedOrgs, ageDebt, hsort]; exact List.cons_ne_nil _ _, rfl⟩

theorem adjustFitness_perm {k : Org W → κ}
    (hk : ∀ (x : Org W) (f g : W) (c e : Bool),
      k { x with fitness := f, originalFitness := g, isChampion := c, toEliminate := e } = k x)
    (o : EpochOpts W) (s s' : Species W) (h : adjustFitness o s = .ok s') : (s'.orgs.map k).Perm (s.orgs.map k) := by
  obtain ⟨a, m, _, rfl⟩ := adjustFitness_ok o s s' h
  simp only
  rw [markOrgs_map (fun x c e => hk x x.fitness x.originalFitness c e)]
  unfold adjustedOrgs sortOrgsDesc
  refine ((goSort_perm _ _).map k).trans (List.Perm.of_eq ?_)
  rw [List.map_map]
  exact List.map_congr_left (fun x _ => hk x _ _ x.isChampion x.toEliminate)

def adjusted (o : EpochOpts W) (s : Species W) : Species W :=
  match adjustFitness o s with
  | .ok s' => s'
  | .error _ => s

theorem adjustAll_ok (o : EpochOpts W) (ss ss' : List (Species W)) (h : adjustAll o ss = .ok ss') :
    ss' = ss.map (adjusted o) ∧ ∀ s ∈ ss, adjustFitness o s = .ok (adjusted o s) := by
  induction ss generalizing ss' with
  | nil => simp only [adjustAll, Except.ok.injEq] at h; subst h; exact ⟨rfl, fun _ hs => nomatch hs⟩
  | cons s ss ih =>
    unfold adjustAll at h
    split at h
    · cases h
    · rename_i s1 h1
      split at h
      · cases h
      · rename_i ss1 h2
        cases h
        obtain ⟨rfl, hall⟩ := ih ss1 h2
        have e : adjusted o s = s1 := by simp only [adjusted, h1]
        refine ⟨by rw [List.map_cons, e], ?_⟩
        intro x hx
        rcases List.mem_cons.mp hx with rfl | hx
        · rw [e]; exact h1
        · exact hall x hx

theorem adjustAll_map {key : Species W → κ} (o : EpochOpts W)
    (hkey : ∀ s s', adjustFitness o s = .ok s' → key s' = key s) (ss ss' : List (Species W))
    (h : adjustAll o ss = .ok ss') : ss'.map key = ss.map key := by
  obtain ⟨rfl, hall⟩ := adjustAll_ok o ss ss' h
  rw [List.map_map]
  exact List.map_congr_left (fun s hs => hkey s _ (hall s hs))

theorem adjustAll_mem (o : EpochOpts W) (ss ss' : List (Species W)) (h : adjustAll o ss = .ok ss') :
    ∀ s' ∈ ss', ∃ s ∈ ss, adjustFitness o s = .ok s' := by
  obtain ⟨rfl, hall⟩ := adjustAll_ok o ss ss' h
  intro s' hs'
  obtain ⟨s, hs, rfl⟩ := List.mem_map.mp hs'
  exact ⟨s, hs, hall s hs⟩

/-- any constants would do; `true` because the stage that writes the flag writes `true`, so `bareOrg` absorbs it by `rfl` -/
def bareOrg (t : Org W) : Org W := { t with superChampOffspring := 0, isPopChampion := true }

def bare (s : Species W) : Species W :=
  { s with expectedOffspring := 0, ageOfLastImprovement := 0, orgs := s.orgs.map bareOrg }

omit [Scalar W] in
theorem map_key_of_bare {key : Species W → κ} (hkey : ∀ s, key (bare s) = key s) (l : List (Species W)) :
    l.map key = (l.map bare).map key := by
  rw [List.map_map]
  exact List.map_congr_left (fun s _ => (hkey s).symm)

omit [Scalar W] in
theorem map_of_bare {key : Species W → κ} (hkey : ∀ s, key (bare s) = key s) {l l' : List (Species W)}
    (h : l'.map bare = l.map bare) : l'.map key = l.map key := by
  rw [map_key_of_bare hkey l', map_key_of_bare hkey l, h]

omit [Scalar W] in
theorem sublist_of_bare {key : Species W → κ} (hkey : ∀ s, key (bare s) = key s) {l l' : List (Species W)}
    (h : (l'.map bare).Sublist (l.map bare)) : (l'.map key).Sublist (l.map key) := by
  rw [map_key_of_bare hkey l', map_key_of_bare hkey l]
  exact h.map key

omit [Scalar W] in
theorem perm_of_bare {key : Species W → κ} (hkey : ∀ s, key (bare s) = key s) {l l' : List (Species W)}
    (h : (l'.map bare).Perm (l.map bare)) : (l'.map key).Perm (l.map key) := by
  rw [map_key_of_bare hkey l', map_key_of_bare hkey l]
  exact h.map key

omit [Scalar W] in
theorem id_of_bare {s s' : Species W} (h : bare s' = bare s) : s'.id = s.id :=
  show (bare s').id = (bare s).id from congrArg Species.id h

omit [Scalar W] in
theorem orgs_of_bare {k : Org W → κ} (hk : ∀ t, k (bareOrg t) = k t) {s s' : Species W} (h : bare s' = bare s) :
    s'.orgs.map k = s.orgs.map k := by
  have e : ∀ a : Species W, a.orgs.map k = (bare a).orgs.map k := by
    intro a
    simp only [bare, List.map_map]
    exact List.map_congr_left (fun t _ => (hk t).symm)
  rw [e s', e s, h]

omit [Scalar W] in
theorem setTopOrg_bare (s : Species W) (f : Org W → Org W) (hf : ∀ t, bareOrg (f t) = bareOrg t) (q a : Int) :
    bare { setTopOrg s f with expectedOffspring := q, ageOfLastImprovement := a } = bare s := by
  unfold setTopOrg
  split
  · rfl
  · rename_i t ts h
    simp [bare, h, hf t]

omit [Scalar W] in
theorem setTopOrg_bare' (s : Species W) (f : Org W → Org W) (hf : ∀ t, bareOrg (f t) = bareOrg t) :
    bare (setTopOrg s f) = bare s := setTopOrg_bare s f hf _ _

def noQuota (s : Species W) : Species W := { s with expectedOffspring := 0 }

theorem assignQuotas_noQuota (ss : List (Species W)) (skim : W) (tot : Int) :
    (assignQuotas ss skim tot).1.map noQuota = ss.map noQuota := by
  induction ss generalizing skim tot with
  | nil => rfl
  | cons s ss ih =>
    simp only [assignQuotas, List.map_cons]
    rw [ih]
    rfl

omit [Scalar W] in
theorem bestQuotaIndex_range (ss : List (Species W)) (i : Nat) (mx : Int) (best : Option Nat)
    (hb : ∀ b, best = some b → b < i) : ∀ b, bestQuotaIndex ss i mx best = some b → b < i + ss.length := by
  induction ss generalizing i mx best with
  | nil => intro b h; simp [bestQuotaIndex] at h; have := hb b h; simpa using this
  | cons s ss ih =>
    intro b h
    unfold bestQuotaIndex at h
    split at h
    · have := ih (i + 1) _ (some i) (by intro b' hb'; cases hb'; omega) b h
      simp only [List.length_cons]; omega
    · have := ih (i + 1) _ best (by intro b' hb'; have := hb b' hb'; omega) b h
      simp only [List.length_cons]; omega

omit [Scalar W] in
/-- what the fix-up does: nothing (nothing is missing, or the scan found no species); or, for the species `s` at the index
    the scan returns, one more when exactly one is missing, everything (and nothing for the others) when more is -/
theorem fixupQuotas_cases (ss : List (Species W)) (t n : Int) :
    fixupQuotas ss t n = ss ∧ (n ≤ t ∨ bestQuotaIndex ss 0 0 none = none) ∨
    ∃ b s, ss[b]? = some s ∧
      (t + 1 = n ∧ fixupQuotas ss t n = ss.modify b (fun s => { s with expectedOffspring := s.expectedOffspring + 1 }) ∨
       t + 1 < n ∧ fixupQuotas ss t n = (ss.map noQuota).modify b (fun s => { s with expectedOffspring := n })) := by
  unfold fixupQuotas
  by_cases hlt : t < n
  · rw [if_pos hlt]
    cases hb : bestQuotaIndex ss 0 0 none with
    | none => exact .inl ⟨rfl, .inr rfl⟩
    | some b =>
      have hr : b < ss.length := by simpa using bestQuotaIndex_range ss 0 0 none (by intro b h; cases h) b hb
      refine .inr ⟨b, ss[b], List.getElem?_eq_getElem hr, ?_⟩
      by_cases h1 : t + 1 < n
      · exact .inr ⟨h1, if_pos h1⟩
      · exact .inl ⟨by omega, if_neg h1⟩
  · rw [if_neg hlt]; exact .inl ⟨rfl, .inl (by omega)⟩

omit [Scalar W] in
theorem fixupQuotas_noQuota (ss : List (Species W)) (a b : Int) : (fixupQuotas ss a b).map noQuota = ss.map noQuota := by
  rcases fixupQuotas_cases ss a b with ⟨e, _⟩ | ⟨i, s, _, ⟨_, e⟩ | ⟨_, e⟩⟩ <;> rw [e]
  · exact modify_map_of_eq _ _ _ _ (by intro s; rfl)
  · exact (modify_map_of_eq _ _ _ _ (by intro s; rfl)).trans (map_map_of _ _ _ (by intro s; rfl))

/-- species `s` after delta coding gave it `n` offspring, all reserved for clones of its first organism -/
def crown (s : Species W) (n : Int) : Species W :=
  { setTopOrg s (fun t => { t with superChampOffspring := n }) with expectedOffspring := n, ageOfLastImprovement := s.age }

omit [Scalar W] in
theorem deltaCoding_ok (sorted l : List (Species W)) (o : EpochOpts W) (h : deltaCoding sorted o = .ok l) :
    (∃ s, sorted = [s] ∧ l = [crown s o.popSize]) ∨
    (∃ s1 s2 rest, sorted = s1 :: s2 :: rest ∧
      l = crown s1 (o.popSize / 2 : Nat) :: crown s2 ((o.popSize : Int) - (o.popSize / 2 : Nat)) ::
          rest.map (fun s => { s with expectedOffspring := 0 })) := by
  unfold deltaCoding at h
  simp only at h
  split at h
  · cases h
  · split at h
    · cases h
    · cases h
      exact .inl ⟨_, rfl, rfl⟩
  · split at h
    · cases h
    · cases h
      exact .inr ⟨_, _, _, rfl, rfl⟩

omit [Scalar W] in
theorem crown_bare (s : Species W) (n : Int) : bare (crown s n) = bare s := setTopOrg_bare _ _ (by intro t; rfl) _ _

omit [Scalar W] in
theorem deltaCoding_all {P Q : Species W → Prop} {sorted l : List (Species W)} {o : EpochOpts W}
    (h : deltaCoding sorted o = .ok l) (hcrown : ∀ (s : Species W) (n : Int), 0 ≤ n → P s → Q (crown s n))
    (hzero : ∀ s : Species W, P s → Q { s with expectedOffspring := 0 }) (hl : ∀ s ∈ sorted, P s) : ∀ s ∈ l, Q s := by
  rcases deltaCoding_ok sorted l o h with ⟨s0, rfl, rfl⟩ | ⟨s1, s2, rest, rfl, rfl⟩
  · intro s hs
    rw [List.mem_singleton.mp hs]
    exact hcrown s0 _ (by omega) (hl s0 List.mem_cons_self)
  · intro s hs
    simp only [List.mem_cons, List.mem_map] at hs
    rcases hs with rfl | rfl | ⟨s0, hs0, rfl⟩
    · exact hcrown s1 _ (by omega) (hl s1 (by simp))
    · exact hcrown s2 _ (by omega) (hl s2 (by simp))
    · exact hzero s0 (hl s0 (by simp [hs0]))

omit [Scalar W] in
theorem deltaCoding_bare (sorted l : List (Species W)) (o : EpochOpts W) (h : deltaCoding sorted o = .ok l) :
    l.map bare = sorted.map bare := by
  rcases deltaCoding_ok sorted l o h with ⟨s, rfl, rfl⟩ | ⟨s1, s2, rest, rfl, rfl⟩
  · simp only [List.map_cons, List.map_nil, crown_bare]
  · simp only [List.map_cons, crown_bare]
    rw [map_map_of bare _ _ (by intro s; rfl)]

/-- what `stealLoop` does to a species list: it stops, passes over a species, or takes `d` babies from it, leaving at
    least one -/
inductive Steal : List (Species W) → Int → List (Species W) → Int → Prop
  | stop (l : List (Species W)) (st : Int) : Steal l st l st
  | pass (s : Species W) {ss ss' : List (Species W)} {st st' : Int} : Steal ss st ss' st' → Steal (s :: ss) st (s :: ss') st'
  | take (s : Species W) (d : Int) {q st1 : Int} {ss ss' : List (Species W)} {st st' : Int} :
      0 < d → d < s.expectedOffspring → q = s.expectedOffspring - d → st1 = st + d → Steal ss st1 ss' st' →
      Steal (s :: ss) st ({ s with expectedOffspring := q } :: ss') st'

omit [Scalar W] in
theorem stealLoop_steal (bs : Int) (l : List (Species W)) (st : Int) :
    Steal l st (stealLoop bs l st).1 (stealLoop bs l st).2 := by
  induction l generalizing st with
  | nil => exact .stop _ _
  | cons s ss ih =>
    unfold stealLoop
    split
    · split
      · rename_i hc
        simp only [Bool.and_eq_true, decide_eq_true_eq] at hc
        split
        · exact .take s (bs - st) (by omega) (by omega) rfl (by omega) (ih bs)
        · exact .take s (s.expectedOffspring - 1) (by omega) (by omega) (by omega) (by omega) (ih _)
      · exact .pass s (ih st)
    · exact .stop _ _

omit [Scalar W] in
theorem Steal.bare {l l' : List (Species W)} {st st' : Int} (h : Steal l st l' st') : l'.map bare = l.map bare := by
  induction h with
  | stop => rfl
  | pass s _ ih => simp only [List.map_cons, ih]
  | take s d _ _ _ _ _ ih => simp only [List.map_cons, ih]; rfl

omit [Scalar W] in
theorem Steal.nonneg {l l' : List (Species W)} {st st' : Int} (h : Steal l st l' st') (h0 : 0 ≤ st) : 0 ≤ st' := by
  induction h with
  | stop => exact h0
  | pass s _ ih => exact ih h0
  | take s d hd _ _ hst _ ih => exact ih (by omega)

omit [Scalar W] in
theorem Steal.all {P : Species W → Prop} {l l' : List (Species W)} {st st' : Int} (h : Steal l st l' st')
    (hP : ∀ (s : Species W) (d : Int), 0 < d → d < s.expectedOffspring → P s →
      P { s with expectedOffspring := s.expectedOffspring - d })
    (hl : ∀ s ∈ l, P s) : ∀ s ∈ l', P s := by
  induction h with
  | stop => exact hl
  | pass s _ ih =>
    intro x hx
    rcases List.mem_cons.mp hx with rfl | hx
    · exact hl _ List.mem_cons_self
    · exact ih (fun y hy => hl y (List.mem_cons_of_mem _ hy)) x hx
  | take s d h0 hd hq _ _ ih =>
    intro x hx
    rcases List.mem_cons.mp hx with rfl | hx
    · exact hq ▸ hP s d h0 hd (hl s List.mem_cons_self)
    · exact ih (fun y hy => hl y (List.mem_cons_of_mem _ hy)) x hx

/-- species `s` after `giveLoop` handed it `b` babies -/
def bump (s : Species W) (b : Int) : Species W :=
  { setTopOrg s (fun t => { t with superChampOffspring := b }) with expectedOffspring := s.expectedOffspring + b }

/-- what `giveLoop` hands to a species that is not stagnant: a block while blocks remain and the pool covers them,
    afterwards 3 babies (or all that is left) with probability 0.9 -/
def giveStep (blocks : List Int) (s : Species W) (bi : Nat) (st : Int) : Rand (Species W × Int) := fun rs =>
  if bi < 3 && st ≥ (blocks[bi]?).getD 0 then .ok ((bump s ((blocks[bi]?).getD 0), st - (blocks[bi]?).getD 0), rs)
  else if bi ≥ 3 then
    match Rand.float64 (W := W) rs with
    | .error e => .error e
    | .ok (f, rs') =>
      if gt f (ofDec 1 1) then
        if st > 3 then .ok ((bump s 3, st - 3), rs')
        else .ok ((bump s st, 0), rs')
      else .ok ((s, st), rs')
  else .ok ((s, st), rs)

theorem giveLoop_cons (o : EpochOpts W) (blocks : List Int) (s : Species W) (ss : List (Species W)) (bi : Nat) (st : Int)
    (rs : List Nat) :
    giveLoop o blocks (s :: ss) bi st rs =
      if (s.age - s.ageOfLastImprovement) > o.dropOffAge then
        match giveLoop o blocks ss bi st rs with
        | .error e => .error e
        | .ok ((rest, st'), rs') => .ok ((s :: rest, st'), rs')
      else
        match giveStep blocks s bi st rs with
        | .error e => .error e
        | .ok ((s', st1), rs1) =>
          if st1 ≤ 0 then .ok ((s' :: ss, st1), rs1)
          else
            match giveLoop o blocks ss (bi + 1) st1 rs1 with
            | .error e => .error e
            | .ok ((rest, st'), rs2) => .ok ((s' :: rest, st'), rs2) := by
  rw [giveLoop]
  rfl

/-- what `giveLoop` does to a species list while `st` stolen babies are left: it stops, passes over a species, or hands
    it a gift `b ≤ st` (one of the blocks, 3, or all that is left — never negative when these are not) -/
inductive Give (blocks : List Int) : List (Species W) → Int → List (Species W) → Int → Prop
  | stop (l : List (Species W)) (st : Int) : Give blocks l st l st
  | pass (s : Species W) {ss ss' : List (Species W)} {st st' : Int} :
      Give blocks ss st ss' st' → Give blocks (s :: ss) st (s :: ss') st'
  | gift (s : Species W) (b : Int) {ss ss' : List (Species W)} {st st' : Int} :
      b ≤ st → ((∀ c ∈ blocks, 0 ≤ c) → 0 ≤ st → 0 ≤ b) → Give blocks ss (st - b) ss' st' →
      Give blocks (s :: ss) st (bump s b :: ss') st'

theorem giveStep_ok (blocks : List Int) (s s1 : Species W) (bi : Nat) (st st1 : Int) (rs rs1 : List Nat)
    (h : giveStep blocks s bi st rs = .ok ((s1, st1), rs1)) :
    (s1 = s ∧ st1 = st) ∨
      ∃ b, b ≤ st ∧ ((∀ c ∈ blocks, 0 ≤ c) → 0 ≤ st → 0 ≤ b) ∧ s1 = bump s b ∧ st1 = st - b := by
  unfold giveStep at h
  split at h
  · rename_i hc
    simp only [Except.ok.injEq, Prod.mk.injEq] at h
    obtain ⟨⟨rfl, rfl⟩, _⟩ := h
    simp only [Bool.and_eq_true, decide_eq_true_eq] at hc
    refine .inr ⟨_, hc.2, fun hb _ => ?_, rfl, rfl⟩
    cases hq : blocks[bi]? with
    | none => simp
    | some b => simpa using hb b (List.mem_of_getElem? hq)
  · split at h
    · split at h
      · cases h
      · split at h
        · split at h
          · simp only [Except.ok.injEq, Prod.mk.injEq] at h
            obtain ⟨⟨rfl, rfl⟩, _⟩ := h
            exact .inr ⟨3, by omega, fun _ _ => by omega, rfl, rfl⟩
          · simp only [Except.ok.injEq, Prod.mk.injEq] at h
            obtain ⟨⟨rfl, rfl⟩, _⟩ := h
            exact .inr ⟨st, Int.le_refl _, fun _ h0 => h0, rfl, by omega⟩
        · simp only [Except.ok.injEq, Prod.mk.injEq] at h
          obtain ⟨⟨rfl, rfl⟩, _⟩ := h
          exact .inl ⟨rfl, rfl⟩
    · simp only [Except.ok.injEq, Prod.mk.injEq] at h
      obtain ⟨⟨rfl, rfl⟩, _⟩ := h
      exact .inl ⟨rfl, rfl⟩

theorem giveLoop_give (o : EpochOpts W) (blocks : List Int) (l l' : List (Species W)) (bi : Nat) (st left : Int)
    (rs rs' : List Nat) (h : giveLoop o blocks l bi st rs = .ok ((l', left), rs')) : Give blocks l st l' left := by
  induction l generalizing l' bi st left rs rs' with
  | nil =>
    simp only [giveLoop, Except.ok.injEq, Prod.mk.injEq] at h
    obtain ⟨⟨rfl, rfl⟩, _⟩ := h
    exact .stop _ _
  | cons s ss ih =>
    rw [giveLoop_cons] at h
    split at h
    · split at h
      · cases h
      · rename_i rest st1 rs1 hrec
        simp only [Except.ok.injEq, Prod.mk.injEq] at h
        obtain ⟨⟨rfl, rfl⟩, _⟩ := h
        exact .pass s (ih _ _ _ _ _ _ hrec)
    · split at h
      · cases h
      · rename_i s1 st1 rs1 hstep
        have hrest : ∃ rest, l' = s1 :: rest ∧ Give blocks ss st1 rest left := by
          split at h
          · simp only [Except.ok.injEq, Prod.mk.injEq] at h
            obtain ⟨⟨rfl, rfl⟩, _⟩ := h
            exact ⟨ss, rfl, .stop _ _⟩
          · split at h
            · cases h
            · rename_i rest st2 rs2 hrec
              simp only [Except.ok.injEq, Prod.mk.injEq] at h
              obtain ⟨⟨rfl, rfl⟩, _⟩ := h
              exact ⟨rest, rfl, ih _ _ _ _ _ _ hrec⟩
        obtain ⟨rest, rfl, hg⟩ := hrest
        rcases giveStep_ok blocks s s1 bi st st1 rs rs1 hstep with ⟨rfl, rfl⟩ | ⟨b, hb1, hb2, rfl, rfl⟩
        · exact .pass _ hg
        · exact .gift _ b hb1 hb2 hg
omit [Scalar W] in
theorem bump_bare (s : Species W) (b : Int) : bare (bump s b) = bare s := setTopOrg_bare _ _ (by intro t; rfl) _ _

omit [Scalar W] in
theorem Give.bare {blocks : List Int} {l l' : List (Species W)} {st st' : Int} (h : Give blocks l st l' st') :
    l'.map bare = l.map bare := by
  induction h with
  | stop => rfl
  | pass s _ ih => simp only [List.map_cons, ih]
  | gift s b _ _ _ ih => simp only [List.map_cons, ih, bump_bare]

omit [Scalar W] in
theorem Give.nonneg {blocks : List Int} {l l' : List (Species W)} {st st' : Int} (h : Give blocks l st l' st')
    (h0 : 0 ≤ st) : 0 ≤ st' := by
  induction h with
  | stop => exact h0
  | pass s _ ih => exact ih h0
  | gift s b hle _ _ ih => exact ih (by omega)

omit [Scalar W] in
theorem Give.all {P : Species W → Prop} {blocks : List Int} {l l' : List (Species W)} {st st' : Int}
    (h : Give blocks l st l' st') (hb : ∀ c ∈ blocks, 0 ≤ c) (h0 : 0 ≤ st)
    (hP : ∀ (s : Species W) (b : Int), 0 ≤ b → P s → P (bump s b)) (hl : ∀ s ∈ l, P s) : ∀ s ∈ l', P s := by
  induction h with
  | stop => exact hl
  | pass s _ ih =>
    intro x hx
    rcases List.mem_cons.mp hx with rfl | hx
    · exact hl _ List.mem_cons_self
    · exact ih h0 (fun y hy => hl y (List.mem_cons_of_mem _ hy)) x hx
  | gift s b hle hpos _ ih =>
    intro x hx
    rcases List.mem_cons.mp hx with rfl | hx
    · exact hP s b (hpos hb h0) (hl s List.mem_cons_self)
    · exact ih (by omega) (fun y hy => hl y (List.mem_cons_of_mem _ hy)) x hx

/-- `giveBabiesToTheBest` steals from the worst species upwards, gives from the best downwards, and adds what is then
    left to the best species -/
theorem giveBabies_ok (sorted l : List (Species W)) (o : EpochOpts W) (rs rs' : List Nat)
    (h : giveBabiesToTheBest sorted o rs = .ok (l, rs')) :
    ∃ (mid : List (Species W)) (st : Int) (l1 : List (Species W)) (left : Int),
      Steal sorted.reverse 0 mid st ∧
      Give [o.babiesStolen / 5, o.babiesStolen / 5, o.babiesStolen / 10] mid.reverse st l1 left ∧
      (left ≤ 0 ∧ l = l1 ∨ 0 < left ∧ ∃ s ss, l1 = s :: ss ∧
        l = { setTopOrg s (fun t => { t with superChampOffspring := t.superChampOffspring + left }) with
              expectedOffspring := s.expectedOffspring + left } :: ss) := by
  unfold giveBabiesToTheBest at h
  simp only at h
  split at h
  · cases h
  · rename_i l1 left rs1 hgive
    refine ⟨_, _, l1, left, stealLoop_steal _ _ _, giveLoop_give _ _ _ _ _ _ _ _ _ hgive, ?_⟩
    split at h
    · rename_i hleft
      split at h
      · cases h
      · split at h
        · cases h
        · simp only [Except.ok.injEq, Prod.mk.injEq] at h
          obtain ⟨rfl, _⟩ := h
          exact .inr ⟨hleft, _, _, rfl, rfl⟩
    · rename_i hleft
      simp only [Except.ok.injEq, Prod.mk.injEq] at h
      obtain ⟨rfl, _⟩ := h
      exact .inl ⟨by omega, rfl⟩

/-- `P` holds of every species before and survives a theft; `Q` follows from `P` and survives a gift and the final top-up -/
theorem giveBabies_all {P Q : Species W → Prop} {sorted l : List (Species W)} {o : EpochOpts W} {rs rs' : List Nat}
    (hbs : 0 ≤ o.babiesStolen) (h : giveBabiesToTheBest sorted o rs = .ok (l, rs'))
    (hsteal : ∀ (s : Species W) (d : Int), 0 < d → d < s.expectedOffspring → P s →
      P { s with expectedOffspring := s.expectedOffspring - d })
    (hPQ : ∀ s, P s → Q s) (hbump : ∀ (s : Species W) (b : Int), 0 ≤ b → Q s → Q (bump s b))
    (htop : ∀ (s : Species W) (left : Int), 0 < left → Q s →
      Q { setTopOrg s (fun t => { t with superChampOffspring := t.superChampOffspring + left }) with
          expectedOffspring := s.expectedOffspring + left })
    (hl : ∀ s ∈ sorted, P s) : ∀ s ∈ l, Q s := by
  obtain ⟨mid, st, l1, left, hs, hg, hl'⟩ := giveBabies_ok sorted l o rs rs' h
  have h1 : ∀ s ∈ l1, Q s := by
    refine hg.all (fun b hb' => ?_) (hs.nonneg (Int.le_refl 0)) hbump (fun s hs' => hPQ s ?_)
    · simp only [List.mem_cons, List.mem_nil_iff, or_false] at hb'
      rcases hb' with rfl | rfl | rfl <;> omega
    · exact hs.all hsteal (fun s hs' => hl s (List.mem_reverse.mp hs')) s (List.mem_reverse.mp hs')
  rcases hl' with ⟨_, rfl⟩ | ⟨hleft, s, ss, rfl, rfl⟩
  · exact h1
  · intro x hx
    rcases List.mem_cons.mp hx with rfl | hx
    · exact htop s left hleft (h1 s List.mem_cons_self)
    · exact h1 x (List.mem_cons_of_mem _ hx)

theorem giveBabies_bare (sorted l : List (Species W)) (o : EpochOpts W) (rs rs' : List Nat)
    (h : giveBabiesToTheBest sorted o rs = .ok (l, rs')) : l.map bare = sorted.map bare := by
  obtain ⟨mid, st, l1, left, hs, hg, hl⟩ := giveBabies_ok sorted l o rs rs' h
  have h1 : l1.map bare = sorted.map bare := by
    rw [hg.bare, List.map_reverse, hs.bare, List.map_reverse, List.reverse_reverse]
  rcases hl with ⟨_, rfl⟩ | ⟨_, s, ss, rfl, rfl⟩
  · exact h1
  · rw [← h1]
    exact congrArg (· :: ss.map bare) (setTopOrg_bare s _ (by intro t; rfl) _ _)

/-- the redistribution step of `prepareForReproduction`: delta coding, stolen babies, or nothing -/
def redistribute (o : EpochOpts W) (sorted1 : List (Species W)) (e : Int) : Rand (List (Species W) × Int) := fun rs =>
  if e ≥ o.dropOffAge + 5 then
    match deltaCoding sorted1 o with
    | .error er => .error er
    | .ok l => .ok ((l, 0), rs)
  else if o.babiesStolen > 0 then
    match giveBabiesToTheBest sorted1 o rs with
    | .error er => .error er
    | .ok (l, rs') => .ok ((l, e), rs')
  else .ok ((sorted1, e), rs)

def Redistributed (o : EpochOpts W) (sorted1 : List (Species W)) (e : Int) (rs : List Nat) (sorted2 : List (Species W))
    (ehlc : Int) (rs1 : List Nat) : Prop :=
  redistribute o sorted1 e rs = .ok ((sorted2, ehlc), rs1)

theorem Redistributed.cases {o : EpochOpts W} {sorted1 sorted2 : List (Species W)} {e ehlc : Int} {rs rs1 : List Nat}
    (h : Redistributed o sorted1 e rs sorted2 ehlc rs1) :
    deltaCoding sorted1 o = .ok sorted2 ∨
    (0 < o.babiesStolen ∧ giveBabiesToTheBest sorted1 o rs = .ok (sorted2, rs1)) ∨ sorted2 = sorted1 := by
  unfold Redistributed redistribute at h
  split at h
  · split at h
    · cases h
    · rename_i l hd
      simp only [Except.ok.injEq, Prod.mk.injEq] at h
      obtain ⟨⟨rfl, _⟩, _⟩ := h
      exact .inl hd
  · split at h
    · rename_i hbs
      split at h
      · cases h
      · rename_i l rs2 hg
        simp only [Except.ok.injEq, Prod.mk.injEq] at h
        obtain ⟨⟨rfl, _⟩, rfl⟩ := h
        exact .inr (.inl ⟨hbs, hg⟩)
    · simp only [Except.ok.injEq, Prod.mk.injEq] at h
      obtain ⟨⟨rfl, _⟩, _⟩ := h
      exact .inr (.inr rfl)

theorem Redistributed.bare {o : EpochOpts W} {sorted1 sorted2 : List (Species W)} {e ehlc : Int} {rs rs1 : List Nat}
    (h : Redistributed o sorted1 e rs sorted2 ehlc rs1) : sorted2.map bare = sorted1.map bare := by
  rcases h.cases with hd | ⟨_, hg⟩ | rfl
  · exact deltaCoding_bare _ _ _ hd
  · exact giveBabies_bare _ _ _ _ _ hg
  · rfl

namespace C09

/-- `overallAverage` of `purgeZeroOffspringSpecies`: the sum of the fitness values of the organisms in
    `Population.Organisms` order (left fold from zero), divided by the number of organisms -/
def popMean (q : Pop W) : W :=
  div (q.orgList.foldl (fun acc x => add acc x.fitness) zero) (ofInt ((q.organisms.length : Nat) : Int))

/-- the assignment of the expected offspring in `purgeZeroOffspringSpecies`: fitness / mean, skipped for a zero mean -/
def setExp (m : W) (x : Org W) : Org W := if eq m zero then x else { x with expectedOffspring := div x.fitness m }

end C09

theorem sublist_of_bare_setExp {key : Species W → κ} (hkey : ∀ s, key (bare s) = key s)
    (hexp : ∀ (m : W) (s : Species W), key { s with orgs := s.orgs.map (C09.setExp m) } = key s) {m : W}
    {l l' : List (Species W)}
    (h : (l'.map bare).Sublist ((l.map (fun s => { s with orgs := s.orgs.map (C09.setExp m) })).map bare)) :
    (l'.map key).Sublist (l.map key) := by
  have e : (l.map (fun s => { s with orgs := s.orgs.map (C09.setExp m) })).map key = l.map key := by
    rw [List.map_map]
    exact List.map_congr_left (fun s _ => hexp m s)
  exact e ▸ sublist_of_bare hkey h

namespace C10

/-- a species as a chain through the preparation phase sees it: its id and a key `k` of every member, in order.  The keys
    in use: `C09.xkey` is `gkey C09.okey` by `rfl` (`okey` holds the expected offspring: blind to `bare` - `InvPC`, `InvSC` -
    but not `InvEO`, so it can be followed only from the assignment of the expected offspring on, `C09.prepare_xkeys`);
    `C10.hkey` (allocation id, genome, mark; Props/C10Epoch.lean) is blind to all three and is followed from the fitness
    adjustment on as `gkey hkey`; `C02.ukey` carries the species' age and novel flag beside the id and is no instance. -/
def gkey (k : Org W → κ) (s : Species W) : Int × List κ := (s.id, s.orgs.map k)

/-- the key does not see the expected offspring, which `purgeZeroOffspringSpecies` assigns (`C09.setExp`) -/
def InvEO (k : Org W → κ) : Prop := ∀ (t : Org W) (v : W), k { t with expectedOffspring := v } = k t
/-- the key does not see the population-champion flag, which the phase sets on the top organism of the best species -/
def InvPC (k : Org W → κ) : Prop := ∀ t : Org W, k { t with isPopChampion := true } = k t
/-- the key does not see the reservation of champion clones, which delta coding and stolen babies write -/
def InvSC (k : Org W → κ) : Prop := ∀ (t : Org W) (v : Int), k { t with superChampOffspring := v } = k t

omit [Scalar W] in
theorem gkey_bare {k : Org W → κ} (hPC : InvPC k) (hSC : InvSC k) (s : Species W) : gkey k (bare s) = gkey k s := by
  simp only [gkey, bare, List.map_map, Prod.mk.injEq, true_and]
  exact List.map_congr_left (fun t _ => (hPC { t with superChampOffspring := 0 }).trans (hSC t 0))

theorem gkey_setExp {k : Org W → κ} (hEO : InvEO k) (m : W) (s : Species W) :
    gkey k { s with orgs := s.orgs.map (C09.setExp m) } = gkey k s := by
  simp only [gkey, List.map_map, Prod.mk.injEq, true_and]
  apply List.map_congr_left
  intro x _
  simp only [Function.comp, C09.setExp]
  split
  · rfl
  · exact hEO x _

end C10

theorem purgeZero_noQuota (q : Pop W) :
    ((purgeZeroOffspringSpecies q).species.map noQuota).Sublist
      ((q.species.map (fun s => { s with orgs := s.orgs.map (C09.setExp (C09.popMean q)) })).map noQuota) := by
  unfold purgeZeroOffspringSpecies
  simp only
  refine (List.Sublist.map _ List.filter_sublist).trans ?_
  rw [fixupQuotas_noQuota, assignQuotas_noQuota]
  exact List.Sublist.refl _

theorem purgeZero_bare (q : Pop W) :
    ((purgeZeroOffspringSpecies q).species.map bare).Sublist
      ((q.species.map (fun s => { s with orgs := s.orgs.map (C09.setExp (C09.popMean q)) })).map bare) := by
  have := (purgeZero_noQuota q).map bare
  rwa [List.map_map, List.map_map] at this

omit [Scalar W] in
theorem writeBack_bare (species updated : List (Species W)) (hnd : (species.map (·.id)).Nodup)
    (hperm : (updated.map bare).Perm (species.map bare)) : (writeBack species updated).map bare = species.map bare := by
  unfold writeBack
  rw [List.map_map]
  apply List.map_congr_left
  intro s hs
  simp only [Function.comp]
  cases hf : updated.find? (fun x => x.id == s.id) with
  | none => rfl
  | some x =>
    simp only [Option.getD_some]
    have hid : x.id = s.id := by simpa using List.find?_some hf
    obtain ⟨s', hs', e⟩ := List.mem_map.mp (hperm.mem_iff.mp (List.mem_map_of_mem (List.mem_of_find?_eq_some hf)))
    have hid' : s'.id = s.id := (congrArg Species.id e).trans hid
    rw [← e, nodup_map_inj (·.id) hnd hs' hs hid']

omit [Scalar W] in
theorem find_by_own_id (U : List (Species W)) (hnd : (U.map (·.id)).Nodup) (x : Species W) (hx : x ∈ U) :
    U.find? (fun y => y.id == x.id) = some x :=
  find_unique U _ x hx (by simp) (fun z hz hp => nodup_map_inj (·.id) hnd hz hx (by simpa using hp))

omit [Scalar W] in
/-- over the same ids, each once, the write-back by id IS the updated list, in the order of `species` -/
theorem writeBack_perm (species U : List (Species W)) (hndU : (U.map (·.id)).Nodup)
    (hperm : (species.map (·.id)).Perm (U.map (·.id))) : (writeBack species U).Perm U := by
  have h1 : (species.map (·.id)).filterMap (fun i => U.find? (·.id == i)) = writeBack species U := by
    rw [List.filterMap_map]
    refine filterMap_eq_map_of _ _ _ (fun s hs => ?_)
    obtain ⟨x, hx, e⟩ := List.mem_map.mp (hperm.mem_iff.mp (List.mem_map_of_mem hs))
    show U.find? (·.id == s.id) = _
    rw [← e, find_by_own_id U hndU x hx]
    rfl
  rw [← h1]
  refine (hperm.filterMap _).trans (List.Perm.of_eq ?_)
  rw [List.filterMap_map]
  exact (filterMap_eq_map_of _ id U (fun x hx => find_by_own_id U hndU x hx)).trans (List.map_id U)

/-- **the preparation phase, stage by stage**: fitness adjustment (`species1`), quota assignment and zero-quota purge,
    species sort (`best :: tail`) with the population-champion flag, redistribution (`sorted2`), write-back by id
    (`pre.species`), removal of the organisms marked for elimination (`doomed`).  In the model `e` is the population's count
    of epochs since its highest fitness last rose, after this epoch's comparison (0 on a record), and `ehlc` that counter
    as the redistribution leaves it; the statement determines NEITHER beyond `Redistributed` (so not when delta coding
    fires), nor `ex.bestSpeciesId`, nor `p1.highestFitness` and `p1.epochsHighestLastChanged`, nor the fields of `pre`
    other than `species` and `organisms`: a property about those has to take `prepareForReproduction` apart again. -/
theorem prepare_decomp (o : EpochOpts W) (p p1 : Pop W) (ex : ExecState) (rs rs' : List Nat)
    (h : prepareForReproduction o p rs = .ok ((p1, ex), rs')) :
    ∃ (species1 : List (Species W)) (best : Species W) (tail : List (Species W)) (e : Int) (sorted2 : List (Species W))
      (ehlc : Int) (doomed : List Nat) (pre : Pop W),
      adjustAll o p.species = .ok species1 ∧
      sortSpeciesDesc (purgeZeroOffspringSpecies ({ p with species := species1 } : Pop W)).species = best :: tail ∧
      Redistributed o (setTopOrg best (fun t => { t with isPopChampion := true }) :: tail) e rs sorted2 ehlc rs' ∧
      pre.species = writeBack (purgeZeroOffspringSpecies ({ p with species := species1 } : Pop W)).species sorted2 ∧
      pre.organisms = p.organisms ∧
      doomed = (pre.orgList.filter (·.toEliminate)).map (·.uid) ∧
      p1.species = pre.species.map (fun s => { s with orgs := s.orgs.filter (fun x => !doomed.contains x.uid) }) ∧
      p1.organisms = p.organisms.filter (fun u => !doomed.contains u) ∧ p1.nextUid = p.nextUid ∧
      p1.lastSpecies = p.lastSpecies ∧ p1.reg = p.reg ∧ ex.sortedIds = sorted2.map (·.id) := by
  unfold prepareForReproduction at h
  split at h
  · cases h
  · rename_i species1 hadj
    simp only at h
    have hz3 : (purgeZeroOffspringSpecies ({ p with species := species1 } : Pop W)).organisms = p.organisms := rfl
    have hz4 : (purgeZeroOffspringSpecies ({ p with species := species1 } : Pop W)).nextUid = p.nextUid := rfl
    generalize hpz : purgeZeroOffspringSpecies ({ p with species := species1 } : Pop W) = pz at h hz3 hz4
    split at h
    · cases h
    · rename_i best tail hsorted
      split at h
      · cases h
      · rename_i top htop
        split at h
        · cases h
        · rename_i sorted2 ehlc rs1 hred
          simp only [Except.ok.injEq, Prod.mk.injEq] at h
          obtain ⟨⟨rfl, rfl⟩, rfl⟩ := h
          rw [hsorted, List.tail_cons] at hred
          subst hpz
          exact ⟨species1, best, tail, _, sorted2, ehlc, _,
            { purgeZeroOffspringSpecies ({ p with species := species1 } : Pop W) with
              species := writeBack (purgeZeroOffspringSpecies ({ p with species := species1 } : Pop W)).species sorted2 },
            hadj, hsorted, hred, rfl, rfl, rfl, rfl, rfl, rfl, rfl, rfl, rfl⟩

omit [Scalar W] in
theorem writeBack_mem (species updated : List (Species W)) : ∀ s ∈ writeBack species updated, s ∈ species ∨ s ∈ updated := by
  intro s' hs'
  unfold writeBack at hs'
  obtain ⟨s, hs, rfl⟩ := List.mem_map.mp hs'
  cases hf : updated.find? (·.id == s.id) with
  | none => exact .inl hs
  | some u => exact .inr (List.mem_of_find?_eq_some hf)

theorem Redistributed.perm_bare {o : EpochOpts W} {l sorted2 : List (Species W)} {best : Species W} {tail : List (Species W)}
    {e ehlc : Int} {rs rs' : List Nat}
    (hred : Redistributed o (setTopOrg best (fun t => { t with isPopChampion := true }) :: tail) e rs sorted2 ehlc rs')
    (hsorted : sortSpeciesDesc l = best :: tail) : (sorted2.map GoNeat.bare).Perm (l.map GoNeat.bare) := by
  rw [hred.bare, List.map_cons, setTopOrg_bare' best _ (by intro t; rfl), ← List.map_cons, ← hsorted]
  exact (goSort_perm _ _).map GoNeat.bare

/-- what the stages of `prepare_decomp` do up to `bare`: the redistributed list is a rearrangement of the purged species,
    which are (in order) some of the adjusted species with the expected offspring set; the write-back by id restores
    the order -/
theorem prepare_stages_bare (o : EpochOpts W) (p : Pop W)
    (species1 : List (Species W)) (best : Species W) (tail : List (Species W)) (e : Int) (rs : List Nat)
    (sorted2 : List (Species W)) (ehlc : Int) (rs' : List Nat)
    (hnd : (p.species.map (·.id)).Nodup) (hadj : adjustAll o p.species = .ok species1)
    (hsorted : sortSpeciesDesc (purgeZeroOffspringSpecies ({ p with species := species1 } : Pop W)).species = best :: tail)
    (hred : Redistributed o (setTopOrg best (fun t => { t with isPopChampion := true }) :: tail) e rs sorted2 ehlc rs') :
    (sorted2.map bare).Perm ((purgeZeroOffspringSpecies ({ p with species := species1 } : Pop W)).species.map bare) ∧
    ((purgeZeroOffspringSpecies ({ p with species := species1 } : Pop W)).species.map (·.id)).Nodup ∧
    ((purgeZeroOffspringSpecies ({ p with species := species1 } : Pop W)).species.map bare).Sublist
      ((species1.map (fun s =>
        { s with orgs := s.orgs.map (C09.setExp (C09.popMean ({ p with species := species1 } : Pop W))) })).map bare) ∧
    (writeBack (purgeZeroOffspringSpecies ({ p with species := species1 } : Pop W)).species sorted2).map bare =
      (purgeZeroOffspringSpecies ({ p with species := species1 } : Pop W)).species.map bare ∧
    (writeBack (purgeZeroOffspringSpecies ({ p with species := species1 } : Pop W)).species sorted2).Perm sorted2 := by
  have hz1 := purgeZero_bare ({ p with species := species1 } : Pop W)
  simp only at hz1
  generalize C09.popMean ({ p with species := species1 } : Pop W) = m at hz1 ⊢
  generalize purgeZeroOffspringSpecies ({ p with species := species1 } : Pop W) = pz at hsorted hz1 ⊢
  have hperm := hred.perm_bare hsorted
  have hndz : (pz.species.map (·.id)).Nodup := by
    have hsub := hz1.map Species.id
    rw [List.map_map, List.map_map, List.map_map] at hsub
    rw [← adjustAll_map (key := Species.id) o (fun s s' hs => by
      obtain ⟨_, _, _, rfl⟩ := adjustFitness_ok o s s' hs; rfl) _ _ hadj] at hnd
    exact hsub.nodup hnd
  have hids : (pz.species.map (·.id)).Perm (sorted2.map (·.id)) := by
    have := (hperm.map Species.id).symm
    rwa [List.map_map, List.map_map] at this
  exact ⟨hperm, hndz, hz1, writeBack_bare pz.species sorted2 hndz hperm, writeBack_perm _ _ (hids.nodup_iff.mp hndz) hids⟩

/-- **the phase up to `bare`, in order** (unique species ids): the species before the final removal of marked organisms
    (`pre.species`) are, in order, some of the adjusted species with the expected offspring set -/
theorem prepare_bare (o : EpochOpts W) (p p1 : Pop W) (ex : ExecState) (rs rs' : List Nat)
    (hnd : (p.species.map (·.id)).Nodup) (h : prepareForReproduction o p rs = .ok ((p1, ex), rs')) :
    ∃ (species1 : List (Species W)) (doomed : List Nat) (pre : Pop W),
      adjustAll o p.species = .ok species1 ∧
      (pre.species.map bare).Sublist ((species1.map (fun s =>
        { s with orgs := s.orgs.map (C09.setExp (C09.popMean ({ p with species := species1 } : Pop W))) })).map bare) ∧
      pre.organisms = p.organisms ∧
      doomed = (pre.orgList.filter (·.toEliminate)).map (·.uid) ∧
      p1.species = pre.species.map (fun s => { s with orgs := s.orgs.filter (fun x => !doomed.contains x.uid) }) ∧
      p1.organisms = p.organisms.filter (fun u => !doomed.contains u) ∧ p1.nextUid = p.nextUid ∧
      p1.lastSpecies = p.lastSpecies ∧ p1.reg = p.reg := by
  obtain ⟨species1, best, tail, e, sorted2, ehlc, doomed, pre, hadj, hsorted, hred, hpre, ho, hd, hsp, ho1, hu, hl, hreg, _⟩ :=
    prepare_decomp o p p1 ex rs rs' h
  obtain ⟨_, _, hsub, hwb, _⟩ := prepare_stages_bare o p species1 best tail e rs sorted2 ehlc rs' hnd hadj hsorted hred
  exact ⟨species1, doomed, pre, hadj, by rw [hpre, hwb]; exact hsub, ho, hd, hsp, ho1, hu, hl, hreg⟩

end GoNeat
