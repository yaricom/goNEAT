/-
  C01 helper lemmas for the three crossovers: the invariant of the child under construction (`AccInv`) is
  established by the common prologue (`matePrologue`: averaged traits, copies of the second parent's
  input/bias/output nodes) and preserved by "add the chosen gene to the baby" (`addChosen`); a finished child that
  satisfies it is of the node lineage of whatever both parents are (`child_lineage`, the node-side fact), is well-formed
  (`child_wft`) and fits into its parents' population (`child_fits`).
-/
import GoNeat.Proofs.WFLemmas
import GoNeat.Proofs.WFStruct
import GoNeat.Proofs.MateBasic
import GoNeat.Props.C06

namespace GoNeat.C01
open GoNeat Scalar
variable {W : Type} [Scalar W]

/-- a trait reference resolves in a trait list (`TraitRefOk` of a genome with these traits) -/
def RefIn (nt : List (Trait W)) (t : Option Int) : Prop :=
  match t with
  | none => True
  | some id => id ≠ 0 ∧ id ∈ nt.map (·.id)

omit [Scalar W] in
theorem traitRefOk_iff_refIn (g : Genome W) (t : Option Int) : TraitRefOk g t ↔ RefIn g.traits t := by
  cases t <;> rfl

omit [Scalar W] in
theorem childTraitRef_ok (nt : List (Trait W)) (t0 t tr : Option Int) (h : childTraitRef nt t0 t = .ok tr)
    (hz : ∀ t' ∈ nt, t'.id ≠ 0) : RefIn nt tr := by
  unfold childTraitRef at h
  simp only at h
  split at h
  · cases h
  · split at h
    · cases h
    · split at h
      · cases h
      · rename_i t' ht'
        cases h
        have hm : t' ∈ nt := List.mem_of_getElem? ht'
        exact ⟨hz t' hm, List.mem_map_of_mem hm⟩

theorem mateTraits_ids (ts1 ts2 nt : List (Trait W)) (h : mateTraits ts1 ts2 = .ok nt) :
    nt.map (·.id) = ts1.map (·.id) := by
  obtain ⟨rfl, hlen, -⟩ := C04.mateTraits_exact ts1 ts2 nt h
  clear h
  induction ts1 generalizing ts2 with
  | nil => simp
  | cons t1 r1 ih =>
    cases ts2 with
    | nil => simp at hlen
    | cons t2 r2 =>
      simp only [List.zipWith_cons_cons, List.length_cons, Nat.add_right_cancel_iff] at hlen
      simp only [List.zipWith_cons_cons, List.map_cons, ih r2 hlen, C04.avgTrait]

def FromParents (p1 p2 : Genome W) (m : Node) : Prop :=
  ∃ n, (n ∈ p1.nodes ∨ n ∈ p2.nodes) ∧ n.id = m.id ∧ n.kind = m.kind

omit [Scalar W] in
theorem ensureNode_spec (nt : List (Trait W)) (t0 : Option Int) (nodes nodes' : List Node) (n : Node)
    (h : ensureNode nt t0 nodes n = .ok nodes') (hz : ∀ t' ∈ nt, t'.id ≠ 0) (hs : NodesSorted nodes) :
    NodesSorted nodes' ∧ (∀ m ∈ nodes, m ∈ nodes') ∧ n.id ∈ nodes'.map (·.id) ∧
    (∀ m ∈ nodes', m ∈ nodes ∨ (m.id = n.id ∧ m.kind = n.kind ∧ RefIn nt m.trait)) := by
  rcases C04.ensureNode_exact h with ⟨hany, rfl⟩ | ⟨hany, tr, htr, rfl⟩
  · obtain ⟨m, hm, e⟩ := List.any_eq_true.mp hany
    exact ⟨hs, fun m hm => hm, List.mem_map.mpr ⟨m, hm, by simpa using e⟩, fun m hm => Or.inl hm⟩
  · have hfresh : ∀ m ∈ nodes, m.id ≠ ({ n with trait := tr } : Node).id := by
      intro m hm e
      have : nodes.any (·.id == n.id) = true := List.any_eq_true.mpr ⟨m, hm, beq_iff_eq.mpr e⟩
      rw [hany] at this
      cases this
    have hsorted := insertAt_sorted (fun m : Node => m.id) nodes { n with trait := tr } hs hfresh
    have hmem : ∀ m, m ∈ nodeInsert nodes { n with trait := tr } ↔ m = { n with trait := tr } ∨ m ∈ nodes :=
      fun m => mem_insertAt _ _ _ _
    refine ⟨hsorted.1, fun m hm => (hmem m).mpr (Or.inr hm),
            List.mem_map.mpr ⟨_, (hmem _).mpr (Or.inl rfl), rfl⟩, ?_⟩
    intro m hm
    rcases (hmem m).mp hm with rfl | h
    · exact Or.inr ⟨rfl, rfl, childTraitRef_ok nt t0 _ tr htr hz⟩
    · exact Or.inl h

omit [Scalar W] in
theorem foldl_nodeInsert_sorted (cs acc : List Node) (hs : NodesSorted acc) (hc : cs.Pairwise (fun a b => a.id ≠ b.id))
    (hd : ∀ a ∈ acc, ∀ c ∈ cs, a.id ≠ c.id) : NodesSorted (cs.foldl nodeInsert acc) := by
  induction cs generalizing acc with
  | nil => exact hs
  | cons c cs ih =>
    rw [List.pairwise_cons] at hc
    refine ih _ (insertAt_sorted (fun m : Node => m.id) acc c hs (fun a ha => hd a ha c List.mem_cons_self)).1 hc.2 ?_
    intro a ha d hd'
    rcases (mem_insertAt _ _ _ _).mp ha with rfl | ha
    · exact hc.1 d hd'
    · exact hd a ha d (List.mem_cons_of_mem _ hd')

omit [Scalar W] in
theorem ioNodes_spec (nt : List (Trait W)) (t0 : Option Int) (ns acc res : List Node)
    (h : ioNodes nt t0 ns acc = .ok res) (hz : ∀ t' ∈ nt, t'.id ≠ 0)
    (hs : NodesSorted acc) (hns : ns.Pairwise (fun a b => a.id ≠ b.id)) (hd : ∀ a ∈ acc, ∀ n ∈ ns, a.id ≠ n.id)
    (hkv : ∀ n ∈ ns, n.kind ≤ 3) :
    NodesSorted res ∧
    (∀ m ∈ res, m ∈ acc ∨ ∃ n ∈ ns, n.id = m.id ∧ n.kind = m.kind ∧ RefIn nt m.trait) ∧
    (∀ n ∈ ns, n.kind ≠ Kind.hidden → ∃ m ∈ res, m.id = n.id ∧ m.kind = n.kind) := by
  obtain ⟨htr, hres⟩ := C04.ioNodes_exact h
  refine ⟨?_, fun m hm => ?_, fun n hn hk => ?_⟩
  · rw [hres]
    refine foldl_nodeInsert_sorted _ _ hs ?_ ?_
    · rw [List.pairwise_map]
      exact hns.filter _
    · intro a ha c hc
      obtain ⟨n, hn, rfl⟩ := List.mem_map.mp hc
      exact hd a ha n (List.mem_filter.mp hn).1
  · rcases (C04.mem_ioNodes h m).mp hm with hm | ⟨n, hn, hio, rfl⟩
    · exact Or.inl hm
    · exact Or.inr ⟨n, hn, rfl, rfl, childTraitRef_ok nt t0 _ _ (htr n hn hio) hz⟩
  · exact ⟨_, (C04.mem_ioNodes h _).mpr (Or.inr ⟨n, hn, (C04.isIO_iff n (hkv n hn)).mpr hk, rfl⟩), rfl, rfl⟩

/-- provenance of a child gene: its number is a parent gene's number, and source, target and recurrence flag are those
    of parent genes carrying that number (one parent gene for the copying choices, possibly different ones when averaging) -/
def Prov (p1 p2 : Genome W) (x : Gene W) : Prop :=
  ∃ y1 y2 y3 : Gene W, (y1 ∈ p1.genes ∨ y1 ∈ p2.genes) ∧ (y2 ∈ p1.genes ∨ y2 ∈ p2.genes) ∧ (y3 ∈ p1.genes ∨ y3 ∈ p2.genes) ∧
    y1.inn = x.inn ∧ y2.inn = x.inn ∧ y3.inn = x.inn ∧ x.src = y1.src ∧ x.dst = y2.dst ∧ x.recur = y3.recur

omit [Scalar W] in
theorem Prov.of_parent {p1 p2 : Genome W} {x : Gene W} (h : x ∈ p1.genes ∨ x ∈ p2.genes) : Prov p1 p2 x :=
  ⟨x, x, x, h, h, h, rfl, rfl, rfl, rfl, rfl, rfl⟩

structure AccInv (p1 p2 : Genome W) (nt : List (Trait W)) (acc : MateAcc W) : Prop where
  nodesSorted : NodesSorted acc.nodes
  nodesFrom : ∀ m ∈ acc.nodes, FromParents p1 p2 m
  nodeTraits : ∀ m ∈ acc.nodes, RefIn nt m.trait
  links : LinksDistinct acc.genes
  endpoints : ∀ x ∈ acc.genes, x.src ∈ acc.nodes.map (·.id) ∧ x.dst ∈ acc.nodes.map (·.id)
  geneTraits : ∀ x ∈ acc.genes, RefIn nt x.trait
  dstFrom : ∀ x ∈ acc.genes, ∃ y, (y ∈ p1.genes ∨ y ∈ p2.genes) ∧ y.dst = x.dst
  io : ∀ n ∈ p2.nodes, n.kind ≠ Kind.hidden → ∃ m ∈ acc.nodes, m.id = n.id ∧ m.kind = n.kind
  prov : ∀ x ∈ acc.genes, Prov p1 p2 x

/-- a chosen gene comes with endpoint node objects of a parent that carry the gene's endpoint ids, and its target is
    the target of a parent's gene -/
structure Legit (p1 p2 : Genome W) (c : Chosen W) : Prop where
  src : ∀ sn, c.srcN = some sn → sn.id = c.gene.src ∧ (sn ∈ p1.nodes ∨ sn ∈ p2.nodes)
  dst : ∀ dn, c.dstN = some dn → dn.id = c.gene.dst ∧ (dn ∈ p1.nodes ∨ dn ∈ p2.nodes)
  dstFrom : ∃ y, (y ∈ p1.genes ∨ y ∈ p2.genes) ∧ y.dst = c.gene.dst
  prov : Prov p1 p2 c.gene

omit [Scalar W] in
theorem legit_chooseFrom_left (p1 p2 : Genome W) (x : Gene W) (hx : x ∈ p1.genes) : Legit p1 p2 (chooseFrom p1 x) :=
  ⟨fun sn h => ⟨(C06.nodeById_some _ _ _ h).1, Or.inl (C06.nodeById_some _ _ _ h).2⟩,
   fun dn h => ⟨(C06.nodeById_some _ _ _ h).1, Or.inl (C06.nodeById_some _ _ _ h).2⟩, ⟨x, Or.inl hx, rfl⟩,
   Prov.of_parent (Or.inl hx)⟩

omit [Scalar W] in
theorem Legit.symm {p1 p2 : Genome W} {c : Chosen W} (h : Legit p2 p1 c) : Legit p1 p2 c :=
  ⟨fun sn hs => ⟨(h.src sn hs).1, (h.src sn hs).2.symm⟩, fun dn hd => ⟨(h.dst dn hd).1, (h.dst dn hd).2.symm⟩,
   by obtain ⟨y, hy, e⟩ := h.dstFrom; exact ⟨y, hy.symm, e⟩,
   by obtain ⟨y1, y2, y3, m1, m2, m3, r⟩ := h.prov; exact ⟨y1, y2, y3, m1.symm, m2.symm, m3.symm, r⟩⟩

omit [Scalar W] in
theorem legit_chooseFrom_right (p1 p2 : Genome W) (y : Gene W) (hy : y ∈ p2.genes) : Legit p1 p2 (chooseFrom p2 y) :=
  (legit_chooseFrom_left p2 p1 y hy).symm

omit [Scalar W] in
theorem prov_avg (p1 p2 : Genome W) (x y : Gene W) (hx : x ∈ p1.genes) (hy : y ∈ p2.genes) (heq : x.inn = y.inn)
    (b1 b2 b3 : Bool) (g' : Gene W) (hi : g'.inn = x.inn) (hs : g'.src = if b1 then x.src else y.src)
    (hd : g'.dst = if b2 then x.dst else y.dst) (hr : g'.recur = if b3 then x.recur else y.recur) : Prov p1 p2 g' := by
  have pick : ∀ (b : Bool), ∃ z : Gene W, (z ∈ p1.genes ∨ z ∈ p2.genes) ∧ z.inn = x.inn ∧
      z.src = (if b then x.src else y.src) ∧ z.dst = (if b then x.dst else y.dst) ∧
      z.recur = (if b then x.recur else y.recur) := by
    intro b
    cases b
    · exact ⟨y, Or.inr hy, heq.symm, rfl, rfl, rfl⟩
    · exact ⟨x, Or.inl hx, rfl, rfl, rfl, rfl⟩
  obtain ⟨z1, m1, i1, s1, _, _⟩ := pick b1
  obtain ⟨z2, m2, i2, _, d2, _⟩ := pick b2
  obtain ⟨z3, m3, i3, _, _, r3⟩ := pick b3
  exact ⟨z1, z2, z3, m1, m2, m3, by rw [i1, hi], by rw [i2, hi], by rw [i3, hi], by rw [hs, s1], by rw [hd, d2], by rw [hr, r3]⟩

theorem legit_avgChosen (p1 p2 : Genome W) (x : Gene W) (hx : x ∈ p1.genes) (y : Gene W) (hy : y ∈ p2.genes)
    (heq : x.inn = y.inn) (c : Chosen W) (rs rs' : List Nat) (h : avgChosen p1 p2 x y rs = .ok (c, rs')) :
    Legit p1 p2 c ∧ c.gene.inn = x.inn := by
  obtain ⟨bT, bI, bO, bR, dis, r, _, rfl⟩ := C04.avgChosen_exact h
  refine ⟨⟨?_, ?_, ?_, prov_avg p1 p2 x y hx hy heq bI bO bR _ rfl rfl rfl rfl⟩, rfl⟩
  · intro _ hsn
    cases bI
    · exact ⟨(C06.nodeById_some _ _ _ hsn).1, Or.inr (C06.nodeById_some _ _ _ hsn).2⟩
    · exact ⟨(C06.nodeById_some _ _ _ hsn).1, Or.inl (C06.nodeById_some _ _ _ hsn).2⟩
  · intro _ hdn
    cases bO
    · exact ⟨(C06.nodeById_some _ _ _ hdn).1, Or.inr (C06.nodeById_some _ _ _ hdn).2⟩
    · exact ⟨(C06.nodeById_some _ _ _ hdn).1, Or.inl (C06.nodeById_some _ _ _ hdn).2⟩
  · cases bO
    · exact ⟨y, Or.inr hy, rfl⟩
    · exact ⟨x, Or.inl hx, rfl⟩

structure ProvInv (p1 p2 : Genome W) (acc : MateAcc W) : Prop where
  genes : ∀ x ∈ acc.genes, Prov p1 p2 x
  nodes : ∀ m ∈ acc.nodes, FromParents p1 p2 m

omit [Scalar W] in
theorem addChosen_prov {p1 p2 : Genome W} {nt : List (Trait W)} {t0 : Option Int} (c : Chosen W) (dis : Bool)
    (acc acc' : MateAcc W) (hc : Legit p1 p2 c) (hi : ProvInv p1 p2 acc) (h : addChosen nt t0 acc c dis = .ok acc') :
    ProvInv p1 p2 acc' := by
  refine ⟨?_, fun m hm => ((C04.addChosen_nodes h).2 m hm).elim (hi.nodes m) fun ⟨n, tr, hn, e⟩ =>
    ⟨n, hn.elim (fun h => (hc.src n h).2) (fun h => (hc.dst n h).2), e ▸ rfl, e ▸ rfl⟩⟩
  rcases C04.addChosen_exact nt t0 acc acc' c dis h with ⟨_, rfl⟩ | ⟨_, _, _, _, _, _, _, _, _, _, hg⟩
  · exact hi.genes
  · exact hg ▸ snoc_all hi.genes hc.prov

theorem addChosen_inv (p1 p2 : Genome W) (nt : List (Trait W)) (t0 : Option Int) (acc acc' : MateAcc W) (c : Chosen W)
    (dis : Bool) (h : addChosen nt t0 acc c dis = .ok acc') (hz : ∀ t' ∈ nt, t'.id ≠ 0)
    (hinv : AccInv p1 p2 nt acc) (hc : Legit p1 p2 c) :
    AccInv p1 p2 nt acc' ∧
    (acc'.genes = acc.genes ∨ ∃ g', acc'.genes = acc.genes ++ [g'] ∧ g'.inn = c.gene.inn) ∧ acc'.genes ≠ [] := by
  have hp := addChosen_prov c dis acc acc' hc ⟨hinv.prov, hinv.nodesFrom⟩ h
  rcases C04.addChosen_exact nt t0 acc acc' c dis h with ⟨hany, rfl⟩ | ⟨hany, sn, dn, nodes1, tr, hsn, hdn, h1, h2, htr, hg⟩
  · refine ⟨hinv, Or.inl rfl, fun he => ?_⟩
    rw [he] at hany
    cases hany
  · obtain ⟨nodes2, genes2⟩ := acc'
    subst hg
    obtain ⟨s1, sub1, in1, from1⟩ := ensureNode_spec nt t0 _ _ sn h1 hz hinv.nodesSorted
    obtain ⟨s2, sub2, in2, from2⟩ := ensureNode_spec nt t0 _ _ dn h2 hz s1
    have hsub : ∀ m ∈ acc.nodes, m ∈ nodes2 := fun m hm => sub2 m (sub1 m hm)
    have hsubid : ∀ i ∈ acc.nodes.map (·.id), i ∈ nodes2.map (·.id) := by
      intro i hi
      obtain ⟨m, hm, e⟩ := List.mem_map.mp hi
      exact List.mem_map.mpr ⟨m, hsub m hm, e⟩
    have hsrc := hc.src sn hsn
    have hdst := hc.dst dn hdn
    refine ⟨⟨s2, hp.nodes, ?_, ?_, ?_, ?_, ?_, ?_, hp.genes⟩, Or.inr ⟨_, rfl, rfl⟩, by simp⟩
    · intro m hm
      rcases from2 m hm with h' | ⟨_, _, e3⟩
      · rcases from1 m h' with h'' | ⟨_, _, e3⟩
        · exact hinv.nodeTraits m h''
        · exact e3
      · exact e3
    · show LinksDistinct (acc.genes ++ [_])
      unfold LinksDistinct
      rw [List.pairwise_append]
      refine ⟨hinv.links, by simp, ?_⟩
      intro a ha b hb
      simp only [List.mem_singleton] at hb
      subst hb
      intro e
      have : acc.genes.any (·.sameLink c.gene) = true := List.any_eq_true.mpr ⟨a, ha, (C04.sameLink_iff a c.gene).mpr e⟩
      rw [hany] at this
      cases this
    · refine snoc_all (fun x hx => ⟨hsubid _ (hinv.endpoints x hx).1, hsubid _ (hinv.endpoints x hx).2⟩) ⟨?_, ?_⟩
      · show c.gene.src ∈ _
        rw [← hsrc.1]
        obtain ⟨m, hm, e⟩ := List.mem_map.mp in1
        exact List.mem_map.mpr ⟨m, sub2 m hm, e⟩
      · show c.gene.dst ∈ _
        rw [← hdst.1]; exact in2
    · exact snoc_all hinv.geneTraits (childTraitRef_ok nt t0 _ tr htr hz)
    · exact snoc_all hinv.dstFrom hc.dstFrom
    · intro n hn hk
      obtain ⟨m, hm, e⟩ := hinv.io n hn hk
      exact ⟨m, hsub m hm, e⟩

theorem matePrologue_spec (g og : Genome W) (nt : List (Trait W)) (t0 : Option Int) (nodes : List Node)
    (h : matePrologue g og = .ok (nt, t0, nodes)) (hw1 : WFT g) (hw2 : WFT og) :
    nt.map (·.id) = g.traits.map (·.id) ∧ (∀ t' ∈ nt, t'.id ≠ 0) ∧ AccInv g og nt { nodes := nodes, genes := [] } := by
  obtain ⟨_, hmt, hio, rfl⟩ := C04.matePrologue_exact g og nt t0 nodes h
  have hids := mateTraits_ids _ _ _ hmt
  have hz : ∀ t' ∈ nt, t'.id ≠ 0 := by
    intro t' ht'
    have : t'.id ∈ g.traits.map (·.id) := by rw [← hids]; exact List.mem_map_of_mem ht'
    obtain ⟨t, ht, e⟩ := List.mem_map.mp this
    rw [← e]; exact hw1.tnz t ht
  obtain ⟨r1, r3, r4⟩ := ioNodes_spec nt _ og.nodes [] nodes hio hz (by simp [NodesSorted])
    (hw2.wf.nodesSorted.imp (fun h => by omega)) (by simp) hw2.kinds
  refine ⟨hids, hz, ⟨r1, ?_, ?_, by simp [LinksDistinct], by simp, by simp, by simp, r4, by simp⟩⟩
  · intro m hm
    rcases r3 m hm with h' | ⟨n, hn, e1, e2, _⟩
    · simp at h'
    · exact ⟨n, Or.inr hn, e1, e2⟩
  · intro m hm
    rcases r3 m hm with h' | ⟨n, hn, _, _, e3⟩
    · simp at h'
    · exact e3

omit [Scalar W] in
theorem sorted_ext (l1 l2 : List Int) (h1 : l1.Pairwise (· < ·)) (h2 : l2.Pairwise (· < ·))
    (hm : ∀ i, i ∈ l1 ↔ i ∈ l2) : l1 = l2 := by
  have hp : l1.Perm l2 := (List.perm_ext_iff_of_nodup (h1.imp Int.ne_of_lt) (h2.imp Int.ne_of_lt)).mpr hm
  exact hp.eq_of_pairwise (fun _ _ _ _ hab hba => Int.le_antisymm hab hba) (h1.imp Int.le_of_lt) (h2.imp Int.le_of_lt)

omit [Scalar W] in
theorem ioIds_sorted (g : Genome W) (h : NodesSorted g.nodes) : (ioIds g).Pairwise (· < ·) := by
  unfold ioIds
  rw [List.pairwise_map]
  exact List.Pairwise.filter _ h

omit [Scalar W] in
theorem mem_ioIds {g : Genome W} {i : Int} : i ∈ ioIds g ↔ ∃ n ∈ g.nodes, n.kind ≠ Kind.hidden ∧ n.id = i := by
  unfold ioIds
  simp only [List.mem_map, List.mem_filter, bne_iff_ne, ne_eq]
  constructor
  · rintro ⟨n, ⟨hn, hk⟩, e⟩; exact ⟨n, hn, hk, e⟩
  · rintro ⟨n, hn, hk, e⟩; exact ⟨n, ⟨hn, hk⟩, e⟩

omit [Scalar W] in
theorem ioIds_ext {g g' : Genome W} (hs : NodesSorted g.nodes) (hs' : NodesSorted g'.nodes)
    (h1 : ∀ m ∈ g'.nodes, m.kind ≠ Kind.hidden → m.id ∈ ioIds g)
    (h2 : ∀ n ∈ g.nodes, n.kind ≠ Kind.hidden → n.id ∈ ioIds g') : ioIds g' = ioIds g := by
  apply sorted_ext _ _ (ioIds_sorted g' hs') (ioIds_sorted g hs)
  intro i
  constructor
  · intro hi
    obtain ⟨m, hm, hk, rfl⟩ := mem_ioIds.mp hi
    exact h1 m hm hk
  · intro hi
    obtain ⟨n, hn, hk, rfl⟩ := mem_ioIds.mp hi
    exact h2 n hn hk

omit [Scalar W] in
theorem NodeLineage.symm {a b : Genome W} (h : NodeLineage a b) : NodeLineage b a :=
  ⟨fun n hn m hm e => (h.1 m hm n hn e.symm).symm, h.2.1.symm, h.2.2.symm⟩

omit [Scalar W] in
theorem NodeLineage.refl (g : Genome W) (hs : NodesSorted g.nodes) : NodeLineage g g :=
  ⟨fun n hn m hm e => by rw [node_unique g.nodes hs n m hn hm e], rfl, rfl⟩

omit [Scalar W] in
theorem retains_of_nodeLineage (g x : Genome W) (h : NodeLineage x g) : Retains g x := by
  intro n hn hk
  have : n.id ∈ ioIds g := mem_ioIds.mpr ⟨n, hn, hk, rfl⟩
  rw [← h.2.2] at this
  obtain ⟨m, hm, _, e⟩ := mem_ioIds.mp this
  exact ⟨m, hm, e, h.1 m hm n hn e⟩

omit [Scalar W] in
/-- the child is of the node lineage of everything both parents are: each of its nodes has id and kind of a parent's node,
    its trait ids are the first parent's, its input/bias/output ids the second parent's -/
theorem child_lineage {p1 p2 b : Genome W} {nt : List (Trait W)} {acc : MateAcc W} (id : Int) (hinv : AccInv p1 p2 nt acc)
    (hw2 : WFT p2) (hl : NodeLineage p1 p2) (hnt : nt.map (·.id) = p1.traits.map (·.id))
    (hb1 : NodeLineage p1 b) (hb2 : NodeLineage p2 b) :
    NodeLineage ({ id := id, traits := nt, nodes := acc.nodes, genes := acc.genes } : Genome W) b := by
  refine ⟨fun m hm k hk e => ?_, hnt.trans hb1.2.1, ?_⟩
  · obtain ⟨n, hn, e1, e2⟩ := hinv.nodesFrom m hm
    rw [← e2]
    exact hn.elim (fun hn => hb1.1 n hn k hk (by rw [e1, e])) (fun hn => hb2.1 n hn k hk (by rw [e1, e]))
  · refine (ioIds_ext hw2.wf.nodesSorted hinv.nodesSorted (fun m hm hk => ?_) (fun n hn hk => ?_)).trans hb2.2.2
    · obtain ⟨n, hn, e1, e2⟩ := hinv.nodesFrom m hm
      have hin : ∀ q : Genome W, n ∈ q.nodes → m.id ∈ ioIds q := fun q hq => mem_ioIds.mpr ⟨n, hq, by rw [e2]; exact hk, e1⟩
      exact hn.elim (fun hn => hl.2.2 ▸ hin p1 hn) (hin p2)
    · obtain ⟨m, hm, e1, e2⟩ := hinv.io n hn hk
      exact mem_ioIds.mpr ⟨m, hm, by rw [e2]; exact hk, e1⟩

omit [Scalar W] in
theorem isSensor_of_kind {n m : Node} (h : n.kind = m.kind) : n.isSensor = m.isSensor := by
  unfold Node.isSensor; rw [h]

omit [Scalar W] in
theorem child_wft (p1 p2 : Genome W) (nt : List (Trait W)) (acc : MateAcc W) (id : Int)
    (hinv : AccInv p1 p2 nt acc) (hs : GenesSorted acc.genes) (hne : acc.genes ≠ [])
    (hw1 : WFT p1) (hw2 : WFT p2) (hl : NodeLineage p1 p2) (hnt : nt.map (·.id) = p1.traits.map (·.id)) :
    WFT ({ id := id, traits := nt, nodes := acc.nodes, genes := acc.genes } : Genome W) ∧
    Retains p2 ({ id := id, traits := nt, nodes := acc.nodes, genes := acc.genes } : Genome W) ∧
    Retains p1 ({ id := id, traits := nt, nodes := acc.nodes, genes := acc.genes } : Genome W) := by
  have lin1 := child_lineage id hinv hw2 hl hnt (.refl p1 hw1.wf.nodesSorted) hl.symm
  have lin2 := child_lineage id hinv hw2 hl hnt hl (.refl p2 hw2.wf.nodesSorted)
  refine ⟨⟨⟨hs, hinv.links, hinv.nodesSorted, hinv.endpoints, ⟨?_, ?_⟩, ?_, hne, ?_, ?_⟩, ?_, ?_⟩,
    retains_of_nodeLineage p2 _ lin2, retains_of_nodeLineage p1 _ lin1⟩
  · intro x hx; exact (traitRefOk_iff_refIn _ _).mpr (hinv.geneTraits x hx)
  · intro m hm; exact (traitRefOk_iff_refIn _ _).mpr (hinv.nodeTraits m hm)
  · intro x hx m hm e
    obtain ⟨y, hy, ey⟩ := hinv.dstFrom x hx
    -- the target node of y in its own parent is not a sensor, and the child's node of that id has its kind
    have key : ∀ b : Genome W, WFT b → NodeLineage _ b → y ∈ b.genes → m.isSensor = false := fun b hwb hlb hy => by
      obtain ⟨k, hk, ek⟩ := List.mem_map.mp (hwb.wf.endpoints y hy).2
      rw [isSensor_of_kind (hlb.1 m hm k hk (by rw [e, ← ey, ek]))]
      exact hwb.wf.noSensorTarget y hy k hk ek
    exact hy.elim (key p1 hw1 lin1) (key p2 hw2 lin2)
  · obtain ⟨n, hn, hk⟩ := hw2.wf.hasOutput
    obtain ⟨m, hm, _, e2⟩ := hinv.io n hn (by rw [hk]; decide)
    exact ⟨m, hm, by rw [e2]; exact hk⟩
  · exact traitsConsecutive_congr p1 _ hnt hw1.wf.traits
  · intro t ht
    have : t.id ∈ p1.traits.map (·.id) := by rw [← hnt]; exact List.mem_map_of_mem ht
    obtain ⟨t1, ht1, e⟩ := List.mem_map.mp this
    rw [← e]; exact hw1.tnz t1 ht1
  · intro m hm
    obtain ⟨n, hn, _, en2⟩ := hinv.nodesFrom m hm
    rw [← en2]
    rcases hn with hn | hn
    · exact hw1.kinds n hn
    · exact hw2.kinds n hn

omit [Scalar W] in
theorem heads_of_shared (g og : Genome W) (hw1 : WFT g) (hw2 : WFT og) (hh : SharedHead g og) :
    ∃ x xs y ys, g.genes = x :: xs ∧ og.genes = y :: ys ∧ x.inn = y.inn := by
  cases hg : g.genes with
  | nil => exact absurd hg hw1.wf.hasGene
  | cons x xs =>
    cases hg2 : og.genes with
    | nil => exact absurd hg2 hw2.wf.hasGene
    | cons y ys =>
      refine ⟨x, xs, y, ys, rfl, rfl, ?_⟩
      unfold SharedHead at hh; rw [hg, hg2] at hh; simpa using hh

omit [Scalar W] in
theorem GeneOk.mix {reg : Reg W} {x y1 y2 y3 : Gene W} (h1 : GeneOk reg (geneKey y1)) (h2 : GeneOk reg (geneKey y2))
    (h3 : GeneOk reg (geneKey y3)) (i1 : y1.inn = x.inn) (i2 : y2.inn = x.inn) (i3 : y3.inn = x.inn)
    (s : x.src = y1.src) (d : x.dst = y2.dst) (r : x.recur = y3.recur) : GeneOk reg (geneKey x) := by
  refine ⟨?_, fun i hi => ⟨fun t e => ?_, fun t => ⟨fun e => ?_, fun e => ?_⟩⟩⟩
  · show x.inn ≤ reg.nextInn
    rw [← i1]; exact h1.1
  · have l1 := (h1.2 i hi).1 t (i1.trans e)
    have l2 := (h2.2 i hi).1 t (i2.trans e)
    have l3 := (h3.2 i hi).1 t (i3.trans e)
    simp only [geneKey, Gene.link, Prod.mk.injEq] at l1 l2 l3 ⊢
    exact ⟨s.trans l1.1, d.trans l2.2.1, r.trans l3.2.2⟩
  · have l1 := ((h1.2 i hi).2 t).1 (i1.trans e)
    have l2 := ((h2.2 i hi).2 t).1 (i2.trans e)
    exact ⟨s.trans l1.1, d.trans l2.2⟩
  · have l1 := ((h1.2 i hi).2 t).2 (i1.trans e)
    have l2 := ((h2.2 i hi).2 t).2 (i2.trans e)
    have l3 := ((h3.2 i hi).2 t).2 (i3.trans e)
    exact ⟨s.trans l1.1, d.trans l2.2.1, r.trans l3.2.2⟩

omit [Scalar W] in
theorem child_fits (p1 p2 : Genome W) (nt : List (Trait W)) (acc : MateAcc W) (id : Int)
    (hinv : AccInv p1 p2 nt acc) (hs : GenesSorted acc.genes)
    (hw1 : WFT p1) (hw2 : WFT p2) (hl : NodeLineage p1 p2) (hnt : nt.map (·.id) = p1.traits.map (·.id)) :
    let c : Genome W := { id := id, traits := nt, nodes := acc.nodes, genes := acc.genes }
    (SharedHead p1 p2 → (∃ a ∈ acc.genes, ∀ x ∈ p1.genes.take 1, a.inn = x.inn) → SharedHead c p1 ∧ SharedHead c p2) ∧
    (∀ b : Genome W, NodeLineage p1 b → NodeLineage p2 b → NodeLineage c b) ∧
    (∀ reg : Reg W, RegInv reg p1 → RegInv reg p2 → RegInv reg c) := by
  intro c
  have hkind : ∀ m ∈ acc.nodes, ∃ n, (n ∈ p1.nodes ∨ n ∈ p2.nodes) ∧ n.id = m.id ∧ n.kind = m.kind := hinv.nodesFrom
  refine ⟨?_, ?_, ?_⟩
  · intro hh ⟨a, ha, hax⟩
    obtain ⟨x, xs, y, ys, hg1, hg2, hxy⟩ := heads_of_shared p1 p2 hw1 hw2 hh
    have hax' : a.inn = x.inn := hax x (by rw [hg1]; simp)
    have hle : ∀ (h : Gene W) (t : List (Gene W)), GenesSorted (h :: t) → ∀ z ∈ h :: t, h.inn ≤ z.inn := by
      intro h t hs z hz
      rcases List.mem_cons.mp hz with rfl | hz'
      · exact Int.le_refl _
      · exact Int.le_of_lt ((sorted_cons hs).2 z hz')
    -- all child numbers are at least the common first number
    have hmin : ∀ z ∈ acc.genes, x.inn ≤ z.inn := by
      intro z hz
      obtain ⟨y1, _, _, m1, _, _, i1, _⟩ := hinv.prov z hz
      rw [← i1]
      rcases m1 with m | m
      · exact hle x xs (hg1 ▸ hw1.wf.genesSorted) y1 (hg1 ▸ m)
      · rw [hxy]; exact hle y ys (hg2 ▸ hw2.wf.genesSorted) y1 (hg2 ▸ m)
    have hhead : acc.genes.head?.map (·.inn) = some x.inn := by
      cases hc : acc.genes with
      | nil => rw [hc] at ha; cases ha
      | cons f rest =>
        have hf := hmin f (by rw [hc]; simp)
        have hfa : f.inn ≤ a.inn := hle f rest (hc ▸ hs) a (hc ▸ ha)
        simp only [List.head?_cons, Option.map_some, Option.some.injEq]
        omega
    constructor
    · show acc.genes.head?.map (·.inn) = p1.genes.head?.map (·.inn)
      rw [hhead, hg1]; rfl
    · show acc.genes.head?.map (·.inn) = p2.genes.head?.map (·.inn)
      rw [hhead, hg2, hxy]; rfl
  · exact fun b hb1 hb2 => child_lineage id hinv hw2 hl hnt hb1 hb2
  · intro reg hi1 hi2
    obtain ⟨g1, n1, ok⟩ := regInv_iff.mp hi1
    obtain ⟨g2, n2, _⟩ := regInv_iff.mp hi2
    have hpar : ∀ z : Gene W, (z ∈ p1.genes ∨ z ∈ p2.genes) → GeneOk reg (geneKey z) := fun z hz => hz.elim (g1 z) (g2 z)
    refine regInv_iff.mpr ⟨fun x hx => ?_, fun m hm => ?_, ok⟩
    · obtain ⟨y1, y2, y3, m1, m2, m3, i1, i2, i3, s, d, r⟩ := hinv.prov x hx
      exact GeneOk.mix (hpar y1 m1) (hpar y2 m2) (hpar y3 m3) i1 i2 i3 s d r
    · obtain ⟨n, hn, e1, e2⟩ := hkind m hm
      have : Node.shape m = Node.shape n := by unfold Node.shape; rw [e1, e2]
      rw [this]
      exact hn.elim (n1 n) (n2 n)

structure WalkInv (p1 p2 : Genome W) (nt : List (Trait W)) (acc : MateAcc W) (l1 l2 : List (Gene W)) : Prop where
  inv : AccInv p1 p2 nt acc
  sorted : GenesSorted acc.genes
  below1 : ∀ a ∈ acc.genes, ∀ x ∈ l1, a.inn < x.inn
  below2 : ∀ a ∈ acc.genes, ∀ y ∈ l2, a.inn < y.inn

end GoNeat.C01
