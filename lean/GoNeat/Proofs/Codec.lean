/-
  C15, helper lemmas for the field maps of `Model/Codec.lean`: per encoded element and per list, the decoder gives back
  what was encoded - for the YAML genome, the gob stream of a saved experiment and the JSON fast-solver model.
  Core Lean only.
-/
import GoNeat.Model.Codec
import GoNeat.Proofs.PlainIO

namespace GoNeat.Codec
open GoNeat.PlainIO (Err Codec Line traitIdOf traitRef numTraitParams FloatsRoundTrip ActsRoundTrip refOK geneOK
  traitRef_of_refOK traitWithId_none_of_not_mem any_id_false_of_not_mem accum_enc)

variable {F : Type}

theorem get_cons (k k' : String) (v : Val F) (kvs : List (String × Val F)) :
    get ((k, v) :: kvs) k' = if k = k' then some v else get kvs k' := by
  by_cases h : k = k' <;> simp [get, h]

theorem getList_cons (k k' : String) (v : Val F) (kvs : List (String × Val F)) :
    getList ((k, v) :: kvs) k' =
      if k = k' then (match v with | .list l => .ok l | _ => .error .panic) else getList kvs k' := by
  by_cases h : k = k'
  · cases v <;> simp [getList, get_cons, h]
  · simp [getList, get_cons, h]

theorem kind_roundtrip : ∀ k, k < 4 → kindOfName (kindName k) = some k := by decide +kernel

theorem decFloats_map (f : F → F) (xs : List F) (hf : ∀ x ∈ xs, f x = x) :
    decFloats f (xs.map Val.flt) = .ok xs := by
  induction xs with
  | nil => rfl
  | cons x xs ih =>
    simp [decFloats, ih (fun y hy => hf y (List.mem_cons_of_mem _ hy)), hf x List.mem_cons_self]

theorem decTrait_enc (K : Consts F) (t : Trait F) (h : t.params.length = numTraitParams)
    (hs : ∀ x ∈ t.params, K.yf x = x) : decTrait K (encTrait t) = .ok t := by
  cases t with
  | mk id params =>
    simp only at h hs
    simp [decTrait, encTrait, get_cons, decFloats_map K.yf params hs, h]

theorem decTraits_enc (K : Consts F) (ts acc : List (Trait F))
    (hlen : ∀ t ∈ ts, t.params.length = numTraitParams)
    (hst : ∀ t ∈ ts, ∀ x ∈ t.params, K.yf x = x)
    (hnd : ((acc ++ ts).map (·.id)).Nodup) :
    decTraits K acc (ts.map encTrait) = .ok (acc ++ ts) := by
  have := accum_enc (·.id) encTrait (fun t => t.params.length = numTraitParams ∧ ∀ x ∈ t.params, K.yf x = x)
    (decTraits K)
    (fun acc t _ h hn => by
      simp only [decTraits, decTrait_enc K t h.1 h.2, traitWithId_none_of_not_mem hn, Option.isSome_none,
        Bool.false_eq_true, if_false])
    ts acc [] (fun t ht => ⟨hlen t ht, hst t ht⟩) hnd
  rwa [List.append_nil, decTraits] at this

theorem actOfName_of_match (C : Codec F) (hA : ActsRoundTrip C) {a : Nat}
    (h : (match C.actName a with
          | none => false
          | some nm => C.actOfName nm == some a) = true) :
    ∃ nm, C.actName a = some nm ∧ C.actOfName nm = some a := by
  cases hnm : C.actName a with
  | none => simp [hnm] at h
  | some nm => exact ⟨nm, rfl, hA _ _ hnm⟩

theorem decNode_enc (C : Codec F) (hA : ActsRoundTrip C) (traits : List (Trait F)) (n : Node)
    (h : ynodeOK C traits n = true) : decNode C traits (encNode C n) = .ok n := by
  simp only [ynodeOK, Bool.and_eq_true, decide_eq_true_eq] at h
  obtain ⟨⟨hk, href⟩, hact⟩ := h
  obtain ⟨nm, hnm, hback⟩ := actOfName_of_match C hA hact
  cases n with
  | mk id kind act trait =>
    simp only at hk href hnm hback
    simp [decNode, encNode, get_cons, kind_roundtrip kind hk, hnm, hback, traitRef_of_refOK href]

theorem decNodes_enc (C : Codec F) (hA : ActsRoundTrip C) (traits : List (Trait F)) (ns acc : List Node)
    (hok : ∀ n ∈ ns, ynodeOK C traits n = true)
    (hnd : ((acc ++ ns).map (·.id)).Nodup) :
    decNodes C traits acc (ns.map (encNode C)) = .ok (acc ++ ns) := by
  have := accum_enc (·.id) (encNode C) _ (decNodes C traits)
    (fun acc n _ h hn => by
      simp only [decNodes, decNode_enc C hA traits n h, any_id_false_of_not_mem hn, Bool.false_eq_true, if_false])
    ns acc [] hok hnd
  rwa [List.append_nil, decNodes] at this

theorem decGene_enc (K : Consts F) (traits : List (Trait F)) (nodes : List Node) (g : Gene F)
    (h : geneOK traits nodes g = true) (hw : K.yf g.w = g.w) (hm : K.yf g.mnum = g.mnum) :
    decGene K traits nodes (encGene g) = .ok g := by
  simp only [geneOK, Bool.and_eq_true] at h
  obtain ⟨⟨href, hs⟩, hd⟩ := h
  cases g with
  | mk inn src dst recur w mnum en trait =>
    simp only at href hs hd hw hm
    simp [decGene, encGene, get_cons, hs, hd, hw, hm, traitRef_of_refOK href]

theorem decGenes_enc (K : Consts F) (traits : List (Trait F)) (nodes : List Node) (gs : List (Gene F))
    (h : ∀ g ∈ gs, geneOK traits nodes g = true) (hst : ∀ g ∈ gs, K.yf g.w = g.w ∧ K.yf g.mnum = g.mnum) :
    decGenes K traits nodes (gs.map encGene) = .ok gs := by
  induction gs with
  | nil => rfl
  | cons g gs ih =>
    simp [decGenes, decGene_enc K traits nodes g (h g List.mem_cons_self) (hst g List.mem_cons_self).1 (hst g List.mem_cons_self).2,
      ih (fun g' hg' => h g' (List.mem_cons_of_mem _ hg')) (fun g' hg' => hst g' (List.mem_cons_of_mem _ hg'))]

theorem decWires_enc [DecidableEq F] (K : Consts F) (nodes : List Node) (ws : List (Wire F)) (i : Nat)
    (h : ∀ w ∈ ws, wireOK K nodes w = true) : decWires K nodes (encWires i ws) = .ok ws := by
  induction ws generalizing i with
  | nil => rfl
  | cons w ws ih =>
    have hw := h w List.mem_cons_self
    simp only [wireOK, Bool.and_eq_true, decide_eq_true_eq, Bool.not_eq_true',
      Option.isNone_iff_eq_none] at hw
    obtain ⟨⟨⟨hmem, hone⟩, hrec⟩, htr⟩ := hw
    cases w with
    | mk node wt recur trait =>
      simp only at hmem hone hrec htr
      subst hone hrec htr
      simp [encWires, decWires, get_cons, hmem, ih (i + 1) (fun w' hw' => h w' (List.mem_cons_of_mem _ hw'))]

theorem decModule_enc [DecidableEq F] (C : Codec F) (hA : ActsRoundTrip C) (K : Consts F) (traits : List (Trait F))
    (nodes : List Node) (m : Module F) (h : moduleOK C K traits nodes m = true) (hst : K.yf m.mnum = m.mnum) :
    decModule C K traits nodes (encModule C m) = .ok m := by
  simp only [moduleOK, Bool.and_eq_true, beq_iff_eq, Bool.not_eq_true', List.all_eq_true] at h
  obtain ⟨⟨⟨⟨⟨hk, href⟩, hact⟩, _⟩, hins⟩, houts⟩ := h
  obtain ⟨nm, hnm, hback⟩ := actOfName_of_match C hA hact
  cases m with
  | mk inn mnum en ctrl ins outs =>
    cases ctrl with
    | mk id kind act trait =>
      simp only at hk href hnm hback hins houts hst
      subst hk
      simp [decModule, encModule, get_cons, hnm, hback, hst, traitRef_of_refOK href,
        decWires_enc K nodes ins 0 hins, decWires_enc K nodes outs 0 houts]

theorem decModules_enc [DecidableEq F] (C : Codec F) (hA : ActsRoundTrip C) (K : Consts F) (traits : List (Trait F))
    (nodes : List Node) (ms : List (Module F)) (h : ∀ m ∈ ms, moduleOK C K traits nodes m = true)
    (hst : ∀ m ∈ ms, K.yf m.mnum = m.mnum) :
    decModules C K traits nodes (ms.map (encModule C)) = .ok ms := by
  induction ms with
  | nil => rfl
  | cons m ms ih =>
    have hm := h m List.mem_cons_self
    have hfresh : nodes.any (·.id == m.ctrl.id) = false := by
      simp only [moduleOK, Bool.and_eq_true, Bool.not_eq_true'] at hm
      exact hm.1.1.2
    simp [decModules, decModule_enc C hA K traits nodes m hm (hst m List.mem_cons_self), hfresh,
      ih (fun m' hm' => h m' (List.mem_cons_of_mem _ hm')) (fun m' hm' => hst m' (List.mem_cons_of_mem _ hm'))]

theorem decOrg_enc (C : Codec F) (hF : FloatsRoundTrip C) (hA : ActsRoundTrip C) (o : Org F) (g : Genome F)
    (hg : o.genotype = some g) (hwf : PlainIO.WFio C g = true) (rest : List (GV F)) :
    decOrg C (encOrg C o ++ rest) = .ok (o, rest) := by
  cases o with
  | mk fitness isWinner generation expectedOffspring error genotype =>
    simp only at hg
    subst hg
    simp [decOrg, encOrg, PlainIO.readGenome_render_aux C hF hA g hwf]

theorem decGen_enc (C : Codec F) (hF : FloatsRoundTrip C) (hA : ActsRoundTrip C) (g : Generation F)
    (h : WFgen C g = true) (rest : List (GV F)) : decGen C (encGen C g ++ rest) = .ok (g, rest) := by
  cases g with
  | mk id executed solved fitness age complexity diversity winnerEvals winnerNodes winnerGenes duration trialId champion =>
    cases champion with
    | none => simp [WFgen] at h
    | some o =>
      cases ho : o.genotype with
      | none => simp [WFgen, ho] at h
      | some gn =>
        have hwf : PlainIO.WFio C gn = true := by simpa [WFgen, ho] using h
        simp [decGen, encGen, decOrg_enc C hF hA o gn ho hwf]

theorem decGens_enc (C : Codec F) (hF : FloatsRoundTrip C) (hA : ActsRoundTrip C) (gs : List (Generation F))
    (h : ∀ g ∈ gs, WFgen C g = true) (rest : List (GV F)) :
    decGens C gs.length (encGens C gs ++ rest) = .ok (gs, rest) := by
  induction gs with
  | nil => simp [decGens, encGens]
  | cons g gs ih =>
    simp [decGens, encGens, List.append_assoc, decGen_enc C hF hA g (h g List.mem_cons_self),
      ih (fun g' hg' => h g' (List.mem_cons_of_mem _ hg'))]

theorem decTrial_enc (C : Codec F) (hF : FloatsRoundTrip C) (hA : ActsRoundTrip C) (t : Trial F)
    (h : ∀ g ∈ t.gens, WFgen C g = true) (rest : List (GV F)) :
    decTrial C (encTrial C t ++ rest) = .ok (t, rest) := by
  cases t with
  | mk id gens =>
    have hn : ¬ ((gens.length : Int) < 0) := by omega
    simp [decTrial, encTrial, hn, decGens_enc C hF hA gens h]

theorem decTrials_enc (C : Codec F) (hF : FloatsRoundTrip C) (hA : ActsRoundTrip C) (ts : List (Trial F))
    (h : ∀ t ∈ ts, ∀ g ∈ t.gens, WFgen C g = true) (rest : List (GV F)) :
    decTrials C ts.length (encTrials C ts ++ rest) = .ok (ts, rest) := by
  induction ts with
  | nil => simp [decTrials, encTrials]
  | cons t ts ih =>
    simp [decTrials, encTrials, List.append_assoc, decTrial_enc C hF hA t (h t List.mem_cons_self),
      ih (fun t' ht' => h t' (List.mem_cons_of_mem _ ht'))]

theorem decInts_map (xs : List Int) : decInts (xs.map (Val.int (F := F))) = .ok xs := by
  induction xs with
  | nil => rfl
  | cons x xs ih => simp [decInts, ih]

theorem decActs_enc (C : Codec F) (hA : ActsRoundTrip C) (as : List Nat) (h : ∀ a ∈ as, actOK C a = true) :
    decActs C (as.map fun a => Val.str ((C.actName a).getD "")) = .ok as := by
  induction as with
  | nil => rfl
  | cons a as ih =>
    obtain ⟨nm, hnm, hback⟩ := actOfName_of_match C hA (h a List.mem_cons_self)
    simp [decActs, hnm, hback, ih (fun a' ha' => h a' (List.mem_cons_of_mem _ ha'))]

theorem decLinks_enc (ls : List (LinkIO F)) : decLinks (ls.map encLink) = .ok ls := by
  induction ls with
  | nil => rfl
  | cons l ls ih => cases l; simp [decLinks, encLink, get_cons, ih]

theorem decMods_enc (C : Codec F) (hA : ActsRoundTrip C) (ms : List ModIO) (h : ∀ m ∈ ms, actOK C m.act = true) :
    decMods C (ms.map (encMod (F := F) C)) = .ok ms := by
  induction ms with
  | nil => rfl
  | cons m ms ih =>
    obtain ⟨nm, hnm, hback⟩ := actOfName_of_match C hA (h m List.mem_cons_self)
    cases m with
    | mk act ins outs =>
      simp only at hnm hback
      simp [decMods, encMod, get_cons, hnm, hback, decInts_map, ih (fun m' hm' => h m' (List.mem_cons_of_mem _ hm'))]

end GoNeat.Codec
