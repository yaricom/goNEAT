/-
  Helper lemmas for Props/C10Epoch.lean (property C10 end to end).  Kind A throughout.

  1. the stages of `prepareForReproduction` (Proofs/PrepareStages.lean, `prepare_decomp`) read through an ARBITRARY
     organism key `k` that is invariant under the three field updates the phase performs after the fitness adjustment
     (expected offspring, population-champion flag, super-champion reservation): `chain_gkeys`; the key `gkey k` and its
     conditions `InvEO`, `InvPC`, `InvSC` are defined beside `bare` in Proofs/PrepareStages.lean;
  2. the super-champion reservation of every organism left after the phase is at most the quota of its species
     (`prepare_sc_le`), derived from the phase itself: zero-quota species are purged, stolen babies and delta coding add
     the same amount to the reservation of the top organism and to the quota;
  3. babies are whole organisms that speciation only moves and the final purge only renumbers (`reproduce_finalize_has_copy`).
  4. the first organism of a species after the fitness adjustment is an old member, and unmarked it is not among the
     removed (`adjustFitness_head`, `not_doomed`).
-/
import GoNeat.Props.C09ParentsEpoch
import GoNeat.Props.C09Prepare
import GoNeat.Props.C10

namespace GoNeat.C10
open GoNeat Scalar
variable {W : Type} [Scalar W] {κ : Type}

/-- the C10-named reading of `GoNeat.prepare_decomp` (Proofs/PrepareStages.lean), which it shadows in this namespace: the
    same stages without the facts about the species counter, the registry and the executor state -/
theorem prepare_decomp (o : EpochOpts W) (p p1 : Pop W) (ex : ExecState) (rs rs' : List Nat)
    (h : prepareForReproduction o p rs = .ok ((p1, ex), rs')) :
    ∃ (species1 : List (Species W)) (best : Species W) (tail : List (Species W)) (e : Int) (sorted2 : List (Species W))
      (ehlc : Int) (doomed : List Nat) (pre : Pop W),
      adjustAll o p.species = .ok species1 ∧
      sortSpeciesDesc (purgeZeroOffspringSpecies ({ p with species := species1 } : Pop W)).species = best :: tail ∧
      Redistributed o (setTopOrg best (fun t => { t with isPopChampion := true }) :: tail) e rs sorted2 ehlc rs' ∧
      pre.species = writeBack (purgeZeroOffspringSpecies ({ p with species := species1 } : Pop W)).species sorted2 ∧
      pre.organisms = p.organisms ∧
      doomed = (pre.orgList.filter (·.toEliminate)).map (·.uid) ∧
      p1.species = pre.species.map (fun s => { s with orgs := s.orgs.filter (fun x => !doomed.contains x.uid) }) ∧
      p1.organisms = p.organisms.filter (fun u => !doomed.contains u) ∧ p1.nextUid = p.nextUid := by
  obtain ⟨species1, best, tail, e, sorted2, ehlc, doomed, pre, h1, h2, h3, h4, h5, h6, h7, h8, h9, _⟩ :=
    GoNeat.prepare_decomp o p p1 ex rs rs' h
  exact ⟨species1, best, tail, e, sorted2, ehlc, doomed, pre, h1, h2, h3, h4, h5, h6, h7, h8, h9⟩

theorem chain_gkeys (k : Org W → κ) (hEO : InvEO k) (hPC : InvPC k) (hSC : InvSC k) (o : EpochOpts W) (p : Pop W)
    (species1 : List (Species W)) (best : Species W) (tail : List (Species W)) (e : Int) (rs : List Nat)
    (sorted2 : List (Species W)) (ehlc : Int) (rs' : List Nat)
    (hnd : (p.species.map (·.id)).Nodup) (hadj : adjustAll o p.species = .ok species1)
    (hsorted : sortSpeciesDesc (purgeZeroOffspringSpecies ({ p with species := species1 } : Pop W)).species = best :: tail)
    (hred : Redistributed o (setTopOrg best (fun t => { t with isPopChampion := true }) :: tail) e rs sorted2 ehlc rs') :
    (sorted2.map (gkey k)).Perm ((purgeZeroOffspringSpecies ({ p with species := species1 } : Pop W)).species.map (gkey k)) ∧
    ((purgeZeroOffspringSpecies ({ p with species := species1 } : Pop W)).species.map (·.id)).Nodup ∧
    ((purgeZeroOffspringSpecies ({ p with species := species1 } : Pop W)).species.map (gkey k)).Sublist (species1.map (gkey k)) ∧
    (writeBack (purgeZeroOffspringSpecies ({ p with species := species1 } : Pop W)).species sorted2).map (gkey k) =
      (purgeZeroOffspringSpecies ({ p with species := species1 } : Pop W)).species.map (gkey k) := by
  obtain ⟨hperm, hndz, hsub, hwb, _⟩ := prepare_stages_bare o p species1 best tail e rs sorted2 ehlc rs' hnd hadj hsorted hred
  exact ⟨perm_of_bare (gkey_bare hPC hSC) hperm, hndz,
    sublist_of_bare_setExp (gkey_bare hPC hSC) (gkey_setExp hEO) hsub, map_of_bare (gkey_bare hPC hSC) hwb⟩

/-- no member of the species has clones reserved (true of every organism entering an epoch: babies are created with a
    zero reservation) -/
def AllZ (s : Species W) : Prop := ∀ x ∈ s.orgs, x.superChampOffspring = 0
/-- every member's reservation of champion clones is non-negative and at most the quota of the species: what
    `Species.reproduce` needs so that the last reserved clone, the unmodified one, is made -/
def ScLe (s : Species W) : Prop := ∀ x ∈ s.orgs, 0 ≤ x.superChampOffspring ∧ x.superChampOffspring ≤ s.expectedOffspring

omit [Scalar W] in
theorem allZ_of_perm {s s' : Species W}
    (h : (s.orgs.map (fun x : Org W => x.superChampOffspring)).Perm (s'.orgs.map (fun x : Org W => x.superChampOffspring)))
    (hz : AllZ s') : AllZ s := by
  intro x hx
  obtain ⟨y, hy, hxy⟩ := List.mem_map.mp (h.mem_iff.mp (List.mem_map_of_mem hx))
  rw [← hxy]; exact hz y hy

theorem adjustFitness_allZ (o : EpochOpts W) (s s' : Species W) (h : adjustFitness o s = .ok s') (hz : AllZ s) : AllZ s' :=
  allZ_of_perm (adjustFitness_perm (k := fun x : Org W => x.superChampOffspring) (fun _ _ _ _ _ => rfl) o s s' h) hz

omit [Scalar W] in
theorem setTopOrg_mem (s : Species W) (f : Org W → Org W) (x : Org W) (hx : x ∈ (setTopOrg s f).orgs) :
    x ∈ s.orgs ∨ ∃ t ∈ s.orgs, x = f t := by
  unfold setTopOrg at hx
  split at hx
  · left; exact hx
  · rename_i o os h
    simp only [List.mem_cons] at hx
    rcases hx with rfl | hx
    · right; exact ⟨o, by rw [h]; simp, rfl⟩
    · left; rw [h]; simp [hx]

omit [Scalar W] in
theorem scLe_setTop (s s' : Species W) (f : Org W → Org W) (ho : s'.orgs = (setTopOrg s f).orgs)
    (hrest : ∀ x ∈ s.orgs, 0 ≤ x.superChampOffspring ∧ x.superChampOffspring ≤ s'.expectedOffspring)
    (hf : ∀ t ∈ s.orgs, 0 ≤ (f t).superChampOffspring ∧ (f t).superChampOffspring ≤ s'.expectedOffspring) : ScLe s' := by
  intro x hx
  rw [ho] at hx
  rcases setTopOrg_mem s f x hx with h1 | ⟨t, ht, rfl⟩
  · exact hrest x h1
  · exact hf t ht

/-- the species handed to the redistribution step have positive quotas (zero-quota species have just been purged) and
    no reservation yet -/
theorem toRedistribute_pos_allZ (o : EpochOpts W) (p : Pop W) (species1 : List (Species W)) (best : Species W) (tail : List (Species W))
    (hz : ∀ s ∈ p.species, AllZ s) (hadj : adjustAll o p.species = .ok species1)
    (hsorted : sortSpeciesDesc (purgeZeroOffspringSpecies ({ p with species := species1 } : Pop W)).species = best :: tail) :
    ∀ s ∈ setTopOrg best (fun t => { t with isPopChampion := true }) :: tail, 0 < s.expectedOffspring ∧ AllZ s := by
  have hz1 : ∀ s ∈ species1, AllZ s := by
    intro s' hs'
    obtain ⟨s, hs, ha⟩ := adjustAll_mem o _ _ hadj s' hs'
    exact adjustFitness_allZ o s s' ha (hz s hs)
  have hpz : ∀ s ∈ (purgeZeroOffspringSpecies ({ p with species := species1 } : Pop W)).species, 0 < s.expectedOffspring ∧ AllZ s := by
    intro s hs
    constructor
    · rw [C09.purgeZero_eq] at hs
      simpa using (List.mem_filter.mp hs).2
    · obtain ⟨sa', hsa', e⟩ := List.mem_map.mp ((purgeZero_noQuota _).subset (List.mem_map_of_mem hs))
      obtain ⟨sa, hsa, rfl⟩ := List.mem_map.mp hsa'
      refine allZ_of_perm (.of_eq ?_) (hz1 sa hsa)
      have : s.orgs = sa.orgs.map (C09.setExp _) := (congrArg Species.orgs e).symm
      rw [this, List.map_map]
      apply List.map_congr_left
      intro x _
      simp only [Function.comp, C09.setExp]
      split <;> rfl
  have hmem : ∀ s ∈ best :: tail, s ∈ (purgeZeroOffspringSpecies ({ p with species := species1 } : Pop W)).species := by
    intro s hs
    rw [← hsorted] at hs
    exact (goSort_perm _ _).mem_iff.mp hs
  intro s hs
  rcases List.mem_cons.mp hs with rfl | h'
  · obtain ⟨q, z⟩ := hpz best (hmem best (by simp))
    refine ⟨by rw [C09.quota_setTopOrg]; exact q, ?_⟩
    intro x hx
    rcases setTopOrg_mem _ _ x hx with h1 | ⟨t, ht, rfl⟩
    · exact z x h1
    · exact z t ht
  · exact hpz s (hmem s (by simp [h']))

omit [Scalar W] in
theorem AllZ.scLe {s : Species W} (z : AllZ s) (hq : 0 ≤ s.expectedOffspring) : ScLe s :=
  fun x hx => by rw [z x hx]; exact ⟨Int.le_refl 0, hq⟩

omit [Scalar W] in
theorem crown_scLe (s : Species W) (n : Int) (hn : 0 ≤ n) (z : AllZ s) : ScLe (crown s n) := by
  refine scLe_setTop s _ _ rfl ?_ ?_
  · intro x hx; rw [z x hx]; exact ⟨Int.le_refl 0, hn⟩
  · intro t _; exact ⟨hn, Int.le_refl n⟩

theorem deltaCoding_scLe (sorted l : List (Species W)) (o : EpochOpts W) (h : deltaCoding sorted o = .ok l)
    (hz : ∀ s ∈ sorted, AllZ s) : ∀ s ∈ l, ScLe s :=
  deltaCoding_all (P := AllZ) (Q := ScLe) h (fun s n hn z => crown_scLe s n hn z)
    (fun s z => AllZ.scLe (s := { s with expectedOffspring := 0 }) z (Int.le_refl 0)) hz

omit [Scalar W] in
/-- a gift of `b` babies; `bump` has `g t = b`, the final top-up of `giveBabiesToTheBest` `g t = t.superChampOffspring + b` -/
theorem raise_scLe (s : Species W) (g : Org W → Int) (b : Int) (hb0 : 0 ≤ b)
    (hg : ∀ t ∈ s.orgs, 0 ≤ t.superChampOffspring → t.superChampOffspring ≤ s.expectedOffspring →
      0 ≤ g t ∧ g t ≤ s.expectedOffspring + b)
    (hs : 0 ≤ s.expectedOffspring ∧ ScLe s)
    (s' : Species W) (ho : s'.orgs = (setTopOrg s (fun t => { t with superChampOffspring := g t })).orgs)
    (hq : s'.expectedOffspring = s.expectedOffspring + b) : 0 ≤ s'.expectedOffspring ∧ ScLe s' := by
  refine ⟨by omega, scLe_setTop s _ _ ho ?_ ?_⟩
  · intro y hy; have := hs.2 y hy; exact ⟨this.1, by omega⟩
  · intro t ht; have := hs.2 t ht; rw [hq]; exact hg t ht this.1 this.2

theorem giveBabies_scLe (sorted sorted' : List (Species W)) (o : EpochOpts W) (rs rs' : List Nat)
    (hbs : 0 ≤ o.babiesStolen) (hP0 : ∀ s ∈ sorted, 0 < s.expectedOffspring ∧ AllZ s)
    (h : giveBabiesToTheBest sorted o rs = .ok (sorted', rs')) : ∀ s ∈ sorted', ScLe s := fun s hs =>
  (giveBabies_all (P := fun s => 0 < s.expectedOffspring ∧ AllZ s) (Q := fun s => 0 ≤ s.expectedOffspring ∧ ScLe s) hbs h
    (fun s d _ hd hp => ⟨by show 0 < s.expectedOffspring - d; omega, hp.2⟩)
    (fun s ⟨q, z⟩ => ⟨by omega, z.scLe (by omega)⟩)
    (fun s b hb0 hq => raise_scLe s (fun _ => b) b hb0 (fun _ _ _ _ => ⟨hb0, by omega⟩) hq _ rfl rfl)
    (fun s left hleft hq => raise_scLe s (fun t => t.superChampOffspring + left) left (by omega)
      (fun _ _ _ _ => ⟨by omega, by omega⟩) hq _ rfl rfl)
    hP0 s hs).2

theorem redistribute_scLe (sorted1 : List (Species W)) (o : EpochOpts W) (e : Int) (rs : List Nat)
    (sorted2 : List (Species W)) (ehlc : Int) (rs1 : List Nat) (h : Redistributed o sorted1 e rs sorted2 ehlc rs1)
    (hP0 : ∀ s ∈ sorted1, 0 < s.expectedOffspring ∧ AllZ s) : ∀ s ∈ sorted2, ScLe s := by
  rcases h.cases with hd | ⟨hbs, hg⟩ | rfl
  · exact deltaCoding_scLe _ _ _ hd (fun s hs => (hP0 s hs).2)
  · exact giveBabies_scLe _ _ _ _ _ (by omega) hP0 hg
  · exact fun s hs => (hP0 s hs).2.scLe (Int.le_of_lt (hP0 s hs).1)

/-- **the reservation bound, derived from the preparation phase.**  If no organism enters the epoch with clones reserved
    (`superChampOffspring = 0`, true of every newborn) and species ids are unique, then after `prepareForReproduction`
    the reservation of EVERY organism left is non-negative and at most the quota of its species — whichever of delta coding, stolen
    babies or neither ran, for every scalar type, stream and option setting. -/
theorem prepare_sc_le (o : EpochOpts W) (p p1 : Pop W) (ex : ExecState) (rs rs' : List Nat)
    (hnd : (p.species.map (·.id)).Nodup) (hz : ∀ s ∈ p.species, AllZ s)
    (h : prepareForReproduction o p rs = .ok ((p1, ex), rs')) : ∀ s ∈ p1.species, ScLe s := by
  obtain ⟨species1, best, tail, e, sorted2, ehlc, doomed, pre, hadj, hsorted, hred, hpre, _, _, hsp, _⟩ :=
    prepare_decomp o p p1 ex rs rs' h
  have hle := redistribute_scLe _ _ _ _ _ _ _ hred (toRedistribute_pos_allZ o p species1 best tail hz hadj hsorted)
  obtain ⟨_, _, _, _, hwp⟩ := prepare_stages_bare o p species1 best tail e rs sorted2 ehlc rs' hnd hadj hsorted hred
  intro s hs
  rw [hsp, hpre] at hs
  obtain ⟨m, hm, rfl⟩ := List.mem_map.mp hs
  exact fun x hx => hle m (hwp.subset hm) x (List.mem_filter.mp hx).1

theorem reproduceAll_has_copy (o : EpochOpts W) (gen : Int) (sorted ss : List (Species W)) (reg reg' : Reg W) (uid uid' : Nat)
    (acc babies : List (Org W)) (rs rs' : List Nat)
    (h : reproduceAll o gen sorted ss reg uid acc rs = .ok ((babies, reg', uid'), rs'))
    (s : Species W) (hs : s ∈ ss) (champ : Org W) (hchamp : s.orgs.head? = some champ) (hrefs : C06.RefsOk champ.genome)
    (hq : s.expectedOffspring > 5) (hsc : champ.superChampOffspring ≤ s.expectedOffspring) :
    ∃ b ∈ babies, IsCopy champ b := by
  -- until `s` has reproduced it is still to come; afterwards its copy is among the babies
  have key := reproduceAll_induct (I := fun rest _ _ a _ => s ∈ rest ∨ ∃ b ∈ a, IsCopy champ b) ?_ h (.inl hs)
  · exact key.resolve_left List.not_mem_nil
  · rintro s' rest _ _ _ a _ bs _ _ _ (hin | ⟨b, hb, hc⟩) hsp
    · rcases List.mem_cons.mp hin with rfl | hin
      · obtain ⟨b, hb, hc⟩ := reproduceSpecies_has_copy o gen s sorted _ _ _ _ bs champ _ _ hchamp hrefs hq hsc hsp
        exact .inr ⟨b, List.mem_append_right _ hb, hc⟩
      · exact .inl hin
    · exact .inr ⟨b, List.mem_append_left _ hb, hc⟩

theorem reproduceAll_heads (o : EpochOpts W) (gen : Int) (sorted ss : List (Species W)) (reg reg' : Reg W) (uid uid' : Nat)
    (acc babies : List (Org W)) (rs rs' : List Nat)
    (h : reproduceAll o gen sorted ss reg uid acc rs = .ok ((babies, reg', uid'), rs')) :
    ∀ s ∈ ss, ∃ champ, s.orgs.head? = some champ := by
  intro s hs
  have key := reproduceAll_induct (I := fun rest _ _ _ _ => s ∈ rest ∨ ∃ champ, s.orgs.head? = some champ) ?_ h (.inl hs)
  · exact key.resolve_left List.not_mem_nil
  · rintro s' rest _ _ _ _ _ _ _ _ _ (hin | hc) hsp
    · rcases List.mem_cons.mp hin with rfl | hin
      · obtain ⟨champ, _, hc, _⟩ := reproduceSpecies_ok hsp
        exact .inr ⟨champ, hc⟩
      · exact .inl hin
    · exact .inr hc

theorem reproduceAll_sc (o : EpochOpts W) (gen : Int) (sorted ss : List (Species W)) (reg reg' : Reg W) (uid uid' : Nat)
    (acc babies : List (Org W)) (rs rs' : List Nat)
    (h : reproduceAll o gen sorted ss reg uid acc rs = .ok ((babies, reg', uid'), rs'))
    (hz : ∀ b ∈ acc, b.superChampOffspring = 0) : ∀ b ∈ babies, b.superChampOffspring = 0 :=
  reproduceAll_babies (fun _ _ _ _ _ _ => rfl) h hz

omit [Scalar W] in
theorem renumber_bwd (l : List (Org W)) (k : Int) :
    ∀ x' ∈ renumber l k, ∃ x ∈ l, x' = { x with genome := { x.genome with id := x'.genome.id } } :=
  fun _ hx' => renumber_mem hx'

/-- **from one species' champion to the next generation.**  If the reproduction phase returns, then for every species of
    the prepared population with quota above five whose first organism's reservation does not exceed the quota, the
    finalised population holds — in one of its species and in its organism list — an organism whose genome is that
    organism's genome under a new id. -/
theorem reproduce_finalize_has_copy (o : EpochOpts W) (gen : Int) (p1 p2 : Pop W) (ex : ExecState) (rs rs' : List Nat)
    (hu : C02.UidInv p1) (h : reproducePhase o gen p1 ex rs = .ok (p2, rs'))
    (s : Species W) (hs : s ∈ p1.species) (champ : Org W) (hchamp : s.orgs.head? = some champ)
    (hrefs : C06.RefsOk champ.genome) (hq : s.expectedOffspring > 5)
    (hsc : champ.superChampOffspring ≤ s.expectedOffspring) :
    ∃ s' ∈ (finalizeReproduction p2).species, ∃ x ∈ s'.orgs, x.uid ∈ (finalizeReproduction p2).organisms ∧ IsCopy champ x := by
  obtain ⟨babies, reg, uid, t⟩ := reproducePhase_renewal h
  obtain ⟨b, hb, i, hi⟩ := reproduceAll_has_copy o gen _ _ _ _ _ _ _ _ _ _ t.repro s hs champ hchamp hrefs hq hsc
  -- the new generation is the babies under new genome ids
  obtain ⟨x, hx, e⟩ := (t.newGen hu).1.fwd hb
  obtain ⟨s', hs', hxs⟩ := mem_orgsOf.mp hx
  have hg : x.genome = { b.genome with id := x.genome.id } := congrArg Org.genome e
  exact ⟨s', hs', x, hxs, t.fields.2.2 ▸ List.mem_map_of_mem hx, x.genome.id, hg.trans (by rw [hi])⟩

theorem reproduce_finalize_allZ (o : EpochOpts W) (gen : Int) (p1 p2 : Pop W) (ex : ExecState) (rs rs' : List Nat)
    (hu : C02.UidInv p1) (h : reproducePhase o gen p1 ex rs = .ok (p2, rs')) :
    ∀ s ∈ (finalizeReproduction p2).species, AllZ s := by
  obtain ⟨babies, reg, uid, t⟩ := reproducePhase_renewal h
  have hb0 := reproduceAll_sc o gen _ _ _ _ _ _ _ _ _ _ t.repro (fun b hb => nomatch hb)
  intro s' hs' x' hx'
  obtain ⟨b, hb, e⟩ := (t.newGen hu).1.bwd (mem_orgsOf.mpr ⟨s', hs', hx'⟩)
  exact (congrArg Org.superChampOffspring e).trans (hb0 b hb)

theorem adjustFitness_head (o : EpochOpts W) (s s' : Species W) (top : Org W) (rest : List (Org W))
    (h : adjustFitness o s = .ok s') (hs' : s'.orgs = top :: rest) :
    ∃ y ∈ s.orgs, top.uid = y.uid ∧ top.genome = y.genome ∧ top.originalFitness = y.fitness ∧
      (1 ≤ C09.numParents o s.orgs.length → top.toEliminate = y.toEliminate) := by
  obtain ⟨a, m, hne, rfl⟩ := adjustFitness_ok o s s' h
  cases hsort : adjustedOrgs o s with
  | nil => exact absurd hsort hne
  | cons t r =>
    simp only [hsort, markOrgs, List.cons.injEq] at hs'
    obtain ⟨rfl, _⟩ := hs'
    have htmem : t ∈ adjustedOrgs o s := by rw [hsort]; exact List.mem_cons_self
    obtain ⟨y, hy, rfl⟩ := List.mem_map.mp ((goSort_perm _ _).mem_iff.mp htmem)
    refine ⟨y, hy, rfl, rfl, rfl, ?_⟩
    intro h1
    unfold C09.numParents at h1
    have hn : ¬ (((0 : Nat) : Int) ≥ floorInt (add (mul o.survivalThresh (ofInt (s.orgs.length : Int))) one)) := by
      omega
    simp only [hn, ↓reduceIte]
    rfl

/-- the C10-named reading of `C09.not_doomed` (Props/C09ParentsEpoch.lean): the same statement -/
theorem not_doomed (pre : Pop W) (hnd : (C02.orgUids pre.species).Nodup) (m : Species W) (hm : m ∈ pre.species)
    (x : Org W) (hx : x ∈ m.orgs) (hte : x.toEliminate = false) :
    ((pre.orgList.filter (·.toEliminate)).map (·.uid)).contains x.uid = false :=
  C09.not_doomed pre hnd m hm x hx hte

omit [Scalar W] in
theorem uids_of_gkeys (k : Org W → κ) (u : κ → Nat) (hu : ∀ x, u (k x) = x.uid) (a : List (Species W)) :
    C02.orgUids a = (a.map (gkey k)).flatMap (fun g => g.2.map u) := by
  simp only [gkey, C02.orgUids, List.flatMap_map, List.map_map, Function.comp_def, hu]

end GoNeat.C10
