/-
  Helper lemmas for Props/C05Check.lean (the `_refl` lemmas also serve Props/C10Epoch.lean): how the executable relations of Spec/Mutation.lean (filters by innovation
  number / node id, positional zips, field-wise equality tests) evaluate on lists built by ordered insertion,
  `List.modify` and `reenableFirst`.  Every lemma holds for every scalar type; `weq` is any reflexive test.
-/
import GoNeat.Spec.Mutation
import GoNeat.Proofs.WFLemmas

namespace GoNeat.C05
open GoNeat Scalar MutationSpec
variable {W : Type}

theorem geneEq_refl (weq : W → W → Bool) (hrefl : ∀ a, weq a a = true) (a : Gene W) : geneEq weq a a = true := by
  simp [geneEq, optEq, hrefl]

theorem genesEq_refl (weq : W → W → Bool) (hrefl : ∀ a, weq a a = true) (l : List (Gene W)) : genesEq weq l l = true := by
  unfold genesEq
  rw [zip_self_all _ (geneEq_refl weq hrefl), beq_self_eq_true]
  rfl

theorem traitEq_refl (weq : W → W → Bool) (hrefl : ∀ a, weq a a = true) (t : Trait W) : traitEq weq t t = true := by
  unfold traitEq
  rw [zip_self_all _ hrefl, beq_self_eq_true, beq_self_eq_true]
  rfl

theorem traitsEq_refl (weq : W → W → Bool) (hrefl : ∀ a, weq a a = true) (l : List (Trait W)) : traitsEq weq l l = true := by
  unfold traitsEq
  rw [zip_self_all _ (traitEq_refl weq hrefl), beq_self_eq_true]
  rfl

theorem zip_self_unchanged {α} (q : α → α → Bool) (hq : ∀ a, q a a = true) (l : List α) :
    (List.zip l l).filter (fun (a, b) => !q a b) = [] := by
  rw [List.filter_eq_nil_iff]
  intro ab hab
  have := List.all_eq_true.mp (zip_self_all q hq l) ab hab
  simpa using this

theorem zip_modify_changed {α} (q : α → α → Bool) (hq : ∀ a, q a a = true) (f : α → α) (l : List α) (k : Nat) (old : α)
    (hk : l[k]? = some old) (hne : q old (f old) = false) :
    (List.zip l (l.modify k f)).filter (fun (a, b) => !q a b) = [(old, f old)] := by
  induction l generalizing k with
  | nil => simp at hk
  | cons x xs ih =>
    cases k with
    | zero =>
      simp only [List.getElem?_cons_zero, Option.some.injEq] at hk
      subst hk
      simp only [List.modify_zero_cons, List.zip_cons_cons, List.filter_cons, hne, Bool.not_false, ↓reduceIte, List.cons.injEq,
        true_and]
      exact zip_self_unchanged q hq xs
    | succ k =>
      simp only [List.getElem?_cons_succ] at hk
      simp only [List.modify_succ_cons, List.zip_cons_cons, List.filter_cons, hq, Bool.not_true, Bool.false_eq_true, ↓reduceIte]
      exact ih k hk

theorem paramOnlyRel_none (g g' : Genome W)
    (hn : g'.nodes.map (fun n => (n.id, n.kind, n.act)) = g.nodes.map (fun n => (n.id, n.kind, n.act)))
    (hg : g'.genes.map (fun x => (x.inn, x.src, x.dst, x.recur)) = g.genes.map (fun x => (x.inn, x.src, x.dst, x.recur)))
    (ht : g'.traits.map (·.id) = g.traits.map (·.id)) : paramOnlyRel g g' = none := by
  unfold paramOnlyRel skeleton nodeSkeleton
  simp [hn, hg, ht]

/-! `oldP g` = "carries a number of the old genome" is the test by which the structural relations split the result's
genes into kept and new ones. -/

abbrev oldP (g : Genome W) : Gene W → Bool := fun x => (g.genes.map (·.inn)).contains x.inn

/-- in a strictly ascending result the added genes carry numbers the old genome does not have, so the test finds exactly
    the old genes (`old`: the old list, possibly with a flag cleared) and exactly the added ones -/
theorem genes_split (g : Genome W) {l new old : List (Gene W)} (hs : GenesSorted l) (hsub : old.Sublist l)
    (hp : l.Perm (new ++ old)) (hinn : old.map (·.inn) = g.genes.map (·.inn)) :
    l.filter (oldP g) = old ∧ (l.filter (fun y => !oldP g y)).Perm new := by
  refine filter_split (oldP g) hsub hp (fun x hx => ?_) (fun x hx => ?_)
  · have : x.inn ∈ g.genes.map (·.inn) := hinn ▸ List.mem_map_of_mem hx
    simpa [oldP] using this
  · have hnd := ((hp.map (·.inn)).nodup_iff).mp (C01.sorted_inns_nodup _ hs)
    rw [List.map_append, List.nodup_append, hinn] at hnd
    have : x.inn ∉ g.genes.map (·.inn) := fun hm => hnd.2.2 x.inn (List.mem_map_of_mem hx) x.inn hm rfl
    simpa [oldP] using this

theorem connectSensorsRel_none_false (weq : W → W → Bool) (hrefl : ∀ a, weq a a = true) (g : Genome W) :
    connectSensorsRel weq g g false = none := by
  have hold : ∀ x ∈ g.genes, oldP g x = true := fun x hx => by
    simpa [oldP] using List.mem_map_of_mem (f := (·.inn)) hx
  have h1 : g.genes.filter (oldP g) = g.genes := List.filter_eq_self.mpr hold
  have h2 : g.genes.filter (fun x => !oldP g x) = [] :=
    List.filter_eq_nil_iff.mpr (fun x hx h => Bool.false_ne_true ((congrArg not (hold x hx)).symm.trans h))
  unfold connectSensorsRel
  simp only [oldP] at h1 h2
  simp only [h1, h2, traitsEq_refl weq hrefl, genesEq_refl weq hrefl, bne_self_eq_false,
    Bool.not_true, Bool.false_eq_true, ↓reduceIte]

end GoNeat.C05
