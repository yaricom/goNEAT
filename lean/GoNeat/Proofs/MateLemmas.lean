/-
  C04 helper lemmas (Kind A): what a child gene is (`CopyOf`, `AvgOf`, `EnRule`), what the plan of the multipoint
  operators contains (`mpPlan`, read off the alignment), and what the plan of the single-point operator contains
  (`spPlan`).
-/
import GoNeat.Proofs.MateBasic

namespace GoNeat.C04
open GoNeat Scalar
variable {W : Type} [Scalar W]

/-- `c` is a verbatim copy of the parent gene `x` (number, endpoints, recurrence, weight, mutation number, enabled
    flag), its trait pointer redirected into the child's averaged traits -/
def CopyOf (nt : List (Trait W)) (t0 : Option Int) (c x : Gene W) : Prop :=
  ∃ tr, childTraitRef nt t0 x.trait = .ok tr ∧ c = { x with trait := tr }

/-- the enabled flag `e` of a gene built from two matching genes with flags `e1` (first parent) and `e2` (second
    parent), exactly as the code decides it (`!e1 || !e2 && rand.Float64() < 0.75` ⇒ disabled):
    disabled in the first parent ⇒ disabled; enabled in both ⇒ enabled; enabled in the first and disabled in the second
    ⇒ disabled iff a `rand.Float64()` draw is below 0.75 -/
def EnRule (e1 e2 e : Bool) : Prop :=
  (e1 = false → e = false) ∧ (e1 = true → e2 = true → e = true) ∧
  (e1 = true → e2 = false → ∃ (rs rs' : List Nat) (f : W), Rand.float64 rs = .ok (f, rs') ∧ e = !(lt f (ofDec 75 2)))

theorem disableDraw_exact (e1 e2 dis : Bool) (rs rs' : List Nat) (h : disableDraw (W := W) e1 e2 rs = .ok (dis, rs')) :
    EnRule (W := W) e1 e2 (!dis) := by
  rcases disableDraw_cases h with ⟨rfl, rfl⟩ | ⟨rfl, rfl, rfl⟩ | ⟨rfl, rfl, f, hf, rfl⟩
  · exact ⟨fun _ => rfl, fun h => (nomatch h), fun h => (nomatch h)⟩
  · exact ⟨fun h => (nomatch h), fun _ _ => rfl, fun _ h => (nomatch h)⟩
  · exact ⟨fun h => (nomatch h), fun _ h => (nomatch h), fun _ _ => ⟨rs, rs', f, hf, rfl⟩⟩

/-- `c` is the code's average of the matching genes `x` (of the walk's first genome) and `y` (of its second):
    weight and mutation number are exactly `(x+y)/2` in the scalar's own arithmetic; source, target, recurrence flag
    and trait are each taken from one of the two; the enabled flag follows `EnRule` -/
structure AvgOf (nt : List (Trait W)) (t0 : Option Int) (x y c : Gene W) : Prop where
  inn : c.inn = x.inn
  w : c.w = avg x.w y.w
  mnum : c.mnum = avg x.mnum y.mnum
  src : c.src = x.src ∨ c.src = y.src
  dst : c.dst = x.dst ∨ c.dst = y.dst
  recur : c.recur = x.recur ∨ c.recur = y.recur
  trait : childTraitRef nt t0 x.trait = .ok c.trait ∨ childTraitRef nt t0 y.trait = .ok c.trait
  en : EnRule (W := W) x.en y.en c.en

theorem avgChosen_link {p1 p2 : Genome W} {x y : Gene W} {c : Chosen W} {rs rs' : List Nat}
    (h : avgChosen p1 p2 x y rs = .ok (c, rs')) (hxy : x.link = y.link) : c.gene.link = x.link := by
  obtain ⟨bT, bI, bO, bR, dis, r, _, rfl⟩ := avgChosen_exact h
  unfold Gene.link at hxy ⊢
  simp only [Prod.mk.injEq] at hxy
  simp only [avgOfFlips, ← hxy.1, ← hxy.2.1, ← hxy.2.2, ite_self]

theorem avgOf_added (nt : List (Trait W)) (t0 : Option Int) {p1 p2 : Genome W} {x y : Gene W} {c : Chosen W}
    {rs rs' : List Nat} (h : avgChosen p1 p2 x y rs = .ok (c, rs')) (tr : Option Int)
    (htr : childTraitRef nt t0 c.gene.trait = .ok tr) :
    AvgOf nt t0 x y { c.gene with trait := tr, en := if false then false else c.gene.en } := by
  obtain ⟨bT, bI, bO, bR, dis, r, hd, rfl⟩ := avgChosen_exact h
  refine ⟨rfl, rfl, rfl, ?_, ?_, ?_, ?_, disableDraw_exact _ _ _ _ _ hd⟩
  · cases bI
    · exact Or.inr rfl
    · exact Or.inl rfl
  · cases bO
    · exact Or.inr rfl
    · exact Or.inl rfl
  · cases bR
    · exact Or.inr rfl
    · exact Or.inl rfl
  · cases bT
    · exact Or.inr htr
    · exact Or.inl htr

omit [Scalar W] in
theorem copy_link {nt : List (Trait W)} {t0 : Option Int} {c x : Gene W} (h : CopyOf nt t0 c x) : c.link = x.link ∧ c.inn = x.inn := by
  obtain ⟨tr, _, rfl⟩ := h; exact ⟨rfl, rfl⟩

/-- the child gene `c` standing for gene `x` of the fitter parent when that is the FIRST parent (`other` = the second
    parent's genes): a verbatim copy if no gene of the other parent carries the number, else the code's average
    with the matching gene -/
def InheritsAvg1 (nt : List (Trait W)) (t0 : Option Int) (other : List (Gene W)) (c x : Gene W) : Prop :=
  ((∀ y ∈ other, y.inn ≠ x.inn) ∧ CopyOf nt t0 c x) ∨ (∃ y ∈ other, y.inn = x.inn ∧ AvgOf nt t0 x y c)

/-- the same when the fitter parent is the SECOND parent (`other` = the first parent's genes; the average still
    takes the first parent's gene as its first operand) -/
def InheritsAvg2 (nt : List (Trait W)) (t0 : Option Int) (other : List (Gene W)) (c y : Gene W) : Prop :=
  ((∀ x ∈ other, x.inn ≠ y.inn) ∧ CopyOf nt t0 c y) ∨ (∃ x ∈ other, x.inn = y.inn ∧ AvgOf nt t0 x y c)

theorem inh1_inn {nt : List (Trait W)} {t0 : Option Int} {other : List (Gene W)} {c x : Gene W}
    (h : InheritsAvg1 nt t0 other c x) : c.inn = x.inn := by
  rcases h with ⟨_, h⟩ | ⟨y, _, _, h⟩
  · exact (copy_link h).2
  · exact h.inn

theorem inh2_inn {nt : List (Trait W)} {t0 : Option Int} {other : List (Gene W)} {c y : Gene W}
    (h : InheritsAvg2 nt t0 other c y) : c.inn = y.inn := by
  rcases h with ⟨_, h⟩ | ⟨x, _, e, h⟩
  · exact (copy_link h).2
  · rw [h.inn, e]

section
omit [Scalar W]

theorem mem_mpPlan_true {xs ys : List (Gene W)} {e : Slot W} (h : e ∈ mpPlan true xs ys) :
    (∃ x ∈ xs, e = .left x ∧ .left x ∈ align xs ys) ∨ ∃ x ∈ xs, ∃ y ∈ ys, x.inn = y.inn ∧ e = .both x y := by
  obtain ⟨hm, ht⟩ := List.mem_filter.mp h
  obtain ⟨a, b, c⟩ := mem_align hm
  cases e with
  | both x y => exact Or.inr ⟨x, a x rfl, y, b y rfl, c x rfl y rfl, rfl⟩
  | left x => exact Or.inl ⟨x, a x rfl, rfl, hm⟩
  | right y => cases ht

theorem mpPlan_true_fsts (xs ys : List (Gene W)) : Aligned (fun e x => e.fst = some x) (mpPlan true xs ys) xs := by
  have h := Aligned.filterMap Slot.fst (mpPlan true xs ys) (fun e he => by
    rcases mem_mpPlan_true he with ⟨_, _, rfl, _⟩ | ⟨_, _, _, _, _, rfl⟩ <;> rfl)
  have e : (mpPlan true xs ys).filterMap Slot.fst = xs := by
    rw [mpPlan, List.filterMap_filter]
    refine Eq.trans (congrArg (List.filterMap · _) (funext fun s => ?_)) (fsts_align xs ys)
    cases s <;> rfl
  rwa [e] at h

theorem mpPlan_inns {xs ys : List (Gene W)} (better : Bool) (h1 : GenesSorted xs) (h2 : GenesSorted ys) :
    ((mpPlan better xs ys).map Slot.inn).Pairwise (· < ·) :=
  List.pairwise_map.mpr ((align_inns h1 h2).filter _)

theorem mpPlan_ne_nil {xs ys : List (Gene W)} {better : Bool} (h : (better = true ∧ xs ≠ []) ∨ (better = false ∧ ys ≠ [])) :
    mpPlan better xs ys ≠ [] := by
  have key : ∀ xs ys : List (Gene W), xs ≠ [] → mpPlan true xs ys ≠ [] := fun xs ys h e => by
    have := mpPlan_true_fsts xs ys
    rw [e] at this; cases this; exact h rfl
  rcases h with ⟨rfl, h⟩ | ⟨rfl, h⟩
  · exact key xs ys h
  · rw [mpPlan_swap]
    exact fun e => key ys xs h (List.map_eq_nil_iff.mp e)

end

/-- the same-link conflict check: an origin whose link is already in the child is dropped -/
def spKeep : List (Int × Int × Bool) → List (Origin W) → List (Origin W)
  | _, [] => []
  | seen, o :: os => if o.link ∈ seen then spKeep seen os else o :: spKeep (seen ++ [o.link]) os

def Realises (nt : List (Trait W)) (t0 : Option Int) (c : Gene W) : Origin W → Prop
  | .short x => CopyOf nt t0 c x
  | .mean x y => AvgOf nt t0 x y c
  | .long y => CopyOf nt t0 c y

omit [Scalar W] in
theorem real_copy (nt : List (Trait W)) (t0 : Option Int) (x : Gene W) (tr : Option Int)
    (h : childTraitRef nt t0 x.trait = .ok tr) :
    CopyOf nt t0 ({ x with trait := tr, en := if false then false else x.en } : Gene W) x := ⟨tr, h, rfl⟩

section
omit [Scalar W]

def Origin.From (xs ys : List (Gene W)) : Origin W → Prop
  | .short x => x ∈ xs
  | .mean x y => x ∈ xs ∧ y ∈ ys ∧ x.inn = y.inn
  | .long y => y ∈ ys

theorem Origin.From.mono {xs ys xs' ys' : List (Gene W)} {o : Origin W} (h : o.From xs ys) (h1 : ∀ x ∈ xs, x ∈ xs')
    (h2 : ∀ y ∈ ys, y ∈ ys') : o.From xs' ys' := by
  cases o with
  | short x => exact h1 x h
  | mean x y => exact ⟨h1 x h.1, h2 y h.2.1, h.2.2⟩
  | long y => exact h2 y h

theorem spPlan_mem (cp : Nat) (xs ys : List (Gene W)) (gc : Nat) (st : Bool) : ∀ o ∈ spPlan cp xs ys gc st, o.From xs ys := by
  have c1 {x : Gene W} {xs : List (Gene W)} : ∀ z ∈ xs, z ∈ x :: xs := fun _ => List.mem_cons_of_mem _
  fun_induction spPlan cp xs ys gc st
  case case1 => exact fun _ h => nomatch h
  case case2 y ys gc st ih =>
    intro o ho
    rcases List.mem_cons.mp ho with rfl | ho
    · exact List.mem_cons_self
    · exact (ih o ho).mono (fun _ h => h) c1
  case case3 x xs y ys gc st heq ih =>
    intro o ho
    rcases List.mem_cons.mp ho with rfl | ho
    · split
      · exact List.mem_cons_self
      · split
        · exact List.mem_cons_self
        · exact ⟨List.mem_cons_self, List.mem_cons_self, heq⟩
    · exact (ih o ho).mono c1 c1
  case case4 x xs y ys gc st _ _ _ ih =>
    intro o ho
    rcases List.mem_cons.mp ho with rfl | ho
    · exact List.mem_cons_self
    · exact (ih o ho).mono c1 (fun _ h => h)
  case case5 x xs y ys gc st _ _ _ ih =>
    intro o ho
    rcases List.mem_cons.mp ho with rfl | ho
    · exact List.mem_cons_self
    · exact (ih o ho).mono (fun _ h => h) c1
  case case6 x xs y ys gc _ _ ih => exact fun o ho => (ih o ho).mono (fun _ h => h) c1
  case case7 => exact fun _ h => nomatch h

/-- position of an origin relative to the crossing point `cp`; `l1` = genes of the parent with fewer genes,
    `ys` = genes of the other parent:
    a copied gene of `l1` is one of its first `cp` genes; the averaged gene is gene number `cp` of `l1` and a gene of `ys`
    with the same innovation number; a copied gene of `ys` has a larger innovation number than each of the first
    `cp + 1` genes of `l1` -/
def OriginOk (cp : Nat) (l1 ys : List (Gene W)) : Origin W → Prop
  | .short x => ∃ k, k < cp ∧ l1[k]? = some x
  | .mean x y => l1[cp]? = some x ∧ y ∈ ys ∧ x.inn = y.inn
  | .long y => y ∈ ys ∧ ∀ x ∈ l1.take (cp + 1), x.inn < y.inn

theorem OriginOk.mono {cp : Nat} {l1 ys ys' : List (Gene W)} {o : Origin W} (h : OriginOk cp l1 ys o)
    (hsub : ∀ y ∈ ys, y ∈ ys') : OriginOk cp l1 ys' o := by
  cases o with
  | short x => exact h
  | mean x y => exact ⟨h.1, hsub y h.2.1, h.2.2⟩
  | long y => exact ⟨hsub y h.1, h.2⟩

theorem take_pre (cp : Nat) (pre : List (Gene W)) (x0 : Gene W) (rest : List (Gene W)) :
    (cp + 1 ≤ pre.length → ∀ x ∈ (pre ++ x0 :: rest).take (cp + 1), x ∈ pre) ∧
    (cp ≤ pre.length → ∀ x ∈ (pre ++ x0 :: rest).take (cp + 1), x ∈ pre ∨ x = x0) := by
  refine ⟨fun hlen x hx => ?_, fun hlen x hx => ?_⟩
  · rw [List.take_append_of_le_length hlen] at hx
    exact List.mem_of_mem_take hx
  · rw [show pre ++ x0 :: rest = pre ++ [x0] ++ rest from (List.append_assoc pre [x0] rest).symm,
      List.take_append_of_le_length (by rw [List.length_append]; exact Nat.succ_le_succ hlen)] at hx
    exact (List.mem_append.mp (List.mem_of_mem_take hx)).imp id List.mem_singleton.mp

theorem spPlan_sound (cp : Nat) (pre xs ys : List (Gene W)) (gc : Nat) (st : Bool)
    (hs1 : GenesSorted xs) (hs2 : GenesSorted ys) (hlen : pre.length = gc)
    (hpre : ∀ p ∈ pre, ∀ y ∈ ys, p.inn < y.inn) :
    ∀ o ∈ spPlan cp xs ys gc st, OriginOk cp (pre ++ xs) ys o := by
  have tly {y : Gene W} {ys : List (Gene W)} {pre : List (Gene W)} (h : ∀ p ∈ pre, ∀ z ∈ y :: ys, p.inn < z.inn) :
      ∀ p ∈ pre, ∀ z ∈ ys, p.inn < z.inn := fun p hp z hz => h p hp z (List.mem_cons_of_mem _ hz)
  have cy {y : Gene W} {ys : List (Gene W)} : ∀ z ∈ ys, z ∈ y :: ys := fun _ => List.mem_cons_of_mem _
  -- after one more gene `x` of `xs` was consumed
  have shift {pre xs ys' ys : List (Gene W)} {x : Gene W} {o : Origin W} (h : OriginOk cp (pre ++ [x] ++ xs) ys' o)
      (hsub : ∀ z ∈ ys', z ∈ ys) : OriginOk cp (pre ++ x :: xs) ys o := by
    rw [List.append_assoc] at h; exact h.mono hsub
  fun_induction spPlan cp xs ys gc st generalizing pre
  case case1 => exact fun _ ho => nomatch ho
  case case2 y ys gc st ih =>
    intro o ho
    rcases List.mem_cons.mp ho with rfl | ho
    · exact ⟨List.mem_cons_self, fun x hx =>
        hpre x ((List.mem_append.mp (List.mem_of_mem_take hx)).elim id (fun h => nomatch h)) y List.mem_cons_self⟩
    · exact (ih pre List.Pairwise.nil (sorted_cons hs2).1 hlen (tly hpre) o ho).mono cy
  case case3 x xs y ys gc st heq ih =>
    intro o ho
    have hx0 : (pre ++ x :: xs)[gc]? = some x := by rw [← hlen, List.getElem?_append_right (Nat.le_refl _), Nat.sub_self]; rfl
    rcases List.mem_cons.mp ho with rfl | ho
    · rcases Nat.lt_trichotomy gc cp with h | h | h
      · rw [if_pos h]; exact ⟨gc, h, hx0⟩
      · rw [if_neg (h ▸ Nat.lt_irrefl _), if_neg (h ▸ Nat.lt_irrefl _)]; exact ⟨h ▸ hx0, List.mem_cons_self, heq⟩
      · rw [if_neg (Nat.lt_asymm h), if_pos h]
        exact ⟨List.mem_cons_self, fun z hz => hpre z ((take_pre cp pre x xs).1 (hlen ▸ h) z hz) y List.mem_cons_self⟩
    · exact shift (ih (pre ++ [x]) (sorted_cons hs1).1 (sorted_cons hs2).1 (by rw [List.length_append, hlen]; rfl)
        (snoc_all (tly hpre) fun z hz => Int.lt_of_le_of_lt (Int.le_of_eq heq) ((sorted_cons hs2).2 z hz)) o ho) cy
  case case4 x xs y ys gc st hne hlt hgc ih =>
    intro o ho
    rcases List.mem_cons.mp ho with rfl | ho
    · exact ⟨gc, hgc, by rw [← hlen, List.getElem?_append_right (Nat.le_refl _), Nat.sub_self]; rfl⟩
    · exact shift (ih (pre ++ [x]) (sorted_cons hs1).1 hs2 (by rw [List.length_append, hlen]; rfl)
        (snoc_all hpre (sorted_lt_of_head hs2 fun _ h => by cases h; exact hlt)) o ho) fun _ h => h
  case case5 x xs y ys gc st hne hlt hgc ih =>
    intro o ho
    rcases List.mem_cons.mp ho with rfl | ho
    · refine ⟨List.mem_cons_self, fun z hz => ?_⟩
      rcases (take_pre cp pre x xs).2 (hlen ▸ Nat.not_lt.mp hgc) z hz with hz | rfl
      · exact hpre z hz y List.mem_cons_self
      · exact hlt
    · exact (ih pre hs1 (sorted_cons hs2).1 hlen (tly hpre) o ho).mono cy
  case case6 x xs y ys gc hne hnlt ih => exact fun o ho => (ih pre hs1 (sorted_cons hs2).1 hlen (tly hpre) o ho).mono cy
  case case7 => exact fun _ ho => nomatch ho

theorem spPlan_matched (cp : Nat) (xs ys : List (Gene W)) (gc : Nat) (st : Bool)
    (hs1 : GenesSorted xs) (hs2 : GenesSorted ys)
    (hst : st = true ∨ ∀ x0 ∈ xs.head?, ∀ y0 ∈ ys.head?, x0.inn ≤ y0.inn)
    (k : Nat) (x y : Gene W) (hx : xs[k]? = some x) (hy : y ∈ ys) (heq : x.inn = y.inn) :
    (gc + k < cp → Origin.short x ∈ spPlan cp xs ys gc st) ∧
    (gc + k = cp → Origin.mean x y ∈ spPlan cp xs ys gc st) ∧
    (gc + k > cp → Origin.long y ∈ spPlan cp xs ys gc st) := by
  have lift {o0 : Origin W} {plan : List (Origin W)} {p q r : Prop} (h : (p → Origin.short x ∈ plan) ∧
      (q → Origin.mean x y ∈ plan) ∧ (r → Origin.long y ∈ plan)) : (p → Origin.short x ∈ o0 :: plan) ∧
      (q → Origin.mean x y ∈ o0 :: plan) ∧ (r → Origin.long y ∈ o0 :: plan) :=
    ⟨fun e => List.mem_cons_of_mem _ (h.1 e), fun e => List.mem_cons_of_mem _ (h.2.1 e), fun e => List.mem_cons_of_mem _ (h.2.2 e)⟩
  fun_induction spPlan cp xs ys gc st generalizing k
  case case1 => cases hy
  case case2 => cases hx
  case case3 x0 xs y0 ys gc st heq0 ih =>
    obtain ⟨_, hhead, htail⟩ := sorted_mem_cons hs2 hy
    cases k with
    | zero =>
      cases hx
      cases hhead (Int.le_of_eq (heq.symm.trans heq0))
      refine ⟨fun (h : gc < cp) => ?_, fun (h : gc = cp) => ?_, fun (h : gc > cp) => ?_⟩
      · rw [if_pos h]; exact List.mem_cons_self
      · rw [if_neg (h ▸ Nat.lt_irrefl _), if_neg (h ▸ Nat.lt_irrefl _)]; exact List.mem_cons_self
      · rw [if_neg (Nat.lt_asymm h), if_pos h]; exact List.mem_cons_self
    | succ k =>
      have hy' := htail (heq0 ▸ heq ▸ (sorted_cons hs1).2 x (List.mem_of_getElem? hx))
      rw [← Nat.add_assoc, Nat.add_right_comm]
      exact lift (ih (sorted_cons hs1).1 (sorted_cons hs2).1 (Or.inl rfl) k hx hy')
  case case4 x0 xs y0 ys gc st hne hlt hgc ih =>
    cases k with
    | zero =>
      cases hx
      cases (sorted_mem_cons hs2 hy).2.1 (Int.le_of_lt (heq ▸ hlt))
      exact absurd heq hne
    | succ k =>
      rw [← Nat.add_assoc, Nat.add_right_comm]
      exact lift (ih (sorted_cons hs1).1 hs2 (Or.inl rfl) k hx hy)
  case case5 x0 xs y0 ys gc st hne hlt hgc ih =>
    rcases List.mem_cons.mp hy with rfl | hy'
    · -- the matching gene of `ys` is taken now; `x` cannot be the head of `xs`
      cases k with
      | zero => cases hx; exact absurd heq hne
      | succ k =>
        have h1 : ¬ gc + (k + 1) ≤ cp := fun h => hgc (Nat.lt_of_lt_of_le (Nat.lt_add_of_pos_right (Nat.succ_pos k)) h)
        exact ⟨fun h => absurd (Nat.le_of_lt h) h1, fun h => absurd (Nat.le_of_eq h) h1, fun _ => List.mem_cons_self⟩
    · exact lift (ih hs1 (sorted_cons hs2).1 (Or.inl rfl) k hx hy')
  case case6 x0 xs y0 ys gc hne hnlt ih =>
    have hgt : y0.inn < x0.inn := Int.lt_iff_le_and_ne.mpr ⟨Int.not_lt.mp hnlt, fun e => hne e.symm⟩
    have hxl := (sorted_mem_cons hs1 (List.mem_of_getElem? hx)).1
    exact ih hs1 (sorted_cons hs2).1 (Or.inl rfl) k hx
      ((sorted_mem_cons hs2 hy).2.2 (Int.lt_of_lt_of_le hgt (heq ▸ hxl)))
  case case7 x0 xs y0 ys gc st hne hnlt hst' =>
    rcases hst with h | h
    · exact absurd h hst'
    · exact absurd (Int.lt_iff_le_and_ne.mpr ⟨h x0 rfl y0 rfl, hne⟩) hnlt

theorem spKeep_eq (seen : List (Int × Int × Bool)) (os : List (Origin W)) : spKeep seen os = keepBy Origin.link seen os := by
  induction os generalizing seen with
  | nil => rfl
  | cons o os ih => rw [spKeep, keepBy, ih, ih]

theorem spKeep_all (seen : List (Int × Int × Bool)) (os : List (Origin W))
    (hd : (os.map Origin.link).Pairwise (· ≠ ·)) (hs : ∀ o ∈ os, o.link ∉ seen) : spKeep seen os = os :=
  (spKeep_eq seen os).trans (keepBy_all _ seen os hd hs)

theorem spKeep_sub (seen : List (Int × Int × Bool)) (os : List (Origin W)) : ∀ o ∈ spKeep seen os, o ∈ os := by
  induction os generalizing seen with
  | nil => intro o ho; simp [spKeep] at ho
  | cons o os ih =>
    intro o' ho'
    simp only [spKeep] at ho'
    split at ho'
    · exact List.mem_cons_of_mem _ (ih _ o' ho')
    · rcases List.mem_cons.mp ho' with rfl | h
      · simp
      · exact List.mem_cons_of_mem _ (ih _ o' h)

theorem plan_cons_asc {cp gc : Nat} {xs ys : List (Gene W)} {k : Int} {plan : List (Origin W)}
    (hb : ∀ o ∈ plan, o.inn ∈ ys.map (·.inn) ∨ (gc < cp ∧ o.inn ∈ xs.map (·.inn)))
    (p : (plan.map Origin.inn).Pairwise (· < ·))
    (hy : ∀ y ∈ ys, k < y.inn) (hx : gc < cp → ∀ x ∈ xs, k < x.inn) : (k :: plan.map Origin.inn).Pairwise (· < ·) := by
  refine List.pairwise_cons.mpr ⟨fun i hi => ?_, p⟩
  obtain ⟨o, ho, rfl⟩ := List.mem_map.mp hi
  rcases hb o ho with h | ⟨hlt, h⟩
  · obtain ⟨z, hz, e⟩ := List.mem_map.mp h
    rw [← e]; exact hy z hz
  · obtain ⟨z, hz, e⟩ := List.mem_map.mp h
    rw [← e]; exact hx hlt z hz

theorem spPair_inn (cp gc : Nat) {x y : Gene W} (heq : x.inn = y.inn) :
    (if gc < cp then Origin.short x else if gc > cp then Origin.long y else Origin.mean x y).inn = x.inn := by
  split
  · rfl
  · split
    · exact heq.symm
    · rfl

theorem spPlan_inns (cp : Nat) (xs ys : List (Gene W)) (gc : Nat) (st : Bool)
    (hs1 : GenesSorted xs) (hs2 : GenesSorted ys) :
    (∀ o ∈ spPlan cp xs ys gc st, o.inn ∈ ys.map (·.inn) ∨ (gc < cp ∧ o.inn ∈ xs.map (·.inn))) ∧
    ((spPlan cp xs ys gc st).map Origin.inn).Pairwise (· < ·) := by
  fun_induction spPlan cp xs ys gc st
  case case1 => exact ⟨(fun _ h => nomatch h), List.Pairwise.nil⟩
  case case2 y ys gc st ih =>
    obtain ⟨b, p⟩ := ih List.Pairwise.nil (sorted_cons hs2).1
    refine ⟨fun o ho => ?_, plan_cons_asc b p (sorted_cons hs2).2 (fun _ _ hx => nomatch hx)⟩
    rcases List.mem_cons.mp ho with rfl | ho
    · exact Or.inl List.mem_cons_self
    · exact (b o ho).imp_left (List.mem_cons_of_mem _)
  case case3 x xs y ys gc st heq ih =>
    obtain ⟨b, p⟩ := ih (sorted_cons hs1).1 (sorted_cons hs2).1
    have h0 := (spPair_inn cp gc heq).trans heq
    refine ⟨fun o ho => ?_, ?_⟩
    · rcases List.mem_cons.mp ho with rfl | ho
      · exact Or.inl (h0 ▸ List.mem_cons_self)
      · exact ((b o ho).imp_left (List.mem_cons_of_mem _)).imp_right fun ⟨a, b⟩ => ⟨Nat.lt_of_succ_lt a, List.mem_cons_of_mem _ b⟩
    · rw [List.map_cons, h0]
      exact plan_cons_asc b p (sorted_cons hs2).2 (fun _ z hz => heq ▸ (sorted_cons hs1).2 z hz)
  case case4 x xs y ys gc st hne hlt hgc ih =>
    obtain ⟨b, p⟩ := ih (sorted_cons hs1).1 hs2
    refine ⟨fun o ho => ?_, plan_cons_asc b p (sorted_lt_of_head hs2 (fun _ hy => by cases hy; exact hlt)) (fun _ => (sorted_cons hs1).2)⟩
    rcases List.mem_cons.mp ho with rfl | ho
    · exact Or.inr ⟨hgc, List.mem_cons_self⟩
    · exact (b o ho).imp_right fun ⟨a, b⟩ => ⟨Nat.lt_of_succ_lt a, List.mem_cons_of_mem _ b⟩
  case case5 x xs y ys gc st hne hlt hgc ih =>
    obtain ⟨b, p⟩ := ih hs1 (sorted_cons hs2).1
    refine ⟨fun o ho => ?_, plan_cons_asc b p (sorted_cons hs2).2 (fun h => absurd h hgc)⟩
    rcases List.mem_cons.mp ho with rfl | ho
    · exact Or.inl List.mem_cons_self
    · exact (b o ho).imp_left (List.mem_cons_of_mem _)
  case case6 x xs y ys gc hne hnlt ih =>
    obtain ⟨b, p⟩ := ih hs1 (sorted_cons hs2).1
    exact ⟨fun o ho => (b o ho).imp_left (List.mem_cons_of_mem _), p⟩
  case case7 => exact ⟨(fun _ h => nomatch h), List.Pairwise.nil⟩

theorem linksDistinct_mem (l : List (Gene W)) (hd : LinksDistinct l) (a b : Gene W) (ha : a ∈ l) (hb : b ∈ l)
    (hne : a.inn ≠ b.inn) : a.link ≠ b.link :=
  fun e => hne (congrArg Gene.inn (nodup_map_inj Gene.link (List.pairwise_map.mpr hd) ha hb e))

end

/-- a link carries one innovation number across the two parents (the converse of `Consistent`) -/
def CrossDistinct (l1 l2 : List (Gene W)) : Prop := ∀ x ∈ l1, ∀ y ∈ l2, x.link = y.link → x.inn = y.inn
instance (l1 l2 : List (Gene W)) : Decidable (CrossDistinct l1 l2) := by unfold CrossDistinct Gene.link; infer_instance

omit [Scalar W] in
theorem spPlan_links_distinct (cp : Nat) (l1 l2 : List (Gene W)) (hs1 : GenesSorted l1) (hs2 : GenesSorted l2)
    (hd1 : LinksDistinct l1) (hd2 : LinksDistinct l2) (hx : CrossDistinct l1 l2) :
    ((spPlan cp l1 l2 0 false).map Origin.link).Pairwise (· ≠ ·) := by
  have hp := (spPlan_inns cp l1 l2 0 false hs1 hs2).2
  rw [List.pairwise_map] at hp ⊢
  -- every origin has the number and link of a gene of one of the two lists
  have src : ∀ o ∈ spPlan cp l1 l2 0 false, ∃ z, (z ∈ l1 ∨ z ∈ l2) ∧ z.inn = o.inn ∧ z.link = o.link := by
    intro o ho
    have := spPlan_mem _ _ _ _ _ o ho
    cases o with
    | short x => exact ⟨x, Or.inl this, rfl, rfl⟩
    | mean x y => exact ⟨x, Or.inl this.1, rfl, rfl⟩
    | long y => exact ⟨y, Or.inr this, rfl, rfl⟩
  refine hp.imp_of_mem ?_
  intro o1 o2 h1 h2 hlt
  obtain ⟨z1, m1, i1, k1⟩ := src o1 h1
  obtain ⟨z2, m2, i2, k2⟩ := src o2 h2
  have hne : z1.inn ≠ z2.inn := by omega
  rw [← k1, ← k2]
  rcases m1 with m1 | m1 <;> rcases m2 with m2 | m2
  · exact linksDistinct_mem l1 hd1 z1 z2 m1 m2 hne
  · exact fun e => hne (hx z1 m1 z2 m2 e)
  · exact fun e => hne (hx z2 m2 z1 m1 e.symm).symm
  · exact linksDistinct_mem l2 hd2 z1 z2 m1 m2 hne

end GoNeat.C04
