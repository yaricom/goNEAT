/-
  Helper lemmas for Props/C09Expected.lean: the phases of `prepareForReproduction` after the assignment of the
  expected offspring (quota assignment, fix-up, species sort, delta coding / stolen babies, write-back by id) leave
  the allocation id, the fitness, the original fitness and the expected offspring of every organism of every species
  untouched: the key `xkey` is a function of `bare` (Proofs/PrepareStages.lean).  Kind A.
-/
import GoNeat.Props.C09ParentsEpoch

namespace GoNeat.C09
open GoNeat Scalar
variable {W : Type} [Scalar W]

/-- what the later phases must not touch in an organism: allocation id, (adjusted) fitness, original fitness, expected offspring -/
def okey (x : Org W) : Nat × W × W × W := (x.uid, x.fitness, x.originalFitness, x.expectedOffspring)

def xkey (s : Species W) : Int × List (Nat × W × W × W) := (s.id, s.orgs.map okey)

omit [Scalar W] in
/-- `xkey` is `C10.gkey okey`, and `okey` sees neither the population-champion flag nor the reservation -/
theorem xkey_bare (s : Species W) : xkey (bare s) = xkey s := C10.gkey_bare (k := okey) (fun _ => rfl) (fun _ _ => rfl) s

theorem adjustFitness_orgs (o : EpochOpts W) (s s' : Species W) (h : adjustFitness o s = .ok s') :
    s'.id = s.id ∧ ∀ x ∈ s'.orgs, ∃ x0 ∈ s.orgs, x.uid = x0.uid ∧ x.originalFitness = x0.fitness ∧
      x.fitness = adjustedFitness o s x0.fitness ∧ x.expectedOffspring = x0.expectedOffspring := by
  obtain ⟨a, m, _, rfl⟩ := adjustFitness_ok o s s' h
  refine ⟨rfl, ?_⟩
  intro x hx
  have h1 := List.mem_map_of_mem (f := okey) hx
  simp only [markOrgs_map (k := okey) (fun _ _ _ => rfl)] at h1
  obtain ⟨y, hy, hyx⟩ := List.mem_map.mp h1
  obtain ⟨x0, hx0, rfl⟩ := List.mem_map.mp ((goSort_perm _ _).mem_iff.mp hy)
  simp only [okey, adjustOrg_eq, Prod.mk.injEq] at hyx
  obtain ⟨e1, e2, e3, e4⟩ := hyx
  exact ⟨x0, hx0, e1.symm, e3.symm, e2.symm, e4.symm⟩

/-- **the preparation phase at organism level.** After `prepareForReproduction` the species are a sub-list `mid` of the
    adjusted species with the expected offspring set (same ids; same members with the same allocation id, fitness,
    original fitness and expected offspring, in the same order), from which some organisms have been removed. -/
theorem prepare_xkeys (o : EpochOpts W) (p p1 : Pop W) (ex : ExecState) (rs rs' : List Nat)
    (hnd : (p.species.map (·.id)).Nodup) (h : prepareForReproduction o p rs = .ok ((p1, ex), rs')) :
    ∃ (species1 mid : List (Species W)) (doomed : List Nat), adjustAll o p.species = .ok species1 ∧
      (mid.map xkey).Sublist
        ((species1.map (fun s => { s with orgs := s.orgs.map (setExp (popMean ({ p with species := species1 } : Pop W))) })).map xkey) ∧
      p1.species = mid.map (fun s => { s with orgs := s.orgs.filter (fun x => !doomed.contains x.uid) }) := by
  obtain ⟨species1, doomed, pre, hadj, hsub, _, _, hsp, _⟩ := prepare_bare o p p1 ex rs rs' hnd h
  exact ⟨species1, pre.species, doomed, hadj, sublist_of_bare xkey_bare hsub, hsp⟩

theorem setExp_okey (m : W) (x : Org W) :
    (setExp m x).uid = x.uid ∧ (setExp m x).fitness = x.fitness ∧ (setExp m x).originalFitness = x.originalFitness := by
  unfold setExp; split <;> exact ⟨rfl, rfl, rfl⟩

/-- organism-level reading of `prepare_xkeys`: every organism left after the preparation phase carries allocation id,
    fitness, original fitness and expected offspring of a member of the adjusted species with the same id, as they
    were right after the expected offspring had been set -/
theorem prepare_orgs (o : EpochOpts W) (p p1 : Pop W) (ex : ExecState) (rs rs' : List Nat)
    (hnd : (p.species.map (·.id)).Nodup) (h : prepareForReproduction o p rs = .ok ((p1, ex), rs')) :
    ∃ species1 : List (Species W), adjustAll o p.species = .ok species1 ∧
      ∀ s1 ∈ p1.species, ∃ sa ∈ species1, s1.id = sa.id ∧ ∀ x ∈ s1.orgs, ∃ xa ∈ sa.orgs,
        okey x = okey (setExp (popMean ({ p with species := species1 } : Pop W)) xa) := by
  obtain ⟨species1, mid, doomed, hadj, hsub, hsp⟩ := prepare_xkeys o p p1 ex rs rs' hnd h
  refine ⟨species1, hadj, ?_⟩
  generalize popMean ({ p with species := species1 } : Pop W) = m at hsub ⊢
  intro s1 hs1
  rw [hsp] at hs1
  obtain ⟨s, hs, rfl⟩ := List.mem_map.mp hs1
  have hk := hsub.subset (List.mem_map_of_mem (f := xkey) hs)
  simp only [List.map_map, List.mem_map, Function.comp] at hk
  obtain ⟨sa, hsa, hka⟩ := hk
  simp only [xkey, Prod.mk.injEq] at hka
  obtain ⟨hka1, hka2⟩ := hka
  refine ⟨sa, hsa, hka1.symm, ?_⟩
  intro x hx
  have hx' : x ∈ s.orgs := (List.mem_filter.mp hx).1
  have hxk : okey x ∈ s.orgs.map okey := List.mem_map_of_mem hx'
  rw [← hka2, List.map_map] at hxk
  obtain ⟨xa, hxa, hxe⟩ := List.mem_map.mp hxk
  exact ⟨xa, hxa, hxe.symm⟩

theorem adjustFitness_fitness_perm (o : EpochOpts W) (s s' : Species W) (h : adjustFitness o s = .ok s') :
    (s'.orgs.map (·.fitness)).Perm (s.orgs.map (fun x => adjustedFitness o s x.fitness)) := by
  obtain ⟨a, m, _, rfl⟩ := adjustFitness_ok o s s' h
  simp only
  rw [markOrgs_map (k := (·.fitness)) (fun _ _ _ => rfl)]
  refine ((goSort_perm _ _).map _).trans (List.Perm.of_eq ?_)
  rw [List.map_map]
  exact List.map_congr_left (fun x _ => rfl)

theorem adjustAll_fitness_perm (o : EpochOpts W) (ss ss' : List (Species W)) (h : adjustAll o ss = .ok ss') :
    ((ss'.flatMap (·.orgs)).map (·.fitness)).Perm
      (ss.flatMap (fun s => s.orgs.map (fun x => adjustedFitness o s x.fitness))) := by
  rw [List.map_flatMap]
  exact C02.adjustAll_flatMap_perm o (adjustFitness_fitness_perm o) ss ss' h

theorem orgList_perm (q : Pop W) (hperm : q.organisms.Perm (C02.orgUids q.species)) (hnd : (C02.orgUids q.species).Nodup) :
    q.orgList.Perm (q.species.flatMap (·.orgs)) := by
  unfold Pop.orgList
  refine (hperm.filterMap _).trans (List.Perm.of_eq ?_)
  have huids : C02.orgUids q.species = (q.species.flatMap (·.orgs)).map (·.uid) := by
    simp [C02.orgUids, List.map_flatMap]
  rw [huids, List.filterMap_map]
  have hall : ∀ x ∈ q.species.flatMap (·.orgs), (q.findOrg ∘ (·.uid)) x = some x := by
    intro x hx
    obtain ⟨s, hs, hxs⟩ := List.mem_flatMap.mp hx
    exact findOrg_of_mem q hnd s hs x hxs
  exact (filterMap_eq_map_of _ id _ hall).trans (List.map_id _)

end GoNeat.C09
