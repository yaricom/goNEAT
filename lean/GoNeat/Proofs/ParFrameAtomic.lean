/-
  C16(b), RUN ALONE = THE SEQUENTIAL MODEL (no frame lemma in here): the non-atomic structural mutators of
  Model/ParEpoch.lean, run back to back on one registry, ARE the atomic model functions of Model/Mutate.lean (which are
  co-simulated bit-exactly with the Go code), and so up to the species goroutine and `reproduceSpecies` (`mutateBabyP_run`,
  `reproduceSpeciesP_run`).  Proofs/NoErrorSeq.lean reads the sequential "without error" lemmas off these equations.
-/
import GoNeat.Proofs.ParStages

set_option linter.unusedSectionVars false

namespace GoNeat.C16
open GoNeat Scalar
variable {W : Type} [Scalar W]

theorem run_bind {α β : Type} (p : Prog W α) (f : α → Prog W β) (reg : Reg W) :
    (p.bind f).run reg = (f (p.run reg).1).run (p.run reg).2 := by
  induction p generalizing reg with
  | done a => rfl
  | snap k ih => simp only [Prog.bind, Prog.run]; exact ih _ _
  | nextNode k ih => simp only [Prog.bind, Prog.run]; exact ih _ _
  | nextInn k ih => simp only [Prog.bind, Prog.run]; exact ih _ _
  | store i k ih => simp only [Prog.bind, Prog.run]; exact ih _

theorem mutateAddLinkP_run (g : Genome W) (reg : Reg W) (o : MutOpts W) (rs : List Nat) :
    packM ((mutateAddLinkP g o rs).run reg) = mutateAddLink g reg o rs := by
  rw [mutateAddLinkP_eq, mutateAddLink_eq]
  by_cases hg : g.genes.isEmpty = true
  · rw [if_pos hg, if_pos hg]
    rfl
  rw [if_neg hg, if_neg hg]
  by_cases ho : (!g.nodes.any (·.kind == Kind.output)) = true
  · rw [if_pos ho, if_pos ho]
    rfl
  rw [if_neg ho, if_neg ho]
  rcases Rand.float64 (W := W) rs with e | ⟨f, rs1⟩
  · rfl
  dsimp only
  generalize findOpenLink g _ _ _ _ rs1 = fo
  rcases fo with e | ⟨⟨l, b⟩, rs2⟩
  · rfl
  cases b
  · rfl
  rcases l with _ | ⟨n1, n2⟩
  · rfl
  refine (linkTailP_run packM (fun _ _ => rfl) g reg _ _ _ _ rs2 _ _ _ _ rfl (fun x reg' rs' => ?_)).1
  split <;> rfl

theorem mutateAddNodeP_run (g : Genome W) (reg : Reg W) (o : MutOpts W) (rs : List Nat) :
    packM ((mutateAddNodeP g o rs).run reg) = mutateAddNode g reg o rs := by
  unfold mutateAddNodeP mutateAddNode
  by_cases hg : g.genes.isEmpty = true
  · rw [if_pos hg, if_pos hg]
    rfl
  rw [if_neg hg, if_neg hg]
  dsimp only
  generalize (if g.genes.length < 15 then pickSplitSmall g g.genes 0 rs else pickSplitLarge g 20 rs) = pk
  rcases pk with e | ⟨_ | k, rs1⟩
  · rfl
  · rfl
  dsimp only
  rcases g.genes[k]? with _ | gene
  · rfl
  simp only [Prog.run]
  generalize List.find? _ reg.records = fi
  rcases fi with _ | inn
  · simp only [Prog.run, Reg.nextNodeId]
    generalize traitAt _ 0 = ta
    rcases ta with e | tr
    · rfl
    dsimp only
    rcases randomNodeActivationType o rs1 with e | ⟨act, rs2⟩
    · rfl
    rfl
  · simp only
    generalize traitAt _ 0 = ta
    rcases ta with e | tr
    · rfl
    dsimp only
    split <;> rfl

def packC (x : CRes W × Reg W) : R (Option (Genome W × Reg W × Bool)) :=
  match x.1 with
  | .error e => .error e
  | .ok (none, rs) => .ok (none, rs)
  | .ok (some (g, b), rs) => .ok (some (g, x.2, b), rs)

theorem connectOneP_run (sensor output : Node) (g : Genome W) (reg : Reg W) (added : Bool) (rs : List Nat) :
    packC ((connectOneP sensor output g added rs).run reg) = connectOne sensor output g reg added rs := by
  rw [connectOneP_eq, connectOne_eq]
  split
  · rfl
  · exact (linkTailP_run packC (fun _ _ => rfl) g reg _ _ _ _ rs _ _ _ _ rfl (fun _ _ _ => rfl)).1

theorem connectOneP_run_none (sensor output : Node) (g : Genome W) (reg : Reg W) (added : Bool) (rs rs' : List Nat)
    (h : ((connectOneP sensor output g added rs).run reg).1 = .ok (none, rs')) :
    ((connectOneP sensor output g added rs).run reg).2 = reg := by
  rw [connectOneP_eq] at h ⊢
  split at h
  · rename_i hc
    rw [if_pos hc]
    rfl
  rename_i hc
  rw [if_neg hc]
  rcases (linkTailP_run packC (fun _ _ => rfl) g reg sensor.id output.id false (!·) rs (.done (.ok (none, rs)))
    (fun x rs' => .done (.ok (some ({ g with genes := geneInsert g.genes x }, true), rs'))) _ _ rfl
    (fun _ _ _ => rfl)).2 with e | ⟨_, _, e⟩ | ⟨_, _, _, e⟩
  · rw [e]
    rfl
  · rw [e] at h
    cases h
  · rw [e] at h
    cases h

theorem connectLoopP_run (sensor : Node) (outs : List Node) (g : Genome W) (reg : Reg W) (added : Bool) (rs : List Nat) :
    packM ((connectLoopP sensor outs g added rs).run reg) = connectLoop sensor outs g reg added rs := by
  induction outs generalizing g reg added rs with
  | nil => rfl
  | cons o os ih =>
    unfold connectLoopP connectLoop
    rw [run_bind, ← connectOneP_run]
    have hn := connectOneP_run_none sensor o g reg added rs
    generalize (connectOneP sensor o g added rs).run reg = x at hn
    rcases x with ⟨e | ⟨_ | ⟨g', b⟩, rs'⟩, reg'⟩
    · rfl
    · have : reg' = reg := hn rs' rfl
      subst this; rfl
    · exact ih g' reg' b rs'

theorem mutateConnectSensorsP_run (g : Genome W) (reg : Reg W) (rs : List Nat) :
    packM ((mutateConnectSensorsP g rs).run reg) = mutateConnectSensors g reg rs := by
  unfold mutateConnectSensorsP mutateConnectSensors
  split
  · rfl
  dsimp only
  split
  · rfl
  generalize Rand.intn _ rs = ri
  rcases ri with e | ⟨k, rs1⟩
  · rfl
  dsimp only
  generalize (List.filter _ _)[k]? = ge
  rcases ge with _ | s
  · rfl
  exact connectLoopP_run _ _ _ _ _ _

theorem paramStage_tail (o : EpochOpts W) (x : MRes W × Reg W) :
    packM ((paramStage o x.1).run x.2) = (match packM x with
      | .error e => .error e
      | .ok ((g', reg', true), rs') => .ok ((g', reg', true), rs')
      | .ok ((g', reg', false), rs') =>
        match mutateAllNonstructural g' o.mopts rs' with
        | .error e => .error e
        | .ok (g'', rs'') => .ok ((g'', reg', false), rs'')) := by
  rcases x with ⟨e | ⟨⟨g', b⟩, rs'⟩, reg'⟩
  · rfl
  cases b
  · simp only [paramStage, packM]
    rcases mutateAllNonstructural g' o.mopts rs' with e | ⟨g'', rs''⟩ <;> rfl
  · rfl

theorem mutateBabyP_run (o : EpochOpts W) (g : Genome W) (reg : Reg W) (rs : List Nat) :
    packM ((mutateBabyP o g rs).run reg) = mutateBaby o g reg rs := by
  unfold mutateBabyP mutateBaby structStageP
  rcases Rand.float64 (W := W) rs with e | ⟨f1, rs1⟩
  · rfl
  dsimp only
  by_cases h1 : lt f1 o.mutateAddNodeProb = true
  · rw [if_pos h1, if_pos h1, run_bind, run_bind, ← mutateAddNodeP_run]
    generalize (mutateAddNodeP g o.mopts rs1).run reg = x
    rcases x with ⟨e | ⟨⟨g', b⟩, rs'⟩, reg'⟩ <;> rfl
  · rw [if_neg h1, if_neg h1]
    rcases Rand.float64 (W := W) rs1 with e | ⟨f2, rs2⟩
    · rfl
    dsimp only
    by_cases h2 : lt f2 o.mutateAddLinkProb = true
    · rw [if_pos h2, if_pos h2, run_bind, run_bind, ← mutateAddLinkP_run]
      generalize (mutateAddLinkP g o.mopts rs2).run reg = x
      rcases x with ⟨e | ⟨⟨g', b⟩, rs'⟩, reg'⟩ <;> rfl
    · rw [if_neg h2, if_neg h2]
      rcases Rand.float64 (W := W) rs2 with e | ⟨f3, rs3⟩
      · rfl
      dsimp only
      by_cases h3 : lt f3 o.mutateConnectSensors = true
      · rw [if_pos h3, if_pos h3, run_bind, ← mutateConnectSensorsP_run]
        exact paramStage_tail o _
      · rw [if_neg h3, if_neg h3]
        simp only [Prog.bind, paramStage, packM]
        rcases mutateAllNonstructural g o.mopts rs3 with e | ⟨g'', rs''⟩ <;> rfl

def packS (x : SRes W × Reg W) : R (ReproState W) :=
  match x.1 with
  | .error e => .error e
  | .ok (st', rs') => .ok ({ st' with reg := x.2 }, rs')

theorem superChampMutP_run (o : EpochOpts W) (g0 : Genome W) (sc : Int) (r : Reg W) (rs : List Nat) :
    packM ((superChampMutP o g0 sc rs).run r) = superMutated o g0 r sc rs := by
  unfold superChampMutP superMutated
  by_cases h1 : sc > 1
  · rw [if_pos h1, if_pos h1]
    rcases Rand.float64 (W := W) rs with e | ⟨f, rs1⟩
    · rfl
    dsimp only
    by_cases h8 : (lt f (ofDec 8 1) || eq o.mutateAddLinkProb zero) = true
    · rw [if_pos h8, if_pos h8]
      rcases mutateLinkWeights g0 o.mopts.weightMutPower one .gaussian rs1 with e | ⟨g1, rs2⟩ <;> rfl
    · rw [if_neg h8, if_neg h8, run_bind, ← mutateAddLinkP_run]
      generalize (mutateAddLinkP g0 o.mopts rs1).run r = x
      rcases x with ⟨e | ⟨⟨g', b⟩, rs'⟩, reg'⟩ <;> rfl
  · rw [if_neg h1, if_neg h1]
    rfl

theorem makeBabyP_run (o : EpochOpts W) (generation : Int) (champ : Org W) (st : ReproState W) (pl : Plan W) (r : Reg W)
    (rs : List Nat) :
    packS ((makeBabyP o generation champ st pl rs).run r) = makeBaby o generation champ { st with reg := r } pl rs := by
  cases pl with
  | super g0 =>
    rw [makeBabyP, makeBaby, run_bind, ← superChampMutP_run]
    generalize (superChampMutP o g0 st.superChamp rs).run r = x
    rcases x with ⟨e | ⟨⟨g', b⟩, rs'⟩, reg'⟩ <;> rfl
  | clone g0 => rfl
  | mutate g0 mate =>
    rw [makeBabyP, makeBaby, run_bind, ← mutateBabyP_run]
    generalize (mutateBabyP o g0 rs).run r = x
    rcases x with ⟨e | ⟨⟨g', b⟩, rs'⟩, reg'⟩ <;> rfl
  | asIs child => rfl

theorem reproduceOneP_run (o : EpochOpts W) (generation : Int) (s : Species W) (sorted : List (Species W)) (champ : Org W)
    (count : Int) (st : ReproState W) (r : Reg W) (rs : List Nat) :
    packS ((reproduceOneP o generation s sorted champ count st rs).run r) =
      reproduceOne o generation s sorted champ count { st with reg := r } rs := by
  rw [reproduceOneP_eq, reproduceOne_eq]
  -- the choice does not read the registry
  have hp : planBaby o s sorted champ count { st with reg := r } rs = planBaby o s sorted champ count st rs := rfl
  rw [hp]
  rcases planBaby o s sorted champ count st rs with e | ⟨pl, rs'⟩
  · rfl
  · exact makeBabyP_run o generation champ st pl r rs'

theorem reproduceLoopP_run (o : EpochOpts W) (generation : Int) (s : Species W) (sorted : List (Species W)) (champ : Org W)
    (n : Nat) : ∀ (count : Int) (st : ReproState W) (r : Reg W) (rs : List Nat),
    packS ((reproduceLoopP o generation s sorted champ n count st rs).run r) =
      reproduceLoop o generation s sorted champ n count { st with reg := r } rs := by
  induction n with
  | zero => intro count st r rs; rfl
  | succ n ih =>
    intro count st r rs
    unfold reproduceLoopP reproduceLoop
    rw [run_bind, ← reproduceOneP_run]
    generalize (reproduceOneP o generation s sorted champ count st rs).run r = x
    rcases x with ⟨e | ⟨st', rs'⟩, reg'⟩
    · rfl
    · exact ih (count + 1) st' reg' rs'

def packB (x : BRes W × Reg W) : R (List (Org W) × Reg W × Nat) :=
  match x.1 with
  | .error e => .error e
  | .ok ((babies, uid), rs') => .ok ((babies, x.2, uid), rs')

theorem reproduceSpeciesP_run (o : EpochOpts W) (generation : Int) (s : Species W) (sorted : List (Species W)) (reg : Reg W)
    (nextUid : Nat) (rs : List Nat) :
    packB ((reproduceSpeciesP o generation s sorted reg nextUid rs).run reg) =
      reproduceSpecies o generation s sorted reg nextUid rs := by
  unfold reproduceSpeciesP reproduceSpecies
  rcases s.orgs.head? with _ | champ
  · simp only
    split <;> rfl
  dsimp only
  rw [run_bind]
  have := reproduceLoopP_run o generation s sorted champ s.expectedOffspring.toNat 0
    { superChamp := champ.superChampOffspring, champCloneDone := false, reg := reg, nextUid := nextUid, babies := [] } reg rs
  dsimp only at this
  rw [← this]
  generalize (reproduceLoopP o generation s sorted champ s.expectedOffspring.toNat 0 _ rs).run reg = x
  rcases x with ⟨e | ⟨st', rs'⟩, reg'⟩ <;> rfl

end GoNeat.C16
