/-
  C02 "without error": a spawned population (`NewPopulation`) satisfies the population hypotheses `PopOk` of the epoch
  theorem — helper lemmas (species stay non-empty under speciation; spawned organisms are unmarked and have the
  start genome's trait shape).  Kind A.
-/
import GoNeat.Props.C06Spawn
import GoNeat.Proofs.NoErrorParam

set_option linter.unusedSectionVars false

namespace GoNeat.NoErr
open GoNeat Scalar GoNeat.C01 GoNeat.C02
variable {W : Type} [Scalar W]

theorem speciateLoop_nonempty (o : EpochOpts W) (p p' : Pop W) (orgs : List (Org W)) (h : speciateLoop o p orgs = .ok p')
    (hne : ∀ s ∈ p.species, s.orgs ≠ []) : ∀ s ∈ p'.species, s.orgs ≠ [] := by
  refine speciateLoop_induct (fun _ q => ∀ s ∈ q.species, s.orgs ≠ []) ?_ (done := []) hne h
  intro _ q org q' hq h1
  rcases speciateOne_ok h1 with ⟨i, _, rfl⟩ | ⟨s, _, _, _, hs, _, rfl⟩
  · intro s' hs'
    rcases mem_modify _ _ _ _ hs' with h2 | ⟨s0, _, rfl⟩
    · exact hq s' h2
    · simp
  · intro s' hs'
    rcases List.mem_append.mp hs' with h2 | h2
    · exact hq s' h2
    · simp only [List.mem_singleton] at h2; rw [h2, hs]; simp

theorem spawnLoop_orgs (g : Genome W) (hr : C06.RefsOk g) (n : Nat) (count : Int) (uid : Nat) (orgs : List (Org W))
    (rs rs' : List Nat) (h : spawnLoop g n count uid rs = .ok (orgs, rs')) :
    ∀ x ∈ orgs, x.toEliminate = false ∧ shape x.genome = shape g := by
  intro x hx
  have ht := (C06.spawnLoop_topology g hr n count uid orgs rs rs' h).2 x hx
  obtain ⟨u, d, rfl⟩ := spawnLoop_mem h x hx
  exact ⟨rfl, by unfold shape; rw [ht.traits]⟩

end GoNeat.NoErr
