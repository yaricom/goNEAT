/-
  C16(a): the lock-set / ownership discipline of `GoNeat.Model.Parallel` implies data-race freedom.
  CORE LEAN ONLY.
-/
import GoNeat.Model.Parallel

namespace GoNeat.Par

variable {L M : Type}

theorem hb_lt {tr : Trace L M} {i j : Nat} (h : HB tr i j) : i < j := by
  induction h with
  | po h _ _ _ => exact h
  | sw h _ _ => exact h
  | fork h _ _ _ => exact h
  | join h _ _ _ => exact h
  | trans _ _ ih1 ih2 => exact Nat.lt_trans ih1 ih2

section
variable [DecidableEq M]

theorem holder_take_succ (m : M) (tr : Trace L M) (k : Nat) (e : Event L M) (h : tr[k]? = some e) :
    holder m (tr.take (k + 1)) = holderStep m (holder m (tr.take k)) e := by
  unfold holder
  rw [List.take_add_one, h, List.foldl_append]
  rfl

theorem holder_of_acq_no_rel {tr : Trace L M} (hv : Valid tr) {a : Nat} {t : Tid} {m : M}
    (ha : tr[a]? = some (⟨t, .acq m⟩ : Event L M)) :
    ∀ k, a < k → k ≤ tr.length →
      (∀ r, a < r → r < k → tr[r]? ≠ some (⟨t, .rel m⟩ : Event L M)) →
      holder m (tr.take k) = some t := by
  intro k
  induction k with
  | zero => intro h; exact absurd h (Nat.not_lt_zero _)
  | succ k ih =>
    intro hak hkl hnr
    rcases Nat.lt_or_eq_of_le (Nat.le_of_lt_succ hak) with hlt | heq
    · have ihk : holder m (tr.take k) = some t :=
        ih hlt (Nat.le_of_succ_le hkl) (fun r h1 h2 => hnr r h1 (Nat.lt_succ_of_lt h2))
      have hk : k < tr.length := hkl
      have hek : tr[k]? = some tr[k] := List.getElem?_eq_getElem hk
      rw [holder_take_succ m tr k _ hek]
      generalize hgen : tr[k] = e at hek
      obtain ⟨u, op⟩ := e
      cases op with
      | acq m' =>
        by_cases hm : m' = m
        · subst hm
          have := hv.acq_free k u m' hek
          rw [ihk] at this
          exact absurd this (by simp)
        · simp [holderStep, hm, ihk]
      | rel m' =>
        by_cases hm : m' = m
        · subst hm
          have := hv.rel_held k u m' hek
          rw [ihk] at this
          have hut : t = u := by simpa using this
          subst hut
          exact absurd hek (hnr k hlt (Nat.lt_succ_self k))
        · simp [holderStep, hm, ihk]
      | rd l => simp [holderStep, ihk]
      | wr l => simp [holderStep, ihk]
      | atomic l => simp [holderStep, ihk]
      | fork c => simp [holderStep, ihk]
      | join c => simp [holderStep, ihk]
    · subst heq
      rw [holder_take_succ m tr a _ ha]
      simp [holderStep]

/-- mutual exclusion gives happens-before: two lock-protected accesses by different threads are ordered -/
theorem hb_of_holds {tr : Trace L M} (hv : Valid tr) {i j : Nat} {ei ej : Event L M} {m : M}
    (hij : i < j) (hi : tr[i]? = some ei) (hj : tr[j]? = some ej) (hne : ei.tid ≠ ej.tid)
    (hnrel : ∀ m', ei.op ≠ .rel m')
    (Hi : Holds tr i ei.tid m) (Hj : Holds tr j ej.tid m) : HB tr i j := by
  obtain ⟨a, hai, haa, hnra⟩ := Hi
  obtain ⟨a', haj, haa', hnra'⟩ := Hj
  have hane : a ≠ a' := by
    intro h; subst h
    rw [haa] at haa'
    have : ei.tid = ej.tid := by
      have := Option.some.inj haa'
      simpa using congrArg Event.tid this
    exact hne this
  rcases Nat.lt_or_gt_of_ne hane with hlt | hgt
  · have hfree := hv.acq_free a' ej.tid m haa'
    have hex : ∃ r, a < r ∧ r < a' ∧ tr[r]? = some (⟨ei.tid, .rel m⟩ : Event L M) := by
      apply Classical.byContradiction
      intro hno
      have := holder_of_acq_no_rel hv haa a' hlt (Nat.le_of_lt (List.getElem?_eq_some_iff.mp haa').1)
        (fun r h1 h2 h3 => hno ⟨r, h1, h2, h3⟩)
      rw [hfree] at this
      exact absurd this (by simp)
    obtain ⟨r, har, hra', hr⟩ := hex
    have hir : i < r := by
      rcases Nat.lt_trichotomy r i with h | h | h
      · exact absurd hr (hnra r har h)
      · subst h
        rw [hi] at hr
        have := Option.some.inj hr
        exact absurd (congrArg Event.op this) (hnrel m)
      · exact h
    have h1 : HB tr i r := HB.po hir hi hr rfl
    have h2 : HB tr r a' := HB.sw hra' hr haa'
    have h3 : HB tr a' j := HB.po haj haa' hj rfl
    exact HB.trans h1 (HB.trans h2 h3)
  · have hfree := hv.acq_free a ei.tid m haa
    have := holder_of_acq_no_rel hv haa' a hgt (Nat.le_of_lt (List.getElem?_eq_some_iff.mp haa).1)
      (fun r h1 h2 => hnra' r h1 (Nat.lt_trans h2 (Nat.lt_trans hai hij)))
    rw [hfree] at this
    exact absurd this (by simp)

theorem serial_ordered {tr : Trace L M} (hv : Valid tr) {k : Nat} {e : Event L M}
    (hk : tr[k]? = some e) (hs : Serial tr k e) :
    ∀ (j : Nat) (e' : Event L M), tr[j]? = some e' → e'.tid ≠ mainTid →
      (j < k ∧ HB tr j k) ∨ (k < j ∧ HB tr k j) := by
  obtain ⟨hmain, hall⟩ := hs
  intro j
  induction j using Nat.strongRecOn with
  | _ j ih =>
    intro e' hj hnm
    rcases hall j e' hj hnm with ⟨x, hxk, hx⟩ | hfa
    · left
      have hjx : j < x := by
        rcases Nat.lt_trichotomy j x with h | h | h
        · exact h
        · subst h
          rw [hj] at hx
          have := congrArg Event.tid (Option.some.inj hx)
          exact absurd this hnm
        · exact absurd rfl (hv.join_after_end x mainTid e'.tid hx j e' h hj)
      have h1 : HB tr j x := HB.join hjx hj rfl hx
      have h2 : HB tr x k := HB.po hxk hx hk (by simp [hmain])
      exact ⟨Nat.lt_trans hjx hxk, HB.trans h1 h2⟩
    · right
      obtain ⟨f, u, hfj, hf⟩ := hv.fork_before_run j e' hj hnm
      have hkf : k < f := hfa f u hf
      have h2 : HB tr f j := HB.fork hfj hf hj rfl
      have h1 : HB tr k f := by
        by_cases hu : u = mainTid
        · exact HB.po hkf hk hf (by simp [hmain, hu])
        · rcases ih f hfj ⟨u, .fork e'.tid⟩ hf hu with ⟨hfk, _⟩ | ⟨_, h⟩
          · exact absurd hkf (Nat.lt_asymm hfk)
          · exact h
      exact ⟨Nat.lt_trans hkf hfj, HB.trans h1 h2⟩
end

def ClassOk (cls : L → LocClass M) (tr : Trace L M) (k : Nat) (e : Event L M) (l : L) : Prop :=
  match cls l with
  | .guarded m => Holds tr k e.tid m
  | .owned t => e.tid = t
  | .readOnly => e.op.isWrite = false
  | .atomicOnly => e.op.isAtomic = true

theorem accessOk_iff {cls : L → LocClass M} {tr : Trace L M} {k : Nat} {e : Event L M} :
    AccessOk cls tr k e ↔ ∀ l, e.op.loc? = some l → Serial tr k e ∨ ClassOk cls tr k e l := by
  obtain ⟨t, op⟩ := e
  cases op with
  | rd l' | wr l' | atomic l' =>
    simp only [AccessOk, ClassOk, Op.loc?, Option.some.injEq, forall_eq']
    cases cls l' <;> simp [Op.isWrite, Op.isAtomic]
  | _ => simp [AccessOk, Op.loc?]

/-- **C16**: a valid trace that follows the locking discipline has no data race. -/
theorem lockset_drf {L M : Type} [DecidableEq M] (cls : L → LocClass M) (tr : Trace L M)
    (hv : Valid tr) (hd : Disciplined cls tr) : ∀ i j, ¬ Race tr i j := by
  intro i j ⟨hij, a, b, hi, hj, ⟨hne, l, hla, hlb, hw, hna⟩, hnhb⟩
  apply hnhb
  rcases accessOk_iff.mp (hd i a hi) l hla with hsa | hca
  · have hb : b.tid ≠ mainTid := fun h => hne (by rw [hsa.1, h])
    rcases serial_ordered hv hi hsa j b hj hb with ⟨h, _⟩ | ⟨_, h⟩
    · exact absurd hij (Nat.lt_asymm h)
    · exact h
  · rcases accessOk_iff.mp (hd j b hj) l hlb with hsb | hcb
    · have ha : a.tid ≠ mainTid := fun h => hne (by rw [hsb.1, h])
      rcases serial_ordered hv hj hsb i a hi ha with ⟨_, h⟩ | ⟨h, _⟩
      · exact h
      · exact absurd hij (Nat.lt_asymm h)
    · unfold ClassOk at hca hcb
      cases hc : cls l with
      | guarded m =>
        rw [hc] at hca hcb
        refine hb_of_holds hv hij hi hj hne ?_ hca hcb
        intro m' h
        rw [h] at hla
        simp [Op.loc?] at hla
      | owned t =>
        rw [hc] at hca hcb
        exact absurd (hca.trans hcb.symm) hne
      | readOnly =>
        rw [hc] at hca hcb
        simp only at hca hcb
        rcases hw with h | h
        · rw [hca] at h; exact absurd h (by simp)
        · rw [hcb] at h; exact absurd h (by simp)
      | atomicOnly =>
        rw [hc] at hca hcb
        exact absurd ⟨hca, hcb⟩ hna

section Checkers
variable [DecidableEq M]

theorem any_range_iff {n : Nat} {p : Nat → Bool} : (List.range n).any p = true ↔ ∃ k, k < n ∧ p k = true := by
  simp [List.any_eq_true, List.mem_range]

/-- the Boolean form of `∀ k e, l[k]? = some e → …`, the shape of every clause of `Valid`, `Serial` and `Disciplined` -/
def allAt {α : Type} (l : List α) (p : Nat → α → Bool) : Bool := l.zipIdx.all fun x => p x.2 x.1

theorem allAt_spec {α : Type} {l : List α} {p : Nat → α → Bool} (h : allAt l p = true) {k : Nat} {e : α}
    (hk : l[k]? = some e) : p k e = true :=
  List.all_eq_true.mp h (e, k) (List.mem_zipIdx_iff_getElem?.mpr hk)

def isForkOf (c : Tid) : Option (Event L M) → Bool
  | some ⟨_, .fork c'⟩ => decide (c' = c)
  | _ => false

omit [DecidableEq M] in
theorem isForkOf_true {c : Tid} {o : Option (Event L M)} (h : isForkOf c o = true) :
    ∃ u, o = some (⟨u, .fork c⟩ : Event L M) := by
  unfold isForkOf at h
  split at h
  · next u c' => exact ⟨u, by simp at h; rw [h]⟩
  · simp at h

def validB (tr : Trace L M) : Bool :=
  allAt tr fun k e =>
    (decide (e.tid = mainTid) || (List.range k).any fun f => isForkOf e.tid tr[f]?) &&
    match e.op with
    | .acq m => decide (holder m (tr.take k) = none)
    | .rel m => decide (holder m (tr.take k) = some e.tid)
    | .join c => allAt tr fun j e' => decide (j ≤ k) || decide (e'.tid ≠ c)
    | _ => true

theorem valid_of_validB {tr : Trace L M} (h : validB tr = true) : Valid tr := by
  have h' : ∀ {k : Nat} {e : Event L M}, tr[k]? = some e → _ := fun hk => Bool.and_eq_true_iff.mp (allAt_spec h hk)
  refine ⟨fun k t m hk => ?_, fun k t m hk => ?_, fun k e hk hnm => ?_, fun k u c hk j e hkj hj => ?_⟩
  · simpa using (h' hk).2
  · simpa using (h' hk).2
  · rcases Bool.or_eq_true_iff.mp (h' hk).1 with h | h
    · exact absurd (of_decide_eq_true h) hnm
    · obtain ⟨f, hf, hff⟩ := any_range_iff.mp h
      obtain ⟨u, hu⟩ := isForkOf_true hff
      exact ⟨f, u, hf, hu⟩
  · simpa [Nat.not_le.mpr hkj] using allAt_spec (h' hk).2 hj

def edgeB (e e' : Event L M) : Bool :=
  e.tid == e'.tid ||
  (match e.op, e'.op with
   | .rel m, .acq m' => m == m'
   | _, _ => false) ||
  (match e.op with
   | .fork c => e'.tid == c
   | _ => false) ||
  (match e'.op with
   | .join c => e.tid == c
   | _ => false)

def srcB (tr : Trace L M) (i : Nat) : Bool :=
  match tr[i]? with
  | some e => (tr.drop (i + 1)).any (edgeB e)
  | none => false

/-- `HB` (a transitive closure) has no test here; that no edge at all leaves a position has, and the racy examples need no more -/
theorem srcB_of_hb {tr : Trace L M} {i j : Nat} (h : HB tr i j) : srcB tr i = true := by
  have later : ∀ {i j : Nat} {e e' : Event L M}, i < j → tr[i]? = some e → tr[j]? = some e' → edgeB e e' = true →
      srcB tr i = true := by
    intro i j e e' hij hi hj he
    have hmem : e' ∈ tr.drop (i + 1) := by
      apply List.mem_of_getElem? (i := j - (i + 1))
      rw [List.getElem?_drop, Nat.add_sub_cancel' hij]
      exact hj
    simp only [srcB, hi]
    exact List.any_eq_true.mpr ⟨e', hmem, he⟩
  induction h with
  | po hij hi hj ht => exact later hij hi hj (by simp only [edgeB, ht, beq_self_eq_true, Bool.true_or])
  | sw hij hi hj => exact later hij hi hj (by simp only [edgeB, beq_self_eq_true, Bool.or_true, Bool.true_or])
  | fork hij hi hj ht => exact later hij hi hj (by simp only [edgeB, ht, beq_self_eq_true, Bool.or_true, Bool.true_or])
  | join hij hi ht hj => exact later hij hi hj (by simp only [edgeB, ht, beq_self_eq_true, Bool.or_true])
  | trans _ _ ih1 _ => exact ih1

variable [DecidableEq L]

def holdsB (tr : Trace L M) (k : Nat) (t : Tid) (m : M) : Bool :=
  (List.range k).any fun a =>
    decide (tr[a]? = some (⟨t, .acq m⟩ : Event L M)) &&
      (List.range k).all fun r => !(decide (a < r)) || decide (tr[r]? ≠ some (⟨t, .rel m⟩ : Event L M))

theorem holds_of_holdsB {tr : Trace L M} {k : Nat} {t : Tid} {m : M} (h : holdsB tr k t m = true) :
    Holds tr k t m := by
  obtain ⟨a, hak, ha⟩ := any_range_iff.mp h
  simp only [Bool.and_eq_true, decide_eq_true_eq, List.all_eq_true, List.mem_range] at ha
  exact ⟨a, hak, ha.1, fun r har hrk => by simpa [har] using ha.2 r hrk⟩

def joinedBeforeB (tr : Trace L M) (c : Tid) (k : Nat) : Bool :=
  (List.range k).any fun x => decide (tr[x]? = some (⟨mainTid, .join c⟩ : Event L M))

def forkedAfterB (tr : Trace L M) (c : Tid) (k : Nat) : Bool :=
  allAt tr fun f e =>
    match e.op with
    | .fork c' => decide (c' ≠ c) || decide (k < f)
    | _ => true

def serialB (tr : Trace L M) (k : Nat) (e : Event L M) : Bool :=
  decide (e.tid = mainTid) &&
    tr.all fun e' => decide (e'.tid = mainTid) || joinedBeforeB tr e'.tid k || forkedAfterB tr e'.tid k

theorem serial_of_serialB {tr : Trace L M} {k : Nat} {e : Event L M} (h : serialB tr k e = true) :
    Serial tr k e := by
  simp only [serialB, Bool.and_eq_true, decide_eq_true_eq, List.all_eq_true, Bool.or_eq_true] at h
  refine ⟨h.1, fun j e' hj hnm => ?_⟩
  rcases h.2 e' (List.mem_of_getElem? hj) with (h' | h') | h'
  · exact absurd h' hnm
  · obtain ⟨x, hx, hxx⟩ := any_range_iff.mp h'
    exact Or.inl ⟨x, hx, by simpa using hxx⟩
  · exact Or.inr fun f u hf => by simpa using allAt_spec h' hf

/-- `ClassOk` as a test -/
def classB (cls : L → LocClass M) (tr : Trace L M) (k : Nat) (e : Event L M) (l : L) : Bool :=
  match cls l with
  | .guarded m => holdsB tr k e.tid m
  | .owned t => decide (e.tid = t)
  | .readOnly => !e.op.isWrite
  | .atomicOnly => e.op.isAtomic

def disciplinedB (cls : L → LocClass M) (tr : Trace L M) : Bool :=
  allAt tr fun k e => e.op.loc?.all fun l => serialB tr k e || classB cls tr k e l

theorem disciplined_of_disciplinedB {cls : L → LocClass M} {tr : Trace L M} (h : disciplinedB cls tr = true) :
    Disciplined cls tr := by
  intro k e hk
  have hB := allAt_spec h hk
  rw [accessOk_iff]
  intro l hl
  rw [hl, Option.all_some, Bool.or_eq_true] at hB
  refine hB.imp serial_of_serialB fun h => ?_
  unfold classB at h
  unfold ClassOk
  revert h
  cases cls l <;> simp
  exact holds_of_holdsB

end Checkers

/-- locations: `0` guarded by mutex `0`; `1` atomic-only; `2` read-only; `10 + t` owned by thread `t` -/
def exCls (l : Nat) : LocClass Nat :=
  if l = 0 then .guarded 0
  else if l = 1 then .atomicOnly
  else if l < 10 then .readOnly
  else .owned (l - 10)

/-- main initialises location 0, forks workers 1 and 2, the workers run interleaved
    (`acq 0; rd 0; wr 0; rel 0`, an atomic on 1, a read of 2, a write to their own location),
    main joins both and writes location 0 again. -/
def exTrace : Trace Nat Nat :=
  [ ⟨0, .wr 0⟩,        -- 0  serial (before the forks)
    ⟨0, .wr 2⟩,        -- 1  serial write of the later read-only location
    ⟨0, .fork 1⟩,      -- 2
    ⟨0, .fork 2⟩,      -- 3
    ⟨1, .acq 0⟩,       -- 4
    ⟨2, .atomic 1⟩,    -- 5
    ⟨1, .rd 0⟩,        -- 6
    ⟨2, .wr 12⟩,       -- 7
    ⟨2, .rd 2⟩,        -- 8
    ⟨1, .wr 0⟩,        -- 9
    ⟨1, .rel 0⟩,       -- 10
    ⟨2, .acq 0⟩,       -- 11
    ⟨1, .atomic 1⟩,    -- 12
    ⟨2, .rd 0⟩,        -- 13
    ⟨1, .rd 2⟩,        -- 14
    ⟨2, .wr 0⟩,        -- 15
    ⟨1, .wr 11⟩,       -- 16
    ⟨2, .rel 0⟩,       -- 17
    ⟨0, .join 1⟩,      -- 18
    ⟨0, .join 2⟩,      -- 19
    ⟨0, .wr 0⟩,        -- 20 serial (after the joins)
    ⟨0, .rd 11⟩ ]      -- 21 serial read of a worker-owned location

theorem exTrace_valid : Valid exTrace := valid_of_validB (by decide +kernel)

theorem exTrace_disciplined : Disciplined exCls exTrace := disciplined_of_disciplinedB (by decide +kernel)

theorem exTrace_race_free : ∀ i j, ¬ Race exTrace i j :=
  lockset_drf exCls exTrace exTrace_valid exTrace_disciplined

def racyTrace : Trace Nat Nat :=
  [ ⟨0, .fork 1⟩, ⟨0, .fork 2⟩, ⟨1, .wr 0⟩, ⟨2, .wr 0⟩ ]

theorem racyTrace_valid : Valid racyTrace := valid_of_validB (by decide +kernel)

theorem racyTrace_race : Race racyTrace 2 3 :=
  ⟨by omega, ⟨1, .wr 0⟩, ⟨2, .wr 0⟩, rfl, rfl, ⟨by simp, 0, rfl, rfl, Or.inl rfl, by simp [Op.isAtomic]⟩,
    -- no happens-before edge leaves position 2 at all
    fun h => absurd (srcB_of_hb h) (by decide)⟩

theorem racyTrace_not_disciplined (cls : Nat → LocClass Nat) : ¬ Disciplined cls racyTrace :=
  fun hd => lockset_drf cls racyTrace racyTrace_valid hd 2 3 racyTrace_race

end GoNeat.Par
