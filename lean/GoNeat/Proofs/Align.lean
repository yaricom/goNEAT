/-
  The alignment of two gene lists by innovation number, as the merge walks of the crossovers perform it: equal heads
  form a pair, otherwise the gene with the smaller number stands alone.  Only the lemmas that say so need the lists
  to ascend.  First the facts about ascending gene lists (`GenesSorted`) that the crossover and the well-formedness
  proofs share.
-/
import GoNeat.Spec.WF
import GoNeat.Proofs.ListLemmas

namespace GoNeat
variable {W : Type}

theorem sorted_cons {x : Gene W} {xs : List (Gene W)} (h : GenesSorted (x :: xs)) :
    GenesSorted xs ∧ ∀ z ∈ xs, x.inn < z.inn :=
  ⟨(List.pairwise_cons.mp h).2, (List.pairwise_cons.mp h).1⟩

theorem sorted_lt_of_head {k : Int} {l : List (Gene W)} (hs : GenesSorted l) (h : ∀ x ∈ l.head?, k < x.inn) :
    ∀ z ∈ l, k < z.inn := by
  cases l with
  | nil => exact fun _ hz => nomatch hz
  | cons x xs =>
    intro z hz
    have hx : k < x.inn := h x rfl
    rcases List.mem_cons.mp hz with rfl | hz
    · exact hx
    · exact Int.lt_trans hx ((sorted_cons hs).2 z hz)

theorem sorted_mem_cons {x z : Gene W} {xs : List (Gene W)} (h : GenesSorted (x :: xs)) (hz : z ∈ x :: xs) :
    x.inn ≤ z.inn ∧ (z.inn ≤ x.inn → z = x) ∧ (x.inn < z.inn → z ∈ xs) := by
  rcases List.mem_cons.mp hz with rfl | hz
  · exact ⟨Int.le_refl _, fun _ => rfl, fun h => absurd h (Int.lt_irrefl _)⟩
  · have := (sorted_cons h).2 z hz
    exact ⟨Int.le_of_lt this, fun h' => absurd this (Int.not_lt.mpr h'), fun _ => hz⟩

end GoNeat

namespace GoNeat.C04
variable {W : Type}

inductive Slot (W : Type) where
  | both (x y : Gene W)
  | left (x : Gene W)
  | right (y : Gene W)

namespace Slot

def swap : Slot W → Slot W
  | both x y => both y x
  | left x => right x
  | right y => left y

def fst : Slot W → Option (Gene W)
  | both x _ => some x
  | left x => some x
  | right _ => none

def snd : Slot W → Option (Gene W)
  | both _ y => some y
  | left _ => none
  | right y => some y

def inn : Slot W → Int
  | both x _ => x.inn
  | left x => x.inn
  | right y => y.inn

/-- the link of the slot's gene, for a pair that of the first (one lineage: that of both) -/
def link : Slot W → Int × Int × Bool
  | both x _ => x.link
  | left x => x.link
  | right y => y.link

theorem fst_swap (s : Slot W) : s.swap.fst = s.snd := by cases s <;> rfl

end Slot

def align : List (Gene W) → List (Gene W) → List (Slot W)
  | [], [] => []
  | [], y :: ys => .right y :: align [] ys
  | x :: xs, [] => .left x :: align xs []
  | x :: xs, y :: ys =>
    if x.inn = y.inn then .both x y :: align xs ys
    else if x.inn < y.inn then .left x :: align xs (y :: ys)
    else .right y :: align (x :: xs) ys
termination_by xs ys => xs.length + ys.length

theorem fsts_align (xs ys : List (Gene W)) : (align xs ys).filterMap Slot.fst = xs := by
  fun_induction align xs ys with
  | case1 => rfl
  | case2 y ys ih => exact ih
  | case3 x xs ih => exact congrArg (x :: ·) ih
  | case4 x xs y ys h ih => exact congrArg (x :: ·) ih
  | case5 x xs y ys _ h ih => exact congrArg (x :: ·) ih
  | case6 x xs y ys _ h ih => exact ih

theorem align_swap (xs ys : List (Gene W)) : align ys xs = (align xs ys).map Slot.swap := by
  fun_induction align xs ys with
  | case1 => rw [align]; rfl
  | case2 y ys ih => rw [align, ih]; rfl
  | case3 x xs ih => rw [align, ih]; rfl
  | case4 x xs y ys h ih => rw [align, if_pos h.symm, ih]; rfl
  | case5 x xs y ys hne h ih => rw [align, if_neg (fun e => hne e.symm), if_neg (by omega), ih]; rfl
  | case6 x xs y ys hne h ih => rw [align, if_neg (fun e => hne e.symm), if_pos (by omega), ih]; rfl

theorem snds_align (xs ys : List (Gene W)) : (align xs ys).filterMap Slot.snd = ys := by
  have h := fsts_align ys xs
  rw [align_swap xs ys, List.filterMap_map] at h
  exact (congrArg (List.filterMap · (align xs ys)) (funext fun s => (Slot.fst_swap s).symm)).trans h

theorem both_inn {xs ys : List (Gene W)} {x y : Gene W} (h : .both x y ∈ align xs ys) : x.inn = y.inn := by
  fun_induction align xs ys with
  | case1 => cases h
  | case2 _ _ ih => exact ih ((List.mem_cons.mp h).resolve_left (fun e => nomatch e))
  | case3 _ _ ih => exact ih ((List.mem_cons.mp h).resolve_left (fun e => nomatch e))
  | case4 _ _ _ _ heq ih =>
    rcases List.mem_cons.mp h with e | h
    · cases e; exact heq
    · exact ih h
  | case5 _ _ _ _ _ _ ih => exact ih ((List.mem_cons.mp h).resolve_left (fun e => nomatch e))
  | case6 _ _ _ _ _ _ ih => exact ih ((List.mem_cons.mp h).resolve_left (fun e => nomatch e))

theorem mem_align {xs ys : List (Gene W)} {s : Slot W} (h : s ∈ align xs ys) :
    (∀ x ∈ s.fst, x ∈ xs) ∧ (∀ y ∈ s.snd, y ∈ ys) ∧ (∀ x ∈ s.fst, ∀ y ∈ s.snd, x.inn = y.inn) :=
  ⟨fun x hx => fsts_align xs ys ▸ List.mem_filterMap.mpr ⟨s, h, hx⟩,
   fun y hy => snds_align xs ys ▸ List.mem_filterMap.mpr ⟨s, h, hy⟩,
   fun x hx y hy => by cases s <;> cases hx <;> cases hy; exact both_inn h⟩

theorem align_inns {xs ys : List (Gene W)} (hx : GenesSorted xs) (hy : GenesSorted ys) :
    (align xs ys).Pairwise (fun s t => s.inn < t.inn) := by
  have above {m : Int} {xs ys : List (Gene W)} (mx : ∀ x ∈ xs, m < x.inn) (my : ∀ y ∈ ys, m < y.inn) :
      ∀ s ∈ align xs ys, m < s.inn := fun s hs => by
    obtain ⟨a, b, _⟩ := mem_align hs
    cases s with
    | both x _ => exact mx x (a x rfl)
    | left x => exact mx x (a x rfl)
    | right y => exact my y (b y rfl)
  fun_induction align xs ys with
  | case1 => exact .nil
  | case2 y ys ih =>
    obtain ⟨h1, h2⟩ := List.pairwise_cons.mp hy
    exact List.pairwise_cons.mpr ⟨above (fun _ h => nomatch h) h1, ih hx h2⟩
  | case3 x xs ih =>
    obtain ⟨h1, h2⟩ := List.pairwise_cons.mp hx
    exact List.pairwise_cons.mpr ⟨above h1 (fun _ h => nomatch h), ih h2 hy⟩
  | case4 x xs y ys heq ih =>
    obtain ⟨h1, h2⟩ := List.pairwise_cons.mp hx
    obtain ⟨h3, h4⟩ := List.pairwise_cons.mp hy
    exact List.pairwise_cons.mpr ⟨above h1 (fun z hz => (show x.inn < z.inn from heq ▸ h3 z hz)), ih h2 h4⟩
  | case5 x xs y ys _ hlt ih =>
    obtain ⟨h1, h2⟩ := List.pairwise_cons.mp hx
    exact List.pairwise_cons.mpr ⟨above h1 (sorted_lt_of_head hy fun _ e => by cases e; exact hlt), ih h2 hy⟩
  | case6 x xs y ys hne hnlt ih =>
    obtain ⟨h3, h4⟩ := List.pairwise_cons.mp hy
    exact List.pairwise_cons.mpr ⟨above (sorted_lt_of_head hx fun _ e => by cases e; show y.inn < x.inn; omega) h3, ih hx h4⟩

theorem left_unmatched {xs ys : List (Gene W)} (hx : GenesSorted xs) (hy : GenesSorted ys) {x : Gene W}
    (h : .left x ∈ align xs ys) : ∀ y ∈ ys, y.inn ≠ x.inn := by
  intro y hy' e
  obtain ⟨t, ht, hty⟩ := List.mem_filterMap.mp ((snds_align xs ys) ▸ hy')
  have hk : t.inn = y.inn := by
    cases t with
    | both x' y' => cases hty; exact both_inn ht
    | left _ => cases hty
    | right _ => cases hty; rfl
  have := nodup_map_inj Slot.inn (List.pairwise_map.mpr ((align_inns hx hy).imp Int.ne_of_lt)) ht h (hk.trans e)
  subst this; cases hty

end GoNeat.C04
