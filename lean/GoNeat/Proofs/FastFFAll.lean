/-
  C12, fast solver, Kind A: the layer induction for `ForwardSteps` and `Relax`.  `Lay n s`: the state after `n` clean
  steps - every neuron of rank ≤ n holds `fvalNode`; the loops advance it by the number of steps they execute.
  Why `NoDupConn` (no (source,target) pair carries two connections): then `adjacentMatrix[s][t]` is the weight of THE
  connection s→t and the sum `forwardStep` accumulates for a target (connections into it, connection order) is the sum
  `fvalNode` takes over `reverseAdjacentList` with `adjacentMatrix` weights - same operations, same order (`adjSum_tFold`).

  `NoDupConn` and `relaxCount` are specification-side definitions the statements of C12 mention, and the differential
  drivers RUN them (Driver/Solver.lean reports `relaxCount`, Driver/FastHand.lean decides `NoDupConn`; both import this
  file for that): they must stay executable and where they are.
-/
import GoNeat.Proofs.FastFF

set_option linter.unusedSectionVars false

namespace GoNeat.Fast
open GoNeat.Solver (Err)

variable {W : Type} [Scalar W]

/-- no node pair is joined twice -/
def NoDupConn (fn : FastNet W) : Prop :=
  fn.conns.Pairwise fun a b => ¬ (a.src = b.src ∧ a.dst = b.dst)

instance (fn : FastNet W) : Decidable (NoDupConn fn) := by unfold NoDupConn; infer_instance

theorem matWAux_none (s t : Nat) (cs : List (FLink W)) (acc : W) (h : ∀ c ∈ cs, ¬ (c.src = s ∧ c.dst = t)) :
    matWAux s t cs acc = acc := by
  induction cs generalizing acc with
  | nil => rfl
  | cons c cs ih =>
    have hc : ¬ (c.src == s && c.dst == t) = true := by
      simpa only [Bool.and_eq_true, beq_iff_eq] using h c (List.mem_cons_self ..)
    rw [matWAux, if_neg hc]
    exact ih acc (fun c' h' => h c' (List.mem_cons_of_mem _ h'))

theorem matWAux_mem (cs : List (FLink W)) (hp : cs.Pairwise fun a b => ¬ (a.src = b.src ∧ a.dst = b.dst))
    (c : FLink W) (hc : c ∈ cs) (acc : W) : matWAux c.src c.dst cs acc = c.w := by
  induction cs generalizing acc with
  | nil => simp at hc
  | cons d cs ih =>
    obtain ⟨hd, hp'⟩ := List.pairwise_cons.mp hp
    unfold matWAux
    by_cases hin : c ∈ cs
    · exact ih hp' hin _
    · have hcd : c = d := by
        rcases List.mem_cons.mp hc with h | h
        · exact h
        · exact absurd h hin
      subst hcd
      simp only [beq_self_eq_true, Bool.and_self, if_true]
      exact matWAux_none _ _ cs _ (fun c' h' hh => hd c' h' ⟨hh.1.symm, hh.2.symm⟩)

theorem matW_conn (fn : FastNet W) (hnd : NoDupConn fn) (c : FLink W) (hc : c ∈ fn.conns) :
    matW fn c.src c.dst = c.w :=
  matWAux_mem fn.conns hnd c hc _

theorem adjSum_tFold (fn : FastNet W) (hnd : NoDupConn fn) (ev : Nat → Option W) (sig : Nat → W) (i : Nat)
    (L : List (FLink W)) (hL : ∀ c ∈ L, c ∈ fn.conns ∧ c.dst = i) (hev : ∀ c ∈ L, ev c.src = some (sig c.src))
    (acc : W) : adjSum fn ev i (L.map (·.src)) acc = some (tFold sig L acc) := by
  induction L generalizing acc with
  | nil => rfl
  | cons c L ih =>
    simp only [List.map_cons]
    unfold adjSum
    rw [hev c (by simp)]
    simp only
    have hw : matW fn c.src i = c.w := by
      have := matW_conn fn hnd c (hL c (by simp)).1
      rw [(hL c (by simp)).2] at this
      exact this
    rw [hw, ih (fun c' h' => hL c' (by simp [h'])) (fun c' h' => hev c' (by simp [h']))]
    simp only [tFold, List.foldl_cons]

/-- one forward step from ANY state (processing cells possibly dirty, as `RecursiveSteps` leaves them); with clean cells it is
    `C12.fast_forward_partial` -/
theorem forwardStep_full (fn : FastNet W) (σ : Nat → W → Option W) (delta : W) (s : FState W)
    (hS : s.signals.length = fn.nTotal) (hP : s.processing.length = fn.nTotal)
    (hσ : ∀ i, fn.nSensor ≤ i → i < fn.nTotal → ∀ x, (σ (fn.acts.getD i 0) x).isSome = true) :
    ∃ s' r, forwardStep fn σ delta s = (s', r, none) ∧
      s'.signals.length = fn.nTotal ∧ s'.processing.length = fn.nTotal ∧
      (∀ j, j < fn.nSensor → getW s'.signals j = getW s.signals j) ∧
      (∀ i, fn.nSensor ≤ i → i < fn.nTotal →
        σ (fn.acts.getD i 0) (biased fn i (tFold (getW s.signals) (fn.conns.filter fun c => c.dst == i)
            (getW s.processing i))) = some (getW s'.signals i) ∧
        getW s'.processing i = Scalar.zero) ∧
      r = (Scalar.le delta Scalar.zero || (neuronIdx fn).all (relaxedAt delta (getW s.signals) (getW s'.signals))) := by
  unfold forwardStep
  simp only
  have hlen1 : (connLoop s.signals fn.conns s.processing).length = fn.nTotal := by rw [length_connLoop, hP]
  obtain ⟨p2, hact, a2, _, a4⟩ := actLoop_spec fn σ (neuronIdx fn) (connLoop s.signals fn.conns s.processing)
    (neuronIdx_nodup fn) (fun i hi => by
      rw [mem_neuronIdx] at hi
      exact ⟨by rw [hlen1]; exact hi.2, hσ i hi.1 hi.2⟩)
  rw [hact]
  simp only
  obtain ⟨m1, m2, m3, m4, mr⟩ := moveLoop_cells delta (!(Scalar.le delta Scalar.zero)) (neuronIdx fn) (neuronIdx_nodup fn)
    s.signals p2 true (fun i hi => by rw [hS, a2, hlen1]; exact ⟨((mem_neuronIdx fn i).mp hi).2, ((mem_neuronIdx fn i).mp hi).2⟩)
  refine ⟨_, _, rfl, by rw [m1, hS], by rw [m2, a2, hlen1], fun j hj => ?_, fun i hi hit => ?_, ?_⟩
  · rw [m3 j, if_neg (fun h => neuronIdx_ge fn j h hj)]
  · have hmem : i ∈ neuronIdx fn := (mem_neuronIdx fn i).mpr ⟨hi, hit⟩
    rw [m3 i, m4 i, if_pos hmem, if_pos hmem, ← a4 i hmem, connLoop_cell _ _ _ _ (by rw [hP]; exact hit)]
    exact ⟨rfl, rfl⟩
  · rw [mr, Bool.true_and, Bool.not_not]
    congr 1
    exact all_congr_mem _ _ _ fun i hi => by simp only [relaxedAt, m3 i, if_pos hi]

/-- `Lay n s`: arrays have the right length, the neurons' processing cells are clean, the sensors hold `sig`, and
    every neuron of rank ≤ n holds its feed-forward value -/
structure Lay (fn : FastNet W) (σ : Nat → W → Option W) (sig : Nat → W) (lvl : Nat → Nat) (n : Nat) (s : FState W) :
    Prop where
  lenS : s.signals.length = fn.nTotal
  lenP : s.processing.length = fn.nTotal
  clean : ∀ i, fn.nSensor ≤ i → i < fn.nTotal → getW s.processing i = Scalar.zero
  sens : ∀ j, j < fn.nSensor → getW s.signals j = sig j
  val : ∀ i, fn.nSensor ≤ i → i < fn.nTotal → lvl i ≤ n → fvalNode fn σ sig (lvl i + 1) i = some (getW s.signals i)

theorem Lay.mono {fn : FastNet W} {σ : Nat → W → Option W} {sig : Nat → W} {lvl : Nat → Nat} {n m : Nat} {s : FState W}
    (h : Lay fn σ sig lvl n s) (hm : m ≤ n) : Lay fn σ sig lvl m s :=
  ⟨h.lenS, h.lenP, h.clean, h.sens, fun i a b c => h.val i a b (by omega)⟩

structure FFAll (fn : FastNet W) (σ : Nat → W → Option W) (lvl : Nat → Nat) : Prop where
  ff : FFFast fn lvl
  nd : NoDupConn fn
  pos : ∀ i, fn.nSensor ≤ i → i < fn.nTotal → 1 ≤ lvl i
  tot : ∀ i, fn.nSensor ≤ i → i < fn.nTotal → ∀ x, (σ (fn.acts.getD i 0) x).isSome = true

theorem step_val (fn : FastNet W) (σ : Nat → W → Option W) (sig : Nat → W) (lvl : Nat → Nat) (h : FFAll fn σ lvl)
    (old : Nat → W) (hsens : ∀ j, j < fn.nSensor → old j = sig j) (n : Nat)
    (hval : ∀ a, fn.nSensor ≤ a → a < fn.nTotal → lvl a ≤ n → fvalNode fn σ sig (lvl a + 1) a = some (old a))
    (i : Nat) (hi : fn.nSensor ≤ i) (hl : lvl i ≤ n + 1) :
    fvalNode fn σ sig (lvl i + 1) i =
      σ (fn.acts.getD i 0) (biased fn i (tFold old (fn.conns.filter fun c => c.dst == i) Scalar.zero)) := by
  have hns : ¬ i < fn.nSensor := by omega
  have hb : adjSum fn (fvalNode fn σ sig (lvl i)) i (revAdj fn i) Scalar.zero =
      some (tFold old (fn.conns.filter fun c => c.dst == i) Scalar.zero) := by
    unfold revAdj
    refine adjSum_tFold fn h.nd _ old i _ (fun c hc => ?_) (fun c hc => ?_) _
    · simp only [List.mem_filter, beq_iff_eq] at hc
      exact hc
    · simp only [List.mem_filter, beq_iff_eq] at hc
      obtain ⟨hlt, hct⟩ := h.ff.conn c hc.1
      rw [hc.2] at hlt
      by_cases hcs : c.src < fn.nSensor
      · have : lvl i = (lvl i - 1) + 1 := by omega
        rw [this]
        unfold fvalNode
        simp only [hcs, if_true]
        rw [hsens _ hcs]
      · have := hval c.src (by omega) hct (by omega)
        exact fvalNode_mono_le fn σ sig _ _ (by omega) _ _ this
  conv => lhs; unfold fvalNode
  simp only [hns, if_false, hb, biased]

theorem forwardStep_lay (fn : FastNet W) (σ : Nat → W → Option W) (sig : Nat → W) (lvl : Nat → Nat)
    (h : FFAll fn σ lvl) (delta : W) (n : Nat) (s : FState W) (hL : Lay fn σ sig lvl n s) :
    ∃ s' r, forwardStep fn σ delta s = (s', r, none) ∧ Lay fn σ sig lvl (n + 1) s' ∧
      r = (Scalar.le delta Scalar.zero || (neuronIdx fn).all (relaxedAt delta (getW s.signals) (getW s'.signals))) := by
  obtain ⟨s', r, hs, f2, f3, f4, f5, f6⟩ := forwardStep_full fn σ delta s hL.lenS hL.lenP h.tot
  refine ⟨s', r, hs, ⟨f2, f3, fun i a b => (f5 i a b).2, fun j hj => by rw [f4 j hj, hL.sens j hj],
    fun i hi hit hl => ?_⟩, f6⟩
  have := (f5 i hi hit).1
  rw [hL.clean i hi hit] at this
  rw [← this]
  exact step_val fn σ sig lvl h (getW s.signals) hL.sens n hL.val i hi hl

/-- between two states in which every neuron holds its value no neuron moves (for `delta > 0`: provided
    `delta < |v - v|` is false for the values `v` of the neurons - a hypothesis because `Scalar` has no law `v - v = 0`;
    it holds in every ordered field for `delta ≥ 0`, `C12.fast_relax_stops_exact`, and for every finite float64) -/
theorem lay_relaxed (fn : FastNet W) (σ : Nat → W → Option W) (sig : Nat → W) (lvl : Nat → Nat) (delta : W)
    {n : Nat} {s s' : FState W} (hL : Lay fn σ sig lvl n s) (hL' : Lay fn σ sig lvl (n + 1) s')
    (hD : ∀ i, fn.nSensor ≤ i → i < fn.nTotal → lvl i ≤ n)
    (hδ : ∀ i, fn.nSensor ≤ i → i < fn.nTotal → ∀ v, fvalNode fn σ sig (lvl i + 1) i = some v →
      Scalar.lt delta (Scalar.abs (Scalar.sub v v)) = false) :
    (neuronIdx fn).all (relaxedAt delta (getW s.signals) (getW s'.signals)) = true := by
  rw [List.all_eq_true]
  intro i hi
  rw [mem_neuronIdx] at hi
  have h1 := hL.val i hi.1 hi.2 (hD i hi.1 hi.2)
  have h2 := hL'.val i hi.1 hi.2 (by have := hD i hi.1 hi.2; omega)
  rw [h1] at h2
  simp only [Option.some.injEq] at h2
  simp only [relaxedAt, ← h2, hδ i hi.1 hi.2 _ h1, Bool.not_false]

theorem fwdLoop_lay (fn : FastNet W) (σ : Nat → W → Option W) (sig : Nat → W) (lvl : Nat → Nat) (h : FFAll fn σ lvl)
    (k : Nat) : ∀ (n : Nat) (res : Bool) (s : FState W), Lay fn σ sig lvl n s →
      (fwdLoop fn σ k res s).2.2 = none ∧ Lay fn σ sig lvl (n + k) (fwdLoop fn σ k res s).1 ∧
      (Scalar.le (Scalar.zero : W) Scalar.zero = true → 1 ≤ k → (fwdLoop fn σ k res s).2.1 = true) := by
  induction k with
  | zero => intro n res s hL; exact ⟨rfl, hL, fun _ h0 => by omega⟩
  | succ k ih =>
    intro n res s hL
    obtain ⟨s', r, hs, hL1, hr⟩ := forwardStep_lay fn σ sig lvl h Scalar.zero n s hL
    unfold fwdLoop
    rw [hs]
    simp only
    obtain ⟨i1, i2, i3⟩ := ih (n + 1) r s' hL1
    refine ⟨i1, by rw [show n + (k + 1) = n + 1 + k by omega]; exact i2, fun hle _ => ?_⟩
    by_cases hk : 1 ≤ k
    · exact i3 hle hk
    · have : k = 0 := by omega
      subst this
      simp only [fwdLoop]
      rw [hr, hle]
      rfl

/-- number of forward steps `relaxLoop` executes -/
def relaxCount (fn : FastNet W) (σ : Nat → W → Option W) (delta : W) : Nat → FState W → Nat
  | 0, _ => 0
  | k + 1, s =>
    match forwardStep fn σ delta s with
    | (_, _, some _) => 1
    | (_, true, none) => 1
    | (s', false, none) => 1 + relaxCount fn σ delta k s'

theorem relaxCount_le (fn : FastNet W) (σ : Nat → W → Option W) (delta : W) (k : Nat) (s : FState W) :
    relaxCount fn σ delta k s ≤ k := by
  induction k generalizing s with
  | zero => simp [relaxCount]
  | succ k ih =>
    unfold relaxCount
    rcases hs : forwardStep fn σ delta s with ⟨s', r, e⟩
    cases e with
    | some e => simp
    | none =>
      cases r with
      | true => simp
      | false => simp only; have := ih s'; omega

theorem relaxLoop_lay (fn : FastNet W) (σ : Nat → W → Option W) (sig : Nat → W) (lvl : Nat → Nat) (h : FFAll fn σ lvl)
    (delta : W) (k : Nat) : ∀ (n : Nat) (res : Bool) (s : FState W), Lay fn σ sig lvl n s →
      (relaxLoop fn σ delta k res s).2.2 = none ∧
      Lay fn σ sig lvl (n + relaxCount fn σ delta k s) (relaxLoop fn σ delta k res s).1 ∧
      ((relaxLoop fn σ delta k res s).2.1 = false → relaxCount fn σ delta k s = k) ∧
      (1 ≤ k → 1 ≤ relaxCount fn σ delta k s) := by
  induction k with
  | zero => intro n res s hL; exact ⟨rfl, hL, fun _ => rfl, fun h0 => by omega⟩
  | succ k ih =>
    intro n res s hL
    obtain ⟨s', r, hs, hL1, _⟩ := forwardStep_lay fn σ sig lvl h delta n s hL
    unfold relaxLoop relaxCount
    rw [hs]
    cases r with
    | true => exact ⟨rfl, hL1, fun hf => by simp at hf, fun _ => Nat.le_refl 1⟩
    | false =>
      simp only
      obtain ⟨i1, i2, i3, _⟩ := ih (n + 1) false s' hL1
      refine ⟨i1, ?_, fun hf => by have := i3 hf; omega, fun _ => by omega⟩
      rw [show n + (1 + relaxCount fn σ delta k s') = n + 1 + relaxCount fn σ delta k s' by omega]
      exact i2

theorem relaxLoop_stops (fn : FastNet W) (σ : Nat → W → Option W) (sig : Nat → W) (lvl : Nat → Nat) (h : FFAll fn σ lvl)
    (delta : W) (D : Nat) (hD : ∀ i, fn.nSensor ≤ i → i < fn.nTotal → lvl i ≤ D)
    (hδ : ∀ i, fn.nSensor ≤ i → i < fn.nTotal → ∀ v, fvalNode fn σ sig (lvl i + 1) i = some v →
      Scalar.lt delta (Scalar.abs (Scalar.sub v v)) = false)
    (k : Nat) : ∀ (n : Nat) (res : Bool) (s : FState W), Lay fn σ sig lvl n s →
      relaxCount fn σ delta k s ≤ (D - n) + 1 ∧
      ((D - n) + 1 ≤ k → (relaxLoop fn σ delta k res s).2.1 = true) := by
  induction k with
  | zero => intro n res s _; exact ⟨by simp [relaxCount], fun h0 => by omega⟩
  | succ k ih =>
    intro n res s hL
    obtain ⟨s', r, hs, hL1, hr⟩ := forwardStep_lay fn σ sig lvl h delta n s hL
    unfold relaxLoop relaxCount
    rw [hs]
    cases r with
    | true => exact ⟨by simp, fun _ => rfl⟩
    | false =>
      simp only
      -- a step from a state in which every neuron holds its value would have reported `true`
      have hn : n < D := by
        apply Nat.lt_of_not_le
        intro hge
        rw [lay_relaxed fn σ sig lvl delta hL hL1 (fun i a b => Nat.le_trans (hD i a b) hge) hδ, Bool.or_true] at hr
        cases hr
      obtain ⟨i1, i2⟩ := ih (n + 1) false s' hL1
      exact ⟨by omega, fun hk => i2 (by omega)⟩

theorem relaxLoop_nonpos (fn : FastNet W) (σ : Nat → W → Option W) (delta : W) (s : FState W)
    (hS : s.signals.length = fn.nTotal) (hP : s.processing.length = fn.nTotal)
    (hσ : ∀ i, fn.nSensor ≤ i → i < fn.nTotal → ∀ x, (σ (fn.acts.getD i 0) x).isSome = true)
    (hle : Scalar.le delta Scalar.zero = true) (k : Nat) (res : Bool) :
    relaxLoop fn σ delta (k + 1) res s = ((forwardStep fn σ delta s).1, true, none) := by
  obtain ⟨s', r, hs, _, _, _, _, hr⟩ := forwardStep_full fn σ delta s hS hP hσ
  rw [hle, Bool.true_or] at hr
  unfold relaxLoop
  rw [hs, hr]

theorem moveLoop_indep (d d' : W) (ck ck' : Bool) (is : List Nat) :
    ∀ (sig p : List W) (r r' : Bool),
      (moveLoop d ck is sig p r).1 = (moveLoop d' ck' is sig p r').1 ∧
      (moveLoop d ck is sig p r).2.1 = (moveLoop d' ck' is sig p r').2.1 := by
  induction is with
  | nil => intro sig p r r'; exact ⟨rfl, rfl⟩
  | cons i is ih =>
    intro sig p r r'
    unfold moveLoop
    exact ih _ _ _ _

theorem forwardStep_indep (fn : FastNet W) (σ : Nat → W → Option W) (d d' : W) (s : FState W) :
    (forwardStep fn σ d s).1 = (forwardStep fn σ d' s).1 ∧ (forwardStep fn σ d s).2.2 = (forwardStep fn σ d' s).2.2 := by
  unfold forwardStep
  simp only
  rcases actLoop fn σ (neuronIdx fn) (connLoop s.signals fn.conns s.processing) with ⟨p2, e⟩
  cases e with
  | some e => exact ⟨rfl, rfl⟩
  | none =>
    simp only
    obtain ⟨h1, h2⟩ := moveLoop_indep d d' (!(Scalar.le d Scalar.zero)) (!(Scalar.le d' Scalar.zero)) (neuronIdx fn)
      s.signals p2 true true
    exact ⟨by rw [h1, h2], trivial⟩

theorem relaxLoop_state (fn : FastNet W) (σ : Nat → W → Option W) (delta : W) (k : Nat) :
    ∀ (res res' : Bool) (s : FState W),
      (relaxLoop fn σ delta k res s).1 = (fwdLoop fn σ (relaxCount fn σ delta k s) res' s).1 ∧
      (relaxLoop fn σ delta k res s).2.2 = (fwdLoop fn σ (relaxCount fn σ delta k s) res' s).2.2 := by
  induction k with
  | zero => intro res res' s; exact ⟨rfl, rfl⟩
  | succ k ih =>
    intro res res' s
    obtain ⟨i1, i2⟩ := forwardStep_indep fn σ delta Scalar.zero s
    unfold relaxLoop relaxCount
    rcases hs : forwardStep fn σ delta s with ⟨s', r, e⟩
    rcases hs0 : forwardStep fn σ Scalar.zero s with ⟨s0, r0, e0⟩
    rw [hs, hs0] at i1 i2
    simp only at i1 i2
    subst i1 i2
    cases e with
    | some e =>
      simp only [fwdLoop, hs0]
      exact ⟨trivial, trivial⟩
    | none =>
      cases r with
      | true =>
        simp only [fwdLoop, hs0]
        exact ⟨trivial, trivial⟩
      | false =>
        simp only
        rw [show 1 + relaxCount fn σ delta k s' = relaxCount fn σ delta k s' + 1 by omega]
        simp only [fwdLoop, hs0]
        exact ih false r0 s'

end GoNeat.Fast
