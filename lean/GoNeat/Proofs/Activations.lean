/-
  C18 helper lemmas (Kind R: over the reals).  The specification's closed forms (Spec/Activations.lean, polymorphic)
  are instantiated at ℝ through the instance below; ranges and monotonicity are proved here function by function.
-/
import Mathlib.Analysis.Complex.Trigonometric
import Mathlib.Data.EReal.Basic
import Mathlib.Tactic.Linarith
import Mathlib.Tactic.Positivity
import Mathlib.Tactic.NormNum
import Mathlib.Tactic.FieldSimp
import Mathlib.Tactic.Ring
import GoNeat.Spec.Activations

namespace GoNeat.Spec.Act

noncomputable instance instActFnsReal : ActFns ℝ where
  exp := Real.exp
  tanh := Real.tanh
  sin := Real.sin
  abs := fun x => |x|
  lt x y := decide (x < y)

@[simp] theorem exp_real (x : ℝ) : ActFns.exp x = Real.exp x := rfl
@[simp] theorem tanh_real (x : ℝ) : ActFns.tanh x = Real.tanh x := rfl
@[simp] theorem sin_real (x : ℝ) : ActFns.sin x = Real.sin x := rfl
@[simp] theorem abs_real (x : ℝ) : ActFns.abs x = |x| := rfl
@[simp] theorem lt_real (x y : ℝ) : (ActFns.lt x y = true) ↔ x < y := by simp [ActFns.lt]

theorem logistic_real (t : ℝ) : logistic t = 1 / (1 + Real.exp (-t)) := by
  simp only [logistic, exp_real]; norm_num

theorem logistic_range (t : ℝ) : 0 < logistic t ∧ logistic t < 1 := by
  rw [logistic_real]
  have := Real.exp_pos (-t)
  refine ⟨by positivity, ?_⟩
  rw [div_lt_one (by linarith)]
  linarith

theorem logistic_mono : Monotone (logistic : ℝ → ℝ) := by
  intro a b h
  rw [logistic_real, logistic_real]
  have hb := Real.exp_pos (-b)
  have : Real.exp (-b) ≤ Real.exp (-a) := Real.exp_le_exp.mpr (neg_le_neg h)
  exact one_div_le_one_div_of_le (by linarith) (by linarith)

theorem bipolar_range {u : ℝ} : (0 < u → -1 < 2 * u - 1) ∧ (u < 1 → 2 * u - 1 < 1) ∧ (u ≤ 1 → 2 * u - 1 ≤ 1) :=
  ⟨fun _ => by linarith, fun _ => by linarith, fun _ => by linarith⟩

theorem bipolar_mono {f : ℝ → ℝ} (hf : Monotone f) : Monotone fun x => 2 * f x - 1 := fun _ _ h =>
  sub_le_sub_right (mul_le_mul_of_nonneg_left (hf h) zero_le_two) 1

theorem unipolar_range {s : ℝ} (h : |s| < 1) : 0 < 1 / 2 + 1 / 2 * s ∧ 1 / 2 + 1 / 2 * s < 1 := by
  obtain ⟨h1, h2⟩ := abs_lt.mp h
  constructor <;> linarith

theorem tanh_eq_logistic (t : ℝ) : Real.tanh t = 2 * logistic (2 * t) - 1 := by
  rw [Real.tanh_eq, logistic_real]
  have h2 : Real.exp (-(2 * t)) = Real.exp (-t) * Real.exp (-t) := by rw [← Real.exp_add]; congr 1; ring
  have h1 : Real.exp t = (Real.exp (-t))⁻¹ := by rw [Real.exp_neg, inv_inv]
  have hp := Real.exp_pos (-t)
  rw [h2, h1]
  field_simp
  ring

theorem tanh_mono : Monotone Real.tanh :=
  funext tanh_eq_logistic ▸ bipolar_mono (logistic_mono.comp fun _ _ h => mul_le_mul_of_nonneg_left h zero_le_two)

/-! Six of the 20 closed forms are `logistic` of an affine function with positive slope. -/

theorem plainSigmoid_range (x : ℝ) : 0 < plainSigmoid x ∧ plainSigmoid x < 1 := logistic_range _
theorem plainSigmoid_mono : Monotone (plainSigmoid : ℝ → ℝ) := logistic_mono

theorem reducedSigmoid_range (x : ℝ) : 0 < reducedSigmoid x ∧ reducedSigmoid x < 1 := logistic_range _
theorem reducedSigmoid_mono : Monotone (reducedSigmoid : ℝ → ℝ) := fun _ _ h =>
  logistic_mono (mul_le_mul_of_nonneg_left h (by norm_num))

theorem steepenedSigmoid_range (x : ℝ) : 0 < steepenedSigmoid x ∧ steepenedSigmoid x < 1 := logistic_range _
theorem steepenedSigmoid_mono : Monotone (steepenedSigmoid : ℝ → ℝ) := fun _ _ h =>
  logistic_mono (mul_le_mul_of_nonneg_left h (by norm_num))

theorem bipolarSigmoid_real (x : ℝ) : bipolarSigmoid x = 2 * steepenedSigmoid x - 1 := by
  unfold bipolarSigmoid steepenedSigmoid
  norm_num

theorem bipolarSigmoid_range (x : ℝ) : -1 < bipolarSigmoid x ∧ bipolarSigmoid x < 1 := by
  rw [bipolarSigmoid_real]
  exact (steepenedSigmoid_range x).imp bipolar_range.1 bipolar_range.2.1
theorem bipolarSigmoid_mono : Monotone (bipolarSigmoid : ℝ → ℝ) :=
  funext bipolarSigmoid_real ▸ bipolar_mono steepenedSigmoid_mono

theorem leftShiftedSigmoid_range (x : ℝ) : 0 < leftShiftedSigmoid x ∧ leftShiftedSigmoid x < 1 := logistic_range _
theorem leftShiftedSigmoid_mono : Monotone (leftShiftedSigmoid : ℝ → ℝ) := fun _ _ h =>
  logistic_mono (add_le_add_left h _)

theorem leftShiftedSteepenedSigmoid_range (x : ℝ) :
    0 < leftShiftedSteepenedSigmoid x ∧ leftShiftedSteepenedSigmoid x < 1 := logistic_range _
theorem leftShiftedSteepenedSigmoid_mono : Monotone (leftShiftedSteepenedSigmoid : ℝ → ℝ) := fun _ _ h =>
  logistic_mono (add_le_add_left (mul_le_mul_of_nonneg_left h (by norm_num)) _)

theorem rightShiftedSteepenedSigmoid_range (x : ℝ) :
    0 < rightShiftedSteepenedSigmoid x ∧ rightShiftedSteepenedSigmoid x < 1 := logistic_range _
theorem rightShiftedSteepenedSigmoid_mono : Monotone (rightShiftedSteepenedSigmoid : ℝ → ℝ) := fun _ _ h =>
  logistic_mono (sub_le_sub_right (mul_le_mul_of_nonneg_left h (by norm_num)) _)

theorem hyperbolicTangent_range (x : ℝ) : -1 < hyperbolicTangent x ∧ hyperbolicTangent x < 1 :=
  ⟨Real.neg_one_lt_tanh _, Real.tanh_lt_one _⟩
theorem hyperbolicTangent_mono : Monotone (hyperbolicTangent : ℝ → ℝ) := fun _ _ h =>
  tanh_mono (mul_le_mul_of_nonneg_left h (by norm_num))

theorem gaussian_range (x : ℝ) : 0 < gaussian x ∧ gaussian x ≤ 1 :=
  ⟨Real.exp_pos _, Real.exp_le_one_iff.mpr (neg_nonpos.mpr (mul_self_nonneg x))⟩

theorem bipolarGaussian_real (x : ℝ) : bipolarGaussian x = 2 * gaussian (2.5 * x) - 1 := by
  unfold bipolarGaussian gaussian
  norm_num

theorem bipolarGaussian_range (x : ℝ) : -1 < bipolarGaussian x ∧ bipolarGaussian x ≤ 1 := by
  rw [bipolarGaussian_real]
  exact (gaussian_range _).imp bipolar_range.1 bipolar_range.2.2

theorem sineFunction_range (x : ℝ) : -1 ≤ sineFunction x ∧ sineFunction x ≤ 1 :=
  ⟨Real.neg_one_le_sin _, Real.sin_le_one _⟩

theorem linear_mono : Monotone (linear : ℝ → ℝ) := fun _ _ h => h

theorem absoluteLinear_range (x : ℝ) : 0 ≤ absoluteLinear x := abs_nonneg x

theorem nullFunctor_eq (x : ℝ) : nullFunctor x = 0 := by unfold nullFunctor; norm_num

theorem monotoneOn_ite_lt {α β : Type*} [LinearOrder α] [Preorder β] {f g : α → β} {s : Set α} {c : α} (hc : c ∈ s)
    (hf : MonotoneOn f {x ∈ s | x ≤ c}) (hg : MonotoneOn g {x ∈ s | c ≤ x}) (h : f c ≤ g c) :
    MonotoneOn (fun x => if x < c then f x else g x) s := by
  intro a ha b hb hab
  by_cases h1 : a < c
  · by_cases h2 : b < c
    · simp only [if_pos h1, if_pos h2]
      exact hf ⟨ha, h1.le⟩ ⟨hb, h2.le⟩ hab
    · simp only [if_pos h1, if_neg h2]
      exact ((hf ⟨ha, h1.le⟩ ⟨hc, le_rfl⟩ h1.le).trans h).trans (hg ⟨hc, le_rfl⟩ ⟨hb, not_lt.mp h2⟩ (not_lt.mp h2))
  · have h2 : ¬ b < c := fun hb' => h1 (lt_of_le_of_lt hab hb')
    simp only [if_neg h1, if_neg h2]
    exact hg ⟨ha, not_lt.mp h1⟩ ⟨hb, not_lt.mp h2⟩ hab

theorem approximationSteepenedSigmoid_real (x : ℝ) : approximationSteepenedSigmoid x =
    if x < -1 then 0 else if x < 0 then (x + 1) * (x + 1) / 2
    else if x < 1 then 1 - (x - 1) * (x - 1) / 2 else 1 := by
  simp only [approximationSteepenedSigmoid, lt_real]
  norm_num

/-- the range of a piecewise activation, read off its monotonicity and its two outer pieces -/
theorem range_of_mono_tails {f : ℝ → ℝ} (hf : Monotone f) {a b lo hi : ℝ} (ha : ∀ y < a, f y = lo)
    (hb : ∀ y, b ≤ y → f y = hi) (x : ℝ) : lo ≤ f x ∧ f x ≤ hi :=
  ⟨(ha _ ((min_le_right x (a - 1)).trans_lt (sub_one_lt a))).ge.trans (hf (min_le_left x _)),
   (hf (le_max_left x b)).trans (hb _ (le_max_right x b)).le⟩

/-- piece by piece: constant, a square increasing on [-1, 0], its mirror image increasing on [0, 1], constant; the
    pieces agree at the seams -1, 0, 1 -/
theorem approximationSteepenedSigmoid_mono : Monotone (approximationSteepenedSigmoid : ℝ → ℝ) := by
  rw [funext approximationSteepenedSigmoid_real, ← monotoneOn_univ]
  refine monotoneOn_ite_lt trivial monotoneOn_const ?_ (by norm_num)
  refine monotoneOn_ite_lt ⟨trivial, by norm_num⟩ ?_ ?_ (by norm_num)
  · rintro a ⟨⟨-, ha⟩, -⟩ b - hab
    have := mul_self_le_mul_self (by linarith : 0 ≤ a + 1) (by linarith : a + 1 ≤ b + 1)
    show (a + 1) * (a + 1) / 2 ≤ (b + 1) * (b + 1) / 2
    linarith
  refine monotoneOn_ite_lt ⟨⟨trivial, by norm_num⟩, by norm_num⟩ ?_ monotoneOn_const (by norm_num)
  rintro a - b ⟨-, hb⟩ hab
  have := mul_self_le_mul_self (by linarith : 0 ≤ 1 - b) (by linarith : 1 - b ≤ 1 - a)
  show 1 - (a - 1) * (a - 1) / 2 ≤ 1 - (b - 1) * (b - 1) / 2
  linarith

theorem approximationSteepenedSigmoid_range (x : ℝ) :
    0 ≤ approximationSteepenedSigmoid x ∧ approximationSteepenedSigmoid x ≤ 1 :=
  range_of_mono_tails approximationSteepenedSigmoid_mono (a := -1) (b := 1)
    (fun y h => by rw [approximationSteepenedSigmoid_real, if_pos h])
    (fun y h => by
      rw [approximationSteepenedSigmoid_real, if_neg (by linarith), if_neg (by linarith), if_neg (not_lt.mpr h)]) x

theorem approximationSigmoid_real (x : ℝ) : approximationSigmoid x =
    if x < -4 then 0 else if x < 0 then (x + 4) * (x + 4) / 32
    else if x < 4 then 1 - (x - 4) * (x - 4) / 32 else 1 := by
  simp only [approximationSigmoid, lt_real]
  norm_num

theorem approximationSigmoid_eq_steepened (x : ℝ) :
    approximationSigmoid x = approximationSteepenedSigmoid (x / 4) := by
  have h (c : ℝ) : x / 4 < c ↔ x < c * 4 := div_lt_iff₀ four_pos
  rw [approximationSigmoid_real, approximationSteepenedSigmoid_real]
  simp only [h, neg_mul, one_mul, zero_mul]
  split_ifs
  · rfl
  · ring
  · ring
  · rfl

theorem approximationSigmoid_range (x : ℝ) : 0 ≤ approximationSigmoid x ∧ approximationSigmoid x ≤ 1 := by
  rw [approximationSigmoid_eq_steepened]
  exact approximationSteepenedSigmoid_range _

theorem approximationSigmoid_mono : Monotone (approximationSigmoid : ℝ → ℝ) := by
  intro a b h
  rw [approximationSigmoid_eq_steepened, approximationSigmoid_eq_steepened]
  exact approximationSteepenedSigmoid_mono (div_le_div_of_nonneg_right h (by norm_num))

theorem clippedLinear_real (x : ℝ) : clippedLinear x = max (-1) (min 1 x) := by
  simp only [clippedLinear, lt_real]
  norm_num
  split_ifs with h1 h2
  · rw [max_eq_left ((min_le_right _ _).trans h1.le)]
  · rw [min_eq_left h2.le, max_eq_right (by norm_num)]
  · rw [min_eq_right (not_lt.mp h2), max_eq_right (not_lt.mp h1)]

theorem clippedLinear_range (x : ℝ) : -1 ≤ clippedLinear x ∧ clippedLinear x ≤ 1 := by
  rw [clippedLinear_real]
  exact ⟨le_max_left _ _, max_le (by norm_num) (min_le_left _ _)⟩

theorem clippedLinear_mono : Monotone (clippedLinear : ℝ → ℝ) := fun a b h => by
  rw [clippedLinear_real, clippedLinear_real]
  exact max_le_max le_rfl (min_le_min le_rfl h)

theorem stepFunction_real (x : ℝ) : stepFunction x = if x < 0 then 0 else 1 := by
  simp only [stepFunction, lt_real]
  norm_num

theorem stepFunction_range (x : ℝ) : stepFunction x = 0 ∨ stepFunction x = 1 := by
  rw [stepFunction_real]
  exact ite_eq_or_eq _ _ _

theorem stepFunction_mono : Monotone (stepFunction : ℝ → ℝ) := by
  rw [funext stepFunction_real, ← monotoneOn_univ]
  exact monotoneOn_ite_lt trivial monotoneOn_const monotoneOn_const zero_le_one

theorem signFunction_real (x : ℝ) : signFunction x = if x < 0 then -1 else if 0 < x then 1 else 0 := by
  simp only [signFunction, lt_real]
  norm_num

theorem signFunction_range (x : ℝ) : signFunction x = -1 ∨ signFunction x = 0 ∨ signFunction x = 1 := by
  rw [signFunction_real]; split_ifs <;> simp

theorem inverseAbsoluteSigmoid_real (x : ℝ) : inverseAbsoluteSigmoid x = 1 / 2 + 1 / 2 * (x / (1 + |x|)) := by
  simp only [inverseAbsoluteSigmoid, abs_real]
  norm_num

theorem inverseAbsoluteSigmoid_range (x : ℝ) : 0 < inverseAbsoluteSigmoid x ∧ inverseAbsoluteSigmoid x < 1 := by
  rw [inverseAbsoluteSigmoid_real]
  have hd : 0 < 1 + |x| := by positivity
  refine unipolar_range ?_
  rw [abs_div, abs_of_pos hd, div_lt_one hd]
  exact lt_one_add _

theorem inverseAbsoluteSigmoid_mono : Monotone (inverseAbsoluteSigmoid : ℝ → ℝ) := by
  intro a b h
  rw [inverseAbsoluteSigmoid_real, inverseAbsoluteSigmoid_real]
  have ha : 0 < 1 + |a| := by positivity
  have hb : 0 < 1 + |b| := by positivity
  -- equality when a and b have the same sign, and a product of opposite signs when a < 0 ≤ b
  have key : a * |b| ≤ b * |a| := by
    rcases le_or_gt 0 a with h0 | h0
    · rw [abs_of_nonneg h0, abs_of_nonneg (h0.trans h), mul_comm]
    · rw [abs_of_neg h0]
      have := mul_nonpos_of_nonpos_of_nonneg h0.le (by linarith [neg_abs_le b] : 0 ≤ |b| + b)
      linarith
  have : a / (1 + |a|) ≤ b / (1 + |b|) := by
    rw [div_le_div_iff₀ ha hb]
    linarith
  linarith

open GoNeat.Act

theorem inRange_of (d : ScalarDoc ℝ) (y : ℝ) (hlo : ∀ l, d.lo = some l → l ≤ y) (hhi : ∀ h, d.hi = some h → y ≤ h) :
    d.inRange y = true := by
  unfold ScalarDoc.inRange
  rcases hl : d.lo with _ | l <;> rcases hh : d.hi with _ | h <;> simp [ActFns.lt]
  · exact hhi h hh
  · exact hlo l hl
  · exact ⟨hlo l hl, hhi h hh⟩

theorem inRange_Icc {d : ScalarDoc ℝ} {l h y : ℝ} (hl : d.lo = some l) (hh : d.hi = some h) (hy : l ≤ y ∧ y ≤ h) :
    d.inRange y = true :=
  inRange_of d y (fun _ e => Option.some.inj (hl.symm.trans e) ▸ hy.1) (fun _ e => Option.some.inj (hh.symm.trans e) ▸ hy.2)

/-- the bounds of `scalarDocs` are written as scientific literals -/
theorem zero_lit : (0.0 : ℝ) = 0 := by norm_num
theorem one_lit : (1.0 : ℝ) = 1 := by norm_num

theorem multiplyModule_fold (l : List ℝ) (a : ℝ) :
    l.foldl (fun (ret : EReal) (v : ℝ) => ret * (v : EReal)) (a : EReal) = ((a * l.prod : ℝ) : EReal) := by
  induction l generalizing a with
  | nil => simp
  | cons x t ih => rw [List.foldl_cons, ← EReal.coe_mul, ih, List.prod_cons, mul_assoc]

theorem foldl_max_spec {α γ : Type*} [LinearOrder γ] (c : α → γ) (l : List α) (a : γ) :
    let r := l.foldl (fun acc v => max acc (c v)) a
    a ≤ r ∧ (∀ x ∈ l, c x ≤ r) ∧ (r = a ∨ ∃ x ∈ l, r = c x) := by
  induction l generalizing a with
  | nil => simp
  | cons y t ih =>
    obtain ⟨h1, h2, h3⟩ := ih (max a (c y))
    simp only [List.foldl_cons, List.mem_cons, forall_eq_or_imp]
    refine ⟨le_trans (le_max_left _ _) h1, ⟨le_trans (le_max_right _ _) h1, h2⟩, ?_⟩
    rcases h3 with h3 | ⟨x, hx, h3⟩
    · rcases max_choice a (c y) with hm | hm
      · left; rw [h3, hm]
      · right; exact ⟨y, Or.inl rfl, by rw [h3, hm]⟩
    · right; exact ⟨x, Or.inr hx, h3⟩

theorem foldl_min_spec {α γ : Type*} [LinearOrder γ] (c : α → γ) (l : List α) (a : γ) :
    let r := l.foldl (fun acc v => min acc (c v)) a
    r ≤ a ∧ (∀ x ∈ l, r ≤ c x) ∧ (r = a ∨ ∃ x ∈ l, r = c x) :=
  foldl_max_spec (γ := γᵒᵈ) c l a

end GoNeat.Spec.Act
