/-
  Population-level helper lemmas for property C03: one offspring (`reproduceOne`) and the reproduction of all species
  keep the invariant `Inv` for the registry and the growing history of genomes, and every number a baby carries is one
  its generation started with or lies above the counters of the generation start; the whole epoch is `C03.epoch_inv`
  (Props/C03.lean).
-/
import GoNeat.Proofs.RegistrySteps
import GoNeat.Proofs.CopyBinds
import GoNeat.Proofs.MaxFrom
import GoNeat.Proofs.ReproCases
import GoNeat.Proofs.EpochFrame

set_option linter.unusedSectionVars false

namespace GoNeat.C03
open GoNeat Scalar
variable {W : Type} [Scalar W]

def Ext (H H' : List (Genome W)) : Prop := ∃ e, H' = e ++ H
theorem Ext.refl (H : List (Genome W)) : Ext H H := ⟨[], rfl⟩
theorem Ext.trans {a b c : List (Genome W)} (h1 : Ext a b) (h2 : Ext b c) : Ext a c := by
  obtain ⟨e1, rfl⟩ := h1; obtain ⟨e2, rfl⟩ := h2; exact ⟨e2 ++ e1, by simp⟩
theorem Ext.cons (g : Genome W) (H : List (Genome W)) : Ext H (g :: H) := ⟨[g], rfl⟩

theorem binds_append (a b : List (Genome W)) : binds (a ++ b) = binds a ++ binds b := by simp [binds]
theorem roles_append (a b : List (Genome W)) : roles (a ++ b) = roles a ++ roles b := by simp [roles]

def AllB (φ : Bind → Prop) (ψ : Role → Prop) (g : Genome W) : Prop := (∀ b ∈ gb g, φ b) ∧ (∀ r ∈ gr g, ψ r)

def GenomeIn (H : List (Genome W)) (g : Genome W) : Prop := AllB (· ∈ binds H) (· ∈ roles H) g

/-- every binding of `g` was held when the generation started (history `H0`) or lies above the counters `(bi, bn)` the
    generation started with -/
def FreshG (bi bn : Int) (H0 : List (Genome W)) (g : Genome W) : Prop :=
  AllB (fun b => b ∈ binds H0 ∨ bi < b.1) (fun r => r ∈ roles H0 ∨ bn < r.1) g

theorem AllB.same {φ : Bind → Prop} {ψ : Role → Prop} {g g' : Genome W} (h : AllB φ ψ g) (hs : SameBinds g g') : AllB φ ψ g' :=
  ⟨fun b hb => h.1 b (hs.1 ▸ hb), fun r hr => h.2 r (hs.2 ▸ hr)⟩

theorem GenomeIn.mono {H H' : List (Genome W)} {g : Genome W} (h : GenomeIn H g) (he : Ext H H') : GenomeIn H' g := by
  obtain ⟨e, rfl⟩ := he
  exact ⟨fun b hb => by rw [binds_append]; exact List.mem_append_right _ (h.1 b hb),
         fun r hr => by rw [roles_append]; exact List.mem_append_right _ (h.2 r hr)⟩

theorem GenomeIn.of_mem {H : List (Genome W)} {g : Genome W} (h : g ∈ H) : GenomeIn H g :=
  ⟨binds_of_mem h, roles_of_mem h⟩

theorem GenomeIn.fresh {H0 : List (Genome W)} {g : Genome W} (h : GenomeIn H0 g) (bi bn : Int) : FreshG bi bn H0 g :=
  ⟨fun b hb => .inl (h.1 b hb), fun r hr => .inl (h.2 r hr)⟩

theorem Inv.add_in {reg : Reg W} {H : List (Genome W)} (h : Inv reg H) {g : Genome W} (hg : GenomeIn H g) : Inv reg (g :: H) :=
  h.add_copy g hg.1 hg.2

theorem Keeps.of_same {g g' : Genome W} (reg : Reg W) (h : SameBinds g g') : Keeps g reg g' reg :=
  fun _ _ _ _ hI => by rw [h.1, h.2]; exact hI

theorem _root_.GoNeat.Grown.keeps {o : MutOpts W} {g0 g1 : Genome W} {reg reg1 : Reg W} (h : Grown o g0 reg g1 reg1) :
    Keeps g0 reg g1 reg1 := by
  obtain ⟨gm, hs, hp⟩ := h
  have k1 : Keeps g0 reg gm reg1 := by
    cases hs with
    | none hg hr => rw [hg, hr]; exact .refl _ _
    | node b rs rs' h => exact mutateAddNode_keeps h
    | link b rs rs' h => exact mutateAddLink_keeps h
    | sensors b rs rs' h => exact mutateConnectSensors_keeps h
  refine k1.trans (.of_same reg1 ?_)
  cases hp with
  | none hg => rw [hg]; exact .refl _
  | weights power rate mt rs rs' h => exact (parametric_sameBinds _ _ o _ _ _ 0 _ _).1 h
  | all rs rs' h => exact mutateAllNonstructural_sameBinds _ _ _ _ _ h

theorem Keeps.rinv {g0 g1 : Genome W} {reg reg1 : Reg W} (hk : Keeps g0 reg g1 reg1) {H H0 : List (Genome W)} {bi bn : Int}
    (hinv : Inv reg H) (hgen : GenInv bi bn reg) (hin : GenomeIn H g0) (hfr : FreshG bi bn H0 g0) :
    Inv reg1 (g1 :: H) ∧ GenInv bi bn reg1 ∧ FreshG bi bn H0 g1 ∧ reg.nextInn ≤ reg1.nextInn ∧ reg.nextNode ≤ reg1.nextNode := by
  obtain ⟨a, b, c, _, e, f⟩ := hk.fresh hgen hfr.1 hfr.2
  exact ⟨hk.inv hinv hin.1 hin.2, a, ⟨e, f⟩, b, c⟩

structure Parents (H0 : List (Genome W)) (s : Species W) (sorted : List (Species W)) (champ : Org W) : Prop where
  own : ∀ org ∈ s.orgs, GenomeIn H0 org.genome
  others : ∀ sp ∈ sorted, ∀ org ∈ sp.orgs, GenomeIn H0 org.genome
  champ : GenomeIn H0 champ.genome

def CtrLe (a b : Reg W) : Prop := a.nextInn ≤ b.nextInn ∧ a.nextNode ≤ b.nextNode
theorem CtrLe.refl (a : Reg W) : CtrLe a a := ⟨Int.le_refl _, Int.le_refl _⟩
theorem CtrLe.trans {a b c : Reg W} (h1 : CtrLe a b) (h2 : CtrLe b c) : CtrLe a c :=
  ⟨Int.le_trans h1.1 h2.1, Int.le_trans h1.2 h2.2⟩

/-- what holds at every moment of the reproduction phase of the generation that started with history `H0` and counters
    `(bi, bn)`; `H` is the history so far -/
structure RInv (bi bn : Int) (H0 H : List (Genome W)) (reg : Reg W) (babies : List (Org W)) : Prop where
  ext : Ext H0 H
  inv : Inv reg H
  gen : GenInv bi bn reg
  babiesIn : ∀ b ∈ babies, GenomeIn H b.genome
  babiesFresh : ∀ b ∈ babies, FreshG bi bn H0 b.genome

theorem consistent_of_ext {H0 H : List (Genome W)} {reg : Reg W} (he : Ext H0 H) (h : Inv reg H) : ConsistentB (binds H0) := by
  obtain ⟨e, rfl⟩ := he
  intro a ha b hb
  refine h.genes a ?_ b ?_ <;> (rw [binds_append]; exact List.mem_append_right _ ‹_›)

theorem _root_.GoNeat.Source.genomeIn {s : Species W} {sorted : List (Species W)} {champ : Org W} {g0 : Genome W}
    (hs : Source s sorted champ g0) {H0 : List (Genome W)} (hp : Parents H0 s sorted champ) (hc : ConsistentB (binds H0)) :
    GenomeIn H0 g0 := by
  cases hs with
  | dup p id g0 hp' hdup =>
    have hin : GenomeIn H0 p.genome := by
      rcases hp' with rfl | hm
      · exact hp.champ
      · exact hp.own p hm
    obtain ⟨a, b⟩ := duplicate_binds _ _ _ hdup
    exact AllB.same hin ⟨a, b⟩
  | mate mom dad g0 id rs rs' hm hd hmate =>
    have hmom := hp.own mom hm
    have hdad : GenomeIn H0 dad.genome := by
      rcases hd with hd | ⟨sp, hsp, hd⟩
      · exact hp.own dad hd
      · exact hp.others sp hsp dad hd
    obtain ⟨m1, m2, m3⟩ := mate_from hc mom.genome dad.genome id mom.originalFitness dad.originalFitness rs rs' g0
      hmom.1 hmom.2 hdad.1 hdad.2
    rcases hmate with h | h | h
    · exact m1 h
    · exact m2 h
    · exact m3 h

/-- `acc` are the babies of the species that reproduced before -/
theorem reproduceOne_rinv_acc (acc : List (Org W)) {o : EpochOpts W} {gen : Int} {s : Species W} {sorted : List (Species W)}
    {champ : Org W} {count : Int} {st st' : ReproState W} {rs rs' : List Nat} {bi bn : Int} {H0 H : List (Genome W)}
    (hp : Parents H0 s sorted champ) (hr : RInv bi bn H0 H st.reg (acc ++ st.babies))
    (h : reproduceOne o gen s sorted champ count st rs = .ok (st', rs')) :
    ∃ H', RInv bi bn H0 H' st'.reg (acc ++ st'.babies) ∧ Ext H H' ∧ CtrLe st.reg st'.reg := by
  obtain ⟨g0, g1, hsrc, hgrown, _, _, _, _, hbab, _⟩ := reproduceOne_baby h
  have hin0 := hsrc.genomeIn hp (consistent_of_ext hr.ext hr.inv)
  obtain ⟨hinv', hgen', hfr', hm1, hm2⟩ := hgrown.keeps.rinv hr.inv hr.gen (hin0.mono hr.ext) (hin0.fresh bi bn)
  refine ⟨g1 :: H, ⟨hr.ext.trans (.cons _ _), hinv', hgen', ?_, ?_⟩, .cons _ _, ⟨hm1, hm2⟩⟩
  · intro x hx
    rw [hbab, ← List.append_assoc] at hx
    rcases List.mem_append.mp hx with hx | hx
    · exact (hr.babiesIn x hx).mono (.cons _ _)
    · rw [List.mem_singleton.mp hx]
      exact .of_mem List.mem_cons_self
  · intro x hx
    rw [hbab, ← List.append_assoc] at hx
    rcases List.mem_append.mp hx with hx | hx
    · exact hr.babiesFresh x hx
    · rw [List.mem_singleton.mp hx]
      exact hfr'

theorem reproduceOne_rinv (o : EpochOpts W) (gen : Int) (s : Species W) (sorted : List (Species W)) (champ : Org W)
    (count : Int) (st st' : ReproState W) (rs rs' : List Nat) {bi bn : Int} {H0 H : List (Genome W)}
    (hp : Parents H0 s sorted champ) (hr : RInv bi bn H0 H st.reg st.babies)
    (h : reproduceOne o gen s sorted champ count st rs = .ok (st', rs')) :
    ∃ H', RInv bi bn H0 H' st'.reg st'.babies ∧ Ext H H' ∧ CtrLe st.reg st'.reg :=
  reproduceOne_rinv_acc [] hp hr h

theorem reproduceAll_rinv (o : EpochOpts W) (gen : Int) (sorted ss : List (Species W)) (reg reg' : Reg W)
    (uid uid' : Nat) (babies bs : List (Org W)) (rs rs' : List Nat) {bi bn : Int} {H0 H : List (Genome W)}
    (hss : ∀ sp ∈ ss, ∀ org ∈ sp.orgs, GenomeIn H0 org.genome) (hoth : ∀ sp ∈ sorted, ∀ org ∈ sp.orgs, GenomeIn H0 org.genome)
    (hr : RInv bi bn H0 H reg babies)
    (h : reproduceAll o gen sorted ss reg uid babies rs = .ok ((bs, reg', uid'), rs')) :
    ∃ H', RInv bi bn H0 H' reg' bs ∧ Ext H H' ∧ CtrLe reg reg' := by
  refine reproduceAll_lift (I := fun r _ l => ∃ H', RInv bi bn H0 H' r l ∧ Ext H H' ∧ CtrLe reg r) ?_ h ⟨H, hr, .refl _, .refl _⟩
  intro s hs champ hc acc count st rs st' rs' ⟨H1, hr1, he1, hc1⟩ hone
  obtain ⟨H2, hr2, he2, hc2⟩ :=
    reproduceOne_rinv_acc acc ⟨hss s hs, hoth, hss s hs champ (List.mem_of_mem_head? hc)⟩ hr1 hone
  exact ⟨H2, hr2, he1.trans he2, hc1.trans hc2⟩

def GenomesFrom (ss ss' : List (Species W)) : Prop :=
  ∀ s' ∈ ss', ∀ o' ∈ s'.orgs, ∃ s ∈ ss, ∃ o ∈ s.orgs, SameBinds o.genome o'.genome

theorem GenomesFrom.refl (ss : List (Species W)) : GenomesFrom ss ss := fun s hs o ho => ⟨s, hs, o, ho, .refl _⟩
def AllOrgs (φ : Bind → Prop) (ψ : Role → Prop) (ss : List (Species W)) : Prop := ∀ s ∈ ss, ∀ o ∈ s.orgs, AllB φ ψ o.genome

theorem AllOrgs.from {φ : Bind → Prop} {ψ : Role → Prop} {ss ss' : List (Species W)} (h : AllOrgs φ ψ ss) (hf : GenomesFrom ss ss') :
    AllOrgs φ ψ ss' := by
  intro s' hs' o' ho'
  obtain ⟨s, hs, o, ho, e⟩ := hf s' hs' o' ho'
  exact (h s hs o ho).same e

def Covered (H : List (Genome W)) (ss : List (Species W)) : Prop := AllOrgs (· ∈ binds H) (· ∈ roles H) ss

theorem Covered.mono {H H' : List (Genome W)} {ss : List (Species W)} (h : Covered H ss) (he : Ext H H') : Covered H' ss :=
  fun s hs o ho => GenomeIn.mono (h s hs o ho) he

theorem go_mem {α} (less : α → α → Bool) (x : α) (revLeft acc : List α) :
    ∀ y ∈ goInsertionSort.go less x revLeft acc, y = x ∨ y ∈ revLeft ∨ y ∈ acc :=
  fun y hy => by simpa using (goInsertionSort_go_perm less x revLeft acc).mem_iff.mp hy

theorem speciateLoop_all {φ : Bind → Prop} {ψ : Role → Prop} (o : EpochOpts W) (p p' : Pop W) (orgs : List (Org W))
    (h : speciateLoop o p orgs = .ok p') (hc : AllOrgs φ ψ p.species) (ho : ∀ x ∈ orgs, AllB φ ψ x.genome) :
    AllOrgs φ ψ p'.species ∧ p'.reg = p.reg := by
  obtain ⟨hp, _, _, hr⟩ := speciateLoop_perm h
  refine ⟨fun s' hs' x hx => ?_, hr⟩
  rcases List.mem_append.mp (hp.mem_iff.mp (mem_orgsOf.mpr ⟨s', hs', hx⟩)) with h1 | h1
  · exact ho x h1
  · obtain ⟨s, hs, hxs⟩ := mem_orgsOf.mp h1
    exact hc s hs x hxs

theorem inv_of_norec {reg : Reg W} {H : List (Genome W)} (hrec : reg.records = []) (hc : ConsistentGenes H)
    (hr : ConsistentRoles H) (hi : ∀ b ∈ binds H, b.1 ≤ reg.nextInn) (hn : ∀ r ∈ roles H, r.1 ≤ reg.nextNode) : Inv reg H :=
  { genes := hc, roles := hr,
    compat := { recs := fun i hi => by simp [hrec] at hi, innsNodup := by simp [regInns_def, hrec],
                nodesNodup := by simp [regNodes_def, hrec] },
    above := { inns := hi, ids := hn, recInns := fun k hk => by simp [regInns_def, hrec] at hk,
               recNodes := fun k hk => by simp [regNodes_def, hrec] at hk } }

theorem Inv.clear {reg : Reg W} {H : List (Genome W)} (h : Inv reg H) : Inv ({ reg with records := [] } : Reg W) H :=
  inv_of_norec rfl h.genes h.roles h.above.inns h.above.ids

def AllFresh (bi bn : Int) (H0 : List (Genome W)) (ss : List (Species W)) : Prop :=
  AllOrgs (fun b => b ∈ binds H0 ∨ bi < b.1) (fun r => r ∈ roles H0 ∨ bn < r.1) ss

theorem Covered.allFresh {H0 : List (Genome W)} {ss : List (Species W)} (h : Covered H0 ss) (bi bn : Int) : AllFresh bi bn H0 ss :=
  fun s hs o ho => GenomeIn.fresh (h s hs o ho) bi bn

/-- the C03 state of a population between generations: invariant for its registry and the history, every organism in
    the history, no records -/
structure PopC03 (H : List (Genome W)) (p : Pop W) : Prop where
  inv : Inv p.reg H
  cov : Covered H p.species
  norec : p.reg.records = []

def OF (s s' : Species W) : Prop := ∀ o' ∈ s'.orgs, ∃ o ∈ s.orgs, o'.genome = o.genome
def SF (ss ss' : List (Species W)) : Prop := ∀ s' ∈ ss', ∃ s ∈ ss, OF s s'

theorem OF.refl (s : Species W) : OF s s := fun o ho => ⟨o, ho, rfl⟩
theorem SF.modify {ss : List (Species W)} (f : Species W → Species W) (i : Nat) (h : ∀ s, OF s (f s)) : SF ss (ss.modify i f) := by
  intro s' hs'
  rcases mem_modify f ss i s' hs' with h1 | ⟨y, hy, rfl⟩
  · exact ⟨s', h1, .refl _⟩
  · exact ⟨y, hy, h y⟩

theorem prepare_from (o : EpochOpts W) (p p1 : Pop W) (ex : ExecState) (rs rs1 : List Nat)
    (h : prepareForReproduction o p rs = .ok ((p1, ex), rs1)) : GenomesFrom p.species p1.species ∧ p1.reg = p.reg := by
  obtain ⟨hreg, _, _, _, _, hmem⟩ := prepare_members prepKey_uid_genome h
  refine ⟨fun s' hs' o' ho' => ?_, hreg⟩
  obtain ⟨s, hs, _, hall⟩ := hmem s' hs'
  obtain ⟨_, y, hy, e⟩ := hall o' ho'
  have e : o'.genome = y.genome := congrArg Prod.snd e
  exact ⟨s, hs, y, hy, e ▸ .refl _⟩

theorem inv_of_counters (gs : List (Genome W)) (nextInn nextNode : Int) (hc : ConsistentGenes gs) (hr : ConsistentRoles gs)
    (hi : ∀ g ∈ gs, ∀ x ∈ g.genes, x.inn ≤ nextInn) (hn : ∀ g ∈ gs, ∀ n ∈ g.nodes, n.id ≤ nextNode) :
    Inv ({ records := [], nextInn := nextInn, nextNode := nextNode } : Reg W) gs := by
  refine inv_of_norec rfl hc hr (fun b hb => ?_) (fun r hr' => ?_)
  · obtain ⟨g, hg, hb⟩ := List.mem_flatMap.mp hb
    obtain ⟨x, hx, rfl⟩ := List.mem_map.mp hb
    exact hi g hg x hx
  · obtain ⟨g, hg, hr'⟩ := List.mem_flatMap.mp hr'
    obtain ⟨x, hx, rfl⟩ := List.mem_map.mp hr'
    exact hn g hg x hx

theorem spawnLoop_same (g : Genome W) (n : Nat) (count : Int) (uid : Nat) (rs rs' : List Nat) (orgs : List (Org W))
    (h : spawnLoop g n count uid rs = .ok (orgs, rs')) : ∀ org ∈ orgs, SameBinds g org.genome := by
  refine spawnLoop_induct (fun _ _ _ l => ∀ org ∈ l, SameBinds g org.genome) (fun _ _ _ hx => nomatch hx) ?_ h
  intro _ _ _ d d' rs0 rs1 _ hd hw ih org horg
  rcases List.mem_cons.mp horg with rfl | horg
  · obtain ⟨a, b⟩ := duplicate_binds _ _ _ hd
    exact SameBinds.trans ⟨a, b⟩ ((parametric_sameBinds d d' ⟨zero, 0, [], [], zero, zero, zero, zero, zero, zero, zero, zero, zero⟩ one one .gaussian 0 rs0 rs1).1 hw)
  · exact ih org horg

theorem readStep_ge (c : Int × Int) (ln ni : Int) :
    c.1 ≤ (readStep c ln ni).1 ∧ c.2 ≤ (readStep c ln ni).2 ∧ ln ≤ (readStep c ln ni).1 ∧ ni ≤ (readStep c ln ni).2 := by
  unfold readStep
  refine ⟨?_, ?_, ?_, ?_⟩ <;> (simp only; split <;> omega)

/-- one walk over the genomes read: the counters never fall below their start `c`, and end at or above every node id and
    innovation number read.  The accessors `getLastNodeId` / `getNextGeneInnovNum` take the maximum (goNEAT fix 48b1f99),
    so no ordering of the genomes read is needed -/
theorem readCounters_bounds (gs : List (Genome W)) (c : Int × Int) (hok : ∀ g ∈ gs, g.nodes ≠ [] ∧ g.genes ≠ []) :
    (c.1 ≤ (readCounters gs c).1 ∧ c.2 ≤ (readCounters gs c).2) ∧
    ∀ g ∈ gs, (∀ n ∈ g.nodes, n.id ≤ (readCounters gs c).1) ∧ (∀ x ∈ g.genes, x.inn ≤ (readCounters gs c).2) := by
  induction gs generalizing c with
  | nil => exact ⟨⟨Int.le_refl _, Int.le_refl _⟩, fun g hg => nomatch hg⟩
  | cons g0 gs ih =>
    obtain ⟨ln, hln⟩ := g0.lastNodeId_ok (hok g0 List.mem_cons_self).1
    obtain ⟨ni, hni⟩ := g0.nextGeneInnov_ok (hok g0 List.mem_cons_self).2
    have e : readCounters (g0 :: gs) c = readCounters gs (readStep c ln ni) := by rw [readCounters, hln, hni]
    obtain ⟨s1, s2, s3, s4⟩ := readStep_ge c ln ni
    obtain ⟨⟨m1, m2⟩, hrest⟩ := ih (readStep c ln ni) (tl hok)
    rw [e]
    refine ⟨⟨Int.le_trans s1 m1, Int.le_trans s2 m2⟩, fun g hg => ?_⟩
    rcases List.mem_cons.mp hg with rfl | hg
    · exact ⟨fun n hn => by have := Genome.lastNodeId_ge _ _ hln n hn; omega,
             fun x hx => by have := Genome.nextGeneInnov_gt _ _ hni x hx; omega⟩
    · exact hrest g hg

theorem readCounters_above (gs : List (Genome W)) (c : Int × Int)
    (hok : ∀ g ∈ gs, g.nodes ≠ [] ∧ g.genes ≠ []) :
    ∀ g ∈ gs, (∀ n ∈ g.nodes, n.id ≤ (readCounters gs c).1) ∧ (∀ x ∈ g.genes, x.inn ≤ (readCounters gs c).2) :=
  (readCounters_bounds gs c hok).2

theorem randomCounters_above (nIn nOut mH : Int) (g : Genome W) (h : RandShape nIn nOut mH g) :
    (∀ n ∈ g.nodes, n.id ≤ (randomCounters nIn nOut mH).1) ∧ (∀ x ∈ g.genes, x.inn ≤ (randomCounters nIn nOut mH).2) := by
  unfold randomCounters
  exact ⟨fun n hn => by have := h.2 n hn; simp only; omega, fun x hx => by have := h.1 x hx; simp only; omega⟩

/-- `n` consecutive epochs of the sequential executor (generation numbers `gen`, `gen+1`, …) -/
def runEpochs (o : EpochOpts W) : Nat → Int → Pop W → Rand (Pop W)
  | 0, _, p, rs => .ok (p, rs)
  | n + 1, gen, p, rs =>
    match nextEpoch o gen p rs with
    | .error e => .error e
    | .ok (p', rs') => runEpochs o n (gen + 1) p' rs'

end GoNeat.C03
