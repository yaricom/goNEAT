/-
  One turnover at the level of organisms.  Speciation files every arrival exactly once: the organisms of the species
  lists afterwards are a permutation of the arrivals and the former members (`speciateLoop_perm`).  Finalisation is an
  equation: remove who is listed in `organisms`, then renumber the genome ids (`orgsOf_finalize`).  So when every old
  member is listed and no baby is, the new generation is the babies, in some order, renumbered (`join_babies`, `NewGen`);
  without that hypothesis every new organism is a baby or an unlisted old member (`join_from`).  `Renewal` names the
  stages of one turnover after the preparation phase, `prepare_members` is the preparation phase member by member.
-/
import GoNeat.Proofs.EpochSteps
import GoNeat.Props.C08
import GoNeat.Proofs.PrepareStages
import GoNeat.Proofs.ReproCases

namespace GoNeat
open Scalar
variable {W : Type} [Scalar W] {κ : Type}

/-- the organisms of a species list, species by species (`C01.allOrgs p` is `orgsOf p.species`: `C01.allOrgs_eq`; the loops below
    run over species lists, not populations) -/
def orgsOf (ss : List (Species W)) : List (Org W) := ss.flatMap (·.orgs)

namespace C01
def allOrgs (p : Pop W) : List (Org W) := p.species.flatMap (·.orgs)

omit [Scalar W] in
theorem allOrgs_eq (p : Pop W) : allOrgs p = orgsOf p.species := rfl
end C01

namespace C02

def orgUids (ss : List (Species W)) : List Nat := ss.flatMap (fun s => s.orgs.map (·.uid))

omit [Scalar W] in
theorem orgUids_eq (ss : List (Species W)) : orgUids ss = (orgsOf ss).map (·.uid) := (List.map_flatMap ..).symm

/-- allocation discipline: every organism listed by a species is in the population's organism list, and the
    allocation counter is above every id in that list -/
structure UidInv (p : Pop W) : Prop where
  listed : ∀ u ∈ orgUids p.species, u ∈ p.organisms
  below : ∀ u ∈ p.organisms, u < p.nextUid

end C02

namespace C08
/-- the species list `reproducePhase` mates across (the executor's sorted list, resolved in the prepared population) -/
def sortedOf (ex : ExecState) (p1 : Pop W) : List (Species W) :=
  ex.sortedIds.filterMap (fun i => p1.species.find? (·.id == i))
end C08

omit [Scalar W] in
theorem mem_orgsOf {ss : List (Species W)} {x : Org W} : x ∈ orgsOf ss ↔ ∃ s ∈ ss, x ∈ s.orgs := List.mem_flatMap

omit [Scalar W] in
theorem orgsOf_cons (s : Species W) (ss : List (Species W)) : orgsOf (s :: ss) = s.orgs ++ orgsOf ss := List.flatMap_cons

omit [Scalar W] in
theorem orgsOf_append (a b : List (Species W)) : orgsOf (a ++ b) = orgsOf a ++ orgsOf b := List.flatMap_append

/-- rewrite every organism where it stands: what an evaluator that only assigns values does (`Experiment.fitnessEval`,
    `C10.setFitness`) -/
def mapOrgs (u : Org W → Org W) (p : Pop W) : Pop W :=
  { p with species := p.species.map (fun s => { s with orgs := s.orgs.map u }) }

omit [Scalar W] in
theorem orgsOf_mapOrgs (u : Org W → Org W) (p : Pop W) : orgsOf (mapOrgs u p).species = (orgsOf p.species).map u := by
  simp only [mapOrgs, orgsOf, List.flatMap_map, List.map_flatMap]

/-- the organism without its genome id: all that the renumbering at the end of an epoch writes -/
def noId (x : Org W) : Org W := { x with genome := { x.genome with id := 0 } }

omit [Scalar W] in
theorem orgsOf_modify_append (ss : List (Species W)) (i : Nat) (org : Org W) (h : i < ss.length) :
    (orgsOf (ss.modify i (fun s => { s with orgs := s.orgs ++ [org] }))).Perm (org :: orgsOf ss) := by
  induction ss generalizing i with
  | nil => cases h
  | cons s ss ih =>
    cases i with
    | zero =>
      rw [List.modify_zero_cons, orgsOf_cons, orgsOf_cons, List.append_assoc]
      exact List.perm_middle
    | succ i =>
      rw [List.modify_succ_cons, orgsOf_cons, orgsOf_cons]
      exact ((ih i (Nat.lt_of_succ_lt_succ h)).append_left s.orgs).trans List.perm_middle

theorem speciateOne_perm {o : EpochOpts W} {p p' : Pop W} {org : Org W} (h : speciateOne o p org = .ok p') :
    (orgsOf p'.species).Perm (org :: orgsOf p.species) ∧ p'.organisms = p.organisms ∧ p'.nextUid = p.nextUid ∧ p'.reg = p.reg := by
  rcases speciateOne_ok h with ⟨i, ⟨_, hb⟩, rfl⟩ | ⟨s, _, _, _, hs, _, rfl⟩
  · rw [C08.bestCompatible_eq_scan] at hb
    rcases C08.scan_within _ _ _ _ _ _ hb with h0 | ⟨_, c, hc, _⟩
    · cases h0
    · have hi := (List.getElem?_eq_some_iff.mp hc).1
      rw [C08.dists, List.length_map] at hi
      exact ⟨orgsOf_modify_append _ _ _ hi, rfl, rfl, rfl⟩
  · refine ⟨?_, rfl, rfl, rfl⟩
    rw [orgsOf_append, orgsOf_cons, hs]
    exact List.perm_append_comm

theorem speciateLoop_perm {o : EpochOpts W} {p p' : Pop W} {orgs : List (Org W)} (h : speciateLoop o p orgs = .ok p') :
    (orgsOf p'.species).Perm (orgs ++ orgsOf p.species) ∧ p'.organisms = p.organisms ∧ p'.nextUid = p.nextUid ∧ p'.reg = p.reg := by
  refine speciateLoop_induct (fun done q => (orgsOf q.species).Perm (done ++ orgsOf p.species) ∧ q.organisms = p.organisms ∧
    q.nextUid = p.nextUid ∧ q.reg = p.reg) ?_ (done := []) ⟨.refl _, rfl, rfl, rfl⟩ h
  intro done q org q' ⟨hp, ho, hu, hr⟩ h1
  obtain ⟨h1, h2, h3, h4⟩ := speciateOne_perm h1
  refine ⟨?_, h2.trans ho, h3.trans hu, h4.trans hr⟩
  rw [List.append_assoc]
  exact (h1.trans (hp.cons org)).trans List.perm_middle.symm

omit [Scalar W] in
theorem renumber_noId (l : List (Org W)) (c : Int) : (renumber l c).map noId = l.map noId := by
  induction l generalizing c with
  | nil => rfl
  | cons x xs ih => simp only [renumber, List.map_cons, ih]; rfl

omit [Scalar W] in
theorem renumber_map {k : Org W → κ} (hk : ∀ x, k (noId x) = k x) (l : List (Org W)) (c : Int) : (renumber l c).map k = l.map k := by
  rw [← map_map_of k _ noId hk, renumber_noId, map_map_of k _ noId hk]

omit [Scalar W] in
theorem orgsOf_purgeOrAgeLoop (ss : List (Species W)) (c : Int) : orgsOf (purgeOrAgeLoop ss c) = renumber (orgsOf ss) c := by
  induction ss generalizing c with
  | nil => rfl
  | cons s ss ih =>
    unfold purgeOrAgeLoop
    split
    · rename_i he
      rw [ih, orgsOf_cons, List.isEmpty_iff.mp he, List.nil_append]
    · rw [orgsOf_cons, orgsOf_cons, renumber_append, ih]

omit [Scalar W] in
theorem orgsOf_purgeOld (p : Pop W) :
    orgsOf (purgeOldGeneration p).species = (orgsOf p.species).filter (fun x => !p.organisms.contains x.uid) := by
  simp only [purgeOldGeneration, orgsOf, List.flatMap_map, List.filter_flatMap]

omit [Scalar W] in
/-- finalisation keeps the organisms that `organisms` does not list, in order, numbers their genomes `0, 1, …`, and rebuilds
    `organisms` from them -/
theorem orgsOf_finalize (p : Pop W) :
    orgsOf (finalizeReproduction p).species = renumber ((orgsOf p.species).filter (fun x => !p.organisms.contains x.uid)) 0 ∧
    (finalizeReproduction p).organisms = (orgsOf (finalizeReproduction p).species).map (·.uid) :=
  ⟨(orgsOf_purgeOrAgeLoop _ 0).trans (congrArg (renumber · 0) (orgsOf_purgeOld p)), (List.map_flatMap ..).symm⟩

omit [Scalar W] in
/-- The proof takes `Org` and `Genome` apart field by field (the anonymous-constructor patterns list every field): a field
    added to either structure breaks it here. -/
theorem eq_of_noId {x y : Org W} (h : noId y = noId x) : x = { y with genome := { y.genome with id := x.genome.id } } := by
  obtain ⟨_, _, gx, _⟩ := x
  obtain ⟨_, _, gy, _⟩ := y
  obtain ⟨_, _, _, _, _⟩ := gx
  obtain ⟨_, _, _, _, _⟩ := gy
  simp only [noId, Org.mk.injEq, Genome.mk.injEq, true_and] at h
  obtain ⟨rfl, rfl, ⟨rfl, rfl, rfl, rfl⟩, rfl, rfl, rfl, rfl, rfl, rfl, rfl, rfl, rfl, rfl, rfl⟩ := h
  rfl

theorem join_orgs {o : EpochOpts W} {q p2 : Pop W} {babies : List (Org W)} (hsp : speciateLoop o q babies = .ok p2) :
    ∃ l : List (Org W), l.Perm (babies ++ orgsOf q.species) ∧
      orgsOf (finalizeReproduction p2).species = renumber (l.filter (fun x => !q.organisms.contains x.uid)) 0 := by
  obtain ⟨hp, ho, _⟩ := speciateLoop_perm hsp
  exact ⟨_, hp, ho ▸ (orgsOf_finalize p2).1⟩

theorem join_from {o : EpochOpts W} {q p2 : Pop W} {babies : List (Org W)} (hsp : speciateLoop o q babies = .ok p2) :
    ∀ x ∈ orgsOf (finalizeReproduction p2).species, ∃ y, (y ∈ babies ∨ y ∈ orgsOf q.species ∧ y.uid ∉ q.organisms) ∧
      x = { y with genome := { y.genome with id := x.genome.id } } := by
  obtain ⟨l, hl, e⟩ := join_orgs hsp
  intro x hx
  rw [e] at hx
  obtain ⟨y, hy, hxy⟩ := renumber_mem hx
  obtain ⟨hyl, hnew⟩ := List.mem_filter.mp hy
  refine ⟨y, ?_, hxy⟩
  rcases List.mem_append.mp (hl.mem_iff.mp hyl) with hb | ho
  · exact .inl hb
  · exact .inr ⟨ho, by simpa using hnew⟩

theorem join_fields {o : EpochOpts W} {q p2 : Pop W} {babies : List (Org W)} (hsp : speciateLoop o q babies = .ok p2) :
    (finalizeReproduction p2).reg = { q.reg with records := [] } ∧ (finalizeReproduction p2).nextUid = q.nextUid ∧
    (finalizeReproduction p2).organisms = (orgsOf (finalizeReproduction p2).species).map (·.uid) := by
  obtain ⟨_, _, hu, hr⟩ := speciateLoop_perm hsp
  exact ⟨by rw [← hr]; rfl, hu, (orgsOf_finalize p2).2⟩

theorem join_babies {o : EpochOpts W} {q p2 : Pop W} {babies : List (Org W)}
    (hlisted : ∀ x ∈ orgsOf q.species, x.uid ∈ q.organisms) (hfresh : ∀ b ∈ babies, b.uid ∉ q.organisms)
    (hsp : speciateLoop o q babies = .ok p2) :
    ∃ l : List (Org W), l.Perm babies ∧ orgsOf (finalizeReproduction p2).species = renumber l 0 := by
  obtain ⟨l, hl, e⟩ := join_orgs hsp
  refine ⟨_, (hl.filter _).trans (List.Perm.of_eq ?_), e⟩
  rw [List.filter_append, List.filter_eq_self.mpr (fun b hb => by simpa using hfresh b hb),
    List.filter_eq_nil_iff.mpr (fun x hx => by simpa using hlisted x hx), List.append_nil]

def NewGen (babies orgs' : List (Org W)) : Prop := (orgs'.map noId).Perm (babies.map noId)

omit [Scalar W] in
theorem NewGen.of_renumber {babies l : List (Org W)} (hl : l.Perm babies) : NewGen babies (renumber l 0) := by
  rw [NewGen, renumber_noId]
  exact hl.map noId

omit [Scalar W] in
theorem NewGen.map {babies orgs' : List (Org W)} (h : NewGen babies orgs') {k : Org W → κ} (hk : ∀ x, k (noId x) = k x) :
    (orgs'.map k).Perm (babies.map k) := by
  have := List.Perm.map k h
  rwa [map_map_of k _ noId hk, map_map_of k _ noId hk] at this

omit [Scalar W] in
theorem NewGen.bwd {babies orgs' : List (Org W)} (h : NewGen babies orgs') {x : Org W} (hx : x ∈ orgs') :
    ∃ b ∈ babies, x = { b with genome := { b.genome with id := x.genome.id } } := by
  obtain ⟨b, hb, e⟩ := List.mem_map.mp ((List.Perm.mem_iff h).mp (List.mem_map_of_mem hx))
  exact ⟨b, hb, eq_of_noId e⟩

omit [Scalar W] in
theorem NewGen.fwd {babies orgs' : List (Org W)} (h : NewGen babies orgs') {b : Org W} (hb : b ∈ babies) :
    ∃ x ∈ orgs', x = { b with genome := { b.genome with id := x.genome.id } } := by
  obtain ⟨x, hx, e⟩ := List.mem_map.mp ((List.Perm.mem_iff h).mpr (List.mem_map_of_mem hb))
  exact ⟨x, hx, eq_of_noId e.symm⟩

namespace C02

theorem reproduceOne_uid (o : EpochOpts W) (gen : Int) (s : Species W) (sorted : List (Species W)) (champ : Org W)
    (count : Int) (st st' : ReproState W) (rs rs' : List Nat)
    (h : reproduceOne o gen s sorted champ count st rs = .ok (st', rs')) :
    ∃ b, st'.babies = st.babies ++ [b] ∧ b.uid = st.nextUid ∧ st'.nextUid = st.nextUid + 1 := by
  obtain ⟨_, _, _, _, _, _, _, _, hb, hn⟩ := reproduceOne_baby h
  exact ⟨_, hb, rfl, hn⟩

theorem reproduceLoop_uids (o : EpochOpts W) (gen : Int) (s : Species W) (sorted : List (Species W)) (champ : Org W)
    (n : Nat) (count : Int) (st st' : ReproState W) (rs rs' : List Nat)
    (h : reproduceLoop o gen s sorted champ n count st rs = .ok (st', rs')) :
    st'.babies.map (·.uid) = st.babies.map (·.uid) ++ (List.range n).map (· + st.nextUid) ∧ st'.nextUid = st.nextUid + n := by
  -- `j` offspring made, `k` to go
  have key := reproduceLoop_induct (I := fun k t => ∃ j, j + k = n ∧
    t.babies.map (·.uid) = st.babies.map (·.uid) ++ (List.range j).map (· + st.nextUid) ∧ t.nextUid = st.nextUid + j) ?_ h
    ⟨0, Nat.zero_add n, by simp, rfl⟩
  · obtain ⟨j, rfl, e1, e2⟩ := key
    exact ⟨e1, e2⟩
  · rintro k count t rs t' rs' ⟨j, hj, e1, e2⟩ hone
    obtain ⟨b, hb, hu, hn⟩ := reproduceOne_uid _ _ _ _ _ _ _ _ _ _ hone
    refine ⟨j + 1, by omega, ?_, by omega⟩
    rw [hb, List.map_append, e1, List.range_succ, List.map_append, List.append_assoc, List.map_singleton, List.map_singleton,
      hu, e2, Nat.add_comm]

theorem reproduceSpecies_uids (o : EpochOpts W) (gen : Int) (s : Species W) (sorted : List (Species W)) (reg reg' : Reg W)
    (uid uid' : Nat) (babies : List (Org W)) (rs rs' : List Nat)
    (h : reproduceSpecies o gen s sorted reg uid rs = .ok ((babies, reg', uid'), rs')) :
    babies.map (·.uid) = (List.range babies.length).map (· + uid) ∧ uid' = uid + babies.length := by
  obtain ⟨champ, st, _, hloop, rfl, _, rfl⟩ := reproduceSpecies_ok h
  obtain ⟨h1, h2⟩ := reproduceLoop_uids _ _ _ _ _ _ _ _ _ _ _ hloop
  simp only [List.map_nil, List.nil_append] at h1
  have hlen : st.babies.length = s.expectedOffspring.toNat := by
    have := congrArg List.length h1; simpa using this
  rw [hlen]; exact ⟨h1, h2⟩

theorem reproduceAll_consecutive (o : EpochOpts W) (gen : Int) (sorted ss : List (Species W)) (reg reg' : Reg W) (uid uid' : Nat)
    (acc babies : List (Org W)) (rs rs' : List Nat)
    (h : reproduceAll o gen sorted ss reg uid acc rs = .ok ((babies, reg', uid'), rs')) :
    ∃ n, babies.map (·.uid) = acc.map (·.uid) ++ (List.range n).map (· + uid) ∧ babies.length = acc.length + n ∧
      uid' = uid + n := by
  refine reproduceAll_induct (I := fun _ _ u bs _ => ∃ n, bs.map (·.uid) = acc.map (·.uid) ++ (List.range n).map (· + uid) ∧
    bs.length = acc.length + n ∧ u = uid + n) ?_ h ⟨0, by simp, rfl, rfl⟩
  rintro s _ _ _ u a _ bs _ u1 _ ⟨n, e1, e2, rfl⟩ hs
  obtain ⟨hb1, rfl⟩ := reproduceSpecies_uids _ _ _ _ _ _ _ _ _ _ _ hs
  refine ⟨n + bs.length, ?_, by rw [List.length_append, e2]; omega, by omega⟩
  rw [List.map_append, e1, hb1, List.append_assoc, List.range_add, List.map_append, List.map_map]
  congr 2
  exact List.map_congr_left fun a _ => by simp only [Function.comp]; omega

end C02

/-- a key of organisms that the preparation phase cannot change: blind to the fitness values and marks `adjustFitness`
    writes, to the expected offspring, and to what `bareOrg` erases -/
structure PrepKey (k : Org W → κ) : Prop where
  adjust : ∀ (x : Org W) (f g : W) (c e : Bool),
    k { x with fitness := f, originalFitness := g, isChampion := c, toEliminate := e } = k x
  exp : ∀ (x : Org W) (v : W), k { x with expectedOffspring := v } = k x
  bare : ∀ x : Org W, k (bareOrg x) = k x

theorem prepKey_uid_genome : PrepKey (fun x : Org W => (x.uid, x.genome)) := ⟨fun _ _ _ _ _ => rfl, fun _ _ => rfl, fun _ => rfl⟩

/-- the preparation phase read member by member; unlike `prepare_bare` it needs no hypothesis on the species ids -/
theorem prepare_members {k : Org W → κ} (hk : PrepKey k) {o : EpochOpts W} {p p1 : Pop W} {ex : ExecState} {rs rs' : List Nat}
    (h : prepareForReproduction o p rs = .ok ((p1, ex), rs')) :
    p1.reg = p.reg ∧ p1.nextUid = p.nextUid ∧ p1.lastSpecies = p.lastSpecies ∧
    ∃ doomed : List Nat, p1.organisms = p.organisms.filter (fun u => !doomed.contains u) ∧
      ∀ s1 ∈ p1.species, ∃ s ∈ p.species, (s1.id = s.id ∧ s1.age = s.age ∧ s1.isNovel = s.isNovel) ∧
        ∀ x ∈ s1.orgs, doomed.contains x.uid = false ∧ ∃ y ∈ s.orgs, k x = k y := by
  obtain ⟨species1, best, tail, e, sorted2, ehlc, doomed, pre, hadj, hsorted, hred, hpre, _, _, hsp, ho1, hu, hl, hreg, _⟩ :=
    prepare_decomp o p p1 ex rs rs' h
  refine ⟨hreg, hu, hl, doomed, ho1, ?_⟩
  have hz := purgeZero_bare ({ p with species := species1 } : Pop W)
  have hperm := hred.perm_bare hsorted
  intro s1 hs1
  rw [hsp, hpre] at hs1
  obtain ⟨m, hm, rfl⟩ := List.mem_map.mp hs1
  have hmz : bare m ∈ (purgeZeroOffspringSpecies ({ p with species := species1 } : Pop W)).species.map bare := by
    rcases writeBack_mem _ _ m hm with hm | hm
    · exact List.mem_map_of_mem hm
    · exact hperm.mem_iff.mp (List.mem_map_of_mem hm)
  obtain ⟨sa', hsa', hb⟩ := List.mem_map.mp (hz.subset hmz)
  obtain ⟨sa, hsa, rfl⟩ := List.mem_map.mp hsa'
  obtain ⟨s, hs, ha⟩ := adjustAll_mem o _ _ hadj sa hsa
  have hkeys : m.id = s.id ∧ m.age = s.age ∧ m.isNovel = s.isNovel := by
    obtain ⟨_, _, _, rfl⟩ := adjustFitness_ok o s sa ha
    exact ⟨(congrArg Species.id hb).symm, (congrArg Species.age hb).symm, (congrArg Species.isNovel hb).symm⟩
  refine ⟨s, hs, hkeys, fun x hx => ?_⟩
  obtain ⟨hxm, hkeep⟩ := List.mem_filter.mp hx
  refine ⟨by simpa using hkeep, ?_⟩
  have e1 : m.orgs.map k = sa.orgs.map k := by
    rw [orgs_of_bare hk.bare hb.symm]
    exact map_map_of k _ _ (fun y => by unfold C09.setExp; split; rfl; exact hk.exp y _)
  obtain ⟨y, hy, e⟩ := List.mem_map.mp ((adjustFitness_perm hk.adjust o s sa ha).mem_iff.mp (e1 ▸ List.mem_map_of_mem hxm))
  exact ⟨y, hy, e.symm⟩

omit [Scalar W] in
theorem C08.sortedOf_sub (ex : ExecState) (p1 : Pop W) : ∀ sp ∈ C08.sortedOf ex p1, sp ∈ p1.species := by
  intro sp hsp
  obtain ⟨i, _, hi⟩ := List.mem_filterMap.mp hsp
  exact List.mem_of_find?_eq_some hi

/-- reproduction, speciation of the babies and finalisation, from the prepared population `p1` on, with the intermediate
    values: the `babies` with the registry `reg` and the allocation counter `uid` after them, the population `p2` after
    their speciation -/
structure Renewal (o : EpochOpts W) (gen : Int) (p1 : Pop W) (ex : ExecState) (rs1 : List Nat)
    (babies : List (Org W)) (reg : Reg W) (uid : Nat) (p2 p' : Pop W) (rs' : List Nat) : Prop where
  repro : reproduceAll o gen (C08.sortedOf ex p1) p1.species p1.reg p1.nextUid [] rs1 = .ok ((babies, reg, uid), rs')
  size : babies.length = o.popSize
  ne : babies ≠ []
  spec : speciateLoop o { p1 with reg := reg, nextUid := uid } babies = .ok p2
  fin : p' = finalizeReproduction p2

theorem reproducePhase_renewal {o : EpochOpts W} {gen : Int} {p1 p2 : Pop W} {ex : ExecState} {rs1 rs' : List Nat}
    (h : reproducePhase o gen p1 ex rs1 = .ok (p2, rs')) :
    ∃ babies reg uid, Renewal o gen p1 ex rs1 babies reg uid p2 (finalizeReproduction p2) rs' := by
  obtain ⟨babies, reg, uid, hall, hlen, hne, hsp⟩ := reproducePhase_ok h
  exact ⟨babies, reg, uid, hall, hlen, hne, hsp, rfl⟩

theorem nextEpoch_renewal {o : EpochOpts W} {gen : Int} {p p' : Pop W} {rs rs' : List Nat}
    (h : nextEpoch o gen p rs = .ok (p', rs')) :
    ∃ p1 ex rs1 babies reg uid p2, prepareForReproduction o p rs = .ok ((p1, ex), rs1) ∧
      Renewal o gen p1 ex rs1 babies reg uid p2 p' rs' := by
  obtain ⟨p1, ex, rs1, p2, hprep, hrep, rfl⟩ := nextEpoch_ok h
  obtain ⟨babies, reg, uid, t⟩ := reproducePhase_renewal hrep
  exact ⟨p1, ex, rs1, babies, reg, uid, p2, hprep, t⟩

namespace C02

theorem range_shift_nodup (n k : Nat) : ((List.range n).map (· + k)).Nodup :=
  nodup_map_range _ n (fun a b e => by simpa using e)

theorem block_perm {l : List Nat} {n k : Nat} (h : l.Perm ((List.range n).map (· + k))) :
    l.length = n ∧ l.Nodup ∧ ∀ u ∈ l, k ≤ u ∧ u < k + n := by
  refine ⟨by rw [h.length_eq, List.length_map, List.length_range], h.nodup_iff.mpr (range_shift_nodup _ _), fun u hu => ?_⟩
  obtain ⟨i, hi, rfl⟩ := List.mem_map.mp (h.mem_iff.mp hu)
  have := List.mem_range.mp hi
  omega

end C02

namespace Renewal
variable {o : EpochOpts W} {gen : Int} {p1 p2 p' : Pop W} {ex : ExecState} {rs1 rs' : List Nat} {babies : List (Org W)}
  {reg : Reg W} {uid : Nat}

theorem ids (t : Renewal o gen p1 ex rs1 babies reg uid p2 p' rs') :
    babies.map (·.uid) = (List.range o.popSize).map (· + p1.nextUid) ∧ uid = p1.nextUid + o.popSize := by
  obtain ⟨n, h1, h2, h3⟩ := C02.reproduceAll_consecutive _ _ _ _ _ _ _ _ _ _ _ _ t.repro
  rw [List.length_nil, Nat.zero_add, t.size] at h2
  exact ⟨by rw [h2]; exact h1, by rw [h2]; exact h3⟩

theorem fields (t : Renewal o gen p1 ex rs1 babies reg uid p2 p' rs') :
    p'.reg = { reg with records := [] } ∧ p'.nextUid = uid ∧ p'.organisms = (orgsOf p'.species).map (·.uid) :=
  t.fin ▸ join_fields (q := { p1 with reg := reg, nextUid := uid }) t.spec

theorem orgs_from (t : Renewal o gen p1 ex rs1 babies reg uid p2 p' rs') :
    ∀ x ∈ orgsOf p'.species, ∃ y, (y ∈ babies ∨ y ∈ orgsOf p1.species ∧ y.uid ∉ p1.organisms) ∧
      x = { y with genome := { y.genome with id := x.genome.id } } :=
  t.fin ▸ join_from (q := { p1 with reg := reg, nextUid := uid }) t.spec

theorem fresh (t : Renewal o gen p1 ex rs1 babies reg uid p2 p' rs') (hinv : C02.UidInv p1) : ∀ b ∈ babies, b.uid ∉ p1.organisms := by
  intro b hb hmem
  obtain ⟨i, _, hi⟩ := List.mem_map.mp (t.ids.1 ▸ List.mem_map_of_mem (f := Org.uid) hb)
  have := hinv.below _ hmem
  omega

theorem newGen (t : Renewal o gen p1 ex rs1 babies reg uid p2 p' rs') (hinv : C02.UidInv p1) :
    NewGen babies (orgsOf p'.species) ∧ p'.organisms.Perm (babies.map (·.uid)) := by
  obtain ⟨l, hl, e⟩ := join_babies (q := { p1 with reg := reg, nextUid := uid })
    (fun x hx => hinv.listed _ (C02.orgUids_eq p1.species ▸ List.mem_map_of_mem hx)) (t.fresh hinv) t.spec
  have hn : NewGen babies (orgsOf p'.species) := by rw [t.fin, e]; exact .of_renumber hl
  exact ⟨hn, t.fields.2.2 ▸ hn.map (fun _ => rfl)⟩

/-- the new generation by allocation ids.  Freshness is stated against the counter of the prepared population, not against its
    `organisms`: the epoch theorem needs it against the population before the preparation phase, which has the same counter. -/
theorem popInv (t : Renewal o gen p1 ex rs1 babies reg uid p2 p' rs') (hinv : C02.UidInv p1) :
    p'.organisms.length = o.popSize ∧ p'.organisms.Nodup ∧ p'.organisms = C02.orgUids p'.species ∧
    (∀ u ∈ p'.organisms, p1.nextUid ≤ u) ∧ C02.UidInv p' := by
  obtain ⟨hlen, hnd, hblock⟩ := C02.block_perm (t.ids.1 ▸ (t.newGen hinv).2)
  have horg := t.fields.2.2.trans (C02.orgUids_eq _).symm
  refine ⟨hlen, hnd, horg, fun u hu => (hblock u hu).1, fun u hu => horg ▸ hu, fun u hu => ?_⟩
  rw [t.fields.2.1, t.ids.2]
  exact (hblock u hu).2

end Renewal

end GoNeat
