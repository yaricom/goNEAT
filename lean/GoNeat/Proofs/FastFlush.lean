/-
  C13, fast solver.

  `FE fn s t` ("equal up to dead state"): `neuronSignals` equal; `neuronSignalsBeingProcessed` equal at the
  neuron indices (`≥ sensorNeuronCount`; the cells of sensors are written by connections that target a sensor but
  are never read into a signal); `lastActivation` equal at the sensor indices (only ever rewritten with their own value);
  `activated`, `inActivation` and `lastActivation` at neuron indices are ignored - `RecursiveSteps` rewrites them
  before `recursiveActivateNode` reads them (lemma `recInit_RR`).

  Inside the recursion the processing cells may differ on a set `D` of indices; a cell leaves `D` when the
  recursion resets it (`processing[cur] = 0`) and is only read after that (lemma `recNode_congr`).
  Kind A: no arithmetic law is used.
-/
import GoNeat.Model.FastSolver
import GoNeat.Proofs.SolverSim
import GoNeat.Proofs.ListLemmas

set_option linter.unusedSectionVars false

namespace GoNeat.Fast
open GoNeat.Solver (Err Sim Respects Pres sim_of_pres sim_cases iterE iterE_unique IsRun withObs FlushFresh)

variable {W : Type} [Scalar W]

theorem getW_set (p : List W) (i j : Nat) (v : W) :
    getW (p.set i v) j = if j = i ∧ i < p.length then v else getW p j :=
  getD_set p i j v _

theorem getW_set_ne (p : List W) {i j : Nat} (v : W) (h : j ≠ i) : getW (p.set i v) j = getW p j :=
  getD_set_ne p v _ h

theorem getW_set_self (p : List W) {i : Nat} (v : W) (h : i < p.length) : getW (p.set i v) i = v :=
  getD_set_self p v _ h

theorem getB_set (p : List Bool) (i j : Nat) (v : Bool) :
    getB (p.set i v) j = if j = i ∧ i < p.length then v else getB p j :=
  getD_set p i j v _

theorem getB_set_ne (p : List Bool) {i j : Nat} (v : Bool) (h : j ≠ i) : getB (p.set i v) j = getB p j :=
  getD_set_ne p v _ h

theorem getB_set_self (p : List Bool) {i : Nat} (v : Bool) (h : i < p.length) : getB (p.set i v) i = v :=
  getD_set_self p v _ h

theorem getW_ge (p : List W) (i : Nat) (h : p.length ≤ i) : getW p i = Scalar.zero := by
  simp [getW, List.getD, List.getElem?_eq_none h]

theorem getD_map_range {α : Type} (n : Nat) (f : Nat → α) (i : Nat) (d : α) :
    ((List.range n).map f).getD i d = if i < n then f i else d := by
  by_cases h : i < n
  · simp [List.getD, h]
  · simp [List.getD, h]

theorem getD_replicate {α : Type} (n i : Nat) (d : α) : (List.replicate n d).getD i d = d := by
  by_cases h : i < n
  · simp [List.getD, h]
  · simp [List.getD, h]

theorem getW_map_range (n : Nat) (f : Nat → W) (i : Nat) :
    getW ((List.range n).map f) i = if i < n then f i else Scalar.zero :=
  getD_map_range n f i _

theorem getB_map_range (n : Nat) (f : Nat → Bool) (i : Nat) :
    getB ((List.range n).map f) i = if i < n then f i else false :=
  getD_map_range n f i _

theorem getW_replicate_zero (n i : Nat) : getW (List.replicate n (Scalar.zero : W)) i = Scalar.zero :=
  getD_replicate n i _

theorem getB_replicate_false (n j : Nat) : getB (List.replicate n false) j = false :=
  getD_replicate n j _

/-- `PEq D p q` ("processing arrays equal"): two `neuronSignalsBeingProcessed` arrays of one length that agree at every
    cell outside `D`, the set of cells that may differ -/
def PEq (D : Nat → Prop) (p q : List W) : Prop := p.length = q.length ∧ ∀ i, ¬ D i → getW p i = getW q i

theorem PEq.refl (D : Nat → Prop) (p : List W) : PEq D p p := ⟨rfl, fun _ _ => rfl⟩

theorem PEq.mono {D D' : Nat → Prop} {p q : List W} (h : PEq D p q) (hd : ∀ i, D i → D' i) : PEq D' p q :=
  ⟨h.1, fun i hi => h.2 i (fun hdi => hi (hd i hdi))⟩

/-- `D'` may be `D` without `i`: writing equal values takes the cell out of the set of cells that may differ -/
theorem PEq_write {D D' : Nat → Prop} {p q : List W} (h : PEq D p q) (i : Nat) (v v' : W)
    (hD : ∀ j, j ≠ i → ¬ D' j → ¬ D j) (hv : ¬ D' i → v = v') : PEq D' (p.set i v) (q.set i v') := by
  refine ⟨by simp [h.1], fun j hj => ?_⟩
  rw [getW_set, getW_set, ← h.1]
  by_cases hji : j = i
  · subst hji
    by_cases hl : j < p.length
    · rw [if_pos ⟨rfl, hl⟩, if_pos ⟨rfl, hl⟩]
      exact hv hj
    · rw [if_neg (fun c => hl c.2), if_neg (fun c => hl c.2), getW_ge p j (Nat.le_of_not_lt hl),
        getW_ge q j (h.1 ▸ Nat.le_of_not_lt hl)]
  · rw [if_neg (fun c => hji c.1), if_neg (fun c => hji c.1)]
    exact h.2 j (hD j hji hj)

theorem PEq_set {D : Nat → Prop} {p q : List W} (h : PEq D p q) (i : Nat) (v v' : W) (hv : ¬ D i → v = v') :
    PEq D (p.set i v) (q.set i v') :=
  PEq_write h i v v' (fun _ _ hj => hj) hv

theorem PEq_reset {D : Nat → Prop} {p q : List W} (h : PEq D p q) (cur : Nat) (v : W) :
    PEq (fun j => D j ∧ j ≠ cur) (p.set cur v) (q.set cur v) :=
  PEq_write h cur v v (fun _ hjc hj hd => hj ⟨hd, hjc⟩) (fun _ => rfl)

/-- `RR D s t` (the relation of the recursion): two states inside `RecursiveSteps` - after `recInit`, so all five arrays
    are compared - that are equal except for the processing cells in `D`.  `D` shrinks on the way down: a call of
    `recursiveActivateNode` on `cur` resets `processing[cur]` on both sides and goes on with `D` minus `cur`
    (`recNode_congr`); what it returns is related for the larger `D` again (`RR.mono`). -/
structure RR (D : Nat → Prop) (s t : FState W) : Prop where
  signals : s.signals = t.signals
  activated : s.activated = t.activated
  inAct : s.inAct = t.inAct
  lastAct : s.lastAct = t.lastAct
  proc : PEq D s.processing t.processing

theorem RR.mono {D D' : Nat → Prop} {s t : FState W} (h : RR D s t) (hd : ∀ i, D i → D' i) : RR D' s t :=
  ⟨h.signals, h.activated, h.inAct, h.lastAct, h.proc.mono hd⟩

theorem addProc_congr {D : Nat → Prop} {s t : FState W} (h : RR D s t) (cur : Nat) (x : W) (hc : ¬ D cur) :
    RR D (addProc s cur x) (addProc t cur x) := by
  refine ⟨h.signals, h.activated, h.inAct, h.lastAct, ?_⟩
  exact PEq_set h.proc cur _ _ (fun _ => by rw [h.proc.2 cur hc])

theorem recAdj_congr (fn : FastNet W) (rc : Nat → FState W → Res W) (D : Nat → Prop)
    (hrc : ∀ adj s t, RR D s t → RR D (rc adj s).1 (rc adj t).1 ∧ (rc adj s).2 = (rc adj t).2)
    (cur : Nat) (hc : ¬ D cur) (adjs : List Nat) {s t : FState W} (h : RR D s t) :
    RR D (recAdj fn rc cur adjs s).1 (recAdj fn rc cur adjs t).1 ∧
      (recAdj fn rc cur adjs s).2 = (recAdj fn rc cur adjs t).2 := by
  induction adjs generalizing s t with
  | nil => exact ⟨h, rfl⟩
  | cons adj rest ih =>
    unfold recAdj
    rw [h.inAct, h.activated, h.lastAct]
    split
    · exact ih (addProc_congr h cur _ hc)
    · split
      · -- recursion into adj
        obtain ⟨s', t', ⟨r, e⟩, hs, ht, hr1⟩ := sim_cases (hrc adj s t h)
        rw [hs, ht]
        cases e with
        | some e => exact ⟨hr1, rfl⟩
        | none =>
          cases r with
          | false => exact ⟨hr1, rfl⟩
          | true =>
            simp only
            rw [hr1.signals]
            exact ih (addProc_congr hr1 cur _ hc)
      · simp only
        rw [h.signals]
        exact ih (addProc_congr h cur _ hc)

theorem recFinish_congr (fn : FastNet W) (σ : Nat → W → Option W) (D : Nat → Prop) (cur : Nat) (hc : ¬ D cur)
    {s t : FState W} (h : RR D s t) :
    RR D (recFinish fn σ cur s).1 (recFinish fn σ cur t).1 ∧ (recFinish fn σ cur s).2 = (recFinish fn σ cur t).2 := by
  unfold recFinish
  simp only
  have hsig : getW s.processing cur = getW t.processing cur := h.proc.2 cur hc
  rw [hsig]
  have hp := PEq_set h.proc cur
    (if fn.nBias > 0 then Scalar.add (getW t.processing cur) (getW fn.biasList cur) else getW t.processing cur)
    (if fn.nBias > 0 then Scalar.add (getW t.processing cur) (getW fn.biasList cur) else getW t.processing cur)
    (fun _ => rfl)
  split
  · exact ⟨⟨by simp [h.signals], by simp [h.activated], by simp [h.inAct], h.lastAct, hp⟩, rfl⟩
  · exact ⟨⟨by simp [h.signals], by simp [h.activated], by simp [h.inAct], h.lastAct, hp⟩, rfl⟩

theorem recNode_congr (fn : FastNet W) (σ : Nat → W → Option W) (fuel : Nat) :
    ∀ (D : Nat → Prop) (cur : Nat) (s t : FState W), RR D s t →
      RR D (recNode fn σ fuel cur s).1 (recNode fn σ fuel cur t).1 ∧
        (recNode fn σ fuel cur s).2 = (recNode fn σ fuel cur t).2 := by
  induction fuel with
  | zero => intro D cur s t h; exact ⟨h, rfl⟩
  | succ fuel ih =>
    intro D cur s t h
    unfold recNode
    rw [h.activated]
    split
    · exact ⟨⟨h.signals, rfl, by simp [h.inAct], h.lastAct, h.proc⟩, rfl⟩
    · -- D' = D without cur
      have h1 : RR (fun j => D j ∧ j ≠ cur) (recStart s cur) (recStart t cur) :=
        ⟨h.signals, h.activated, by simp [recStart, h.inAct], h.lastAct, PEq_reset h.proc cur _⟩
      have hcur : ¬ (fun j => D j ∧ j ≠ cur) cur := fun hh => hh.2 rfl
      have hsub : ∀ i, (fun j => D j ∧ j ≠ cur) i → D i := fun _ hh => hh.1
      obtain ⟨s2, t2, e, hs, ht, ha1⟩ := sim_cases (recAdj_congr fn (recNode fn σ fuel) _
        (fun adj s t hst => ih _ adj s t hst) cur hcur (revAdj fn cur) h1)
      rw [hs, ht]
      cases e with
      | some e => exact ⟨ha1.mono hsub, rfl⟩
      | none =>
        have hf := recFinish_congr fn σ _ cur hcur ha1
        exact ⟨hf.1.mono hsub, hf.2⟩

/-- `fn.nTotal + 1` is the fuel the model gives `recursiveActivateNode` in `RecursiveSteps` (the Go recursion has none; a
    node on the stack is not entered again, so its depth is at most the number of neurons); congruence and frame hold
    for every fuel, the feed-forward theorem needs `rank < fuel` (`recNode_ff`) -/
theorem recOutputs_sim (fn : FastNet W) (σ : Nat → W → Option W) {Rel : FState W → FState W → Prop}
    (hn : ∀ o, Respects Rel (recNode fn σ (fn.nTotal + 1) o)) (os : List Nat) (res : Bool) :
    Respects Rel (recOutputs fn σ os res) := by
  induction os generalizing res with
  | nil => exact fun _ _ h => ⟨h, rfl⟩
  | cons o os ih =>
    intro s t h
    unfold recOutputs
    obtain ⟨s', t', ⟨r, e⟩, hs, ht, hr1⟩ := sim_cases (hn o s t h)
    rw [hs, ht]
    cases e with
    | some e => exact ⟨hr1, rfl⟩
    | none =>
      cases r with
      | false => exact ⟨hr1, rfl⟩
      | true => exact ih true s' t' hr1

theorem recOutputs_congr (fn : FastNet W) (σ : Nat → W → Option W) (D : Nat → Prop) (os : List Nat) (res : Bool)
    {s t : FState W} (h : RR D s t) :
    RR D (recOutputs fn σ os res s).1 (recOutputs fn σ os res t).1 ∧
      (recOutputs fn σ os res s).2 = (recOutputs fn σ os res t).2 :=
  recOutputs_sim fn σ (fun o => recNode_congr fn σ _ D o) os res s t h

/-- `FE`: fast solver, equal up to dead state (which state is dead and why: the head of the file); the `E` of `flushFresh` -/
structure FE (fn : FastNet W) (s t : FState W) : Prop where
  signals : s.signals = t.signals
  proc : PEq (fun i => i < fn.nSensor) s.processing t.processing
  lastAct : ∀ i, i < fn.nSensor → getW s.lastAct i = getW t.lastAct i

theorem FE.refl (fn : FastNet W) (s : FState W) : FE fn s s := ⟨rfl, PEq.refl _ _, fun _ _ => rfl⟩

/-- deadness of `activated`, `inActivation`, `lastActivation[neurons]`: `RecursiveSteps` re-initialises them -/
theorem recInit_RR (fn : FastNet W) {s t : FState W} (h : FE fn s t) :
    RR (fun i => i < fn.nSensor) (recInit fn s) (recInit fn t) := by
  refine ⟨h.signals, rfl, rfl, ?_, h.proc⟩
  unfold recInit
  simp only
  apply List.map_congr_left
  intro i _
  split
  · rw [h.signals]
  · next hi => exact h.lastAct i (by omega)

theorem RR_FE (fn : FastNet W) {s t : FState W} (h : RR (fun i => i < fn.nSensor) s t) : FE fn s t :=
  ⟨h.signals, h.proc, fun i _ => by rw [h.lastAct]⟩

theorem recursiveSteps_congr (fn : FastNet W) (σ : Nat → W → Option W) :
    Respects (FE fn) (recursiveSteps fn σ) := by
  intro s t h
  unfold recursiveSteps
  have := recOutputs_congr fn σ _ ((List.range fn.nOutput).map (· + fn.nSensor)) false (recInit_RR fn h)
  exact ⟨RR_FE fn this.1, this.2⟩

theorem connLoop_congr (D : Nat → Prop) (sig : List W) (cs : List (FLink W)) {p q : List W} (h : PEq D p q) :
    PEq D (connLoop sig cs p) (connLoop sig cs q) := by
  induction cs generalizing p q with
  | nil => exact h
  | cons c cs ih =>
    unfold connLoop
    exact ih (PEq_set h c.dst _ _ (fun hd => by rw [h.2 c.dst hd]))

theorem actLoop_congr (fn : FastNet W) (σ : Nat → W → Option W) (D : Nat → Prop) (is : List Nat)
    (hD : ∀ i ∈ is, ¬ D i) {p q : List W} (h : PEq D p q) :
    PEq D (actLoop fn σ is p).1 (actLoop fn σ is q).1 ∧ (actLoop fn σ is p).2 = (actLoop fn σ is q).2 := by
  induction is generalizing p q with
  | nil => exact ⟨h, rfl⟩
  | cons i is ih =>
    unfold actLoop
    simp only
    rw [h.2 i (hD i (by simp))]
    split
    · exact ⟨PEq_set h i _ _ (fun _ => rfl), rfl⟩
    · exact ih (fun j hj => hD j (by simp [hj])) (PEq_set h i _ _ (fun _ => rfl))

theorem moveLoop_congr (delta : W) (check : Bool) (D : Nat → Prop) (is : List Nat) (hD : ∀ i ∈ is, ¬ D i)
    (sig : List W) (r : Bool) {p q : List W} (h : PEq D p q) :
    (moveLoop delta check is sig p r).1 = (moveLoop delta check is sig q r).1 ∧
      PEq D (moveLoop delta check is sig p r).2.1 (moveLoop delta check is sig q r).2.1 ∧
      (moveLoop delta check is sig p r).2.2 = (moveLoop delta check is sig q r).2.2 := by
  induction is generalizing sig r p q with
  | nil => exact ⟨rfl, h, rfl⟩
  | cons i is ih =>
    unfold moveLoop
    simp only
    rw [h.2 i (hD i (by simp))]
    exact ih (fun j hj => hD j (by simp [hj])) _ _ (PEq_set h i _ _ (fun _ => rfl))

theorem neuronIdx_nodup (fn : FastNet W) : (neuronIdx fn).Nodup := by
  unfold neuronIdx
  rw [List.Nodup, List.pairwise_map]
  exact (List.nodup_range (n := fn.nTotal - fn.nSensor)).imp (fun h => by omega)

theorem mem_neuronIdx (fn : FastNet W) (i : Nat) : i ∈ neuronIdx fn ↔ fn.nSensor ≤ i ∧ i < fn.nTotal := by
  unfold neuronIdx
  simp only [List.mem_map, List.mem_range]
  constructor
  · rintro ⟨k, hk, rfl⟩; omega
  · intro h; exact ⟨i - fn.nSensor, by omega, by omega⟩

theorem neuronIdx_ge (fn : FastNet W) : ∀ i ∈ neuronIdx fn, ¬ (i < fn.nSensor) :=
  fun i hi => Nat.not_lt.mpr ((mem_neuronIdx fn i).mp hi).1

theorem forwardStep_congr (fn : FastNet W) (σ : Nat → W → Option W) (delta : W) :
    Respects (FE fn) (forwardStep fn σ delta) := by
  intro s t h
  unfold forwardStep
  simp only
  rw [h.signals]
  have hc := connLoop_congr _ t.signals fn.conns h.proc
  obtain ⟨p2, q2, e, hs, ht, ha1⟩ := sim_cases (actLoop_congr fn σ _ (neuronIdx fn) (neuronIdx_ge fn) hc)
  rw [hs, ht]
  cases e with
  | some e => exact ⟨⟨rfl, ha1, h.lastAct⟩, rfl⟩
  | none =>
    have hm := moveLoop_congr delta (!(Scalar.le delta Scalar.zero)) _ (neuronIdx fn) (neuronIdx_ge fn) t.signals true ha1
    simp only
    exact ⟨⟨hm.1, hm.2.1, h.lastAct⟩, by rw [hm.2.2]⟩

theorem fwdLoop_eq (fn : FastNet W) (σ : Nat → W → Option W) :
    fwdLoop fn σ = iterE (forwardStep fn σ Scalar.zero) (fun _ => false) :=
  iterE_unique (fun _ _ => rfl) fun k res s => by
    rw [fwdLoop]
    rcases forwardStep fn σ Scalar.zero s with ⟨s', r, _ | e⟩ <;> rfl

theorem relaxLoop_eq (fn : FastNet W) (σ : Nat → W → Option W) (delta : W) :
    relaxLoop fn σ delta = iterE (forwardStep fn σ delta) id :=
  iterE_unique (fun _ _ => rfl) fun k res s => by
    rw [relaxLoop]
    rcases forwardStep fn σ delta s with ⟨s', _ | _, _ | e⟩ <;> rfl

/-- the calls of a fast solver over their leaves (explicit arguments, as for `Solver.stdStep`) -/
def fastStep {S : Type} (fstep : W → S → S × Bool × Option Err) (load : List W → S → S × Option Err)
    (recur flush : S → S × Bool × Option Err) (s : S) : Op W → S × Bool × Option Err
  | .load xs => let r := load xs s; (r.1, r.2.isNone, r.2)
  | .forward n => iterE (fstep Scalar.zero) (fun _ => false) n.toNat false s
  | .recursive => recur s
  | .relax n d => iterE (fstep d) id n.toNat false s
  | .flush => flush s

section
variable {S T : Type} {fstep : W → S → S × Bool × Option Err} {load : List W → S → S × Option Err}
  {recur flush : S → S × Bool × Option Err}

theorem sim_fastStep {Rel : S → T → Prop} {fstep' : W → T → T × Bool × Option Err} {load' : List W → T → T × Option Err}
    {recur' flush' : T → T × Bool × Option Err} (hfs : ∀ d, Sim Rel (fstep d) (fstep' d))
    (hload : ∀ xs, Sim Rel (load xs) (load' xs)) (hrec : Sim Rel recur recur') (hflush : Sim Rel flush flush') (op : Op W) :
    Sim Rel (fun s => fastStep fstep load recur flush s op) (fun t => fastStep fstep' load' recur' flush' t op) := by
  cases op with
  | load xs =>
    intro s t h
    obtain ⟨h1, h2⟩ := hload xs s t h
    exact ⟨h1, by simp only [fastStep, h2]⟩
  | forward n => exact Sim.iter (hfs _) _ _ false
  | recursive => exact hrec
  | relax n d => exact Sim.iter (hfs d) _ _ false
  | flush => exact hflush

theorem pres_fastStep {P : S → Prop} (hfs : ∀ d, Pres P (fstep d)) (hload : ∀ xs, Pres P (load xs)) (hrec : Pres P recur)
    (hflush : Pres P flush) (op : Op W) : Pres P (fun s => fastStep fstep load recur flush s op) :=
  fun s hs => (sim_fastStep (fun d => sim_of_pres (hfs d)) (fun xs => sim_of_pres (hload xs)) (sim_of_pres hrec)
    (sim_of_pres hflush) op s s ⟨rfl, hs⟩).1.2

end

theorem step_eq (fn : FastNet W) (σ : Nat → W → Option W) :
    step fn σ = fastStep (forwardStep fn σ) (loadSensors fn) (recursiveSteps fn σ) (flush fn) := by
  funext s op
  cases op <;> simp only [step, fastStep, forwardSteps, relax, fwdLoop_eq, relaxLoop_eq]

theorem isRun (fn : FastNet W) (σ : Nat → W → Option W) : IsRun (withObs (readOutputs fn) (step fn σ)) (run fn σ) :=
  ⟨fun _ => rfl, fun _ _ _ => rfl⟩

theorem zeroFrom_congr (D : Nat → Prop) (k : Nat) {p q : List W} (h : PEq D p q) :
    PEq D (zeroFrom k p) (zeroFrom k q) := by
  unfold zeroFrom
  refine ⟨by simp [h.1], fun i hi => ?_⟩
  rw [getW_map_range, getW_map_range, h.1, h.2 i hi]

theorem flush_congr (fn : FastNet W) : Respects (FE fn) (flush fn) := by
  intro s t h
  unfold flush
  exact ⟨⟨by simp [h.signals], zeroFrom_congr _ _ h.proc, h.lastAct⟩, rfl⟩

theorem loadSensors_congr (fn : FastNet W) (xs : List W) : Respects (FE fn) (loadSensors fn xs) := by
  intro s t h
  unfold loadSensors
  split
  · exact ⟨⟨by simp [h.signals], h.proc, h.lastAct⟩, rfl⟩
  · exact ⟨h, rfl⟩

theorem readOutputs_congr (fn : FastNet W) {s t : FState W} (h : FE fn s t) : readOutputs fn s = readOutputs fn t := by
  unfold readOutputs
  rw [h.signals]

/-- the base part of `Inv`: what does not involve `RecursiveSteps`' arrays (all there is to say of a solver with modules) -/
structure InvBase (fn : FastNet W) (s : FState W) : Prop where
  lenS : s.signals.length = fn.nTotal
  lenP : s.processing.length = fn.nTotal
  bias : ∀ i, i < fn.nBias → i < fn.nTotal → getW s.signals i = Scalar.one

structure Inv (fn : FastNet W) (s : FState W) : Prop extends InvBase fn s where
  last : ∀ i, i < fn.nSensor → getW s.lastAct i = Scalar.zero

theorem InvBase_init (fn : FastNet W) : InvBase fn (init fn) :=
  ⟨by simp [init], by simp [init], fun i hb ht => by simp [init, getW_map_range, hb, ht]⟩

theorem Inv_init (fn : FastNet W) : Inv fn (init fn) :=
  ⟨InvBase_init fn, fun i _ => by simp [init, getW_replicate_zero]⟩

/-- what a recursive activation never does: it keeps array lengths and `lastActivation`, never clears an
    `activated` mark and never changes the signal of a node that is marked -/
structure Q (s s' : FState W) : Prop where
  lenS : s'.signals.length = s.signals.length
  lenP : s'.processing.length = s.processing.length
  last : s'.lastAct = s.lastAct
  actMono : ∀ i, getB s.activated i = true → getB s'.activated i = true
  sigKeep : ∀ i, getB s.activated i = true → getW s'.signals i = getW s.signals i

theorem Q.refl (s : FState W) : Q s s := ⟨rfl, rfl, rfl, fun _ h => h, fun _ _ => rfl⟩

theorem Q.trans {a b c : FState W} (h1 : Q a b) (h2 : Q b c) : Q a c :=
  ⟨h2.lenS.trans h1.lenS, h2.lenP.trans h1.lenP, h2.last.trans h1.last,
   fun i h => h2.actMono i (h1.actMono i h),
   fun i h => (h2.sigKeep i (h1.actMono i h)).trans (h1.sigKeep i h)⟩

theorem Q_addProc (s : FState W) (cur : Nat) (x : W) : Q s (addProc s cur x) :=
  ⟨rfl, by simp [addProc], rfl, fun _ h => h, fun _ _ => rfl⟩

theorem recAdj_Q (fn : FastNet W) (rc : Nat → FState W → Res W) (hrc : ∀ adj s, Q s (rc adj s).1)
    (cur : Nat) (adjs : List Nat) (s : FState W) : Q s (recAdj fn rc cur adjs s).1 := by
  induction adjs generalizing s with
  | nil => exact Q.refl s
  | cons adj rest ih =>
    unfold recAdj
    split
    · exact (Q_addProc s cur _).trans (ih _)
    · split
      · have hq := hrc adj s
        rcases hs : rc adj s with ⟨s', r, e⟩
        rw [hs] at hq
        cases e with
        | some e => exact hq
        | none =>
          cases r with
          | false => exact hq
          | true => exact hq.trans ((Q_addProc s' cur _).trans (ih _))
      · exact (Q_addProc s cur _).trans (ih _)

theorem recFinish_Q (fn : FastNet W) (σ : Nat → W → Option W) (cur : Nat) (s0 s2 : FState W) (h2 : Q s0 s2)
    (hcur : getB s0.activated cur = false) : Q s0 (recFinish fn σ cur s2).1 := by
  have hne : ∀ i, getB s0.activated i = true → i ≠ cur := by
    intro i hi hic
    rw [hic, hcur] at hi
    exact absurd hi (by simp)
  unfold recFinish
  simp only
  have key : ∀ v : W, Q s0 (FState.mk (s2.signals.set cur v)
      (s2.processing.set cur
        (if fn.nBias > 0 then Scalar.add (getW s2.processing cur) (getW fn.biasList cur) else getW s2.processing cur))
      (s2.activated.set cur true) (s2.inAct.set cur false) s2.lastAct) := by
    intro v
    refine ⟨by simp [h2.lenS], by simp [h2.lenP], h2.last, fun i hi => ?_, fun i hi => ?_⟩
    · rw [getB_set]
      split
      · rfl
      · exact h2.actMono i hi
    · rw [getW_set]
      split
      · next hc => exact absurd hc.1 (hne i hi)
      · exact h2.sigKeep i hi
  split
  · exact key _
  · exact key _

theorem recNode_Q (fn : FastNet W) (σ : Nat → W → Option W) (fuel : Nat) :
    ∀ (cur : Nat) (s : FState W), Q s (recNode fn σ fuel cur s).1 := by
  induction fuel with
  | zero => intro cur s; exact Q.refl s
  | succ fuel ih =>
    intro cur s
    unfold recNode
    split
    · exact ⟨rfl, rfl, rfl, fun _ h => h, fun _ _ => rfl⟩
    · next hact =>
      have hcur : getB s.activated cur = false := by simpa using hact
      have h1 : Q s (recStart s cur) := ⟨rfl, by simp [recStart], rfl, fun _ h => h, fun _ _ => rfl⟩
      have ha := recAdj_Q fn (recNode fn σ fuel) (fun adj s => ih adj s) cur (revAdj fn cur) (recStart s cur)
      rcases hs : recAdj fn (recNode fn σ fuel) cur (revAdj fn cur) (recStart s cur) with ⟨s2, e⟩
      rw [hs] at ha
      have h2 : Q s s2 := h1.trans ha
      cases e with
      | some e => exact h2
      | none => exact recFinish_Q fn σ cur s s2 h2 hcur

theorem recOutputs_Q (fn : FastNet W) (σ : Nat → W → Option W) (os : List Nat) (res : Bool) (s : FState W) :
    Q s (recOutputs fn σ os res s).1 :=
  (recOutputs_sim fn σ (fun o => sim_of_pres (P := Q s) fun s' h => h.trans (recNode_Q fn σ _ o s')) os res s s
    ⟨rfl, Q.refl s⟩).1.2

theorem InvBase_recursiveSteps (fn : FastNet W) (σ : Nat → W → Option W) : Pres (InvBase fn) (recursiveSteps fn σ) := by
  intro s h
  unfold recursiveSteps
  have hq := recOutputs_Q fn σ ((List.range fn.nOutput).map (· + fn.nSensor)) false (recInit fn s)
  refine ⟨hq.lenS.trans h.lenS, hq.lenP.trans h.lenP, fun i hb ht => ?_⟩
  have hact : getB (recInit fn s).activated i = true := by
    simp only [recInit, getB_map_range, ht, if_true, FastNet.nSensor]
    exact decide_eq_true (by omega)
  rw [hq.sigKeep i hact]
  exact h.bias i hb ht

theorem Inv_recursiveSteps (fn : FastNet W) (σ : Nat → W → Option W) : Pres (Inv fn) (recursiveSteps fn σ) := by
  intro s h
  refine ⟨InvBase_recursiveSteps fn σ s h.toInvBase, fun i hi => ?_⟩
  unfold recursiveSteps
  rw [(recOutputs_Q fn σ ((List.range fn.nOutput).map (· + fn.nSensor)) false (recInit fn s)).last]
  simp only [recInit, getW_map_range]
  split
  · rw [if_neg (by omega)]; exact h.last i hi
  · rfl

theorem length_connLoop (sig : List W) (cs : List (FLink W)) (p : List W) : (connLoop sig cs p).length = p.length := by
  induction cs generalizing p with
  | nil => rfl
  | cons c cs ih => unfold connLoop; rw [ih]; simp

theorem length_actLoop (fn : FastNet W) (σ : Nat → W → Option W) (is : List Nat) (p : List W) :
    (actLoop fn σ is p).1.length = p.length := by
  induction is generalizing p with
  | nil => rfl
  | cons i is ih =>
    unfold actLoop
    simp only
    split
    · simp
    · rw [ih]; simp

/-- the difference test of the third loop -/
def relaxedAt (delta : W) (old new : Nat → W) (i : Nat) : Bool :=
  !(Scalar.lt delta (Scalar.abs (Scalar.sub (old i) (new i))))

theorem moveLoop_cells (delta : W) (check : Bool) (is : List Nat) (hnd : is.Nodup) (sig p : List W) (r : Bool)
    (hb : ∀ i ∈ is, i < sig.length ∧ i < p.length) :
    (moveLoop delta check is sig p r).1.length = sig.length ∧
    (moveLoop delta check is sig p r).2.1.length = p.length ∧
    (∀ j, getW (moveLoop delta check is sig p r).1 j = if j ∈ is then getW p j else getW sig j) ∧
    (∀ j, getW (moveLoop delta check is sig p r).2.1 j = if j ∈ is then Scalar.zero else getW p j) ∧
    (moveLoop delta check is sig p r).2.2 = (r && (!check || is.all (relaxedAt delta (getW sig) (getW p)))) := by
  induction is generalizing sig p r with
  | nil => exact ⟨rfl, rfl, fun _ => rfl, fun _ => rfl, by simp [moveLoop]⟩
  | cons i is ih =>
    obtain ⟨hi, hnd'⟩ := List.nodup_cons.mp hnd
    have hbi := hb i (List.mem_cons_self ..)
    unfold moveLoop
    simp only
    obtain ⟨a1, a2, a3, a4, a5⟩ := ih hnd' (sig.set i (getW p i)) (p.set i Scalar.zero)
      (if check then r && !(Scalar.lt delta (Scalar.abs (Scalar.sub (getW sig i) (getW p i)))) else r)
      (fun k hk => by simpa using hb k (List.mem_cons_of_mem _ hk))
    refine ⟨by rw [a1, List.length_set], by rw [a2, List.length_set], fun j => ?_, fun j => ?_, ?_⟩
    · rw [a3 j]
      by_cases hji : j = i
      · rw [hji, if_neg hi, if_pos (List.mem_cons_self ..), getW_set_self _ _ hbi.1]
      · rw [getW_set_ne _ _ hji, getW_set_ne _ _ hji]
        simp only [List.mem_cons, hji, false_or]
    · rw [a4 j]
      by_cases hji : j = i
      · rw [hji, if_neg hi, if_pos (List.mem_cons_self ..), getW_set_self _ _ hbi.2]
      · rw [getW_set_ne _ _ hji]
        simp only [List.mem_cons, hji, false_or]
    · -- the cells still to come are not touched by the move at `i`
      have hc : is.all (relaxedAt delta (getW (sig.set i (getW p i))) (getW (p.set i Scalar.zero))) =
          is.all (relaxedAt delta (getW sig) (getW p)) :=
        all_congr_mem _ _ _ fun a ha => by
          have hne : a ≠ i := fun h => hi (h ▸ ha)
          simp only [relaxedAt, getW_set_ne _ _ hne]
      rw [a5, hc]
      simp only [List.all_cons, relaxedAt]
      cases check <;> simp [Bool.and_assoc]

/-- the two ways `forwardStep` leaves the arrays: a new processing array, or the result of `moveLoop` -/
theorem InvBase_proc {fn : FastNet W} {s : FState W} (h : InvBase fn s) {p : List W} (hp : p.length = fn.nTotal) :
    InvBase fn { s with processing := p } :=
  ⟨h.lenS, hp, h.bias⟩

theorem InvBase_move {fn : FastNet W} {s : FState W} (h : InvBase fn s) {p : List W} (hp : p.length = fn.nTotal)
    (delta : W) (check r : Bool) :
    InvBase fn { s with signals := (moveLoop delta check (neuronIdx fn) s.signals p r).1,
                        processing := (moveLoop delta check (neuronIdx fn) s.signals p r).2.1 } := by
  obtain ⟨m1, m2, m3, _⟩ := moveLoop_cells delta check (neuronIdx fn) (neuronIdx_nodup fn) s.signals p r
    (fun i hi => by rw [h.lenS, hp]; exact ⟨((mem_neuronIdx fn i).mp hi).2, ((mem_neuronIdx fn i).mp hi).2⟩)
  refine ⟨m1.trans h.lenS, m2.trans hp, fun i hb ht => ?_⟩
  simp only
  rw [m3 i, if_neg (fun hmem => neuronIdx_ge fn i hmem (by simp only [FastNet.nSensor]; omega))]
  exact h.bias i hb ht

theorem InvBase_forwardStep (fn : FastNet W) (σ : Nat → W → Option W) (delta : W) (s : FState W) (h : InvBase fn s) :
    InvBase fn (forwardStep fn σ delta s).1 ∧ (forwardStep fn σ delta s).1.lastAct = s.lastAct := by
  unfold forwardStep
  simp only
  have hl := length_actLoop fn σ (neuronIdx fn) (connLoop s.signals fn.conns s.processing)
  rw [length_connLoop, h.lenP] at hl
  generalize actLoop fn σ (neuronIdx fn) (connLoop s.signals fn.conns s.processing) = r at hl ⊢
  rcases r with ⟨p2, _ | e⟩
  · exact ⟨InvBase_move h hl _ _ _, rfl⟩
  · exact ⟨InvBase_proc h hl, rfl⟩

theorem length_loadLoop (base : Nat) (xs : List W) (k : Nat) (sig : List W) :
    (loadLoop base xs k sig).length = sig.length := by
  induction xs generalizing k sig with
  | nil => rfl
  | cons x xs ih => rw [loadLoop, ih, List.length_set]

/-- cell `base + k + m` takes `xs[m]` (if the array has it); every other cell is kept -/
theorem getW_loadLoop (base : Nat) (xs : List W) (k : Nat) (sig : List W) (j : Nat) :
    getW (loadLoop base xs k sig) j =
      if base + k ≤ j ∧ j < sig.length then (xs[j - (base + k)]?).getD (getW sig j) else getW sig j := by
  induction xs generalizing k sig with
  | nil => rw [loadLoop, List.getElem?_nil, Option.getD_none, ite_self]
  | cons x xs ih =>
    rw [loadLoop, ih, List.length_set, getW_set]
    by_cases hj : base + (k + 1) ≤ j
    · have hk : base + k ≤ j := Nat.le_of_succ_le hj
      have hne : ¬ (j = base + k ∧ base + k < sig.length) := fun c => Nat.lt_irrefl _ (c.1 ▸ hj)
      rw [if_neg hne, show j - (base + k) = j - (base + (k + 1)) + 1 by omega, List.getElem?_cons_succ]
      simp only [hj, hk]
    · rw [if_neg (fun c => hj c.1)]
      by_cases he : j = base + k
      · subst he
        simp only [Nat.sub_self, List.getElem?_cons_zero, Option.getD_some, Nat.le_refl, true_and]
      · rw [if_neg (fun c => he c.1), if_neg (fun c => hj (Nat.lt_of_le_of_ne c.1 (Ne.symm he)))]

theorem InvBase_loadSensors (fn : FastNet W) (xs : List W) : Pres (InvBase fn) (loadSensors fn xs) := by
  intro s h
  unfold loadSensors
  split
  · refine ⟨(length_loadLoop ..).trans h.lenS, h.lenP, fun i hb ht => ?_⟩
    simp only
    rw [getW_loadLoop, if_neg (by omega)]
    exact h.bias i hb ht
  · exact h

/-- `Flush` restores the WHOLE processing array of the fresh solver, bias cells included (the loop as repaired in 1a387d5;
    the loop before is `FastMod.Legacy.flush`) -/
theorem flush_processing_init (fn : FastNet W) {s : FState W} (hl : s.processing.length = fn.nTotal) :
    (flush fn s).1.processing = (init fn).processing := by
  unfold flush init
  simp only [zeroFrom, hl]
  apply List.ext_getElem
  · simp
  · intro i h1 h2
    simp

theorem flush_signals_init (fn : FastNet W) {s : FState W} (h : InvBase fn s) :
    (flush fn s).1.signals = (init fn).signals := by
  unfold flush init
  simp only [zeroFrom, h.lenS]
  apply List.map_congr_left
  intro i hi
  have hi' : i < fn.nTotal := by simpa using hi
  by_cases hb : i < fn.nBias
  · simp only [hb, if_true]
    rw [if_neg (by omega)]
    exact h.bias i hb hi'
  · simp only [hb, if_false]
    rw [if_pos (by omega)]

theorem InvBase.congr {fn : FastNet W} {s t : FState W} (h : InvBase fn t) (hs : s.signals = t.signals)
    (hp : s.processing = t.processing) : InvBase fn s :=
  ⟨hs ▸ h.lenS, hp ▸ h.lenP, hs ▸ h.bias⟩

theorem InvBase_flush (fn : FastNet W) : Pres (InvBase fn) (flush fn) :=
  fun _ h => (InvBase_init fn).congr (flush_signals_init fn h) (flush_processing_init fn h.lenP)

theorem flush_FE_init (fn : FastNet W) {s : FState W} (h : Inv fn s) : FE fn (flush fn s).1 (init fn) := by
  refine ⟨flush_signals_init fn h.toInvBase, ?_, fun i hi => ?_⟩
  · rw [flush_processing_init fn h.lenP]
    exact PEq.refl _ _
  · simp only [init, getW_replicate_zero]
    exact h.last i hi

/-- C13 for the fast solver: the arrays `FE` ignores are dead, histories keep `Inv`, `Flush` of such a state is fresh up to `FE` -/
theorem flushFresh (fn : FastNet W) (σ : Nat → W → Option W) :
    FlushFresh (withObs (readOutputs fn) (step fn σ)) (run fn σ) (flush fn) (init fn) (FE fn) (Inv fn) (true, none) where
  isRun := isRun fn σ
  congr := Sim.withObs (fun op => by
    rw [step_eq]
    exact sim_fastStep (forwardStep_congr fn σ) (loadSensors_congr fn) (recursiveSteps_congr fn σ) (flush_congr fn) op)
    (fun _ _ h => readOutputs_congr fn h)
  keeps := fun op => by
    show Pres (Inv fn) (fun s => step fn σ s op)
    rw [step_eq]
    exact pres_fastStep
      (fun d s h => ⟨(InvBase_forwardStep fn σ d s h.toInvBase).1, by rw [(InvBase_forwardStep fn σ d s h.toInvBase).2]; exact h.last⟩)
      (fun xs s h => ⟨InvBase_loadSensors fn xs s h.toInvBase, by unfold loadSensors; split <;> exact h.last⟩)
      (Inv_recursiveSteps fn σ) (fun s h => ⟨InvBase_flush fn s h.toInvBase, h.last⟩) op
  fresh := Inv_init fn
  flush := fun _ h => ⟨rfl, flush_FE_init fn h⟩

end GoNeat.Fast
