/-
  C16 / C02 "without error" for the PARALLEL executor, part 1: a safety logic for threads (`Prog`) under ARBITRARY
  interference on the shared registry, and the three non-atomic structural mutators.

  The only thing a thread's error exits depend on that another thread can change is the content of a registry
  snapshot: a link record found there dictates a trait index (`traitAt g inn.traitNum`).  So the rely/guarantee pair is

      rely       every record of every snapshot names a valid trait index     (`TraitRecs T recs`)
      guarantee  every record a thread stores names a valid trait index        (`TraitRec T i`)

  with `T` the common trait count of the population.  The numbers the counters hand out are arbitrary (`∀ n`).
  `PSafe T Post p` : whatever the snapshots (satisfying the rely) and the numbers are, `p` stores only good records and
  its result satisfies `Post`.  For results of type `R α` the postcondition is `OkV Q V`: not a model error
  (`.error (.error msg)`); running out of the finite random stream is allowed; a value satisfies `Q`, and the rest of the
  stream is still `Valid` (63-bit raw values) if the stream the program started from was (`V`).  A program whose safety
  rests on a float fact needs `Valid` itself and is stated with `V := True`; the link tail and what is built from it alone
  (add-link, connect-sensors) need no valid stream and hold for every `V`.
  `PSafe.run`: no interference is one of the interferences - run back to back on one registry that satisfies the rely, a
  safe program returns a result with `Post` and leaves such a registry (Proofs/NoErrorSeq.lean reads the sequential
  operators off this).
  Kind A (the float fact `UnitMulLe` is an explicit hypothesis).
-/
import GoNeat.Proofs.NoErrorStruct
import GoNeat.Proofs.NoErrorParam
import GoNeat.Proofs.ParStages

set_option linter.unusedSectionVars false

namespace GoNeat.C16
open GoNeat Scalar GoNeat.NoErr
variable {W : Type} [Scalar W] {α β : Type}

def TraitRec (T : Nat) (i : Innov W) : Prop := i.typ = 2 → 0 ≤ i.traitNum ∧ i.traitNum.toNat < T
def TraitRecs (T : Nat) (recs : List (Innov W)) : Prop := ∀ i ∈ recs, TraitRec T i

/-- `TraitRecs` is `NoErr.RecTraits` (Proofs/NoErrorStruct.lean) said of a list of records, as a snapshot hands it over,
    instead of a registry -/
theorem traitRecs_iff (T : Nat) (reg : Reg W) : TraitRecs T reg.records ↔ RecTraits T reg := Iff.rfl

inductive PSafe (T : Nat) (Post : α → Prop) : Prog W α → Prop
  | done {a} : Post a → PSafe T Post (.done a)
  | snap {k} : (∀ recs, TraitRecs T recs → PSafe T Post (k recs)) → PSafe T Post (.snap k)
  | nextNode {k} : (∀ n, PSafe T Post (k n)) → PSafe T Post (.nextNode k)
  | nextInn {k} : (∀ n, PSafe T Post (k n)) → PSafe T Post (.nextInn k)
  | store {i k} : TraitRec T i → PSafe T Post k → PSafe T Post (.store i k)

theorem PSafe.bind {T : Nat} {Post1 : α → Prop} {Post2 : β → Prop} {p : Prog W α} {f : α → Prog W β}
    (h : PSafe T Post1 p) (hf : ∀ a, Post1 a → PSafe T Post2 (f a)) : PSafe T Post2 (p.bind f) := by
  induction h with
  | done hp => exact hf _ hp
  | snap _ ih => exact .snap (fun recs hr => ih recs hr)
  | nextNode _ ih => exact .nextNode (fun n => ih n)
  | nextInn _ ih => exact .nextInn (fun n => ih n)
  | store hs _ ih => exact .store hs ih

theorem PSafe.mono {T : Nat} {Post1 Post2 : α → Prop} {p : Prog W α} (h : PSafe T Post1 p)
    (hm : ∀ a, Post1 a → Post2 a) : PSafe T Post2 p := by
  induction h with
  | done hp => exact .done (hm _ hp)
  | snap _ ih => exact .snap (fun recs hr => ih recs hr)
  | nextNode _ ih => exact .nextNode (fun n => ih n)
  | nextInn _ ih => exact .nextInn (fun n => ih n)
  | store hs _ ih => exact .store hs ih

theorem PSafe.result {T : Nat} {Post : α → Prop} {a : α} (h : PSafe T Post (.done a : Prog W α)) : Post a := by
  cases h; assumption

theorem PSafe.run {T : Nat} {Post : α → Prop} {p : Prog W α} (h : PSafe T Post p) :
    ∀ reg : Reg W, TraitRecs T reg.records → Post (p.run reg).1 ∧ TraitRecs T (p.run reg).2.records := by
  induction h with
  | done hp => exact fun _ hr => ⟨hp, hr⟩
  | snap _ ih => exact fun reg hr => ih _ hr reg hr
  | nextNode _ ih => exact fun reg hr => ih _ _ hr
  | nextInn _ ih => exact fun reg hr => ih _ _ hr
  | store hs _ ih =>
    refine fun reg hr => ih _ (fun j hj => ?_)
    rcases List.mem_append.mp hj with hj | hj
    · exact hr j hj
    · rw [List.mem_singleton.mp hj]; exact hs

def OkV (Q : α → Prop) (V : Prop := True) : R α → Prop
  | .ok (a, rs) => Q a ∧ (V → Valid rs)
  | .error .outOfRandom => True
  | .error (.error _) => False

variable {V : Prop}

theorem OkV.of_error {P : β → Prop} {Q : α → Prop} {e : Stop} (h : Safe P (.error e : R β)) : OkV Q V (.error e : R α) := by
  cases e <;> simp_all [Safe, OkV]

theorem OkV.of_errorE {P : β → Prop} {Q : α → Prop} {e : Stop} (h : SafeE P (.error e : Except Stop β)) :
    OkV Q V (.error e : R α) := absurd h (by simp [SafeE])

theorem OkV.error_cast {P : β → Prop} {Q : α → Prop} {e : Stop} (h : OkV P V (.error e : R β)) : OkV Q V (.error e : R α) := by
  cases e <;> simp_all [OkV]

theorem OkV.safe_error {P : α → Prop} {Q : β → Prop} {e : Stop} (h : OkV P V (.error e : R α)) : Safe Q (.error e : R β) := by
  cases e <;> simp_all [OkV, Safe]

theorem OkV.mono {P Q : α → Prop} {r : R α} (h : OkV P V r) (hpq : ∀ a, P a → Q a) : OkV Q V r := by
  match r, h with
  | .ok (a, _), h => exact ⟨hpq a h.1, h.2⟩
  | .error .outOfRandom, _ => trivial

theorem OkV.ne {Q : α → Prop} {r : R α} (h : OkV Q V r) (msg : String) : r ≠ .error (.error msg) := by
  intro e; rw [e] at h; exact h

theorem like_addGene (g : Genome W) (x : Gene W) : Like g { g with genes := geneInsert g.genes x } :=
  ⟨by simp [geneInsert_length], Nat.le_refl _, rfl⟩

theorem like_disable (g : Genome W) (k : Nat) : Like g { g with genes := setEnabledAt g.genes k false } :=
  ⟨by simp [setEnabledAt_length], Nat.le_refl _, rfl⟩

theorem like_split (g : Genome W) (k : Nat) (x y : Gene W) (n : Node) :
    Like g { g with genes := geneInsert (geneInsert (setEnabledAt g.genes k false) x) y, nodes := nodeInsert g.nodes n } :=
  ⟨by simp [geneInsert_length, setEnabledAt_length]; omega, by simp [nodeInsert_length], rfl⟩

theorem linkTailP_safe {γ : Type} {Q : γ → Prop} (T : Nat) (g : Genome W) (s d : Int) (r : Bool) (pr : Bool → Bool)
    (rs : List Nat) (dup : Prog W (R γ)) (fin : Gene W → List Nat → Prog W (R γ)) (hv : V → Valid rs) (ht : g.traits ≠ [])
    (hT : g.traits.length = T) (hdup : PSafe T (OkV Q V) dup) (hfin : ∀ x rs', (V → Valid rs') → PSafe T (OkV Q V) (fin x rs')) :
    PSafe T (OkV Q V) (linkTailP g s d r pr rs dup fin) := by
  unfold linkTailP
  refine .snap (fun recs hr => ?_)
  split
  · next inn hfind =>
    have hmem := List.mem_of_find?_eq_some hfind
    have hp := List.find?_some hfind
    have htyp : inn.typ = 2 := by simp only [Bool.and_eq_true, beq_iff_eq] at hp; exact hp.1.1.1
    have h3 := traitAt_safe g inn.traitNum (hr inn hmem htyp).1 (by rw [hT]; exact (hr inn hmem htyp).2)
    split
    · next e he => rw [he] at h3; exact .done (OkV.of_errorE h3)
    · simp only
      split
      · exact hdup
      · exact hfin _ _ hv
  · have h1 := safe_intn g.traits.length (List.length_pos_iff.mpr ht) rs
    split
    · next e he => rw [he] at h1; exact .done (OkV.of_error h1)
    · next traitNum rs1 he =>
      have hv1 := fun v => (Rand.intn_det _).valid (hv v) he
      have hk : traitNum < g.traits.length := h1.post he
      have h2 := safe_newLinkWeight (W := W) rs1
      split
      · next e he2 => rw [he2] at h2; exact .done (OkV.of_error h2)
      · next w rs2 he2 =>
        refine .nextInn (fun innId => ?_)
        have h3 := traitAt_safe_nat g traitNum hk
        split
        · next e he3 => rw [he3] at h3; exact .done (OkV.of_errorE h3)
        · exact .store (fun _ => ⟨by simp [linkRec], by simpa [linkRec, ← hT] using hk⟩)
            (hfin _ _ (fun v => newLinkWeight_det.valid (hv1 v) he2))

theorem connectOneP_safe (T : Nat) (sensor output : Node) (g : Genome W) (added : Bool) (rs : List Nat) (hv : V → Valid rs)
    (ht : g.traits ≠ []) (hT : g.traits.length = T) :
    PSafe T (OkV (fun r => ∀ x, r = some x → Like g x.1) V) (connectOneP sensor output g added rs) := by
  rw [connectOneP_eq]
  split
  · exact .done ⟨fun x hx => (by cases hx; exact Like.refl g), hv⟩
  · exact linkTailP_safe T g _ _ _ _ rs _ _ hv ht hT (.done ⟨fun x hx => (by cases hx), hv⟩)
      (fun y rs' hv' => .done ⟨fun x hx => (by cases hx; exact like_addGene g y), hv'⟩)

theorem connectLoopP_safe (T : Nat) (sensor : Node) (outs : List Node) :
    ∀ (g : Genome W) (added : Bool) (rs : List Nat), (V → Valid rs) → g.traits ≠ [] → g.traits.length = T →
      PSafe T (OkV (fun r => Like g r.1) V) (connectLoopP sensor outs g added rs) := by
  induction outs with
  | nil => intro g added rs hv _ _; exact .done ⟨Like.refl g, hv⟩
  | cons o os ih =>
    intro g added rs hv ht hT
    unfold connectLoopP
    refine (connectOneP_safe T sensor o g added rs hv ht hT).bind (fun r hr => ?_)
    split
    · exact .done hr.error_cast
    · exact .done ⟨Like.refl g, hr.2⟩
    · next g' added' rs' =>
      have hl : Like g g' := hr.1 _ rfl
      have hlen := hl.traitsLen
      refine (ih g' added' rs' hr.2 ?_ (by rw [hlen, hT])).mono (fun a ha => ha.mono (fun x hx => hl.trans hx))
      intro e; rw [e] at hlen; exact ht (List.length_eq_zero_iff.mp hlen.symm)

theorem mutateConnectSensorsP_safe (T : Nat) (g : Genome W) (rs : List Nat) (hv : V → Valid rs) (hg : g.genes ≠ [])
    (ht : g.traits ≠ []) (hT : g.traits.length = T) :
    PSafe T (OkV (fun r => Like g r.1) V) (mutateConnectSensorsP g rs) := by
  unfold mutateConnectSensorsP
  rw [if_neg (by simpa using hg)]
  dsimp only
  split
  · exact .done ⟨Like.refl g, hv⟩
  · next hne =>
    have hpos : 0 < ((g.nodes.filter (·.isSensor)).filter (fun s => !g.genes.any (fun x => x.src == s.id))).length := by
      apply List.length_pos_iff.mpr; intro h; simp [h] at hne
    have h1 := safe_intn _ hpos rs
    split
    · next e he => rw [he] at h1; exact .done (OkV.of_error h1)
    · next k rs1 he =>
      have hv1 := fun v => (Rand.intn_det _).valid (hv v) he
      rw [he] at h1
      split
      · next hn => rw [List.getElem?_eq_none_iff] at hn; have : k < _ := h1; omega
      · exact connectLoopP_safe T _ _ g false rs1 hv1 ht hT

theorem mutateAddLinkP_safe (T : Nat) (g : Genome W) (o : MutOpts W) (rs : List Nat) (hv : V → Valid rs)
    (hg : g.genes ≠ []) (hout : ∃ n ∈ g.nodes, n.kind = Kind.output) (hs : NodesSorted g.nodes)
    (ht : g.traits ≠ []) (hT : g.traits.length = T) :
    PSafe T (OkV (fun r => Like g r.1) V) (mutateAddLinkP g o rs) := by
  rw [mutateAddLinkP_eq, if_neg (by simpa using hg)]
  rw [if_neg (by
    obtain ⟨n, hn, hk⟩ := hout
    simp only [Bool.not_eq_true, Bool.not_eq_false', List.any_eq_true]
    exact ⟨n, hn, by simp [hk]⟩)]
  have hf := safe_float64 (W := W) rs
  split
  · next e he => rw [he] at hf; exact .done (OkV.of_error hf)
  · next f rs1 he =>
    have hv1 := fun v => Rand.float64_det.valid (hv v) he
    generalize lt f o.recurOnlyProb = doRecur
    have hfns : (g.nodes.takeWhile (·.isSensor)).length < g.nodes.length := by
      obtain ⟨n, hn, hk⟩ := hout
      exact takeWhile_lt _ _ ⟨n, hn, by simp [Node.isSensor, hk, Kind.output, Kind.input, Kind.bias]⟩
    have hfo := safe_findOpenLink g _ (by omega) hfns doRecur o.newLinkTries none rs1
    split
    · next e he2 => rw [he2] at hfo; exact .done (OkV.of_error hfo)
    · next rs2 he2 => exact .done ⟨Like.refl g, fun v => (findOpenLink_det _ _ _ _ _).valid (hv1 v) he2⟩
    · next rs2 he2 => exact .done ⟨Like.refl g, fun v => (findOpenLink_det _ _ _ _ _).valid (hv1 v) he2⟩
    · next n1 n2 rs2 he2 =>
      have hv2 := fun v => (findOpenLink_det _ _ _ _ _).valid (hv1 v) he2
      have hfo' : FoundOk g doRecur (some (n1, n2), true) := hfo.post he2
      obtain ⟨m1, m2, i1, i2, hm, hn1, hn2, hne⟩ := hfo' rfl
      simp only [Option.some.injEq, Prod.mk.injEq] at hm
      obtain ⟨rfl, rfl⟩ := hm
      have hself : (n1.id == n2.id && !doRecur) = false := by
        cases hd : doRecur with
        | true => simp
        | false =>
          have := ids_ne_of_sorted g.nodes hs hn1 hn2 (hne hd)
          simp [this]
      refine linkTailP_safe T g _ _ _ _ rs2 _ _ hv2 ht hT (.done ⟨Like.refl g, hv2⟩) (fun y rs' hv' => ?_)
      rw [if_neg (by simp [hself])]
      exact .done ⟨like_addGene g y, hv'⟩

theorem mutateAddNodeP_safe (hlaw : UnitMulLe W) (T : Nat) (g : Genome W) (o : MutOpts W) (rs : List Nat) (hv : Valid rs)
    (ha : ActOk o) (ht : g.traits ≠ []) :
    PSafe T (OkV (fun r => Like g r.1)) (mutateAddNodeP g o rs) := by
  unfold mutateAddNodeP
  split
  · exact .done ⟨Like.refl g, fun _ => hv⟩
  · next hg =>
    have hg' : g.genes ≠ [] := by simpa using hg
    dsimp only
    have hp : Safe (fun r => ∀ k, r = some k → k < g.genes.length)
        (if g.genes.length < 15 then pickSplitSmall g g.genes 0 rs else pickSplitLarge g 20 rs) := by
      split
      · exact (safe_pickSplitSmall g g.genes 0 rs).mono (fun a ha k hk => by have := ha k hk; omega)
      · exact safe_pickSplitLarge g hg' 20 rs
    have hvp : ∀ a rs1, (if g.genes.length < 15 then pickSplitSmall g g.genes 0 rs else pickSplitLarge g 20 rs) = .ok (a, rs1) →
        Valid rs1 := by
      intro a rs1 he
      split at he
      · exact (pickSplitSmall_det g g.genes 0).valid hv he
      · exact (pickSplitLarge_det g 20).valid hv he
    split
    · next e he => rw [he] at hp; exact .done (OkV.of_error hp)
    · next rs1 he => exact .done ⟨Like.refl g, fun _ => hvp _ _ he⟩
    · next k rs1 he =>
      have hv1 := hvp _ _ he
      rw [he] at hp
      have hk : k < g.genes.length := (hp : ∀ k', some k = some k' → k' < g.genes.length) k rfl
      split
      · next hn => rw [List.getElem?_eq_none_iff] at hn; omega
      · next gene hgene =>
        have h3 := traitAt_safe ({ g with genes := setEnabledAt g.genes k false } : Genome W) 0 (Int.le_refl 0)
          (by simpa using List.length_pos_iff.mpr ht)
        refine .snap (fun recs _ => ?_)
        split
        · split
          · next e he3 => rw [he3] at h3; exact .done (OkV.of_errorE h3)
          · next tr0 he3 =>
            split
            · exact .done ⟨like_disable g k, fun _ => hv1⟩
            · exact .done ⟨like_split g k _ _ _, fun _ => hv1⟩
        · refine .nextNode (fun newNodeId => ?_)
          split
          · next e he3 => rw [he3] at h3; exact .done (OkV.of_errorE h3)
          · next tr0 he3 =>
            have h4 := safe_randomNodeActivationType hlaw o ha rs1 hv1
            split
            · next e he4 => rw [he4] at h4; exact .done (OkV.of_error h4)
            · next act rs2 he4 =>
              have hv2 := (randomNodeActivationType_det o).valid hv1 he4
              refine .nextInn (fun inn1 => .nextInn (fun inn2 => ?_))
              exact .store (fun h => by simp at h) (.done ⟨like_split g k _ _ _, fun _ => hv2⟩)

end GoNeat.C16
