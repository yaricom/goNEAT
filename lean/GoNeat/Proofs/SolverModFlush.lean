/-
  C13 on MODULAR networks (standard solver, Model/SolverMod.lean).  For `net.ctrl = []` every operation of the modular
  model IS the operation of Model/Solver.lean (`*_refine`).  Every modular call carries a relation with the laws
  `Solver.CellRel` whose live cells include the cells read (`step_rel`): with every cell live this is `Solver.Equiv`
  (equality up to `ActivationSum`, at ALL indices of `allNodesMIMO`), for every network and wiring; if no neuron, no module
  and no output reads a control node (`ctrlUnread`), also `Solver.Equiv` of the states cut down to `allNodes`
  (`List.take nodes.length`): the control-node state (`isActive`, `Activation`, ...) is dead (before repair 842abdd
  `Network.Flush` did not reset it; that was harmless exactly under this wiring).
  Kind A: no arithmetic law (only `hz : lt 0 0 = false` for `FlushbackCheck`).
-/
import GoNeat.Proofs.SolverFlush
import GoNeat.Model.SolverMod

set_option linter.unusedSectionVars false
set_option linter.unusedVariables false

namespace GoNeat.SolverMod
open GoNeat.Solver

variable {W : Type} [Scalar W]

theorem actLoop_eq (net : Net W) (σ : Nat → W → Option W) (μ : Nat → List W → Option (List W)) (n : Int) :
    SolverMod.actLoop net σ μ n = actLoopG (outputIsOff net) (sweeps net σ μ) n := by
  funext fuel
  induction fuel with
  | zero => rfl
  | succ fuel ih =>
    funext abort one s
    simp only [SolverMod.actLoop, actLoopG, ih]
    rcases sweeps net σ μ s with ⟨s2, _ | e⟩ <;> rfl

theorem activateSteps_eq (net : Net W) (σ : Nat → W → Option W) (μ : Nat → List W → Option (List W)) :
    SolverMod.activateSteps net σ μ = activateStepsG (outputIsOff net) (sweeps net σ μ) := by
  funext n s
  simp only [SolverMod.activateSteps, activateStepsG, actLoop_eq]

theorem fwdLoop_eq (net : Net W) (σ : Nat → W → Option W) (μ : Nat → List W → Option (List W)) (n : Int) :
    SolverMod.fwdLoop net σ μ n = iterE (SolverMod.activateSteps net σ μ n) (fun _ => false) :=
  iterE_unique (fun _ _ => rfl) fun k res s => by
    rw [SolverMod.fwdLoop]
    rcases SolverMod.activateSteps net σ μ n s with ⟨s', r, _ | e⟩ <;> rfl

theorem sweeps_eq (net : Net W) (σ : Nat → W → Option W) (μ : Nat → List W → Option (List W)) :
    sweeps net σ μ = seqE (fun s => sweep2 net σ (SolverMod.sweep1 net s)) (sweep3 net μ) := by
  funext s
  unfold sweeps seqE
  dsimp only
  rcases sweep2 net σ (SolverMod.sweep1 net s) with ⟨s2, _ | e⟩ <;> rfl

theorem sweep3Aux_cons (μ : Nat → List W → Option (List W)) (cn : NNodeS W) (rest : List (NNodeS W)) (i : Nat) :
    sweep3Aux μ (cn :: rest) i =
      seqE (fun s => activateModule μ cn (upd s i (fun x => { x with isActive := false })))
        (fun s2 => sweep3Aux μ rest (i + 1) (upd s2 i (fun x => { x with isActive := true }))) := by
  funext s
  unfold seqE
  rw [sweep3Aux]
  dsimp only
  rcases activateModule μ cn (upd s i (fun x => { x with isActive := false })) with ⟨s2, _ | e⟩ <;> rfl

theorem sweep3Aux_sim {Rel : St W → St W → Prop} {μ : Nat → List W → Option (List W)}
    (hset : ∀ i b s t, Rel s t →
      Rel (upd s i (fun x => { x with isActive := b })) (upd t i (fun x => { x with isActive := b })))
    (cs : List (NNodeS W)) (ham : ∀ cn ∈ cs, Respects Rel (activateModule μ cn)) (i : Nat) :
    Respects Rel (sweep3Aux μ cs i) := by
  induction cs generalizing i with
  | nil => exact fun _ _ h => ⟨h, rfl⟩
  | cons cn cs ih =>
    rw [sweep3Aux_cons]
    exact Sim.seq (fun s t h => ham cn (List.mem_cons_self ..) _ _ (hset i false s t h))
      (fun s t h => ih (fun cn' h' => ham cn' (List.mem_cons_of_mem _ h')) (i + 1) _ _ (hset i true s t h))

section
variable {Rel : St W → St W → Prop} {net : Net W} {σ : Nat → W → Option W} {μ : Nat → List W → Option (List W)}

theorem sweeps_sim
    (hset : ∀ i b s t, Rel s t →
      Rel (upd s i (fun x => { x with isActive := b })) (upd t i (fun x => { x with isActive := b })))
    (h12 : Respects Rel (fun s => sweep2 net σ (SolverMod.sweep1 net s)))
    (ham : ∀ cn ∈ net.ctrl, Respects Rel (activateModule μ cn)) :
    Respects Rel (sweeps net σ μ) := by
  rw [sweeps_eq]
  exact Sim.seq h12 (sweep3Aux_sim hset net.ctrl ham net.nodes.length)

end

/-- `RecursiveSteps` is refused if there is a control node -/
def guardOf (net : Net W) : Option Err := if net.ctrl.length > 0 then some .modular else none

theorem step_eq (net : Net W) (σ : Nat → W → Option W) (μ : Nat → List W → Option (List W)) :
    SolverMod.step net σ μ =
      stdStep (outputIsOff net) (sweeps net σ μ) (Solver.loadSensors (flat net)) (guardOf net) (depthOf net) Solver.flush := by
  funext s op
  cases op with
  | recursive =>
    simp only [SolverMod.step, stdStep, guardOf, depthOf, SolverMod.recursiveSteps, SolverMod.forwardSteps, forwardStepsG,
      fwdLoop_eq, activateSteps_eq]
    split <;> rfl
  | _ => simp only [SolverMod.step, stdStep, SolverMod.forwardSteps, forwardStepsG, fwdLoop_eq, activateSteps_eq,
      SolverMod.loadSensors, SolverMod.flush, Solver.flush]

theorem isRun (net : Net W) (σ : Nat → W → Option W) (μ : Nat → List W → Option (List W)) :
    IsRun (withObs (readOutputs net) (SolverMod.step net σ μ)) (SolverMod.run net σ μ) :=
  ⟨fun _ => rfl, fun _ _ _ => rfl⟩

theorem flat_eq (net : Net W) (h : net.ctrl = []) : flat net = net := by
  cases net
  simp_all [flat]

theorem init_refine (net : Net W) (h : net.ctrl = []) : SolverMod.init net = Solver.init net := by
  simp [SolverMod.init, Solver.init, h]

theorem sweeps_refine (net : Net W) (σ : Nat → W → Option W) (μ : Nat → List W → Option (List W))
    (h : net.ctrl = []) : sweeps net σ μ = fun s => sweep2 net σ (Solver.sweep1 net s) := by
  funext s
  unfold sweeps sweep3 SolverMod.sweep1
  rw [flat_eq net h, h]
  unfold Solver.sweep1
  rcases sweep2 net σ (sweep1Aux net net.nodes 0 s) with ⟨s2, _ | e⟩ <;> simp [sweep3Aux]

theorem step_refine (net : Net W) (σ : Nat → W → Option W) (μ : Nat → List W → Option (List W))
    (h : net.ctrl = []) (s : St W) (op : Op W) :
    SolverMod.step net σ μ s op = Solver.step net σ s op := by
  rw [step_eq, Solver.step_eq, sweeps_refine net σ μ h, flat_eq net h, guardOf, h]
  rfl

theorem run_refine (net : Net W) (σ : Nat → W → Option W) (μ : Nat → List W → Option (List W))
    (h : net.ctrl = []) (ops : List (Op W)) (s : St W) :
    SolverMod.run net σ μ ops s = Solver.run net σ ops s := by
  exact (isRun net σ μ).ext (Solver.isRun net σ) (fun s op => by simp only [withObs, step_refine net σ μ h]) ops s

theorem NCong_setOut (v : W) : NCong (fun x : NState W => { setActivation v x with isActive := true }) :=
  fun a b => ⟨fun h => { (NCong_setActivation v a b).1 h with isActive := rfl }, id⟩

theorem setOuts_eq (ls : List (NLink W)) (vs : List W) (s : St W) :
    setOuts ls vs s =
      updAll ((ls.zip vs).map fun p => (p.1.dst, fun x => { setActivation p.2 x with isActive := true })) s := by
  induction ls generalizing vs s with
  | nil => cases vs <;> rfl
  | cons l ls ih =>
    cases vs with
    | nil => rfl
    | cons v vs => simp only [setOuts, ih, List.zip_cons_cons, List.map_cons, updAll, List.foldl_cons]

theorem moduleInputs_congr (cn : NNodeS W) (s t : St W)
    (h : ∀ l ∈ cn.incoming, activeOut (get s l.src) = activeOut (get t l.src)) :
    moduleInputs cn s = moduleInputs cn t :=
  List.map_congr_left h

theorem activateModule_ok (μ : Nat → List W → Option (List W)) (cn : NNodeS W) (s : St W) (outs : List W)
    (hμ : μ cn.act (moduleInputs cn s) = some outs) (hlen : outs.length = cn.outgoing.length) :
    activateModule μ cn s = (setOuts cn.outgoing outs s, none) := by
  have hne : (outs.length != cn.outgoing.length) = false := by simp [hlen]
  simp only [activateModule, hμ, hne]
  rfl

section
variable {Rel : (Nat → Prop) → St W → St W → Prop} {live : Nat → Prop} (L : CellRel Rel live)
include L

theorem activateModule_rel {S : Nat → Prop} (μ : Nat → List W → Option (List W)) (cn : NNodeS W)
    (hl : ∀ l ∈ cn.incoming, live l.src) : Respects (Rel S) (activateModule μ cn) := by
  intro s t h
  have hin := moduleInputs_congr cn s t fun l hm => activeOut_congr (L.neq h (hl l hm))
  unfold activateModule
  rw [hin]
  cases μ cn.act (moduleInputs cn t) with
  | none => exact ⟨h, rfl⟩
  | some outs =>
    simp only
    split
    · exact ⟨h, rfl⟩
    · rw [setOuts_eq, setOuts_eq]
      refine ⟨L.updAll _ (fun p hp => ?_) h, rfl⟩
      obtain ⟨q, _, rfl⟩ := List.mem_map.mp hp
      exact NCong_setOut q.2

theorem step_rel {net : Net W} (hr : Reads net live) (σ : Nat → W → Option W) (μ : Nat → List W → Option (List W))
    (hdepth : guardOf net = none → Respects (Rel fun _ => False) (depthOf net))
    (hflush : Respects (Rel fun _ => False) (Solver.flush (W := W))) (op : Op W) :
    Respects (Rel fun _ => False) (fun s => SolverMod.step net σ μ s op) := by
  rw [step_eq]
  exact Sim.stdStep (fun _ _ h => L.outputIsOff net hr.outs h)
    (sweeps_sim (Rel := Rel fun _ => False) (fun i b _ _ h => L.write i (NCong_isActive b) h) (L.sweeps12 (flat net) net σ hr.idx hr.nodes)
      (fun cn hcn => activateModule_rel L μ cn (hr.ctrl cn hcn)))
    (L.loadSensors (flat net)) hdepth hflush op

end

theorem step_congr (hz : Scalar.lt (Scalar.zero : W) Scalar.zero = false) (net : Net W) (σ : Nat → W → Option W)
    (μ : Nat → List W → Option (List W)) (op : Op W) :
    Respects Equiv (fun s => SolverMod.step net σ μ s op) :=
  step_rel R_cellRel (Reads.all net) σ μ (fun _ s t h => by
    simp only [depthOf, Equiv_visited h]
    exact ⟨setVisited_congr _ h, trivial⟩) (flush_congr hz) op

theorem take_upd (s : St W) (i : Nat) (f : NState W → NState W) (k : Nat) :
    (upd s i f).take k = upd (s.take k) i f := by
  rw [upd_eq_modify, upd_eq_modify, List.take_modify]

theorem get_take (s : St W) (i k : Nat) (h : i < k) : get (s.take k) i = get s i := by
  simp [Solver.get, List.getD, h]

theorem cut_cellRel (k : Nat) : CellRel (fun S (s t : St W) => Solver.R S (s.take k) (t.take k)) (· < k) where
  mono := R.mono
  write := fun i _ hf h => by rw [take_upd, take_upd]; exact R_cellRel.write i hf h
  reset := fun i h => by rw [take_upd, take_upd]; exact R_cellRel.reset i h
  neq := fun {_ _ _ j} h hj => by have := (h.2 j).1; rwa [get_take _ _ _ hj, get_take _ _ _ hj] at this
  sum := fun {_ _ _ j} h hj hs => by have := (h.2 j).2 hs; rwa [get_take _ _ _ hj, get_take _ _ _ hj] at this

theorem unread_of_bool (net : Net W) (h : ctrlUnread net = true) : Reads net (· < net.nodes.length) := by
  unfold ctrlUnread at h
  simp only [Bool.and_eq_true, List.all_eq_true, Bool.or_eq_true, Bool.not_eq_true', decide_eq_true_eq] at h
  obtain ⟨⟨h1, h2⟩, h3⟩ := h
  refine ⟨fun _ hj => hj, fun nd hnd hn l hl => ?_, h2, h3⟩
  rcases h1 nd hnd with hf | hall
  · rw [hn] at hf; cases hf
  · exact hall l hl

/-- one call on a network WITH control nodes, none of which is read: the control-node part of the state neither
    influences the observation nor the ordinary part of the next state -/
theorem step_cut (hz : Scalar.lt (Scalar.zero : W) Scalar.zero = false) (net : Net W) (σ : Nat → W → Option W)
    (μ : Nat → List W → Option (List W)) (hu : Reads net (· < net.nodes.length)) (hc : net.ctrl ≠ []) (op : Op W) :
    Respects (fun s t : St W => Equiv (s.take net.nodes.length) (t.take net.nodes.length))
      (fun s => SolverMod.step net σ μ s op) :=
  step_rel (cut_cellRel net.nodes.length) hu σ μ
    (fun hg => by simp [guardOf, List.length_pos_iff.mpr hc] at hg)
    (fun s t h => by
      simp only [Solver.flush, flushAux_eq hz, ← List.map_take]
      exact ⟨Equiv_map (fun a b _ => (flushback_fresh a b).1) h, trivial⟩) op

theorem run_cut (hz : Scalar.lt (Scalar.zero : W) Scalar.zero = false) (net : Net W) (σ : Nat → W → Option W)
    (μ : Nat → List W → Option (List W)) (hu : Reads net (· < net.nodes.length)) (hc : net.ctrl ≠ []) (ops : List (Op W)) :
    Respects (fun s t : St W => Equiv (s.take net.nodes.length) (t.take net.nodes.length)) (SolverMod.run net σ μ ops) :=
  Sim.run (isRun net σ μ) (isRun net σ μ) (Sim.withObs (step_cut hz net σ μ hu hc)
    (fun _ _ h => (cut_cellRel net.nodes.length).readOutputs net hu.outs h)) ops

theorem length_activateModule (μ : Nat → List W → Option (List W)) (cn : NNodeS W) (s : St W) :
    (activateModule μ cn s).1.length = s.length :=
  (activateModule_rel (len_cellRel s.length) (S := fun _ => False) μ cn (fun _ _ => trivial) s s ⟨rfl, rfl⟩).1.2

theorem length_step (net : Net W) (σ : Nat → W → Option W) (μ : Nat → List W → Option (List W)) (s : St W)
    (op : Op W) : (SolverMod.step net σ μ s op).1.length = s.length :=
  (step_rel (len_cellRel s.length) (Reads.all net) σ μ (fun _ => sim_of_pres fun _ h => (length_setVisited ..).trans h)
    (sim_of_pres fun a h => (length_flushAux a).trans h) op s s ⟨rfl, rfl⟩).1.2

theorem length_run (net : Net W) (σ : Nat → W → Option W) (μ : Nat → List W → Option (List W)) (ops : List (Op W))
    (s : St W) : (SolverMod.run net σ μ ops s).1.length = s.length :=
  Pres.run (P := fun t : St W => t.length = s.length) (isRun net σ μ) (fun op t h => (length_step net σ μ t op).trans h) ops s rfl

/-- C13 for modular networks: `ActivationSum` is dead at every node, control nodes included -/
theorem flushFresh (hz : Scalar.lt (Scalar.zero : W) Scalar.zero = false) (net : Net W) (σ : Nat → W → Option W)
    (μ : Nat → List W → Option (List W)) :
    FlushFresh (withObs (readOutputs net) (SolverMod.step net σ μ)) (SolverMod.run net σ μ) (SolverMod.flush net)
      (SolverMod.init net) Equiv (fun s => s.length = (net.nodes ++ net.ctrl).length) (true, none) where
  isRun := isRun net σ μ
  congr := Sim.withObs (step_congr hz net σ μ) (fun _ _ h => readOutputs_congr net h)
  keeps := fun op s h => (length_step net σ μ s op).trans h
  fresh := by simp [SolverMod.init]
  flush := fun s h => flush_equiv_fresh hz (net.nodes ++ net.ctrl) s h

end GoNeat.SolverMod
