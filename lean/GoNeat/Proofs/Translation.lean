/-
  C12: the translation `Network.FastNetworkSolver()` globally.

  `orderOf net` = bias ++ input ++ outputs ++ hidden is the list of node indices in fast-index order, `idx net j` the
  position of node `j` in it = `neuronLookup[id of j]` (`lookup_idx`; ids distinct).  `ofNet` runs
  `processIncomingConnections` three times (inputs, hidden, outputs = `procList`); a property kept by the processing
  of one node therefore holds of the result (`ofNet_rule`).  Two such invariants:
  `TIA` (any scalars): the connection list is `(procList net).flatMap connsOf`, `connsOf i` = the non-bias incoming
  links of node `i`, in `Incoming` order, re-indexed;
  `TIB` (exact commutative-semiring arithmetic): per processed node the folded bias satisfies
  Σ_{connsOf i} sig·w + biasList[idx i] = Σ_{incoming} w·value (from `translation_node`).
  From `TIA`: the translated network satisfies the hypotheses `FFAll` of the fast-solver theorems.  From both:
  `fvalNode (ofNet net) (idx i) = evalNode net i`, by induction on the rank (`fval_eq_eval_aux`).
-/
import GoNeat.Proofs.SolverExact
import GoNeat.Proofs.SolverFF
import GoNeat.Proofs.FastFFAll
import GoNeat.Proofs.ListLemmas
import Mathlib.Data.List.Nodup
import Mathlib.Data.List.Perm.Subperm

set_option linter.unusedSectionVars false

namespace GoNeat.Fast
open GoNeat.Solver (Err kindAt)
open GoNeat.SolverSpec

variable {W : Type} [Scalar W]

theorem lookupId_some (lk : List (Int × Nat)) (id : Int) (v : Nat) (h : lookupId lk id = some v) : (id, v) ∈ lk := by
  induction lk with
  | nil => cases h
  | cons p rest ih =>
    obtain ⟨k, v'⟩ := p
    rw [lookupId] at h
    rcases hr : lookupId rest id with _ | r
    · rw [hr] at h
      by_cases hk : (k == id) = true
      · rw [if_pos hk] at h
        cases h
        exact List.mem_cons.mpr (Or.inl (by rw [beq_iff_eq.mp hk]))
      · rw [if_neg hk] at h
        cases h
    · rw [hr] at h
      exact List.mem_cons_of_mem _ (ih (hr.trans h))

def orderOf (net : Net W) : List Nat :=
  idxOfKind net Kind.bias ++ idxOfKind net Kind.input ++ net.outputs ++ idxOfKind net Kind.hidden

/-- the `neuronLookup` map as an association list -/
def lkOf (net : Net W) : List (Int × Nat) :=
  (List.range (orderOf net).length).map fun k =>
    ((net.nodes[(orderOf net).getD k 0]?).map (·.id) |>.getD 0, k)

def idx (net : Net W) (j : Nat) : Nat := (orderOf net).idxOf j

theorem mem_idxOfKind (net : Net W) (k : Kind) (i : Nat) :
    i ∈ idxOfKind net k ↔ ∃ nd, net.nodes[i]? = some nd ∧ nd.kind = k := by
  unfold idxOfKind
  simp only [List.mem_filter, List.mem_range, beq_iff_eq, Option.map_eq_some_iff]
  constructor
  · rintro ⟨_, nd, h1, h2⟩; exact ⟨nd, h1, h2⟩
  · rintro ⟨nd, h1, h2⟩
    refine ⟨?_, nd, h1, h2⟩
    rcases Nat.lt_or_ge i net.nodes.length with h | h
    · exact h
    · rw [List.getElem?_eq_none h] at h1; simp at h1

theorem nodup_idxOfKind (net : Net W) (k : Kind) : (idxOfKind net k).Nodup :=
  List.Nodup.filter _ List.nodup_range

/-- decidable well-formedness needed by the index bookkeeping: node ids distinct; the outputs list is duplicate-free
    and holds output-type nodes; every node is indexed (bias, input, hidden or a listed output); sensors have no
    incoming link; no node pair is joined twice; ranks are bounded by the node count -/
def TransWF (net : Net W) (lvl : Nat → Nat) : Bool :=
  decide ((net.nodes.map (·.id)).Nodup) &&
  net.outputs.all (fun o => kindAt net o == some Kind.output) &&
  decide net.outputs.Nodup &&
  decide ((orderOf net).length = net.nodes.length) &&
  net.nodes.all (fun (nd : NNodeS W) => (!nd.isSensor || nd.incoming.isEmpty) && decide ((nd.incoming.map (·.src)).Nodup)) &&
  (List.range net.nodes.length).all (fun i => decide (lvl i ≤ net.nodes.length))

structure TWF (net : Net W) (lvl : Nat → Nat) : Prop where
  ids : (net.nodes.map (·.id)).Nodup
  outK : ∀ o ∈ net.outputs, ∃ nd, net.nodes[o]? = some nd ∧ nd.kind = Kind.output
  outND : net.outputs.Nodup
  len : (orderOf net).length = net.nodes.length
  sens : ∀ (i : Nat) (nd : NNodeS W), net.nodes[i]? = some nd → nd.isSensor = true → nd.incoming = []
  srcND : ∀ (i : Nat) (nd : NNodeS W), net.nodes[i]? = some nd → (nd.incoming.map (·.src)).Nodup
  bound : ∀ i, i < net.nodes.length → lvl i ≤ net.nodes.length

theorem TransWF_props (net : Net W) (lvl : Nat → Nat) (h : TransWF net lvl = true) : TWF net lvl := by
  simp only [TransWF, Bool.and_eq_true, decide_eq_true_eq, List.all_eq_true, beq_iff_eq, Bool.or_eq_true,
    Bool.not_eq_true', List.isEmpty_iff, List.mem_range] at h
  obtain ⟨⟨⟨⟨⟨h1, h2⟩, h3⟩, h4⟩, h5⟩, h6⟩ := h
  refine ⟨h1, fun o ho => ?_, h3, h4, fun i nd hi hs => ?_, fun i nd hi => ?_, h6⟩
  · have := h2 o ho
    simp only [kindAt, Option.map_eq_some_iff] at this
    exact this
  · rcases (h5 nd (List.mem_of_getElem? hi)).1 with h | h
    · rw [hs] at h; simp at h
    · exact h
  · exact (h5 nd (List.mem_of_getElem? hi)).2

section Order
variable (net : Net W) {lvl : Nat → Nat} (hwf : TWF net lvl)
include hwf

theorem order_valid : ∀ j ∈ orderOf net, ∃ nd, net.nodes[j]? = some nd := by
  intro j hj
  simp only [orderOf, List.mem_append] at hj
  rcases hj with ((hj | hj) | hj) | hj
  · obtain ⟨nd, h, _⟩ := (mem_idxOfKind net _ j).mp hj; exact ⟨nd, h⟩
  · obtain ⟨nd, h, _⟩ := (mem_idxOfKind net _ j).mp hj; exact ⟨nd, h⟩
  · obtain ⟨nd, h, _⟩ := hwf.outK j hj; exact ⟨nd, h⟩
  · obtain ⟨nd, h, _⟩ := (mem_idxOfKind net _ j).mp hj; exact ⟨nd, h⟩

theorem order_nodup : (orderOf net).Nodup := by
  have hk : ∀ {k a}, a ∈ idxOfKind net k → kindAt net a = some k := by
    intro k a ha
    obtain ⟨nd, h1, h2⟩ := (mem_idxOfKind net k a).mp ha
    rw [kindAt, h1, Option.map_some, h2]
  have ho : ∀ {a}, a ∈ net.outputs → kindAt net a = some Kind.output := by
    intro a ha
    obtain ⟨nd, h1, h2⟩ := hwf.outK a ha
    rw [kindAt, h1, Option.map_some, h2]
  -- the four parts hold nodes of four different kinds
  have dis : ∀ {k1 k2 : Kind} {a b}, kindAt net a = some k1 → kindAt net b = some k2 → k1 ≠ k2 → a ≠ b := by
    rintro k1 k2 a b h1 h2 hne rfl
    exact hne (Option.some.inj (h1.symm.trans h2))
  simp only [orderOf, List.nodup_append, List.mem_append]
  refine ⟨⟨⟨nodup_idxOfKind net _, nodup_idxOfKind net _, fun a ha b hb => dis (hk ha) (hk hb) (by decide)⟩,
    hwf.outND, ?_⟩, nodup_idxOfKind net _, ?_⟩
  · rintro a (ha | ha) b hb
    · exact dis (hk ha) (ho hb) (by decide)
    · exact dis (hk ha) (ho hb) (by decide)
  · rintro a ((ha | ha) | ha) b hb
    · exact dis (hk ha) (hk hb) (by decide)
    · exact dis (hk ha) (hk hb) (by decide)
    · exact dis (ho ha) (hk hb) (by decide)

theorem idx_lt (j : Nat) (hj : j ∈ orderOf net) : idx net j < (orderOf net).length :=
  List.idxOf_lt_length_iff.mpr hj

theorem order_idx (j : Nat) (hj : j ∈ orderOf net) : (orderOf net).getD (idx net j) 0 = j := by
  rw [List.getD_eq_getElem?_getD, idx, List.getElem?_idxOf hj]
  rfl

theorem idx_of_get (s j : Nat) (h : (orderOf net)[s]? = some j) : idx net j = s := by
  obtain ⟨hs, he⟩ := List.getElem?_eq_some_iff.mp h
  unfold idx
  rw [← he]
  exact (order_nodup net hwf).idxOf_getElem s hs

theorem idx_inj (i j : Nat) (hi : i ∈ orderOf net) (hj : j ∈ orderOf net) (h : idx net i = idx net j) : i = j := by
  rw [← order_idx net hwf i hi, ← order_idx net hwf j hj, h]

theorem lookup_idx (j s : Nat) (nd : NNodeS W) (hj : net.nodes[j]? = some nd)
    (h : lookupId (lkOf net) nd.id = some s) : j ∈ orderOf net ∧ s = idx net j := by
  have hk := lookupId_some _ _ _ h
  simp only [lkOf, List.mem_map, List.mem_range, Prod.mk.injEq] at hk
  obtain ⟨s', hs', hid, rfl⟩ := hk
  have hget : (orderOf net)[s']? = some ((orderOf net).getD s' 0) := by
    rw [List.getD_eq_getElem?_getD, List.getElem?_eq_getElem hs']; rfl
  have hmem : (orderOf net).getD s' 0 ∈ orderOf net := List.mem_of_getElem? hget
  obtain ⟨nd', hnd'⟩ := order_valid net hwf _ hmem
  rw [hnd'] at hid
  simp only [Option.map_some, Option.getD_some] at hid
  have := idxOf_unique hwf.ids (a := nd.id) (by rw [hnd']; exact congrArg some hid) (by rw [hj]; rfl)
  rw [this] at hget hmem
  exact ⟨hmem, (idx_of_get net hwf _ _ hget).symm⟩

end Order

def isBiasAt (net : Net W) (j : Nat) : Bool := kindAt net j == some Kind.bias

theorem isBiasAt_eq (net : Net W) (j : Nat) (sn : NNodeS W) (hn : net.nodes[j]? = some sn) :
    isBiasAt net j = (sn.kind == Kind.bias) := by
  simp [isBiasAt, kindAt, hn]

/-- connections emitted for a node with fast index `t` and incoming links `ls`: the non-bias links, in order -/
def connsFor (net : Net W) (t : Nat) (ls : List (NLink W)) : List (FLink W) :=
  (ls.filter fun l => !isBiasAt net l.src).map fun l => { src := idx net l.src, dst := t, w := l.w }

theorem links_shape (net : Net W) {lvl : Nat → Nat} (hwf : TWF net lvl) (t : Nat) (ls : List (NLink W))
    (b : List W) (c : List (FLink W)) (b' : List W) (c' : List (FLink W))
    (hrun : procIncoming.links net (lkOf net) t ls b c = .ok (b', c')) :
    c' = c ++ connsFor net t ls ∧ b'.length = b.length ∧ (∀ l ∈ ls, l.src ∈ orderOf net) ∧
      ((∀ l ∈ ls, isBiasAt net l.src = false) → b' = b) := by
  induction ls generalizing b c with
  | nil =>
    simp only [procIncoming.links, Except.ok.injEq, Prod.mk.injEq] at hrun
    obtain ⟨rfl, rfl⟩ := hrun
    exact ⟨by simp [connsFor], rfl, by simp, fun _ => rfl⟩
  | cons l ls ih =>
    obtain ⟨sn, sIdx, hn, hl, hcase⟩ := links_cons_ok net (lkOf net) t l ls b c _ hrun
    obtain ⟨hmem, hs⟩ := lookup_idx net hwf l.src sIdx sn hn hl
    have hbe := isBiasAt_eq net l.src sn hn
    rcases hcase with ⟨hb, hrun⟩ | ⟨hb', hrun⟩
    · obtain ⟨h1, h2, h3, _⟩ := ih _ _ hrun
      refine ⟨?_, by rw [h2]; simp, List.forall_mem_cons.mpr ⟨hmem, h3⟩, fun hno => ?_⟩
      · rw [h1]
        simp [connsFor, hbe, hb]
      · have := hno l (by simp)
        rw [hbe, hb] at this
        simp at this
    · obtain ⟨h1, h2, h3, h4⟩ := ih _ _ hrun
      refine ⟨?_, h2, List.forall_mem_cons.mpr ⟨hmem, h3⟩, fun hno => h4 (fun l' hl' => hno l' (by simp [hl']))⟩
      rw [h1, hs]
      simp [connsFor, hbe, hb']

theorem procIncoming_inv (net : Net W) (lk : List (Int × Nat)) (P : List Nat → List W → List (FLink W) → Prop)
    (all : List Nat)
    (step : ∀ (done : List Nat) (i : Nat) (rest : List Nat) (nd : NNodeS W) (t : Nat) (b : List W) (c : List (FLink W))
      (b1 : List W) (c1 : List (FLink W)), all = done ++ i :: rest → net.nodes[i]? = some nd →
      lookupId lk nd.id = some t → procIncoming.links net lk t nd.incoming b c = .ok (b1, c1) →
      P done b c → P (done ++ [i]) b1 c1) :
    ∀ (is done tail : List Nat) (b : List W) (c : List (FLink W)) (b' : List W) (c' : List (FLink W)),
      all = done ++ is ++ tail → procIncoming net lk is b c = .ok (b', c') → P done b c → P (done ++ is) b' c' := by
  intro is
  induction is with
  | nil =>
    intro done tail b c b' c' _ hrun hP
    simp only [procIncoming, Except.ok.injEq, Prod.mk.injEq] at hrun
    obtain ⟨rfl, rfl⟩ := hrun
    simpa using hP
  | cons i rest ih =>
    intro done tail b c b' c' hall hrun hP
    unfold procIncoming at hrun
    cases hn : net.nodes[i]? with
    | none => rw [hn] at hrun; simp at hrun
    | some nd =>
      rw [hn] at hrun
      simp only at hrun
      cases hl : lookupId lk nd.id with
      | none => rw [hl] at hrun; simp at hrun
      | some t =>
        rw [hl] at hrun
        simp only at hrun
        cases hlinks : procIncoming.links net lk t nd.incoming b c with
        | error e => rw [hlinks] at hrun; simp at hrun
        | ok r =>
          obtain ⟨b1, c1⟩ := r
          rw [hlinks] at hrun
          simp only at hrun
          have hP1 := step done i (rest ++ tail) nd t b c b1 c1 (by rw [hall]; simp) hn hl hlinks hP
          have := ih (done ++ [i]) tail b1 c1 b' c' (by rw [hall]; simp) hrun hP1
          simpa using this

theorem ofNet_inv (net : Net W) (fn : FastNet W) (h : ofNet net = .ok fn) :
    ∃ b1 c1 b2 c2 b3 c3,
      procIncoming net (lkOf net) (idxOfKind net Kind.input) (List.replicate net.nodes.length Scalar.zero) [] = .ok (b1, c1) ∧
      procIncoming net (lkOf net) (idxOfKind net Kind.hidden) b1 c1 = .ok (b2, c2) ∧
      procIncoming net (lkOf net) net.outputs b2 c2 = .ok (b3, c3) ∧
      fn = { nBias := (idxOfKind net Kind.bias).length, nInput := (idxOfKind net Kind.input).length,
             nOutput := net.outputs.length, nTotal := net.nodes.length,
             acts := ((orderOf net).map fun i => (net.nodes[i]?).map (·.act) |>.getD 0) ++
               List.replicate (net.nodes.length - (orderOf net).length) 0,
             biasList := b3, conns := c3 } := by
  unfold ofNet at h
  simp only at h
  split at h
  · cases h
  · split at h
    · cases h
    · split at h
      · cases h
      · next b1 c1 h1 =>
        split at h
        · cases h
        · next b2 c2 h2 =>
          split at h
          · cases h
          · next b3 c3 h3 =>
            simp only [Except.ok.injEq] at h
            exact ⟨b1, c1, b2, c2, b3, c3, h1, h2, h3, h.symm⟩

def incOf (net : Net W) (i : Nat) : List (NLink W) := ((net.nodes[i]?).map (·.incoming)).getD []

def connsOf (net : Net W) (i : Nat) : List (FLink W) := connsFor net (idx net i) (incOf net i)

/-- nodes in the order the three `processIncomingConnections` passes visit them -/
def procList (net : Net W) : List Nat := idxOfKind net Kind.input ++ idxOfKind net Kind.hidden ++ net.outputs

theorem incOf_eq (net : Net W) (i : Nat) (nd : NNodeS W) (h : net.nodes[i]? = some nd) : incOf net i = nd.incoming := by
  simp [incOf, h]

/-- `TIA` (translation invariant, Kind A: any scalars) of `processIncomingConnections` after the nodes `done`, with bias list
    `b` and connection list `c`: `b` has one cell per node; `c` is exactly the connections of the nodes done, in order; they
    and the sources of their links have fast indices; without bias nodes `b` is still all zero -/
structure TIA (net : Net W) (done : List Nat) (b : List W) (c : List (FLink W)) : Prop where
  len : b.length = net.nodes.length
  conns : c = done.flatMap (connsOf net)
  self : ∀ i ∈ done, i ∈ orderOf net
  src : ∀ i ∈ done, ∀ l ∈ incOf net i, l.src ∈ orderOf net
  nob : (∀ j, isBiasAt net j = false) → ∀ t, getW b t = Scalar.zero

theorem TIA_step (net : Net W) {lvl : Nat → Nat} (hwf : TWF net lvl) (done : List Nat) (i : Nat) (nd : NNodeS W) (t : Nat)
    (b : List W) (c : List (FLink W)) (b1 : List W) (c1 : List (FLink W)) (hn : net.nodes[i]? = some nd)
    (hl : lookupId (lkOf net) nd.id = some t)
    (hlinks : procIncoming.links net (lkOf net) t nd.incoming b c = .ok (b1, c1)) (hP : TIA net done b c) :
    TIA net (done ++ [i]) b1 c1 := by
  obtain ⟨hmem, ht⟩ := lookup_idx net hwf i t nd hn hl
  obtain ⟨h1, h2, h3, h4⟩ := links_shape net hwf t nd.incoming b c b1 c1 hlinks
  have hinc := incOf_eq net i nd hn
  refine ⟨by rw [h2, hP.len], ?_, List.forall_mem_append.mpr ⟨hP.self, fun i' h => List.mem_singleton.mp h ▸ hmem⟩,
    List.forall_mem_append.mpr ⟨hP.src, fun i' h => List.mem_singleton.mp h ▸ hinc ▸ h3⟩, fun hno t' => ?_⟩
  · rw [h1, hP.conns, List.flatMap_append]
    simp [connsOf, hinc, ht]
  · rw [h4 (fun l _ => hno l.src)]
    exact hP.nob hno t'

/-- the three re-bracketings of `procList` in the shape `done ++ is ++ tail` that `procIncoming_inv` wants, one per pass of
    `ofNet` (`ofNet_rule`); nothing else uses them -/
theorem procList_split (net : Net W) :
    procList net = [] ++ idxOfKind net Kind.input ++ (idxOfKind net Kind.hidden ++ net.outputs) ∧
    procList net = idxOfKind net Kind.input ++ idxOfKind net Kind.hidden ++ net.outputs ∧
    procList net = (idxOfKind net Kind.input ++ idxOfKind net Kind.hidden) ++ net.outputs ++ [] := by
  simp [procList]

structure OfNet (net : Net W) (fn : FastNet W) : Prop where
  nBias : fn.nBias = (idxOfKind net Kind.bias).length
  nInput : fn.nInput = (idxOfKind net Kind.input).length
  nOutput : fn.nOutput = net.outputs.length
  nTotal : fn.nTotal = net.nodes.length
  acts : fn.acts = ((orderOf net).map fun i => (net.nodes[i]?).map (·.act) |>.getD 0) ++
               List.replicate (net.nodes.length - (orderOf net).length) 0
  tia : TIA net (procList net) fn.biasList fn.conns

theorem ofNet_rule (net : Net W) (fn : FastNet W) (h : ofNet net = .ok fn)
    (P : List Nat → List W → List (FLink W) → Prop)
    (step : ∀ (done : List Nat) (i : Nat) (rest : List Nat) (nd : NNodeS W) (t : Nat) (b : List W) (c : List (FLink W))
      (b1 : List W) (c1 : List (FLink W)), procList net = done ++ i :: rest → net.nodes[i]? = some nd →
      lookupId (lkOf net) nd.id = some t → procIncoming.links net (lkOf net) t nd.incoming b c = .ok (b1, c1) →
      P done b c → P (done ++ [i]) b1 c1)
    (h0 : P [] (List.replicate net.nodes.length (Scalar.zero : W)) []) : P (procList net) fn.biasList fn.conns := by
  obtain ⟨b1, c1, b2, c2, b3, c3, h1, h2, h3, rfl⟩ := ofNet_inv net fn h
  have rule := procIncoming_inv net (lkOf net) P (procList net) step
  obtain ⟨s1, s2, s3⟩ := procList_split net
  have t1 := rule _ [] _ _ _ _ _ s1 h1 h0
  have t2 := rule _ _ _ _ _ _ _ s2 h2 t1
  exact rule _ _ [] _ _ _ _ s3 h3 t2

theorem ofNet_facts (net : Net W) {lvl : Nat → Nat} (hwf : TWF net lvl) (fn : FastNet W) (h : ofNet net = .ok fn) :
    OfNet net fn := by
  have htia := ofNet_rule net fn h (TIA net)
    (fun done i _ nd t b c b1 c1 _ hn hl hlinks hP => TIA_step net hwf done i nd t b c b1 c1 hn hl hlinks hP)
    ⟨by simp, by simp, by simp, by simp, fun _ t => getW_replicate_zero _ t⟩
  obtain ⟨b1, c1, b2, c2, b3, c3, _, _, _, rfl⟩ := ofNet_inv net fn h
  exact ⟨rfl, rfl, rfl, rfl, rfl, htia⟩

theorem order_split (net : Net W) :
    orderOf net = (idxOfKind net Kind.bias ++ idxOfKind net Kind.input) ++ (net.outputs ++ idxOfKind net Kind.hidden) := by
  simp [orderOf]

theorem nSensor_eq (net : Net W) (fn : FastNet W) (h : OfNet net fn) :
    fn.nSensor = (idxOfKind net Kind.bias ++ idxOfKind net Kind.input).length := by
  simp [FastNet.nSensor, h.nBias, h.nInput]

theorem mem_sensorPart (net : Net W) (j : Nat) :
    j ∈ idxOfKind net Kind.bias ++ idxOfKind net Kind.input ↔ ∃ nd, net.nodes[j]? = some nd ∧ nd.isSensor = true := by
  simp only [List.mem_append, mem_idxOfKind, NNodeS.isSensor, Bool.or_eq_true, beq_iff_eq]
  constructor
  · rintro (⟨nd, h1, h2⟩ | ⟨nd, h1, h2⟩)
    · exact ⟨nd, h1, Or.inr h2⟩
    · exact ⟨nd, h1, Or.inl h2⟩
  · rintro ⟨nd, h1, h2 | h2⟩
    · exact Or.inr ⟨nd, h1, h2⟩
    · exact Or.inl ⟨nd, h1, h2⟩

theorem idx_sensor (net : Net W) (fn : FastNet W) (h : OfNet net fn) (j : Nat) (nd : NNodeS W)
    (hj : net.nodes[j]? = some nd) (hs : nd.isSensor = true) : idx net j < fn.nSensor := by
  have hm := (mem_sensorPart net j).mpr ⟨nd, hj, hs⟩
  rw [nSensor_eq net fn h]
  unfold idx
  rw [order_split, List.idxOf_append_of_mem hm]
  exact List.idxOf_lt_length_iff.mpr hm

theorem idx_neuron (net : Net W) (fn : FastNet W) (h : OfNet net fn) (j : Nat) (nd : NNodeS W)
    (hj : net.nodes[j]? = some nd) (hs : nd.isSensor = false) : fn.nSensor ≤ idx net j := by
  have hm : j ∉ idxOfKind net Kind.bias ++ idxOfKind net Kind.input := by
    intro hm
    obtain ⟨nd', h1, h2⟩ := (mem_sensorPart net j).mp hm
    rw [hj] at h1
    simp only [Option.some.injEq] at h1
    subst h1
    rw [hs] at h2
    simp at h2
  rw [nSensor_eq net fn h]
  unfold idx
  rw [order_split, List.idxOf_append_of_notMem hm]
  omega

theorem order_neuron (net : Net W) {lvl : Nat → Nat} (hwf : TWF net lvl) (fn : FastNet W) (h : OfNet net fn) (t : Nat)
    (h1 : fn.nSensor ≤ t) (h2 : t < fn.nTotal) :
    ∃ j nd, (orderOf net)[t]? = some j ∧ j ∈ procList net ∧ net.nodes[j]? = some nd ∧ nd.isSensor = false := by
  rw [h.nTotal, ← hwf.len] at h2
  rw [nSensor_eq net fn h] at h1
  obtain ⟨j, hget⟩ : ∃ j, (orderOf net)[t]? = some j := ⟨_, List.getElem?_eq_getElem h2⟩
  have hget' := hget
  rw [order_split, List.getElem?_append_right h1] at hget'
  have hmem := List.mem_of_getElem? hget'
  refine ⟨j, ?_⟩
  rcases List.mem_append.mp hmem with hm | hm
  · obtain ⟨nd, hn, hk⟩ := hwf.outK _ hm
    exact ⟨nd, hget, by simp [procList, hm], hn, by simp [NNodeS.isSensor, hk, Kind.output, Kind.input, Kind.bias]⟩
  · obtain ⟨nd, hn, hk⟩ := (mem_idxOfKind net _ _).mp hm
    exact ⟨nd, hget, by simp [procList, hm], hn, by simp [NNodeS.isSensor, hk, Kind.hidden, Kind.input, Kind.bias]⟩

theorem idx_output (net : Net W) {lvl : Nat → Nat} (hwf : TWF net lvl) (fn : FastNet W) (h : OfNet net fn) (k : Nat)
    (hk : k < net.outputs.length) : idx net (net.outputs[k]) = fn.nSensor + k := by
  apply idx_of_get net hwf
  rw [nSensor_eq net fn h, order_split, List.getElem?_append_right (by omega), Nat.add_sub_cancel_left,
    List.getElem?_append_left hk]
  exact List.getElem?_eq_getElem hk

theorem procList_mem_order (net : Net W) (j : Nat) (hj : j ∈ procList net) : j ∈ orderOf net := by
  simp only [procList, orderOf, List.mem_append] at hj ⊢
  rcases hj with (h | h) | h
  · exact Or.inl (Or.inl (Or.inr h))
  · exact Or.inr h
  · exact Or.inl (Or.inr h)

theorem procList_nodup (net : Net W) {lvl : Nat → Nat} (hwf : TWF net lvl) : (procList net).Nodup := by
  have h := order_nodup net hwf
  rw [order_split, List.append_assoc] at h
  have h2 := (List.nodup_append.mp h).2.1
  have hp : List.Perm (procList net) (idxOfKind net Kind.input ++ (net.outputs ++ idxOfKind net Kind.hidden)) := by
    unfold procList
    rw [List.append_assoc]
    exact List.Perm.append_left _ List.perm_append_comm
  exact hp.nodup_iff.mpr h2

/-- rank of a fast index = rank of the node it stands for -/
def lvlF (net : Net W) (lvl : Nat → Nat) (t : Nat) : Nat := lvl ((orderOf net).getD t 0)

theorem lvlF_idx (net : Net W) {lvl : Nat → Nat} (hwf : TWF net lvl) (j : Nat) (hj : j ∈ orderOf net) :
    lvlF net lvl (idx net j) = lvl j := by
  unfold lvlF
  rw [order_idx net hwf j hj]

theorem lvlF_get (net : Net W) (lvl : Nat → Nat) (t j : Nat) (h : (orderOf net)[t]? = some j) : lvlF net lvl t = lvl j := by
  unfold lvlF
  rw [List.getD_eq_getElem?_getD, h]
  rfl

theorem mem_connsOf (net : Net W) (i : Nat) (c : FLink W) :
    c ∈ connsOf net i ↔ ∃ l ∈ incOf net i, isBiasAt net l.src = false ∧
      c = { src := idx net l.src, dst := idx net i, w := l.w } := by
  simp only [connsOf, connsFor, List.mem_map, List.mem_filter, Bool.not_eq_true']
  constructor
  · rintro ⟨l, ⟨h1, h2⟩, rfl⟩; exact ⟨l, h1, h2, rfl⟩
  · rintro ⟨l, h1, h2, rfl⟩; exact ⟨l, ⟨h1, h2⟩, rfl⟩

theorem mem_conns (net : Net W) (fn : FastNet W) (h : OfNet net fn) (c : FLink W) (hc : c ∈ fn.conns) :
    ∃ i ∈ procList net, ∃ l ∈ incOf net i, isBiasAt net l.src = false ∧
      c = { src := idx net l.src, dst := idx net i, w := l.w } := by
  rw [h.tia.conns, List.mem_flatMap] at hc
  obtain ⟨i, hi, hc⟩ := hc
  exact ⟨i, hi, (mem_connsOf net i c).mp hc⟩

theorem acts_get (net : Net W) (fn : FastNet W) (h : OfNet net fn) (t j : Nat) (nd : NNodeS W)
    (hget : (orderOf net)[t]? = some j) (hn : net.nodes[j]? = some nd) : fn.acts.getD t 0 = nd.act := by
  have ht : t < (orderOf net).length := (List.getElem?_eq_some_iff.mp hget).1
  rw [h.acts, List.getD_eq_getElem?_getD, List.getElem?_append_left (by simpa using ht), List.getElem?_map, hget]
  simp [hn]

theorem valid_lt (net : Net W) (i : Nat) (nd : NNodeS W) (hi : net.nodes[i]? = some nd) : i < net.nodes.length :=
  (List.getElem?_eq_some_iff.mp hi).1

theorem translated_FFAll (net : Net W) (σ : Nat → W → Option W) (lvl : Nat → Nat) (hff : Solver.FFProps net lvl)
    (hwf : TWF net lvl) (fn : FastNet W) (h : OfNet net fn)
    (hσ : ∀ (i : Nat) (nd : NNodeS W), net.nodes[i]? = some nd → nd.isNeuron = true → ∀ x, (σ nd.act x).isSome = true) :
    FFAll fn σ (lvlF net lvl) := by
  have hlen : fn.nTotal = (orderOf net).length := by rw [h.nTotal, hwf.len]
  refine ⟨⟨fun c hc => ?_, fun t ht => ?_, ?_⟩, ?_, fun t h1 h2 => ?_, fun t h1 h2 => ?_⟩
  · -- every connection goes up in rank
    obtain ⟨i, hi, l, hl, _, rfl⟩ := mem_conns net fn h c hc
    have hio := procList_mem_order net i hi
    have hso := h.tia.src i hi l hl
    obtain ⟨nd, hn⟩ := order_valid net hwf i hio
    simp only
    rw [lvlF_idx net hwf _ hso, lvlF_idx net hwf _ hio, hlen]
    refine ⟨?_, idx_lt net hwf _ hso⟩
    rw [incOf_eq net i nd hn] at hl
    by_cases hs : nd.isSensor = true
    · rw [hwf.sens i nd hn hs] at hl; simp at hl
    · exact (Solver.neuron_facts net lvl hff i nd hn (by simpa using hs)).2.2 l hl
  · -- ranks are bounded
    rw [hlen] at ht
    have hget : (orderOf net)[t]? = some (orderOf net)[t] := List.getElem?_eq_getElem ht
    rw [lvlF_get net lvl t _ hget, h.nTotal]
    obtain ⟨nd, hn⟩ := order_valid net hwf _ (List.mem_of_getElem? hget)
    exact hwf.bound _ (valid_lt net _ nd hn)
  · rw [nSensor_eq net fn h, h.nOutput, hlen, order_split]
    simp only [List.length_append]
    omega
  · -- no pair of fast indices is joined twice
    unfold NoDupConn
    rw [h.tia.conns, List.pairwise_flatMap]
    constructor
    · intro i hi
      have hio := procList_mem_order net i hi
      obtain ⟨nd, hn⟩ := order_valid net hwf i hio
      have hnd := hwf.srcND i nd hn
      rw [← incOf_eq net i nd hn] at hnd
      unfold connsOf connsFor
      rw [List.pairwise_map]
      apply List.Pairwise.filter
      have hp : (incOf net i).Pairwise (fun a b => a.src ≠ b.src) := List.pairwise_map.mp hnd
      refine List.Pairwise.imp_of_mem ?_ hp
      intro a b ha hb hab hh
      exact hab (idx_inj net hwf _ _ (h.tia.src i hi a ha) (h.tia.src i hi b hb) hh.1)
    · refine (procList_nodup net hwf).pairwise_of_forall_ne ?_
      intro i hi i' hi' hne x hx y hy hh
      obtain ⟨_, _, _, rfl⟩ := (mem_connsOf net i x).mp hx
      obtain ⟨_, _, _, rfl⟩ := (mem_connsOf net i' y).mp hy
      exact hne (idx_inj net hwf _ _ (procList_mem_order net i hi) (procList_mem_order net i' hi') hh.2)
  · -- neurons have rank ≥ 1
    obtain ⟨j, nd, hget, _, hn, hs⟩ := order_neuron net hwf fn h t h1 h2
    rw [lvlF_get net lvl t j hget]
    exact (Solver.neuron_facts net lvl hff j nd hn hs).2.1
  · -- activation types of the neurons are registered
    obtain ⟨j, nd, hget, _, hn, hs⟩ := order_neuron net hwf fn h t h1 h2
    rw [acts_get net fn h t j nd hget hn]
    exact hσ j nd hn (Solver.neuron_facts net lvl hff j nd hn hs).1

theorem order_mem_procList (net : Net W) (j : Nat) (nd : NNodeS W) (hj : j ∈ orderOf net) (hn : net.nodes[j]? = some nd)
    (hk : nd.kind ≠ Kind.bias) : j ∈ procList net := by
  simp only [procList, orderOf, List.mem_append] at hj ⊢
  rcases hj with ((h | h) | h) | h
  · obtain ⟨nd', h1, h2⟩ := (mem_idxOfKind net _ j).mp h
    rw [hn] at h1
    simp only [Option.some.injEq] at h1
    subst h1
    exact absurd h2 hk
  · exact Or.inl (Or.inl h)
  · exact Or.inr h
  · exact Or.inl (Or.inr h)

theorem filter_conns (net : Net W) {lvl : Nat → Nat} (hwf : TWF net lvl) (j : Nat) (hj : j ∈ orderOf net) (L : List Nat)
    (hL : ∀ a ∈ L, a ∈ orderOf net) (hnd : L.Nodup) :
    (L.flatMap (connsOf net)).filter (fun c => c.dst == idx net j) = if j ∈ L then connsOf net j else [] := by
  induction L with
  | nil => simp
  | cons a L ih =>
    obtain ⟨ha, hnd'⟩ := List.nodup_cons.mp hnd
    rw [List.flatMap_cons, List.filter_append, ih (fun a' h' => hL a' (by simp [h'])) hnd']
    by_cases haj : a = j
    · subst haj
      have : (connsOf net a).filter (fun c => c.dst == idx net a) = connsOf net a := by
        rw [List.filter_eq_self]
        intro c hc
        obtain ⟨_, _, _, rfl⟩ := (mem_connsOf net a c).mp hc
        simp
      simp [this, ha]
    · have : (connsOf net a).filter (fun c => c.dst == idx net j) = [] := by
        rw [List.filter_eq_nil_iff]
        intro c hc
        obtain ⟨_, _, _, rfl⟩ := (mem_connsOf net a c).mp hc
        simp only [beq_iff_eq]
        exact fun hh => haj (idx_inj net hwf _ _ (hL a (by simp)) hj hh)
      have hne : ¬ j = a := fun h => haj h.symm
      simp [this, hne]

theorem conns_into (net : Net W) {lvl : Nat → Nat} (hwf : TWF net lvl) (fn : FastNet W) (h : OfNet net fn) (j : Nat)
    (hj : j ∈ procList net) : fn.conns.filter (fun c => c.dst == idx net j) = connsOf net j := by
  rw [h.tia.conns, filter_conns net hwf j (procList_mem_order net j hj) (procList net)
    (fun a ha => procList_mem_order net a ha) (procList_nodup net hwf)]
  simp [hj]

theorem no_bias (net : Net W) (fn : FastNet W) (h : OfNet net fn) (h0 : ¬ fn.nBias > 0) : ∀ j, isBiasAt net j = false := by
  intro j
  by_contra hb
  simp only [Bool.not_eq_false, isBiasAt, kindAt, beq_iff_eq, Option.map_eq_some_iff] at hb
  have hpos := List.length_pos_of_mem ((mem_idxOfKind net Kind.bias j).mpr hb)
  rw [← h.nBias] at hpos
  exact h0 hpos

/-- every node has a fast index (the index order is duplicate-free, inside the node table and as long as it) -/
theorem order_covers (net : Net W) {lvl : Nat → Nat} (hwf : TWF net lvl) (i : Nat) (hi : i < net.nodes.length) :
    i ∈ orderOf net := by
  have hsub : orderOf net ⊆ List.range net.nodes.length := by
    intro j hj
    obtain ⟨nd, hn⟩ := order_valid net hwf j hj
    exact List.mem_range.mpr (valid_lt net j nd hn)
  have hp := ((order_nodup net hwf).subperm hsub).perm_of_length_le (by rw [hwf.len]; simp)
  exact hp.mem_iff.mpr (List.mem_range.mpr hi)

section Exact
variable {K : Type} [Scalar K] [CommSemiring K] [ExactArith K]

/-- `TIB` (translation invariant, Kind B: exact arithmetic) after the nodes `done`: for each of them the connections emitted
    plus the folded bias cell sum to Σ weight·value over its incoming links (`translation_node`); the bias cells of the
    nodes not yet done are still 0 -/
structure TIB (net : Net K) (vals sig : Nat → K) (done : List Nat) (b : List K) (c : List (FLink K)) : Prop where
  len : b.length = net.nodes.length
  sum : ∀ i ∈ done, tFold sig (connsOf net i) 0 + getW b (idx net i) = linkSum vals (incOf net i) 0
  zero : ∀ t, (∀ i ∈ done, t ≠ idx net i) → getW b t = 0

theorem TIB_step (net : Net K) {lvl : Nat → Nat} (hwf : TWF net lvl) (vals sig : Nat → K)
    (Hval : ∀ (j : Nat) (sn : NNodeS K), net.nodes[j]? = some sn → (sn.kind == Kind.bias) = true → vals j = 1)
    (Hsig : ∀ j, j ∈ orderOf net → sig (idx net j) = vals j)
    (all : List Nat) (hall : all.Nodup) (hord : ∀ a ∈ all, a ∈ orderOf net) (done : List Nat) (i : Nat) (rest : List Nat)
    (nd : NNodeS K) (t : Nat)
    (b : List K) (c : List (FLink K)) (b1 : List K) (c1 : List (FLink K)) (hsplit : all = done ++ i :: rest)
    (hn : net.nodes[i]? = some nd) (hl : lookupId (lkOf net) nd.id = some t)
    (hlinks : procIncoming.links net (lkOf net) t nd.incoming b c = .ok (b1, c1)) (hP : TIB net vals sig done b c) :
    TIB net vals sig (done ++ [i]) b1 c1 := by
  obtain ⟨hmem, ht⟩ := lookup_idx net hwf i t nd hn hl
  obtain ⟨h1, _, _, _⟩ := links_shape net hwf t nd.incoming b c b1 c1 hlinks
  have hinc := incOf_eq net i nd hn
  have htl : t < b.length := by rw [hP.len, ← hwf.len, ht]; exact idx_lt net hwf i hmem
  obtain ⟨new, g1, _, g3, g4, g5⟩ := translation_node net (lkOf net) t vals sig nd.incoming b c b1 c1 htl hlinks
    (fun l _ sn hsn hb => Hval l.src sn hsn hb)
    (fun l _ sn sIdx hsn hlk _ => by
      obtain ⟨hm, hs⟩ := lookup_idx net hwf l.src sIdx sn hsn hlk
      rw [hs]; exact Hsig _ hm)
  have hnew : new = connsOf net i := by
    have := List.append_cancel_left (g1.symm.trans h1)
    rw [this, connsOf, hinc, ht]
  have hid : i ∉ done := by
    rw [hsplit] at hall
    intro hi
    exact (List.nodup_append.mp hall).2.2 i hi i (by simp) rfl
  have hne : ∀ i' ∈ done, idx net i' ≠ t := by
    intro i' hi' he
    rw [ht] at he
    exact hid (idx_inj net hwf _ _ (hord i' (by simp [hsplit, hi'])) hmem he ▸ hi')
  refine ⟨by rw [g3, hP.len], ?_, ?_⟩
  · intro i' hi'
    rcases List.mem_append.mp hi' with h | h
    · rw [g4 _ (hne i' h)]; exact hP.sum i' h
    · simp only [List.mem_singleton] at h
      subst h
      rw [← hnew, ← ht, g5, hinc, hP.zero t (fun i'' h'' => (hne i'' h'').symm), zero_add]
  · intro t' ht'
    have : t' ≠ t := by rw [ht]; exact ht' i (by simp)
    rw [g4 t' this]
    exact hP.zero t' (fun i' h' => ht' i' (by simp [h']))

theorem ofNet_TIB (net : Net K) {lvl : Nat → Nat} (hwf : TWF net lvl) (fn : FastNet K) (h : ofNet net = .ok fn)
    (vals sig : Nat → K)
    (Hval : ∀ (j : Nat) (sn : NNodeS K), net.nodes[j]? = some sn → (sn.kind == Kind.bias) = true → vals j = 1)
    (Hsig : ∀ j, j ∈ orderOf net → sig (idx net j) = vals j) :
    TIB net vals sig (procList net) fn.biasList fn.conns :=
  ofNet_rule net fn h (TIB net vals sig)
    (fun done i rest nd t b c b1 c1 hs hn hl hlinks hP =>
      TIB_step net hwf vals sig Hval Hsig (procList net) (procList_nodup net hwf) (procList_mem_order net) done i rest nd t
        b c b1 c1 hs hn hl hlinks hP)
    ⟨by simp, by simp, fun t _ => by rw [getW_replicate_zero, ExactArith.zero_eq]⟩

theorem evalNode_sensor (net : Net K) (σ : Nat → K → Option K) (sens : Nat → K) (f j : Nat) (nd : NNodeS K)
    (hn : net.nodes[j]? = some nd) (hs : nd.isSensor = true) : evalNode net σ sens (f + 1) j = some (sens j) := by
  unfold evalNode
  simp [hn, hs]

theorem fval_eq_eval_aux (net : Net K) (σ : Nat → K → Option K) (lvl : Nat → Nat) (hff : Solver.FFProps net lvl)
    (hwf : TWF net lvl) (fn : FastNet K) (hofn : ofNet net = .ok fn)
    (hσ : ∀ (i : Nat) (nd : NNodeS K), net.nodes[i]? = some nd → nd.isNeuron = true → ∀ x, (σ nd.act x).isSome = true)
    (sens sigF : Nat → K)
    (hb : ∀ (j : Nat) (nd : NNodeS K), net.nodes[j]? = some nd → (nd.kind == Kind.bias) = true → sens j = 1)
    (hs : ∀ (j : Nat) (nd : NNodeS K), net.nodes[j]? = some nd → nd.kind = Kind.input → sigF (idx net j) = sens j) :
    ∀ (j : Nat) (nd : NNodeS K), j ∈ orderOf net → net.nodes[j]? = some nd → nd.kind ≠ Kind.bias →
      ∃ v, evalNode net σ sens (lvl j + 1) j = some v ∧ fvalNode fn σ sigF (lvl j + 1) (idx net j) = some v := by
  have hF := ofNet_facts net hwf fn hofn
  have hall := translated_FFAll net σ lvl hff hwf fn hF hσ
  let vals : Nat → K := fun j => (evalNode net σ sens (lvl j + 1) j).getD 0
  let sig : Nat → K := fun s => vals ((orderOf net).getD s 0)
  have Hval : ∀ (j : Nat) (sn : NNodeS K), net.nodes[j]? = some sn → (sn.kind == Kind.bias) = true → vals j = 1 := by
    intro j sn hsn hbk
    show (evalNode net σ sens (lvl j + 1) j).getD 0 = 1
    rw [evalNode_sensor net σ sens _ j sn hsn (by simp [NNodeS.isSensor, hbk]), Option.getD_some]
    exact hb j sn hsn hbk
  have Hsig : ∀ j, j ∈ orderOf net → sig (idx net j) = vals j := by
    intro j hj
    show vals ((orderOf net).getD (idx net j) 0) = vals j
    rw [order_idx net hwf j hj]
  have hB := ofNet_TIB net hwf fn hofn vals sig Hval Hsig
  suffices H : ∀ (n j : Nat) (nd : NNodeS K), j ∈ orderOf net → net.nodes[j]? = some nd → nd.kind ≠ Kind.bias →
      lvl j = n →
      ∃ v, evalNode net σ sens (lvl j + 1) j = some v ∧ fvalNode fn σ sigF (lvl j + 1) (idx net j) = some v from
    fun j nd hj hn hk => H (lvl j) j nd hj hn hk rfl
  intro n
  induction n using Nat.strong_induction_on with
  | _ n ih =>
    intro j nd hj hn hk hl
    subst hl
    by_cases hsn : nd.isSensor = true
    · -- an input sensor holds its reading on both sides
      have hki : nd.kind = Kind.input := by
        simp only [NNodeS.isSensor, Bool.or_eq_true, beq_iff_eq] at hsn
        exact hsn.resolve_right hk
      refine ⟨sens j, evalNode_sensor net σ sens _ j nd hn hsn, ?_⟩
      unfold fvalNode
      rw [if_pos (idx_sensor net fn hF j nd hn hsn), hs j nd hn hki]
    · have hsn' : nd.isSensor = false := by simpa using hsn
      obtain ⟨hneu, hpos, hsrc⟩ := Solver.neuron_facts net lvl hff j nd hn hsn'
      have hjp := order_mem_procList net j nd hj hn hk
      have hinc := incOf_eq net j nd hn
      -- every source already has its value on both sides
      have hsrcv : ∀ l ∈ nd.incoming, evalNode net σ sens (lvl j) l.src = some (vals l.src) ∧
          (isBiasAt net l.src = false → fvalNode fn σ sigF (lvl j) (idx net l.src) = some (vals l.src)) := by
        intro l hl'
        have hso := hF.tia.src j hjp l (by rw [hinc]; exact hl')
        obtain ⟨sn, hsn2⟩ := order_valid net hwf _ hso
        have hlt := hsrc l hl'
        -- at its own rank: the bias is a sensor, any other source is covered by the induction hypothesis
        obtain ⟨v, e1, e2⟩ : ∃ v, evalNode net σ sens (lvl l.src + 1) l.src = some v ∧
            (isBiasAt net l.src = false → fvalNode fn σ sigF (lvl l.src + 1) (idx net l.src) = some v) := by
          by_cases hbk : (sn.kind == Kind.bias) = true
          · refine ⟨_, evalNode_sensor net σ sens _ l.src sn hsn2 (by simp [NNodeS.isSensor, hbk]), fun hnb => ?_⟩
            rw [isBiasAt_eq net l.src sn hsn2, hbk] at hnb
            cases hnb
          · obtain ⟨v, e1, e2⟩ := ih (lvl l.src) hlt l.src sn hso hsn2 (by simpa using hbk) rfl
            exact ⟨v, e1, fun _ => e2⟩
        have : vals l.src = v := by
          show (evalNode net σ sens (lvl l.src + 1) l.src).getD 0 = _
          rw [e1, Option.getD_some]
        rw [this]
        exact ⟨Solver.evalNode_mono_le net σ sens _ _ hlt _ _ e1,
          fun hnb => fvalNode_mono_le fn σ sigF _ _ hlt _ _ (e2 hnb)⟩
      have hE : evalNode net σ sens (lvl j + 1) j = σ nd.act (linkSum vals nd.incoming 0) := by
        conv => lhs; unfold evalNode
        simp only [hn, hsn', Bool.false_eq_true, if_false]
        rw [Solver.sumIn_eq _ vals nd.incoming _ (fun l hl' => (hsrcv l hl').1), ← linkSum, ExactArith.zero_eq]
      have hidx := idx_neuron net fn hF j nd hn hsn'
      have hget : (orderOf net)[idx net j]? = some j := List.getElem?_idxOf hj
      have hA : adjSum fn (fvalNode fn σ sigF (lvl j)) (idx net j) (revAdj fn (idx net j)) Scalar.zero =
          some (tFold sig (connsOf net j) 0) := by
        unfold revAdj
        rw [adjSum_tFold fn hall.nd _ sig (idx net j) _ (fun c hc => by
            simp only [List.mem_filter, beq_iff_eq] at hc; exact hc) (fun c hc => ?_) _,
          conns_into net hwf fn hF j hjp, ExactArith.zero_eq]
        rw [conns_into net hwf fn hF j hjp] at hc
        obtain ⟨l, hl', hnb, rfl⟩ := (mem_connsOf net j c).mp hc
        rw [hinc] at hl'
        simp only
        rw [(hsrcv l hl').2 hnb, Hsig _ (hF.tia.src j hjp l (by rw [hinc]; exact hl'))]
      have hsum := hB.sum j hjp
      rw [hinc] at hsum
      have hFv : fvalNode fn σ sigF (lvl j + 1) (idx net j) = σ nd.act (linkSum vals nd.incoming 0) := by
        conv => lhs; unfold fvalNode
        have hns : ¬ idx net j < fn.nSensor := by omega
        simp only [hns, if_false, hA]
        rw [acts_get net fn hF _ j nd hget hn]
        by_cases hnb : fn.nBias > 0
        · simp only [hnb, if_true]
          rw [ExactArith.add_eq, hsum]
        · simp only [hnb, if_false]
          have hz := hF.tia.nob (no_bias net fn hF hnb) (idx net j)
          rw [hz, ExactArith.zero_eq, add_zero] at hsum
          rw [hsum]
      have hsome := hσ j nd hn hneu (linkSum vals nd.incoming 0)
      obtain ⟨v, hv⟩ := Option.isSome_iff_exists.mp hsome
      exact ⟨v, by rw [hE, hv], by rw [hFv, hv]⟩

end Exact

end GoNeat.Fast
