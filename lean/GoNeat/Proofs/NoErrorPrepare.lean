/-
  C02 "without error": `speciate`, `adjustAll`, `deltaCoding`, `giveBabiesToTheBest` and the whole
  `prepareForReproduction` never return an implementation error, given non-empty species, unique species ids, at
  least one organism, and the C09 quota facts (raw quotas non-negative, raw total at most the population size).
  Kind A.
-/
import GoNeat.Props.C02Epoch
import GoNeat.Proofs.NoErrorBase
import GoNeat.Props.C09Prepare

set_option linter.unusedSectionVars false

namespace GoNeat.NoErr
open GoNeat Scalar GoNeat.C02 GoNeat.C09
variable {W : Type} [Scalar W]

theorem safe_speciateOne (o : EpochOpts W) (p : Pop W) (org : Org W) (hct : eq o.compatThreshold zero = false) :
    SafeE (fun _ => True) (speciateOne o p org) := by
  unfold speciateOne
  simp only
  split
  · trivial
  · rw [if_neg (by simp [hct])]
    split <;> trivial

theorem safe_speciateLoop (o : EpochOpts W) (p : Pop W) (orgs : List (Org W)) (hct : eq o.compatThreshold zero = false) :
    SafeE (fun _ => True) (speciateLoop o p orgs) := by
  induction orgs generalizing p with
  | nil => unfold speciateLoop; trivial
  | cons x xs ih =>
    unfold speciateLoop
    have h1 := safe_speciateOne o p x hct
    split
    · next e he => exact h1.errE he
    · exact ih _

theorem safe_speciate (o : EpochOpts W) (p : Pop W) (orgs : List (Org W)) (hne : orgs ≠ [])
    (hct : eq o.compatThreshold zero = false) : SafeE (fun _ => True) (speciate o p orgs) := by
  unfold speciate
  rw [if_neg (by simpa using hne)]
  exact safe_speciateLoop o p orgs hct

theorem orgs_ne_of_key {a b : Species W} (h : ukey a = ukey b) (hb : b.orgs ≠ []) : a.orgs ≠ [] := by
  have hl : a.orgs.length = b.orgs.length := by simpa [ukey] using congrArg (fun k => k.2.length) h
  intro e; apply hb; apply List.length_eq_zero_iff.mp; rw [← hl, e]; rfl

theorem ne_of_keys_sub {a b : List (Species W)} (h : ∀ k ∈ a.map ukey, k ∈ b.map ukey) (hb : ∀ s ∈ b, s.orgs ≠ []) :
    ∀ s ∈ a, s.orgs ≠ [] := by
  intro s hs
  obtain ⟨s', hs', e⟩ := List.mem_map.mp (h _ (List.mem_map_of_mem hs))
  exact orgs_ne_of_key e.symm (hb s' hs')

theorem ne_of_keys {a b : List (Species W)} (h : a.map ukey = b.map ukey) (hb : ∀ s ∈ b, s.orgs ≠ []) :
    ∀ s ∈ a, s.orgs ≠ [] := ne_of_keys_sub (by rw [h]; exact fun _ hk => hk) hb

theorem list_ne_of_map_eq {α β} {f : α → β} {a b : List α} (h : a.map f = b.map f) (hb : b ≠ []) : a ≠ [] := by
  intro e; rw [e] at h; cases b with
  | nil => exact hb rfl
  | cons x xs => simp at h

theorem safe_adjustFitness (o : EpochOpts W) (s : Species W) (h : s.orgs ≠ []) :
    SafeE (fun s' => s'.orgs ≠ []) (adjustFitness o s) := by
  unfold adjustFitness
  simp only
  split
  · next heq =>
    exfalso
    have hp := (goSort_perm (fun a b => orgLess b a)
      (s.orgs.map (adjustOrg (if s.age - s.ageOfLastImprovement + 1 - o.dropOffAge = 0 then 1 else
        s.age - s.ageOfLastImprovement + 1 - o.dropOffAge) s.age o s.orgs.length))).length_eq
    unfold sortOrgsDesc at heq
    rw [heq] at hp
    simp only [List.length_nil, List.length_map] at hp
    exact h (List.length_eq_zero_iff.mp hp.symm)
  · next top rest heq =>
    show markOrgs _ _ 0 ≠ []
    intro e
    have := congrArg List.length e
    rw [markOrgs_length, heq] at this
    simp at this

theorem safe_adjustAll (o : EpochOpts W) (ss : List (Species W)) (h : ∀ s ∈ ss, s.orgs ≠ []) :
    SafeE (fun ss' => ∀ s' ∈ ss', s'.orgs ≠ []) (adjustAll o ss) := by
  induction ss with
  | nil => unfold adjustAll; intro s hs; cases hs
  | cons s t ih =>
    unfold adjustAll
    have h1 := safe_adjustFitness o s (h s (by simp))
    split
    · next e he => exact h1.errE he
    · next s' he =>
      rw [he] at h1
      have h2 := ih (fun x hx => h x (List.mem_cons_of_mem _ hx))
      split
      · next e he2 => exact h2.errE he2
      · next t' he2 =>
        rw [he2] at h2
        intro x hx
        rcases List.mem_cons.mp hx with rfl | hx'
        · exact h1
        · exact (h2 : ∀ s' ∈ t', s'.orgs ≠ []) x hx'

theorem safe_deltaCoding (sorted : List (Species W)) (o : EpochOpts W) (hl : sorted ≠ []) (h : ∀ s ∈ sorted, s.orgs ≠ []) :
    SafeE (fun _ => True) (deltaCoding sorted o) := by
  unfold deltaCoding
  simp only
  split
  · exact absurd rfl hl
  · next s => rw [if_neg (by simpa using h s (by simp))]; trivial
  · next s1 s2 rest =>
    rw [if_neg (by
      have a := h s1 (by simp); have b := h s2 (by simp)
      simp [a, b])]
    trivial

theorem safe_giveStep (blocks : List Int) (s : Species W) (bi : Nat) (st : Int) (rs : List Nat) :
    Safe (fun _ => True) (giveStep blocks s bi st rs) := by
  unfold giveStep
  by_cases h1 : (decide (bi < 3) && decide (st ≥ (blocks[bi]?).getD 0)) = true
  · rw [if_pos h1]; trivial
  rw [if_neg h1]
  by_cases h2 : bi ≥ 3
  · rw [if_pos h2]
    rcases he : Rand.float64 (W := W) rs with e | ⟨f, rs'⟩
    · exact (safe_float64 rs).err he
    dsimp only
    split
    · split <;> trivial
    · trivial
  · rw [if_neg h2]; trivial

theorem safe_giveLoop (o : EpochOpts W) (blocks : List Int) (l : List (Species W)) (bi : Nat) (stolen : Int) (rs : List Nat) :
    Safe (fun _ => True) (giveLoop o blocks l bi stolen rs) := by
  induction l generalizing bi stolen rs with
  | nil => unfold giveLoop; trivial
  | cons s ss ih =>
    rw [giveLoop_cons]
    split
    · have := ih bi stolen rs
      split
      · next e he => exact this.err he
      · trivial
    · have hs := safe_giveStep blocks s bi stolen rs
      split
      · next e he => exact hs.err he
      · next s' st rs1 he =>
        split
        · trivial
        · have := ih (bi + 1) st rs1
          split
          · next e he2 => exact this.err he2
          · trivial

theorem safe_giveBabies (sorted : List (Species W)) (o : EpochOpts W) (rs : List Nat) (hl : sorted ≠ [])
    (h : ∀ s ∈ sorted, s.orgs ≠ []) : Safe (fun _ => True) (giveBabiesToTheBest sorted o rs) := by
  unfold giveBabiesToTheBest
  have hk := (stealLoop_steal o.babiesStolen sorted.reverse 0).bare
  generalize stealLoop o.babiesStolen sorted.reverse 0 = r at hk
  obtain ⟨revAfter, stolen⟩ := r
  simp only at hk ⊢
  have hg := safe_giveLoop o [o.babiesStolen / 5, o.babiesStolen / 5, o.babiesStolen / 10] revAfter.reverse 0 stolen rs
  generalize he : giveLoop o _ revAfter.reverse 0 stolen rs = r at hg ⊢
  rcases r with e | ⟨⟨l, left⟩, rs'⟩
  · exact hg.of_error
  dsimp only
  have hkeys : l.map ukey = sorted.map ukey := by
    apply map_of_bare ukey_bare
    rw [(giveLoop_give _ _ _ _ _ _ _ _ _ he).bare, List.map_reverse, hk, List.map_reverse, List.reverse_reverse]
  by_cases hleft : left > 0
  · rw [if_pos hleft]
    rcases l with _ | ⟨s, ss⟩
    · exact absurd (list_ne_of_map_eq hkeys hl) (by simp)
    · dsimp only
      rw [if_neg (by simpa using ne_of_keys hkeys h s (by simp))]
      trivial
  · rw [if_neg hleft]
    trivial

theorem safe_redistribute (sorted1 : List (Species W)) (o : EpochOpts W) (e : Int) (rs : List Nat) (hl : sorted1 ≠ [])
    (h : ∀ s ∈ sorted1, s.orgs ≠ []) : Safe (fun _ => True) (redistribute o sorted1 e rs) := by
  unfold redistribute
  split
  · have := safe_deltaCoding sorted1 o hl h
    split
    · next er he => exact this.err he
    · trivial
  · split
    · have := safe_giveBabies sorted1 o rs hl h
      split
      · next er he => exact this.err he
      · trivial
    · trivial

theorem purgeZero_nonempty (p' : Pop W) (hsp : p'.species ≠ [])
    (hnn : ∀ s ∈ (rawAssign p').1, 0 ≤ s.expectedOffspring)
    (hle : (rawAssign p').2 ≤ (p'.organisms.length : Int)) (hn : 1 ≤ p'.organisms.length) :
    (purgeZeroOffspringSpecies p').species ≠ [] := by
  have hne1 : (rawAssign p').1 ≠ [] := by
    unfold rawAssign
    simp only
    exact list_ne_of_map_eq (assignQuotas_noQuota _ _ _) (by simpa using hsp)
  obtain ⟨ht, _⟩ := purgeZero_quota p' hne1 hnn hle
  intro hnil
  rw [hnil, quotaSum_nil] at ht
  omega

/-- the C09 facts about the rounded quota computation that the turnover relies on (raw quotas non-negative, raw total
    at most the population size); computed from the options and the population, hence decidable -/
def QuotaOk (o : EpochOpts W) (p : Pop W) : Prop :=
  ∀ species1, adjustAll o p.species = .ok species1 →
    (∀ s ∈ (rawAssign ({ p with species := species1 } : Pop W)).1, 0 ≤ s.expectedOffspring) ∧
    (rawAssign ({ p with species := species1 } : Pop W)).2 ≤ (o.popSize : Int)

instance (o : EpochOpts W) (p : Pop W) : Decidable (QuotaOk o p) :=
  match h : adjustAll o p.species with
  | .error e => isTrue (fun s hs => by rw [h] at hs; cases hs)
  | .ok species1 =>
    if h2 : (∀ s ∈ (rawAssign ({ p with species := species1 } : Pop W)).1, 0 ≤ s.expectedOffspring) ∧
        (rawAssign ({ p with species := species1 } : Pop W)).2 ≤ (o.popSize : Int) then
      isTrue (fun s hs => by rw [h] at hs; cases hs; exact h2)
    else isFalse (fun hq => h2 (hq species1 h))

theorem writeBack_has_id (species updated : List (Species W)) (b : Species W) (hb : b ∈ species) :
    ∃ s' ∈ writeBack species updated, s'.id = b.id := by
  unfold writeBack
  refine ⟨_, List.mem_map_of_mem hb, ?_⟩
  cases hf : updated.find? (fun x => x.id == b.id) with
  | none => rfl
  | some x => simpa using List.find?_some hf

/-- the species order that the preparation phase hands on begins with the best species, which the write-back and the
    removal of marked organisms keep (by id): looked up in the prepared population, the order is not empty -/
theorem prepare_order_ne (o : EpochOpts W) (p p1 : Pop W) (ex : ExecState) (rs rs' : List Nat)
    (h : prepareForReproduction o p rs = .ok ((p1, ex), rs')) :
    ex.sortedIds.filterMap (fun i => p1.species.find? (·.id == i)) ≠ [] := by
  obtain ⟨species1, best, tail, e, sorted2, ehlc, doomed, pre, _, hsorted, hred, hpre, _, _, hsp, _, _, _, _, hids⟩ :=
    prepare_decomp o p p1 ex rs rs' h
  have hbest : best ∈ (purgeZeroOffspringSpecies ({ p with species := species1 } : Pop W)).species :=
    (GoNeat.goSort_mem _ _ _).mp (show best ∈ sortSpeciesDesc _ by rw [hsorted]; exact List.mem_cons_self)
  have hk2 := hred.bare
  rw [hids]
  cases sorted2 with
  | nil => simp at hk2
  | cons h2 t2 =>
    simp only [List.map_cons, List.cons.injEq] at hk2
    have hid : h2.id = best.id := id_of_bare (hk2.1.trans (setTopOrg_bare' best _ (by intro t; rfl)))
    intro hnil
    have hnone := List.find?_eq_none.mp ((List.filterMap_eq_nil_iff.mp hnil) h2.id (by simp))
    obtain ⟨s', hs', hs'id⟩ := writeBack_has_id _ (h2 :: t2) best hbest
    rw [← hpre] at hs'
    exact hnone _ (hsp ▸ List.mem_map_of_mem hs') (by simp [hs'id, hid])

theorem safe_prepare (o : EpochOpts W) (p : Pop W) (rs : List Nat) (hne : ∀ s ∈ p.species, s.orgs ≠ []) (hsp : p.species ≠ [])
    (hsize : p.organisms.length = o.popSize) (hpop : 1 ≤ o.popSize) (hq : QuotaOk o p) :
    Safe (fun r => (r.2.sortedIds.filterMap (fun i => r.1.species.find? (·.id == i))) ≠ [])
      (prepareForReproduction o p rs) := by
  refine Safe.and_ok (P := fun _ => True) ?_ fun ⟨p1, ex⟩ rs' he _ => prepare_order_ne o p p1 ex rs rs' he
  unfold prepareForReproduction
  obtain ⟨species1, hadj, hne1⟩ := (safe_adjustAll o p.species hne).ok
  rw [hadj]
  dsimp only
  obtain ⟨hnn, hle⟩ := hq species1 hadj
  have hsp1 : species1 ≠ [] := list_ne_of_map_eq (adjustAll_keys o _ _ hadj) hsp
  have hpzne := purgeZero_nonempty ({ p with species := species1 } : Pop W) hsp1 hnn
    (by show _ ≤ (p.organisms.length : Int); rw [hsize]; exact hle) (by show 1 ≤ p.organisms.length; omega)
  have hpzo : ∀ s ∈ (purgeZeroOffspringSpecies ({ p with species := species1 } : Pop W)).species, s.orgs ≠ [] :=
    ne_of_keys_sub (sublist_of_bare_setExp ukey_bare ukey_setExp
      (purgeZero_bare ({ p with species := species1 } : Pop W))).subset hne1
  generalize purgeZeroOffspringSpecies ({ p with species := species1 } : Pop W) = pz at hpzne hpzo ⊢
  have hmem : ∀ s ∈ sortSpeciesDesc pz.species, s ∈ pz.species := fun s hs => (GoNeat.goSort_mem _ _ _).mp hs
  rcases hsorted : sortSpeciesDesc pz.species with _ | ⟨best, tail⟩
  · exfalso
    have hperm := goSort_perm (fun a b => speciesLess b a) pz.species
    unfold sortSpeciesDesc at hsorted
    rw [hsorted] at hperm
    exact hpzne (List.length_eq_zero_iff.mp (by simpa using hperm.length_eq.symm))
  rw [hsorted] at hmem
  dsimp only
  have hbo := hpzo best (hmem best (by simp))
  rcases htop : best.orgs.head? with _ | top
  · cases hso : best.orgs with
    | nil => exact absurd hso hbo
    | cons a l => rw [hso] at htop; cases htop
  dsimp only
  have hs1 : ∀ s ∈ setTopOrg best (fun t => { t with isPopChampion := true }) :: tail, s.orgs ≠ [] := by
    intro s hs
    rcases List.mem_cons.mp hs with rfl | hs'
    · exact orgs_ne_of_key ((ukey_bare _).symm.trans
        ((congrArg ukey (setTopOrg_bare' best _ (by intro t; rfl))).trans (ukey_bare best))) hbo
    · exact hpzo s (hmem s (List.mem_cons_of_mem _ hs'))
  have hred := safe_redistribute (setTopOrg best (fun t => { t with isPopChampion := true }) :: tail) o
    (if gt top.originalFitness pz.highestFitness then 0 else pz.epochsHighestLastChanged + 1) rs (by simp) hs1
  split
  · next e he => exact hred.err he
  · trivial

end GoNeat.NoErr
