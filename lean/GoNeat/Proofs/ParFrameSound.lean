/-
  C16(b), SOUNDNESS of the thread-local obligations (`PValid`, Proofs/ParFrameLogic.lean) for every scheduler:
  the global invariant `GInv` is kept by every registry operation of every thread, and each thread's obligation is
  carried along (`thread_step`, `pstep_sound`, `sched_sound`); a finished thread's postcondition can be read off
  (`thread_done`, `threads_done`).
-/
import GoNeat.Proofs.ParFrameLogic
import GoNeat.Proofs.ParStages
import GoNeat.Proofs.ParFrame

set_option linter.unusedSectionVars false

namespace GoNeat.C16
open GoNeat GoNeat.C03
variable {W : Type}

/-- global ghost state: the union of the bindings held by the threads (and the initial pool), and the drawn but not
    yet recorded numbers / node ids, tagged with the thread that owns them -/
structure Ghost where
  B : List Bind
  R : List Role
  pI : List (Nat × Int)
  pN : List (Nat × Int)

def upd (Ls : Nat → Local W) (t : Nat) (L : Local W) : Nat → Local W := fun u => if u = t then L else Ls u

theorem upd_same (Ls : Nat → Local W) (t : Nat) (L : Local W) : upd Ls t L t = L := by simp [upd]
theorem upd_other (Ls : Nat → Local W) {t u : Nat} (L : Local W) (h : u ≠ t) : upd Ls t L u = Ls u := by simp [upd, h]
theorem upd_upd (Ls : Nat → Local W) (t : Nat) (L1 L2 : Local W) : upd (upd Ls t L1) t L2 = upd Ls t L2 := by
  funext u; by_cases h : u = t <;> simp [upd, h]
theorem upd_self (Ls : Nat → Local W) (t : Nat) : upd Ls t (Ls t) = Ls := by
  funext u; by_cases h : u = t <;> simp [upd, h]

/-- C03's `InvB` for the registry and all bindings anybody holds; `pI`, `pN`: the numbers drawn and not yet recorded, with
    their owners; `bi`: the base number of the phase (head of Proofs/ParFrameLogic.lean) -/
structure GlobOk (bi : Int) (reg : Reg W) (G : Ghost) : Prop where
  inv : InvB reg G.B G.R
  pI_nodup : (G.pI.map (·.2)).Nodup
  pI_le : ∀ p ∈ G.pI, p.2 ≤ reg.nextInn
  pI_B : ∀ p ∈ G.pI, ∀ b ∈ G.B, b.1 ≠ p.2
  pI_rec : ∀ p ∈ G.pI, p.2 ∉ regInns reg
  pN_nodup : (G.pN.map (·.2)).Nodup
  pN_le : ∀ p ∈ G.pN, p.2 ≤ reg.nextNode
  pN_R : ∀ p ∈ G.pN, ∀ r ∈ G.R, r.1 ≠ p.2
  pN_rec : ∀ p ∈ G.pN, p.2 ∉ regNodes reg
  /-- what `SnapOk.above` lets a thread assume of a snapshot -/
  rec_above : ∀ k ∈ regInns reg, bi < k
  /-- a pending number is above the base when it is drawn (`FreshI`) and still when it is stored (`rec_above` again) -/
  pI_above : ∀ p ∈ G.pI, bi < p.2
  /-- so that the next number handed out is above the base -/
  bi_le : bi ≤ reg.nextInn

structure LocOk (reg : Reg W) (G : Ghost) (t : Nat) (L : Local W) : Prop where
  subB : ∀ b ∈ L.B, b ∈ G.B
  subR : ∀ p ∈ L.R, p ∈ G.R
  known : ∀ i ∈ L.known, i ∈ reg.records
  ownI : ∀ k ∈ L.pendI, (t, k) ∈ G.pI
  ownN : ∀ k ∈ L.pendN, (t, k) ∈ G.pN

structure GInv (bi : Int) (B0 : List Bind) (R0 : List Role) (n : Nat) (reg : Reg W) (G : Ghost) (Ls : Nat → Local W) : Prop where
  glob : GlobOk bi reg G
  loc : ∀ t, LocOk reg G t (Ls t)
  covB : ∀ b ∈ G.B, b ∈ B0 ∨ ∃ t, t < n ∧ b ∈ (Ls t).B
  covR : ∀ p ∈ G.R, p ∈ R0 ∨ ∃ t, t < n ∧ p ∈ (Ls t).R
  baseB : ∀ b ∈ B0, b ∈ G.B
  baseR : ∀ p ∈ R0, p ∈ G.R

theorem snd_inj_of_nodup {l : List (Nat × Int)} (h : (l.map (·.2)).Nodup) {a b : Nat} {k : Int}
    (ha : (a, k) ∈ l) (hb : (b, k) ∈ l) : a = b :=
  congrArg Prod.fst (nodup_map_inj (·.2) h ha hb rfl)

theorem GInv.snapOk {bi : Int} {B0 : List Bind} {R0 : List Role} {n : Nat} {reg : Reg W} {G : Ghost} {Ls : Nat → Local W}
    (h : GInv bi B0 R0 n reg G Ls) (t : Nat) : SnapOk bi (Ls t) reg.records := by
  have hl := h.loc t
  refine ⟨fun i hi t2 b hb e => ?_, fun i hi t1 b hb e => ?_, fun i hi t1 b hb e => ?_, fun i hi t1 p hp e => ?_,
          fun i hi t1 => inn_ne_inn2 h.glob.inv.compat.innsNodup hi t1,
          fun i hi k hk => h.glob.rec_above k (mem_regInns hi hk)⟩
  · exact (recOk_link t2).mp (h.glob.inv.compat.recs i hi) b (hl.subB b hb) e
  all_goals obtain ⟨⟨y, _, _, _, _, hall⟩, hb2, hro⟩ := (recOk_node t1).mp (h.glob.inv.compat.recs i hi)
  · have := hall b (hl.subB b hb) e
    rw [this]; exact ⟨rfl, rfl⟩
  · exact hb2 b (hl.subB b hb) e
  · exact hro p (hl.subR p hp) e

theorem LocOk.mono {reg reg' : Reg W} {G G' : Ghost} {t : Nat} {L : Local W} (h : LocOk reg G t L)
    (hB : ∀ b ∈ G.B, b ∈ G'.B) (hR : ∀ p ∈ G.R, p ∈ G'.R) (hrec : ∀ i ∈ reg.records, i ∈ reg'.records)
    (hI : ∀ k ∈ L.pendI, (t, k) ∈ G.pI → (t, k) ∈ G'.pI) (hN : ∀ k ∈ L.pendN, (t, k) ∈ G.pN → (t, k) ∈ G'.pN) :
    LocOk reg' G' t L :=
  ⟨fun b hb => hB b (h.subB b hb), fun p hp => hR p (h.subR p hp), fun i hi => hrec i (h.known i hi),
   fun k hk => hI k hk (h.ownI k hk), fun k hk => hN k hk (h.ownN k hk)⟩

/-- `sel` is `Local.B` or `Local.R` -/
theorem cover_upd {β : Type} (sel : Local W → List β) {n : Nat} {X0 X : List β} {Ls : Nat → Local W}
    (h : ∀ c ∈ X, c ∈ X0 ∨ ∃ u, u < n ∧ c ∈ sel (Ls u)) (t : Nat) {L' : Local W} (hsub : ∀ c ∈ sel (Ls t), c ∈ sel L') :
    ∀ c ∈ X, c ∈ X0 ∨ ∃ u, u < n ∧ c ∈ sel (upd Ls t L' u) := by
  intro c hc
  rcases h c hc with h0 | ⟨u, hu, hm⟩
  · exact .inl h0
  · refine .inr ⟨u, hu, ?_⟩
    by_cases hut : u = t
    · subst hut
      rw [upd_same]
      exact hsub c hm
    · rw [upd_other _ _ hut]
      exact hm

theorem cover_cons {β : Type} (sel : Local W → List β) {n : Nat} {X0 X : List β} {Ls : Nat → Local W}
    (h : ∀ c ∈ X, c ∈ X0 ∨ ∃ u, u < n ∧ c ∈ sel (Ls u)) {t : Nat} (ht : t < n) {L' : Local W} {b : β}
    (hsel : sel L' = b :: sel (Ls t)) : ∀ c ∈ b :: X, c ∈ X0 ∨ ∃ u, u < n ∧ c ∈ sel (upd Ls t L' u) := by
  intro c hc
  rcases List.mem_cons.mp hc with rfl | hc'
  · exact .inr ⟨t, ht, by rw [upd_same, hsel]; exact List.mem_cons_self⟩
  · exact cover_upd sel h t (fun d hd => by rw [hsel]; exact List.mem_cons_of_mem _ hd) c hc'

theorem loc_upd {reg reg' : Reg W} {G G' : Ghost} {Ls : Nat → Local W} (h : ∀ u, LocOk reg G u (Ls u)) (t : Nat) {L' : Local W}
    (ht : LocOk reg' G' t L') (hother : ∀ u, u ≠ t → LocOk reg G u (Ls u) → LocOk reg' G' u (Ls u)) :
    ∀ u, LocOk reg' G' u (upd Ls t L' u) := by
  intro u
  by_cases hu : u = t
  · subst hu
    rw [upd_same]
    exact ht
  · rw [upd_other _ _ hu]
    exact hother u hu (h u)

theorem GInv.ghostB {bi : Int} {B0 : List Bind} {R0 : List Role} {n : Nat} {reg : Reg W} {G : Ghost} {Ls : Nat → Local W}
    (h : GInv bi B0 R0 n reg G Ls) {t : Nat} (ht : t < n) {b : Bind} (hj : JustB (Ls t) b) :
    GInv bi B0 R0 n reg { G with B := b :: G.B } (upd Ls t { Ls t with B := b :: (Ls t).B }) := by
  have hl := h.loc t
  have key : InvB reg (b :: G.B) G.R ∧ b.1 ∈ regInns reg := by
    rcases hj with ⟨i, hi, t2, rfl⟩ | ⟨i, hi, t1, y, hy, hyo, rfl⟩ | ⟨i, hi, t1, rfl⟩
    · exact ⟨invB_add_link h.glob.inv (hl.known i hi) t2, mem_regInns (hl.known i hi) (inn_mem_recInns i)⟩
    · exact ⟨invB_add_split1 h.glob.inv (hl.known i hi) t1 (hl.subB y hy) hyo,
             mem_regInns (hl.known i hi) (inn_mem_recInns i)⟩
    · exact ⟨invB_add_split2 h.glob.inv (hl.known i hi) t1, mem_regInns (hl.known i hi) (inn2_mem_recInns i t1)⟩
  refine ⟨⟨key.1, h.glob.pI_nodup, h.glob.pI_le, ?_, h.glob.pI_rec, h.glob.pN_nodup, h.glob.pN_le, h.glob.pN_R,
           h.glob.pN_rec, h.glob.rec_above, h.glob.pI_above, h.glob.bi_le⟩, ?_, cover_cons Local.B h.covB ht rfl,
          cover_upd Local.R h.covR t (fun _ hm => hm), fun c hc => List.mem_cons_of_mem _ (h.baseB c hc), h.baseR⟩
  · intro p hp c hc
    rcases List.mem_cons.mp hc with rfl | hc'
    · intro e; exact h.glob.pI_rec p hp (e ▸ key.2)
    · exact h.glob.pI_B p hp c hc'
  · refine loc_upd h.loc t ⟨fun c hc => ?_, hl.subR, hl.known, hl.ownI, hl.ownN⟩ (fun u _ hu =>
      hu.mono (fun c hc => List.mem_cons_of_mem _ hc) (fun _ hp => hp) (fun _ hi => hi) (fun _ _ hk => hk) (fun _ _ hk => hk))
    rcases List.mem_cons.mp hc with rfl | hc'
    · exact List.mem_cons_self
    · exact List.mem_cons_of_mem _ (hl.subB c hc')

theorem GInv.ghostR {bi : Int} {B0 : List Bind} {R0 : List Role} {n : Nat} {reg : Reg W} {G : Ghost} {Ls : Nat → Local W}
    (h : GInv bi B0 R0 n reg G Ls) {t : Nat} (ht : t < n) {r : Role} (hj : JustR (Ls t) r) :
    GInv bi B0 R0 n reg { G with R := r :: G.R } (upd Ls t { Ls t with R := r :: (Ls t).R }) := by
  have hl := h.loc t
  obtain ⟨i, hi, t1, rfl⟩ := hj
  have hir := hl.known i hi
  refine ⟨⟨invB_add_role h.glob.inv hir t1, h.glob.pI_nodup, h.glob.pI_le, h.glob.pI_B, h.glob.pI_rec, h.glob.pN_nodup,
           h.glob.pN_le, ?_, h.glob.pN_rec, h.glob.rec_above, h.glob.pI_above, h.glob.bi_le⟩, ?_,
          cover_upd Local.B h.covB t (fun _ hm => hm), cover_cons Local.R h.covR ht rfl, h.baseB,
          fun c hc => List.mem_cons_of_mem _ (h.baseR c hc)⟩
  · intro p hp c hc
    rcases List.mem_cons.mp hc with rfl | hc'
    · intro e; exact h.glob.pN_rec p hp (e ▸ mem_regNodes hir t1)
    · exact h.glob.pN_R p hp c hc'
  · refine loc_upd h.loc t ⟨hl.subB, fun c hc => ?_, hl.known, hl.ownI, hl.ownN⟩ (fun u _ hu =>
      hu.mono (fun _ hb => hb) (fun c hc => List.mem_cons_of_mem _ hc) (fun _ hi => hi) (fun _ _ hk => hk) (fun _ _ hk => hk))
    rcases List.mem_cons.mp hc with rfl | hc'
    · exact List.mem_cons_self
    · exact List.mem_cons_of_mem _ (hl.subR c hc')

theorem GInv.upd_view {bi : Int} {B0 : List Bind} {R0 : List Role} {n : Nat} {reg : Reg W} {G : Ghost} {Ls : Nat → Local W}
    (h : GInv bi B0 R0 n reg G Ls) (t : Nat) {L' : Local W} (hloc : LocOk reg G t L')
    (hB : ∀ b ∈ (Ls t).B, b ∈ L'.B) (hR : ∀ p ∈ (Ls t).R, p ∈ L'.R) : GInv bi B0 R0 n reg G (upd Ls t L') :=
  ⟨h.glob, loc_upd h.loc t hloc (fun _ _ hu => hu), cover_upd Local.B h.covB t hB, cover_upd Local.R h.covR t hR, h.baseB,
   h.baseR⟩

/-- `used`: held by a genome or recorded -/
theorem issue_pending {ctr : Int} {pend : List (Nat × Int)} {used : Int → Prop} (hnd : (pend.map (·.2)).Nodup)
    (hle : ∀ p ∈ pend, p.2 ≤ ctr) (hfree : ∀ p ∈ pend, ¬ used p.2) (hused : ∀ k, used k → k ≤ ctr) (t : Nat) :
    (((t, ctr + 1) :: pend).map (·.2)).Nodup ∧ (∀ p ∈ (t, ctr + 1) :: pend, p.2 ≤ ctr + 1) ∧
      ∀ p ∈ (t, ctr + 1) :: pend, ¬ used p.2 := by
  refine ⟨?_, fun p hp => ?_, fun p hp hu => ?_⟩
  · rw [List.map_cons, List.nodup_cons]
    refine ⟨fun hm => ?_, hnd⟩
    obtain ⟨p, hp, e⟩ := List.mem_map.mp hm
    have := hle p hp
    simp only at e
    omega
  · rcases List.mem_cons.mp hp with rfl | hp'
    · exact Int.le_refl _
    · have := hle p hp'
      omega
  · rcases List.mem_cons.mp hp with rfl | hp'
    · have := hused _ hu
      simp only at this
      omega
    · exact hfree p hp' hu

/-- `NextInnovationNumber()` by thread `t` -/
theorem GInv.nextInn {bi : Int} {B0 : List Bind} {R0 : List Role} {n : Nat} {reg : Reg W} {G : Ghost} {Ls : Nat → Local W}
    (h : GInv bi B0 R0 n reg G Ls) (t : Nat) :
    FreshI bi (Ls t) (reg.nextInn + 1) ∧
    GInv bi B0 R0 n reg.nextInnovation.2 { G with pI := (t, reg.nextInn + 1) :: G.pI }
      (upd Ls t { Ls t with pendI := (reg.nextInn + 1) :: (Ls t).pendI }) := by
  have hl := h.loc t
  have g := h.glob
  obtain ⟨h1, h2, h3⟩ := issue_pending (used := fun k => (∃ b ∈ G.B, b.1 = k) ∨ k ∈ regInns reg) g.pI_nodup g.pI_le
    (fun p hp hu => hu.elim (fun ⟨b, hb, e⟩ => g.pI_B p hp b hb e) (g.pI_rec p hp))
    (fun k hu => hu.elim (fun ⟨b, hb, e⟩ => e ▸ g.inv.above.inns b hb) (g.inv.above.recInns k)) t
  refine ⟨⟨fun b hb => ?_, fun hk => ?_, by have := g.bi_le; omega⟩,
          ⟨⟨?_, h1, h2, fun p hp b hb e => h3 p hp (.inl ⟨b, hb, e⟩), fun p hp hm => h3 p hp (.inr hm), g.pN_nodup, g.pN_le,
            g.pN_R, g.pN_rec, g.rec_above, ?_, by have := g.bi_le; simp only [Reg.nextInnovation]; omega⟩, ?_,
           cover_upd Local.B h.covB t (fun _ hm => hm), cover_upd Local.R h.covR t (fun _ hm => hm), h.baseB, h.baseR⟩⟩
  · have := g.inv.above.inns b (hl.subB b hb); omega
  · have := g.pI_le _ (hl.ownI _ hk); simp only at this; omega
  · exact invB_counters g.inv rfl (by simp only [Reg.nextInnovation]; omega) (Int.le_refl _)
  · intro p hp
    rcases List.mem_cons.mp hp with rfl | hp'
    · have := g.bi_le; simp only; omega
    · exact g.pI_above p hp'
  · refine loc_upd h.loc t ⟨hl.subB, hl.subR, hl.known, fun k hk => ?_, hl.ownN⟩ (fun u _ hu =>
      hu.mono (fun _ hb => hb) (fun _ hp => hp) (fun _ hi => hi) (fun _ _ hk => List.mem_cons_of_mem _ hk) (fun _ _ hk => hk))
    rcases List.mem_cons.mp hk with rfl | hk'
    · exact List.mem_cons_self
    · exact List.mem_cons_of_mem _ (hl.ownI k hk')

/-- `NextNodeId()` by thread `t` -/
theorem GInv.nextNode {bi : Int} {B0 : List Bind} {R0 : List Role} {n : Nat} {reg : Reg W} {G : Ghost} {Ls : Nat → Local W}
    (h : GInv bi B0 R0 n reg G Ls) (t : Nat) :
    FreshN (Ls t) (reg.nextNode + 1) ∧
    GInv bi B0 R0 n reg.nextNodeId.2 { G with pN := (t, reg.nextNode + 1) :: G.pN }
      (upd Ls t { Ls t with pendN := (reg.nextNode + 1) :: (Ls t).pendN }) := by
  have hl := h.loc t
  have g := h.glob
  obtain ⟨h1, h2, h3⟩ := issue_pending (used := fun k => (∃ r ∈ G.R, r.1 = k) ∨ k ∈ regNodes reg) g.pN_nodup g.pN_le
    (fun p hp hu => hu.elim (fun ⟨r, hr, e⟩ => g.pN_R p hp r hr e) (g.pN_rec p hp))
    (fun k hu => hu.elim (fun ⟨r, hr, e⟩ => e ▸ g.inv.above.ids r hr) (g.inv.above.recNodes k)) t
  refine ⟨⟨fun b hb e => ?_, fun hk => ?_⟩,
          ⟨⟨?_, g.pI_nodup, g.pI_le, g.pI_B, g.pI_rec, h1, h2, fun p hp r hr e => h3 p hp (.inl ⟨r, hr, e⟩),
            fun p hp hm => h3 p hp (.inr hm), g.rec_above, g.pI_above, g.bi_le⟩, ?_,
           cover_upd Local.B h.covB t (fun _ hm => hm), cover_upd Local.R h.covR t (fun _ hm => hm), h.baseB, h.baseR⟩⟩
  · have := g.inv.above.ids b (hl.subR b hb); omega
  · have := g.pN_le _ (hl.ownN _ hk); simp only at this; omega
  · exact invB_counters g.inv rfl (Int.le_refl _) (by simp only [Reg.nextNodeId]; omega)
  · refine loc_upd h.loc t ⟨hl.subB, hl.subR, hl.known, hl.ownI, fun k hk => ?_⟩ (fun u _ hu =>
      hu.mono (fun _ hb => hb) (fun _ hp => hp) (fun _ hi => hi) (fun _ _ hk => hk) (fun _ _ hk => List.mem_cons_of_mem _ hk))
    rcases List.mem_cons.mp hk with rfl | hk'
    · exact List.mem_cons_self
    · exact List.mem_cons_of_mem _ (hl.ownN k hk')

def Ghost.afterStore (G : Ghost) (i : Innov W) : Ghost :=
  { G with pI := G.pI.filter (fun p => decide (p.2 ∉ recInns i)),
           pN := G.pN.filter (fun p => decide (¬ (i.typ = 1 ∧ p.2 = i.newNode))) }

theorem StoreOk.facts {L : Local W} {i : Innov W} (h : StoreOk L i) :
    (i.typ = 2 ∨ i.typ = 1) ∧ (∀ k ∈ recInns i, k ∈ L.pendI) ∧ (recInns i).Nodup ∧ (i.typ = 1 → i.newNode ∈ L.pendN) ∧
    (i.typ = 1 → ∃ y ∈ L.B, y.1 = i.oldInn ∧ y.2.1 = i.inId ∧ y.2.2.1 = i.outId) := by
  rcases h with ⟨t2, h1⟩ | ⟨t1, h1, h2, hne, hn, hy⟩
  · have : ¬ i.typ = 1 := by omega
    refine ⟨.inl t2, ?_, ?_, fun t => absurd t this, fun t => absurd t this⟩
    · intro k hk; unfold recInns at hk; simp only [this, if_false, List.mem_singleton] at hk; subst hk; exact h1
    · unfold recInns; simp [this]
  · refine ⟨.inr t1, ?_, ?_, fun _ => hn, fun _ => hy⟩
    · intro k hk; unfold recInns at hk; simp only [t1, if_true, List.mem_cons, List.not_mem_nil, or_false] at hk
      rcases hk with rfl | rfl
      · exact h1
      · exact h2
    · unfold recInns; simp [t1, hne]

/-- `StoreInnovation(i)` by thread `t` -/
theorem GInv.store {bi : Int} {B0 : List Bind} {R0 : List Role} {n : Nat} {reg : Reg W} {G : Ghost} {Ls : Nat → Local W}
    (h : GInv bi B0 R0 n reg G Ls) (t : Nat) {i : Innov W} (hs : StoreOk (Ls t) i) :
    GInv bi B0 R0 n (reg.store i) (G.afterStore i) (upd Ls t ((Ls t).afterStore i)) := by
  have hl := h.loc t
  have g := h.glob
  obtain ⟨htyp, hsub, hnd, hnode, hsplit⟩ := hs.facts
  have hown : ∀ k ∈ recInns i, (t, k) ∈ G.pI := fun k hk => hl.ownI k (hsub k hk)
  have hownN : i.typ = 1 → (t, i.newNode) ∈ G.pN := fun t1 => hl.ownN _ (hnode t1)
  have hfresh : FreshRec G.B G.R i := by
    refine ⟨htyp, fun b hb hk => g.pI_B _ (hown _ hk) b hb rfl, fun t1 p hp e => g.pN_R _ (hownN t1) p hp e, fun t1 => ?_⟩
    obtain ⟨y, hy, e⟩ := hsplit t1
    exact ⟨y, hl.subB y hy, e⟩
  have hinv : InvB (reg.store i) G.B G.R := by
    refine invB_frame (new := [i]) g.inv ⟨Int.le_refl _, Int.le_refl _, rfl⟩ (fun r hr => ?_) ?_ ?_ (fun r hr k hk => ?_)
      (fun r hr t1 => ?_)
    · rw [List.mem_singleton.mp hr]; exact hfresh
    · rw [regInns_store, List.nodup_append]
      exact ⟨g.inv.compat.innsNodup, hnd, fun a ha b hb e => g.pI_rec _ (hown b hb) (e ▸ ha)⟩
    · rw [regNodes_store]
      by_cases t1 : i.typ = 1
      · simp only [t1, if_true, List.nodup_append]
        exact ⟨g.inv.compat.nodesNodup, by simp, fun a ha b hb e => by
          simp only [List.mem_singleton] at hb; subst hb
          exact g.pN_rec _ (hownN t1) (e ▸ ha)⟩
      · simp only [t1, if_false, List.append_nil]; exact g.inv.compat.nodesNodup
    · rw [List.mem_singleton.mp hr] at hk; exact g.pI_le _ (hown k hk)
    · rw [List.mem_singleton.mp hr] at t1 ⊢; exact g.pN_le _ (hownN t1)
  have hpI : ∀ p, p ∈ (G.afterStore i).pI ↔ p ∈ G.pI ∧ p.2 ∉ recInns i := by
    intro p; simp [Ghost.afterStore, List.mem_filter]
  have hpN : ∀ p, p ∈ (G.afterStore i).pN ↔ p ∈ G.pN ∧ ¬ (i.typ = 1 ∧ p.2 = i.newNode) := by
    intro p; simp only [Ghost.afterStore, List.mem_filter, decide_eq_true_eq]
  refine ⟨⟨hinv, ?_, ?_, ?_, ?_, ?_, ?_, ?_, ?_, ?_, fun p hp => g.pI_above p ((hpI p).mp hp).1, g.bi_le⟩, ?_,
          cover_upd Local.B h.covB t (fun _ hm => hm), cover_upd Local.R h.covR t (fun _ hm => hm), h.baseB, h.baseR⟩
  · exact g.pI_nodup.sublist (List.filter_sublist.map _)
  · intro p hp; exact g.pI_le p ((hpI p).mp hp).1
  · intro p hp; exact g.pI_B p ((hpI p).mp hp).1
  · intro p hp
    rw [regInns_store, List.mem_append]
    rintro (hm | hm)
    · exact g.pI_rec p ((hpI p).mp hp).1 hm
    · exact ((hpI p).mp hp).2 hm
  · exact g.pN_nodup.sublist (List.filter_sublist.map _)
  · intro p hp; exact g.pN_le p ((hpN p).mp hp).1
  · intro p hp; exact g.pN_R p ((hpN p).mp hp).1
  · intro p hp
    rw [regNodes_store, List.mem_append]
    rintro (hm | hm)
    · exact g.pN_rec p ((hpN p).mp hp).1 hm
    · by_cases t1 : i.typ = 1
      · simp only [t1, if_true, List.mem_singleton] at hm
        exact ((hpN p).mp hp).2 ⟨t1, hm⟩
      · simp [t1] at hm
  · intro k hk
    rw [regInns_store, List.mem_append] at hk
    rcases hk with hk | hk
    · exact g.rec_above k hk
    · exact g.pI_above _ (hown k hk)
  · refine loc_upd h.loc t ⟨hl.subB, hl.subR, fun j hj => ?_, fun k hk => ?_, fun k hk => ?_⟩ (fun u hu hlu =>
      hlu.mono (fun _ hb => hb) (fun _ hp => hp) (fun j hj => by simp only [Reg.store, List.mem_append]; exact .inl hj)
        (fun k _ hk => ?_) (fun k _ hk => ?_))
    · simp only [Local.afterStore, List.mem_cons] at hj
      simp only [Reg.store, List.mem_append, List.mem_singleton]
      rcases hj with rfl | hj
      · exact .inr rfl
      · exact .inl (hl.known j hj)
    · simp only [Local.afterStore, List.mem_filter, decide_eq_true_eq] at hk
      exact (hpI _).mpr ⟨hl.ownI k hk.1, hk.2⟩
    · simp only [Local.afterStore, List.mem_filter, decide_eq_true_eq] at hk
      exact (hpN _).mpr ⟨hl.ownN k hk.1, hk.2⟩
    · refine (hpI _).mpr ⟨hk, fun hm => hu ?_⟩
      exact snd_inj_of_nodup g.pI_nodup hk (hown k hm)
    · refine (hpN _).mpr ⟨hk, fun hm => hu ?_⟩
      obtain ⟨t1, e⟩ := hm
      simp only at e
      exact snd_inj_of_nodup g.pN_nodup hk (e ▸ hownN t1)

/-- if the thread has already returned, the ghost rules still pending are applied and its postcondition can be read off -/
theorem thread_step {α : Type} {Post : Local W → α → Prop} {bi : Int} {B0 : List Bind} {R0 : List Role} {n t : Nat} (ht : t < n)
    {L : Local W} {p : Prog W α} (hv : PValid bi Post L p) :
    ∀ {reg : Reg W} {G : Ghost} {Ls : Nat → Local W}, GInv bi B0 R0 n reg G Ls → Ls t = L →
      ∃ G' L', GInv bi B0 R0 n (p.step reg).2 G' (upd Ls t L') ∧ PValid bi Post L' (p.step reg).1 ∧
        ∀ a, p = .done a → Post L' a := by
  induction hv with
  | @done L a hp =>
    intro reg G Ls h e
    refine ⟨G, L, by rw [← e, upd_self]; exact h, .done hp, fun a' ea => ?_⟩
    cases ea
    exact hp
  | @snap L k hk _ =>
    intro reg G Ls h e
    subst e
    refine ⟨G, { Ls t with known := reg.records ++ (Ls t).known }, ?_, hk _ (h.snapOk t), nofun⟩
    have hl := h.loc t
    refine h.upd_view t ⟨hl.subB, hl.subR, fun i hi => ?_, hl.ownI, hl.ownN⟩ (fun _ hb => hb) (fun _ hp => hp)
    rcases List.mem_append.mp hi with hi | hi
    · exact hi
    · exact hl.known i hi
  | @nextInn L k hk _ =>
    intro reg G Ls h e
    subst e
    obtain ⟨hf, hg⟩ := h.nextInn t
    exact ⟨_, _, hg, hk _ hf, nofun⟩
  | @nextNode L k hk _ =>
    intro reg G Ls h e
    subst e
    obtain ⟨hf, hg⟩ := h.nextNode t
    exact ⟨_, _, hg, hk _ hf, nofun⟩
  | @store L i k hs hk _ =>
    intro reg G Ls h e
    subst e
    exact ⟨_, _, h.store t hs, hk, nofun⟩
  | @ghostB L b p hj _ ih =>
    intro reg G Ls h e
    subst e
    obtain ⟨G', L', hg, hv'⟩ := ih (h.ghostB ht hj) (upd_same _ _ _)
    rw [upd_upd] at hg
    exact ⟨G', L', hg, hv'⟩
  | @ghostR L r p hj _ ih =>
    intro reg G Ls h e
    subst e
    obtain ⟨G', L', hg, hv'⟩ := ih (h.ghostR ht hj) (upd_same _ _ _)
    rw [upd_upd] at hg
    exact ⟨G', L', hg, hv'⟩

theorem thread_done {α : Type} {Post : Local W → α → Prop} {bi : Int} {B0 : List Bind} {R0 : List Role} {n t : Nat} (ht : t < n)
    {L : Local W} {p : Prog W α} (hv : PValid bi Post L p) {reg : Reg W} {G : Ghost} {Ls : Nat → Local W} {a : α}
    (e : p = .done a) (h : GInv bi B0 R0 n reg G Ls) (el : Ls t = L) :
    ∃ G' L', GInv bi B0 R0 n reg G' (upd Ls t L') ∧ Post L' a := by
  obtain ⟨G', L', hg, _, hd⟩ := thread_step ht hv h el
  subst e
  exact ⟨G', L', hg, hd a rfl⟩

structure Covered {α : Type} (bi : Int) (Post : Nat → Local W → α → Prop) (B0 : List Bind) (R0 : List Role) (st : PState W α) : Prop where
  ex : ∃ G Ls, GInv bi B0 R0 st.threads.length st.reg G Ls ∧
        ∀ t p, st.threads[t]? = some p → PValid bi (Post t) (Ls t) p

theorem pstep_sound {α : Type} {Post : Nat → Local W → α → Prop} {bi : Int} {B0 : List Bind} {R0 : List Role} {st : PState W α}
    (h : Covered bi Post B0 R0 st) (i : Nat) : Covered bi Post B0 R0 (pstep st i) := by
  obtain ⟨G, Ls, hg, hv⟩ := h.ex
  unfold pstep
  cases hp : st.threads[i]? with
  | none => exact ⟨G, Ls, hg, hv⟩
  | some p =>
    have hi : i < st.threads.length := (List.getElem?_eq_some_iff.mp hp).1
    obtain ⟨G', L', hg', hv', _⟩ := thread_step hi (hv i p hp) hg rfl
    refine ⟨G', upd Ls i L', by simpa using hg', ?_⟩
    intro t q hq
    simp only at hq
    by_cases hti : t = i
    · subst hti
      rw [List.getElem?_set_self hi] at hq
      cases hq
      rw [upd_same]; exact hv'
    · rw [List.getElem?_set_ne (Ne.symm hti)] at hq
      rw [upd_other _ _ hti]; exact hv t q hq

theorem sched_sound {α : Type} {Post : Nat → Local W → α → Prop} {bi : Int} {B0 : List Bind} {R0 : List Role} (sched : List Nat) :
    ∀ {st : PState W α}, Covered bi Post B0 R0 st → Covered bi Post B0 R0 (runSched st sched) :=
  fun {st} => runSched_induction (Covered bi Post B0 R0) (fun _ i h => pstep_sound h i) sched st

theorem pstep_length {α : Type} (st : PState W α) (i : Nat) : (pstep st i).threads.length = st.threads.length := by
  unfold pstep; split <;> simp
theorem runSched_length {α : Type} (sched : List Nat) (st : PState W α) : (runSched st sched).threads.length = st.threads.length :=
  runSched_induction (fun st' => st'.threads.length = st.threads.length) (fun st' i h => (pstep_length st' i).trans h) sched st rfl

/-- a finished thread may still have ghost rules pending: they are applied thread by thread -/
theorem threads_done {α : Type} {bi : Int} {Post : Nat → Local W → α → Prop} {B0 : List Bind} {R0 : List Role} {st : PState W α}
    (h : Covered bi Post B0 R0 st) :
    ∃ G Ls, GInv bi B0 R0 st.threads.length st.reg G Ls ∧ ∀ t a, st.threads[t]? = some (.done a) → Post t (Ls t) a := by
  obtain ⟨G, Ls, hg, hv⟩ := h.ex
  suffices hk : ∀ k, k ≤ st.threads.length → ∃ G Ls, GInv bi B0 R0 st.threads.length st.reg G Ls ∧
      (∀ t a, t < k → st.threads[t]? = some (.done a) → Post t (Ls t) a) ∧
      (∀ t p, k ≤ t → st.threads[t]? = some p → PValid bi (Post t) (Ls t) p) by
    obtain ⟨G', Ls', hg', h1, _⟩ := hk _ (Nat.le_refl _)
    exact ⟨G', Ls', hg', fun t a ht => h1 t a (List.getElem?_eq_some_iff.mp ht).1 ht⟩
  intro k
  induction k with
  | zero => intro _; exact ⟨G, Ls, hg, fun _ _ h0 => absurd h0 (Nat.not_lt_zero _), fun t p _ hp => hv t p hp⟩
  | succ k ih =>
    intro hk
    obtain ⟨G1, Ls1, hg1, hd1, hv1⟩ := ih (Nat.le_of_succ_le hk)
    have hklt : k < st.threads.length := hk
    cases hp : st.threads[k]? with
    | none => rw [List.getElem?_eq_getElem hklt] at hp; cases hp
    | some p =>
      by_cases hdone : ∃ a, p = .done a
      · obtain ⟨a, rfl⟩ := hdone
        obtain ⟨G2, L2, hg2, hpost⟩ := thread_done hklt (hv1 k _ (Nat.le_refl _) hp) rfl hg1 rfl
        refine ⟨G2, upd Ls1 k L2, hg2, ?_, ?_⟩
        · intro t a' ht hta
          by_cases htk : t = k
          · subst htk
            rw [hp] at hta
            cases hta
            rw [upd_same]; exact hpost
          · rw [upd_other _ _ htk]; exact hd1 t a' (by omega) hta
        · intro t q ht hq
          rw [upd_other _ _ (by omega)]; exact hv1 t q (by omega) hq
      · refine ⟨G1, Ls1, hg1, ?_, fun t q ht hq => hv1 t q (by omega) hq⟩
        intro t a' ht hta
        by_cases htk : t = k
        · subst htk
          rw [hp] at hta
          cases hta
          exact absurd ⟨a', rfl⟩ hdone
        · exact hd1 t a' (by omega) hta

def view0 (P : List (Genome W)) : Local W := ⟨binds P, roles P, [], [], []⟩

theorem GInv.init {bi : Int} {n : Nat} {reg : Reg W} {P : List (Genome W)} (h : InvB reg (binds P) (roles P))
    (habove : ∀ k ∈ regInns reg, bi < k) (hle : bi ≤ reg.nextInn) :
    GInv bi (binds P) (roles P) n reg ⟨binds P, roles P, [], []⟩ (fun _ => view0 P) := by
  have nil : ∀ {β : Type} {Q : β → Prop}, ∀ x ∈ ([] : List β), Q x := fun _ hx => absurd hx List.not_mem_nil
  exact ⟨⟨h, List.nodup_nil, nil, nil, nil, List.nodup_nil, nil, nil, nil, habove, nil, hle⟩,
    fun _ => ⟨fun _ hb => hb, fun _ hp => hp, nil, nil, nil⟩,
    fun _ hb => .inl hb, fun _ hp => .inl hp, fun _ hb => hb, fun _ hp => hp⟩

theorem step_mono {α : Type} (p : Prog W α) (reg : Reg W) :
    reg.nextInn ≤ (p.step reg).2.nextInn ∧ reg.nextNode ≤ (p.step reg).2.nextNode ∧
    ∃ new, (p.step reg).2.records = reg.records ++ new := by
  cases p with
  | done a => exact ⟨Int.le_refl _, Int.le_refl _, [], by simp [Prog.step]⟩
  | snap k => exact ⟨Int.le_refl _, Int.le_refl _, [], by simp [Prog.step]⟩
  | nextNode k => exact ⟨Int.le_refl _, by simp only [Prog.step, Reg.nextNodeId]; omega, [], by simp [Prog.step, Reg.nextNodeId]⟩
  | nextInn k => exact ⟨by simp only [Prog.step, Reg.nextInnovation]; omega, Int.le_refl _, [], by simp [Prog.step, Reg.nextInnovation]⟩
  | store i k => exact ⟨Int.le_refl _, Int.le_refl _, [i], rfl⟩

theorem pstep_mono {α : Type} (st : PState W α) (i : Nat) :
    st.reg.nextInn ≤ (pstep st i).reg.nextInn ∧ st.reg.nextNode ≤ (pstep st i).reg.nextNode ∧
    ∃ new, (pstep st i).reg.records = st.reg.records ++ new := by
  unfold pstep
  split
  · exact ⟨Int.le_refl _, Int.le_refl _, [], by simp⟩
  · exact step_mono _ _

theorem runSched_mono {α : Type} (sched : List Nat) (st : PState W α) :
    st.reg.nextInn ≤ (runSched st sched).reg.nextInn ∧ st.reg.nextNode ≤ (runSched st sched).reg.nextNode ∧
    ∃ new, (runSched st sched).reg.records = st.reg.records ++ new := by
  refine runSched_induction (fun st' => st.reg.nextInn ≤ st'.reg.nextInn ∧ st.reg.nextNode ≤ st'.reg.nextNode ∧
    ∃ new, st'.reg.records = st.reg.records ++ new) (fun st' i h => ?_) sched st ⟨Int.le_refl _, Int.le_refl _, [], by simp⟩
  obtain ⟨a1, a2, n1, e1⟩ := h
  obtain ⟨b1, b2, n2, e2⟩ := pstep_mono st' i
  exact ⟨Int.le_trans a1 b1, Int.le_trans a2 b2, n1 ++ n2, by rw [e2, e1, List.append_assoc]⟩

end GoNeat.C16
