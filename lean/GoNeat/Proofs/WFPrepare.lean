/-
  C01's pool closure outside reproduction: `prepareForReproduction` (fitness adjustment, sorting, quota bookkeeping,
  purging) only re-orders, re-labels and removes organisms; for `finalizeReproduction` see `finalize_allOrgs` in WFPop.
-/
import GoNeat.Proofs.EpochFrame
import GoNeat.Model.Epoch

namespace GoNeat.C01
open GoNeat Scalar
variable {W : Type} [Scalar W]

def GenomesSub (ss' ss : List (Species W)) : Prop :=
  ∀ s' ∈ ss', ∀ x ∈ s'.orgs, ∃ s ∈ ss, ∃ y ∈ s.orgs, y.genome = x.genome

omit [Scalar W] in
theorem GenomesSub.refl (ss : List (Species W)) : GenomesSub ss ss := fun s hs x hx => ⟨s, hs, x, hx, rfl⟩
omit [Scalar W] in
theorem GenomesSub.of_sub (ss' ss : List (Species W)) (h : ∀ s ∈ ss', s ∈ ss) : GenomesSub ss' ss :=
  fun s hs x hx => ⟨s, h s hs, x, hx, rfl⟩

def SameOrgGenomes (s' s : Species W) : Prop := s'.orgs.map (·.genome) = s.orgs.map (·.genome)

omit [Scalar W] in
theorem setTopOrg_same (s : Species W) (f : Org W → Org W) (hf : ∀ o, (f o).genome = o.genome) :
    SameOrgGenomes (setTopOrg s f) s := by
  unfold setTopOrg SameOrgGenomes
  split
  · rfl
  · rename_i heq; simp [heq, hf]

omit [Scalar W] in
theorem SameOrgGenomes.of_orgs {a b c : Species W} (h : a.orgs = b.orgs) (e : SameOrgGenomes b c) : SameOrgGenomes a c := by
  unfold SameOrgGenomes at *; rw [h]; exact e

omit [Scalar W] in
theorem top_same (s : Species W) (f : Org W → Org W) (hf : ∀ o, (f o).genome = o.genome) (s1 : Species W)
    (h : s1.orgs = (setTopOrg s f).orgs) : SameOrgGenomes s1 s :=
  SameOrgGenomes.of_orgs h (setTopOrg_same s f hf)

def Relabel (ss' ss : List (Species W)) : Prop := ∀ s' ∈ ss', ∃ s ∈ ss, SameOrgGenomes s' s

omit [Scalar W] in
theorem Relabel.modify (ss : List (Species W)) (i : Nat) (f : Species W → Species W) (hf : ∀ s, SameOrgGenomes (f s) s) :
    Relabel (ss.modify i f) ss := by
  intro s' hs'
  rcases mem_modify _ _ _ _ hs' with h | ⟨s, hs, rfl⟩
  · exact ⟨s', h, rfl⟩
  · exact ⟨s, hs, hf s⟩

/-- **the preparation phase creates no genome and does not touch the registry** -/
theorem prepare_genomes (o : EpochOpts W) (p p1 : Pop W) (ex : ExecState) (rs rs' : List Nat)
    (h : prepareForReproduction o p rs = .ok ((p1, ex), rs')) : GenomesSub p1.species p.species ∧ p1.reg = p.reg := by
  obtain ⟨hreg, _, _, _, _, hmem⟩ := prepare_members prepKey_uid_genome h
  refine ⟨fun s1 hs1 x hx => ?_, hreg⟩
  obtain ⟨s, hs, _, hall⟩ := hmem s1 hs1
  obtain ⟨_, y, hy, e⟩ := hall x hx
  exact ⟨s, hs, y, hy, (congrArg Prod.snd e).symm⟩

end GoNeat.C01
