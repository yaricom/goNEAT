/-
  C12: `LoadSensors` of the standard solver and of the fast solver load the same values (Kind A).

  Standard solver: the k-th input-type node of `net.inputs` takes `xs[k]`, bias nodes take 1 (second branch), or every
  sensor of `net.inputs` takes the next value (first branch; equal to the second when `inputs` holds no bias node).
  Fast solver: signal `nBias + k` takes `xs[k]`; bias signals are 1 from construction.
  With `net.inputs` duplicate-free, holding exactly the sensors, its input-type nodes in node-table order
  (`InputsCanon`), the two loaded states agree through the index map `idx` (`load_agree`).
-/
import GoNeat.Proofs.Translation

set_option linter.unusedSectionVars false

namespace GoNeat.Fast
open GoNeat.Solver (Err kindAt isSensorAt get upd sensorLoad loadEq loadNe)

variable {W : Type} [Scalar W]

def isInputAt (net : Net W) (i : Nat) : Bool := kindAt net i == some Kind.input

theorem sensorLoad_activation (x : W) (a : NState W) : (sensorLoad x a).activation = x := rfl

theorem loadNe_vals (net : Net W) (is : List Nat) :
    ∀ (xs : List W) (s : Solver.St W), is.Nodup → (∀ i ∈ is, i < s.length) → (loadNe net is xs s).2 = none →
      (∀ j, j ∉ is → get (loadNe net is xs s).1 j = get s j) ∧
      (∀ (k j : Nat) (x : W), (is.filter (isInputAt net))[k]? = some j → xs[k]? = some x →
        (get (loadNe net is xs s).1 j).activation = x) ∧
      (∀ j ∈ is, isInputAt net j = false → isSensorAt net j = true →
        (get (loadNe net is xs s).1 j).activation = Scalar.one) := by
  induction is with
  | nil =>
    intro xs s _ _ _
    exact ⟨fun _ _ => rfl, fun k j x h => by simp at h, fun j hj => by simp at hj⟩
  | cons i rest ih =>
    intro xs s hnd hlt hok
    obtain ⟨hi, hnd'⟩ := List.nodup_cons.mp hnd
    have hil : i < s.length := hlt i (by simp)
    unfold loadNe at hok ⊢
    by_cases hk : (kindAt net i == some Kind.input) = true
    · simp only [hk, if_true] at hok ⊢
      cases xs with
      | nil => simp at hok
      | cons x xs' =>
        simp only at hok ⊢
        obtain ⟨a1, a2, a3⟩ := ih xs' (upd s i (sensorLoad x)) hnd'
          (fun i' h' => by simpa using hlt i' (by simp [h'])) hok
        have hself : get (loadNe net rest xs' (upd s i (sensorLoad x))).1 i = sensorLoad x (get s i) := by
          rw [a1 i hi, Solver.get_upd_self s i _ hil]
        refine ⟨fun j hj => ?_, fun k j x' hf hx => ?_, fun j hj hnj hsj => ?_⟩
        · simp only [List.mem_cons, not_or] at hj
          rw [a1 j hj.2, Solver.get_upd_ne s i j _ hj.1]
        · have hfil : (i :: rest).filter (isInputAt net) = i :: rest.filter (isInputAt net) := by
            simp [isInputAt, hk]
          rw [hfil] at hf
          cases k with
          | zero =>
            simp only [List.getElem?_cons_zero, Option.some.injEq] at hf hx
            subst hf hx
            rw [hself]
            rfl
          | succ k' =>
            simp only [List.getElem?_cons_succ] at hf hx
            exact a2 k' j x' hf hx
        · rcases List.mem_cons.mp hj with rfl | hj'
          · simp [isInputAt, hk] at hnj
          · exact a3 j hj' hnj hsj
    · have hk' : (kindAt net i == some Kind.input) = false := by simpa using hk
      simp only [hk', Bool.false_eq_true, if_false] at hok ⊢
      have hfil : (i :: rest).filter (isInputAt net) = rest.filter (isInputAt net) := by
        simp [isInputAt, hk']
      by_cases hs : isSensorAt net i = true
      · simp only [hs, if_true] at hok ⊢
        obtain ⟨a1, a2, a3⟩ := ih xs (upd s i (sensorLoad Scalar.one)) hnd'
          (fun i' h' => by simpa using hlt i' (by simp [h'])) hok
        refine ⟨fun j hj => ?_, fun k j x' hf hx => ?_, fun j hj hnj hsj => ?_⟩
        · simp only [List.mem_cons, not_or] at hj
          rw [a1 j hj.2, Solver.get_upd_ne s i j _ hj.1]
        · rw [hfil] at hf
          exact a2 k j x' hf hx
        · rcases List.mem_cons.mp hj with rfl | hj'
          · rw [a1 j hi, Solver.get_upd_self s j _ hil]
            rfl
          · exact a3 j hj' hnj hsj
      · have hs' : isSensorAt net i = false := by simpa using hs
        simp only [hs', Bool.false_eq_true, if_false] at hok ⊢
        obtain ⟨a1, a2, a3⟩ := ih xs s hnd' (fun i' h' => hlt i' (by simp [h'])) hok
        refine ⟨fun j hj => a1 j (fun h => hj (by simp [h])), fun k j x' hf hx => ?_, fun j hj hnj hsj => ?_⟩
        · rw [hfil] at hf
          exact a2 k j x' hf hx
        · rcases List.mem_cons.mp hj with rfl | hj'
          · rw [hs'] at hsj; simp at hsj
          · exact a3 j hj' hnj hsj

theorem loadEq_eq_loadNe (net : Net W) (is : List Nat) (h : ∀ i ∈ is, isSensorAt net i = isInputAt net i) :
    ∀ (xs : List W) (s : Solver.St W), loadEq net is xs s = loadNe net is xs s := by
  induction is with
  | nil => intro xs s; rfl
  | cons i rest ih =>
    intro xs s
    have hi := h i (by simp)
    have ih' := ih (fun i' h' => h i' (by simp [h']))
    unfold loadEq loadNe
    by_cases hk : isInputAt net i = true
    · have hk2 : (kindAt net i == some Kind.input) = true := hk
      rw [hk] at hi
      simp only [hi, hk2, if_true]
      cases xs with
      | nil => rfl
      | cons x xs' => exact ih' _ _
    · have hk1 : isInputAt net i = false := by simpa using hk
      have hk2 : (kindAt net i == some Kind.input) = false := hk1
      rw [hk1] at hi
      simp only [hi, hk2, Bool.false_eq_true, if_false]
      exact ih' _ _

/-- `net.inputs` is duplicate-free, holds exactly the sensors, and lists the input-type nodes in node-table order -/
def InputsCanon (net : Net W) : Bool :=
  decide net.inputs.Nodup && net.inputs.all (isSensorAt net) &&
    (List.range net.nodes.length).all (fun i => !isSensorAt net i || decide (i ∈ net.inputs)) &&
    decide (net.inputs.filter (isInputAt net) = idxOfKind net Kind.input)

theorem isInputAt_iff (net : Net W) (j : Nat) : isInputAt net j = true ↔ j ∈ idxOfKind net Kind.input := by
  rw [mem_idxOfKind]
  simp [isInputAt, kindAt, Option.map_eq_some_iff]

theorem idx_input (net : Net W) {lvl : Nat → Nat} (hwf : TWF net lvl) (fn : FastNet W) (h : OfNet net fn) (k : Nat)
    (hk : k < (idxOfKind net Kind.input).length) : idx net ((idxOfKind net Kind.input)[k]) = fn.nBias + k := by
  apply idx_of_get net hwf
  rw [h.nBias, order_split, List.getElem?_append_left (by simp only [List.length_append]; omega),
    List.getElem?_append_right (by omega), Nat.add_sub_cancel_left]
  exact List.getElem?_eq_getElem hk

/-- both `LoadSensors` load the same values into a fresh standard network and a fresh fast solver: what `C12.all_solvers_fresh`
    needs to start `C12.all_solvers_eval` -/
theorem load_agree (net : Net W) {lvl : Nat → Nat} (hwf : TWF net lvl) (hin : InputsCanon net = true) (fn : FastNet W)
    (h : OfNet net fn) (xs : List W) (hxs : xs.length = (idxOfKind net Kind.input).length)
    (hok : (Solver.loadSensors net xs (Solver.init net)).2 = none) :
    (loadSensors fn xs (init fn)).2 = none ∧
    (loadSensors fn xs (init fn)).1.signals.length = fn.nTotal ∧
    (loadSensors fn xs (init fn)).1.processing.length = fn.nTotal ∧
    (∀ i, getW (loadSensors fn xs (init fn)).1.processing i = Scalar.zero) ∧
    (∀ (i : Nat) (nd : NNodeS W), net.nodes[i]? = some nd → nd.isSensor = true → i ∈ net.inputs) ∧
    (∀ (j : Nat) (nd : NNodeS W), net.nodes[j]? = some nd → nd.kind = Kind.bias →
      (get (Solver.loadSensors net xs (Solver.init net)).1 j).activation = Scalar.one) ∧
    (∀ (j : Nat) (nd : NNodeS W), net.nodes[j]? = some nd → nd.kind = Kind.input →
      getW (loadSensors fn xs (init fn)).1.signals (idx net j) =
        (get (Solver.loadSensors net xs (Solver.init net)).1 j).activation) := by
  simp only [InputsCanon, Bool.and_eq_true, decide_eq_true_eq, List.all_eq_true, List.mem_range, Bool.or_eq_true,
    Bool.not_eq_true'] at hin
  obtain ⟨⟨⟨c1, c2⟩, c3⟩, c4⟩ := hin
  have hall : ∀ (i : Nat) (nd : NNodeS W), net.nodes[i]? = some nd → nd.isSensor = true → i ∈ net.inputs := by
    intro i nd hi hs
    rcases c3 i (valid_lt net i nd hi) with h' | h'
    · simp [isSensorAt, hi, hs] at h'
    · exact h'
  -- the standard side: both branches are `loadNe`
  have hstd : (Solver.loadSensors net xs (Solver.init net)) = loadNe net net.inputs xs (Solver.init net) := by
    unfold Solver.loadSensors
    split
    · next hl =>
      apply loadEq_eq_loadNe
      have hl' : (net.inputs.filter (isInputAt net)).length = net.inputs.length := by
        rw [c4, ← hxs]; simpa using hl
      have := List.length_filter_eq_length_iff.mp hl'
      intro i hi
      rw [this i hi, c2 i hi]
    · rfl
  rw [hstd] at hok ⊢
  have hlt : ∀ i ∈ net.inputs, i < (Solver.init net).length := by
    intro i hi
    have := c2 i hi
    simp only [isSensorAt] at this
    split at this
    · next nd hn => simpa [Solver.init] using valid_lt net i nd hn
    · simp at this
  obtain ⟨_, v2, v3⟩ := loadNe_vals net net.inputs xs (Solver.init net) c1 hlt hok
  have hfl : (loadSensors fn xs (init fn)) = ({ init fn with signals := loadLoop fn.nBias xs 0 (init fn).signals }, none) := by
    unfold loadSensors
    simp [h.nInput, hxs]
  rw [hfl]
  simp only
  have hlen0 : (init fn).signals.length = fn.nTotal := by simp [init]
  refine ⟨trivial, (length_loadLoop ..).trans hlen0, by simp [init], fun i => by simp [init, getW_replicate_zero],
    hall, fun j nd hj hk => ?_, fun j nd hj hk => ?_⟩
  · have hs : nd.isSensor = true := by simp [NNodeS.isSensor, hk]
    exact v3 j (hall j nd hj hs) (by simp [isInputAt, kindAt, hj, hk, Kind.bias, Kind.input])
      (by simp [isSensorAt, hj, hs])
  · have hm : j ∈ idxOfKind net Kind.input := (mem_idxOfKind net _ j).mpr ⟨nd, hj, hk⟩
    obtain ⟨k, hkl, rfl⟩ := List.getElem_of_mem hm
    have hkx : k < xs.length := hxs ▸ hkl
    have hx : xs[k]? = some xs[k] := List.getElem?_eq_getElem hkx
    rw [idx_input net hwf fn h k hkl]
    have hget : (net.inputs.filter (isInputAt net))[k]? = some (idxOfKind net Kind.input)[k] := by
      rw [c4]; exact List.getElem?_eq_getElem hkl
    rw [v2 k _ _ hget hx, getW_loadLoop, Nat.add_zero, Nat.add_sub_cancel_left, hx, if_pos, Option.getD_some]
    rw [hlen0, h.nTotal, ← hwf.len, order_split, h.nBias]
    simp only [List.length_append]
    omega

end GoNeat.Fast
