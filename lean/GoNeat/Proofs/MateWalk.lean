/-
  The three crossovers have one shape.  A PLAN is computed from the two gene lists and one parameter: for the multipoint
  operators the slots of the alignment (`Proofs/Align.lean`) that the fitter parent has a gene in, for the single-point
  operator `spPlan` at the crossing point it draws (`spPlanR`).  `walkR` goes through the plan; for each entry it PICKS a gene - within the walk the only place where randomness is
  consumed - and adds it to the child (`addChosen`).  `crossover` is the common prologue, the plan, the walk, the child.  Each walk
  and each operator of the model equals its instance, error exits included; everything proved about crossover is proved
  about `walkR` or `crossover` and a plan.
-/
import GoNeat.Model.Mate
import GoNeat.Proofs.Align

namespace GoNeat.C04
open GoNeat Scalar
variable {W : Type} {ε : Type}

/-- the walk over a plan as a `Rand` computation (the `R`, as in `mpPlanR`, `spPlanR`): pick, `addChosen`, go on -/
def walkR (pick : ε → Rand (Chosen W × Bool)) (nt : List (Trait W)) (t0 : Option Int) :
    List ε → MateAcc W → Rand (MateAcc W)
  | [], a, rs => .ok (a, rs)
  | e :: es, a, rs =>
    match pick e rs with
    | .error err => .error err
    | .ok ((c, dis), rs1) =>
      match addChosen nt t0 a c dis with
      | .error err => .error err
      | .ok a1 => walkR pick nt t0 es a1 rs1

theorem walkR_map {δ : Type} (f : δ → ε) (pick : ε → Rand (Chosen W × Bool)) (nt : List (Trait W)) (t0 : Option Int)
    (ds : List δ) (a : MateAcc W) (rs : List Nat) :
    walkR pick nt t0 (ds.map f) a rs = walkR (fun d => pick (f d)) nt t0 ds a rs := by
  induction ds generalizing a rs with
  | nil => rw [List.map_nil, walkR, walkR]
  | cons d ds ih => rw [List.map_cons, walkR, walkR]; simp only [ih]

/-- a gene only one parent carries is taken if that parent is the fitter one -/
def taken (better : Bool) : Slot W → Bool
  | .both _ _ => true
  | .left _ => better
  | .right _ => !better

def mpPlan (better : Bool) (xs ys : List (Gene W)) : List (Slot W) := (align xs ys).filter (taken better)

/-- the pick for a slot, `m` being the rule for a matching pair (the one point in which the two multipoint walks differ) -/
def slotPick (m : Gene W → Gene W → Rand (Chosen W × Bool)) (p1 p2 : Genome W) : Slot W → Rand (Chosen W × Bool)
  | .both x y => m x y
  | .left x => fun rs => .ok ((chooseFrom p1 x, false), rs)
  | .right y => fun rs => .ok ((chooseFrom p2 y, false), rs)

theorem mpPlan_swap (xs ys : List (Gene W)) : mpPlan false xs ys = (mpPlan true ys xs).map Slot.swap := by
  rw [mpPlan, mpPlan, align_swap ys xs, List.filter_map]
  exact congrArg (List.map Slot.swap) (List.filter_congr fun s _ => by cases s <;> rfl)

theorem slotPick_swap (m : Gene W → Gene W → Rand (Chosen W × Bool)) (p1 p2 : Genome W) (s : Slot W) :
    slotPick m p1 p2 s.swap = slotPick (fun y x => m x y) p2 p1 s := by cases s <;> rfl

section
variable (better : Bool) (x y : Gene W) (xs ys : List (Gene W))

/-! the plan one step at a time: the recursion of `multipointWalk` and `multipointAvgWalk` -/

theorem mpPlan_nil : mpPlan (W := W) better [] [] = [] := by rw [mpPlan, align]; rfl

theorem mpPlan_nil_cons : mpPlan better [] (y :: ys) = if better then mpPlan better [] ys else .right y :: mpPlan better [] ys := by
  rw [mpPlan, align]; cases better <;> rfl

theorem mpPlan_cons_nil : mpPlan better (x :: xs) [] = if better then .left x :: mpPlan better xs [] else mpPlan better xs [] := by
  rw [mpPlan, align]; cases better <;> rfl

theorem mpPlan_cons_eq (h : x.inn = y.inn) : mpPlan better (x :: xs) (y :: ys) = .both x y :: mpPlan better xs ys := by
  rw [mpPlan, align, if_pos h]; rfl

theorem mpPlan_cons_lt (h : x.inn < y.inn) : mpPlan better (x :: xs) (y :: ys) =
    if better then .left x :: mpPlan better xs (y :: ys) else mpPlan better xs (y :: ys) := by
  rw [mpPlan, align, if_neg (Int.ne_of_lt h), if_pos h]; cases better <;> rfl

theorem mpPlan_cons_gt (h : y.inn < x.inn) : mpPlan better (x :: xs) (y :: ys) =
    if better then mpPlan better (x :: xs) ys else .right y :: mpPlan better (x :: xs) ys := by
  rw [mpPlan, align, if_neg (Int.ne_of_gt h), if_neg (Int.lt_asymm h)]; cases better <;> rfl

end

/-- where a child gene of the single-point crossover comes from: a copy of gene `x` of the parent with fewer genes,
    the average of the matching genes `x` (fewer genes) and `y` (more genes), or a copy of gene `y` of the parent with
    more genes -/
inductive Origin (W : Type) where
  | short (x : Gene W)
  | mean (x y : Gene W)
  | long (y : Gene W)

def Origin.link : Origin W → Int × Int × Bool
  | .short x => x.link
  | .mean x _ => x.link
  | .long y => y.link

def Origin.inn : Origin W → Int
  | .short x => x.inn
  | .mean x _ => x.inn
  | .long y => y.inn

/-- the alignment the single-point crossover performs on the two gene lists alone (no nodes, traits, randomness):
    `xs` = rest of the parent with fewer genes, `ys` = rest of the other, `gc` = genes of `xs`' parent consumed so far,
    `cp` = the crossing point, `started` = a gene has been chosen before (the `chosenGene` variable of the Go loop is
    not nil).
    The walk ends with `ys`.  Matching genes: before the point from `xs`, at the point averaged, after it from `ys`.
    A gene only in `xs`: taken before the point, afterwards never (the `xs` pointer stays on it and every further gene
    of `ys` is taken).  A gene only in `ys` that lies below the current `xs` gene is skipped (before anything was
    chosen the walk stops there - known finding K1). -/
def spPlan (cp : Nat) : List (Gene W) → List (Gene W) → Nat → Bool → List (Origin W)
  | _, [], _, _ => []
  | [], y :: ys, gc, _ => .long y :: spPlan cp [] ys gc true
  | x :: xs, y :: ys, gc, started =>
    if x.inn = y.inn then
      (if gc < cp then .short x else if gc > cp then .long y else .mean x y) :: spPlan cp xs ys (gc + 1) true
    else if x.inn < y.inn then
      if gc < cp then .short x :: spPlan cp xs (y :: ys) (gc + 1) true
      else .long y :: spPlan cp (x :: xs) ys gc true
    else if started then spPlan cp (x :: xs) ys gc started
    else []
termination_by l1 l2 => l1.length + l2.length

/-- the parent whose genes the single-point crossover walks as its first list: the first parent if it has strictly
    fewer genes, else the second -/
def shorter (g og : Genome W) : Genome W := if g.genes.length < og.genes.length then g else og
def longer (g og : Genome W) : Genome W := if g.genes.length < og.genes.length then og else g

variable [Scalar W]

/-- `multipointWalk` on a matching pair: either parent's gene on a coin flip, disabled by `disableDraw` -/
def plainPair (p1 p2 : Genome W) (x y : Gene W) : Rand (Chosen W × Bool) := fun rs =>
  match Rand.float64 (W := W) rs with
  | .error e => .error e
  | .ok (f, rs1) =>
    match disableDraw (W := W) x.en y.en rs1 with
    | .error e => .error e
    | .ok (dis, rs2) => .ok ((if lt f (ofDec 5 1) then chooseFrom p1 x else chooseFrom p2 y, dis), rs2)

/-- `multipointAvgWalk` on a matching pair, `singlePointWalk` at the crossing point: the averaged gene, never disabled
    afterwards -/
def avgPair (p1 p2 : Genome W) (x y : Gene W) : Rand (Chosen W × Bool) := fun rs =>
  match avgChosen p1 p2 x y rs with
  | .error e => .error e
  | .ok (c, rs1) => .ok ((c, false), rs1)

def spPick (q1 q2 : Genome W) : Origin W → Rand (Chosen W × Bool)
  | .short x => fun rs => .ok ((chooseFrom q1 x, false), rs)
  | .mean x y => avgPair q1 q2 x y
  | .long y => fun rs => .ok ((chooseFrom q2 y, false), rs)

theorem multipointWalk_eq (p1 p2 : Genome W) (nt : List (Trait W)) (t0 : Option Int) (better : Bool)
    (xs ys : List (Gene W)) (acc : MateAcc W) (rs : List Nat) :
    multipointWalk p1 p2 nt t0 better xs ys acc rs =
      walkR (slotPick (plainPair p1 p2) p1 p2) nt t0 (mpPlan better xs ys) acc rs := by
  fun_induction multipointWalk p1 p2 nt t0 better xs ys acc rs
  case case1 => rw [mpPlan_nil, walkR]
  case case2 hb ih => rw [mpPlan_nil_cons, if_pos hb]; exact ih
  case case3 hb e he => rw [mpPlan_nil_cons, if_neg hb, walkR]; simp only [slotPick, he]
  case case4 hb a' he ih => rw [mpPlan_nil_cons, if_neg hb, walkR]; simp only [slotPick, he]; exact ih
  case case5 hb ih => rw [mpPlan_cons_nil, if_neg (by simpa using hb)]; exact ih
  case case6 hb e he => rw [mpPlan_cons_nil, if_pos (by simpa using hb), walkR]; simp only [slotPick, he]
  case case7 hb a' he ih => rw [mpPlan_cons_nil, if_pos (by simpa using hb), walkR]; simp only [slotPick, he]; exact ih
  case case8 heq e hf => rw [mpPlan_cons_eq _ _ _ _ _ heq, walkR]; simp only [slotPick, plainPair, hf]
  case case9 heq f r1 hf e hd => rw [mpPlan_cons_eq _ _ _ _ _ heq, walkR]; simp only [slotPick, plainPair, hf, hd]
  case case10 heq f r1 hf c dis r2 hd e he =>
    simp only [c, dite_eq_ite] at he
    rw [mpPlan_cons_eq _ _ _ _ _ heq, walkR]; simp only [slotPick, plainPair, hf, hd, he]
  case case11 heq f r1 hf c dis r2 hd a' he ih =>
    simp only [c, dite_eq_ite] at he
    rw [mpPlan_cons_eq _ _ _ _ _ heq, walkR]; simp only [slotPick, plainPair, hf, hd, he]; exact ih
  case case12 hne hlt hb ih => rw [mpPlan_cons_lt _ _ _ _ _ hlt, if_neg (by simpa using hb)]; exact ih
  case case13 hne hlt hb e he => rw [mpPlan_cons_lt _ _ _ _ _ hlt, if_pos (by simpa using hb), walkR]; simp only [slotPick, he]
  case case14 hne hlt hb a' he ih =>
    rw [mpPlan_cons_lt _ _ _ _ _ hlt, if_pos (by simpa using hb), walkR]; simp only [slotPick, he]; exact ih
  case case15 hne hlt hb ih => rw [mpPlan_cons_gt _ _ _ _ _ (by omega), if_pos hb]; exact ih
  case case16 hne hlt hb e he => rw [mpPlan_cons_gt _ _ _ _ _ (by omega), if_neg hb, walkR]; simp only [slotPick, he]
  case case17 hne hlt hb a' he ih => rw [mpPlan_cons_gt _ _ _ _ _ (by omega), if_neg hb, walkR]; simp only [slotPick, he]; exact ih

theorem multipointAvgWalk_eq (p1 p2 : Genome W) (nt : List (Trait W)) (t0 : Option Int) (better : Bool)
    (xs ys : List (Gene W)) (acc : MateAcc W) (rs : List Nat) :
    multipointAvgWalk p1 p2 nt t0 better xs ys acc rs =
      walkR (slotPick (avgPair p1 p2) p1 p2) nt t0 (mpPlan better xs ys) acc rs := by
  fun_induction multipointAvgWalk p1 p2 nt t0 better xs ys acc rs
  case case1 => rw [mpPlan_nil, walkR]
  case case2 hb ih => rw [mpPlan_nil_cons, if_pos hb]; exact ih
  case case3 hb e he => rw [mpPlan_nil_cons, if_neg hb, walkR]; simp only [slotPick, he]
  case case4 hb a' he ih => rw [mpPlan_nil_cons, if_neg hb, walkR]; simp only [slotPick, he]; exact ih
  case case5 hb ih => rw [mpPlan_cons_nil, if_neg (by simpa using hb)]; exact ih
  case case6 hb e he => rw [mpPlan_cons_nil, if_pos (by simpa using hb), walkR]; simp only [slotPick, he]
  case case7 hb a' he ih => rw [mpPlan_cons_nil, if_pos (by simpa using hb), walkR]; simp only [slotPick, he]; exact ih
  case case8 heq e hav => rw [mpPlan_cons_eq _ _ _ _ _ heq, walkR]; simp only [slotPick, avgPair, hav]
  case case9 heq c r1 hav e he => rw [mpPlan_cons_eq _ _ _ _ _ heq, walkR]; simp only [slotPick, avgPair, hav, he]
  case case10 heq c r1 hav a' he ih => rw [mpPlan_cons_eq _ _ _ _ _ heq, walkR]; simp only [slotPick, avgPair, hav, he]; exact ih
  case case11 hne hlt hb ih => rw [mpPlan_cons_lt _ _ _ _ _ hlt, if_neg (by simpa using hb)]; exact ih
  case case12 hne hlt hb e he => rw [mpPlan_cons_lt _ _ _ _ _ hlt, if_pos (by simpa using hb), walkR]; simp only [slotPick, he]
  case case13 hne hlt hb a' he ih =>
    rw [mpPlan_cons_lt _ _ _ _ _ hlt, if_pos (by simpa using hb), walkR]; simp only [slotPick, he]; exact ih
  case case14 hne hlt hb ih => rw [mpPlan_cons_gt _ _ _ _ _ (by omega), if_pos hb]; exact ih
  case case15 hne hlt hb e he => rw [mpPlan_cons_gt _ _ _ _ _ (by omega), if_neg hb, walkR]; simp only [slotPick, he]
  case case16 hne hlt hb a' he ih => rw [mpPlan_cons_gt _ _ _ _ _ (by omega), if_neg hb, walkR]; simp only [slotPick, he]; exact ih

theorem singlePointWalk_eq (q1 q2 : Genome W) (nt : List (Trait W)) (t0 : Option Int) (cp : Nat)
    (xs ys : List (Gene W)) (gc : Nat) (last : Option (Chosen W)) (acc : MateAcc W) (rs : List Nat) :
    singlePointWalk q1 q2 nt t0 cp xs ys gc last acc rs =
      walkR (spPick q1 q2) nt t0 (spPlan cp xs ys gc last.isSome) acc rs := by
  fun_induction singlePointWalk q1 q2 nt t0 cp xs ys gc last acc rs
  case case1 xs _ _ _ _ => cases xs <;> rw [spPlan, walkR]
  case case2 c e he => dsimp only [c] at he; rw [spPlan, walkR]; simp only [spPick, he]
  case case3 c a' he ih => dsimp only [c] at he; rw [spPlan, walkR]; simp only [spPick, he]; exact ih
  case case4 heq hlt c e he => dsimp only [c] at he; rw [spPlan, if_pos heq, if_pos hlt, walkR]; simp only [spPick, he]
  case case5 heq hlt c a' he ih =>
    dsimp only [c] at he; rw [spPlan, if_pos heq, if_pos hlt, walkR]; simp only [spPick, he]; exact ih
  case case6 heq hnlt hgt c e he =>
    dsimp only [c] at he; rw [spPlan, if_pos heq, if_neg hnlt, if_pos hgt, walkR]; simp only [spPick, he]
  case case7 heq hnlt hgt c a' he ih =>
    dsimp only [c] at he; rw [spPlan, if_pos heq, if_neg hnlt, if_pos hgt, walkR]; simp only [spPick, he]; exact ih
  case case8 heq hnlt hngt e hav => rw [spPlan, if_pos heq, if_neg hnlt, if_neg hngt, walkR]; simp only [spPick, avgPair, hav]
  case case9 heq hnlt hngt c r1 hav e he =>
    rw [spPlan, if_pos heq, if_neg hnlt, if_neg hngt, walkR]; simp only [spPick, avgPair, hav, he]
  case case10 heq hnlt hngt c r1 hav a' he ih =>
    rw [spPlan, if_pos heq, if_neg hnlt, if_neg hngt, walkR]; simp only [spPick, avgPair, hav, he]; exact ih
  case case11 hne hlt hgc c e he =>
    dsimp only [c] at he; rw [spPlan, if_neg hne, if_pos hlt, if_pos hgc, walkR]; simp only [spPick, he]
  case case12 hne hlt hgc c a' he ih =>
    dsimp only [c] at he; rw [spPlan, if_neg hne, if_pos hlt, if_pos hgc, walkR]; simp only [spPick, he]; exact ih
  case case13 hne hlt hgc c e he =>
    dsimp only [c] at he; rw [spPlan, if_neg hne, if_pos hlt, if_neg hgc, walkR]; simp only [spPick, he]
  case case14 hne hlt hgc c a' he ih =>
    dsimp only [c] at he; rw [spPlan, if_neg hne, if_pos hlt, if_neg hgc, walkR]; simp only [spPick, he]; exact ih
  case case15 hne hnlt => rw [spPlan, if_neg hne, if_neg hnlt, if_neg (by simp), walkR]
  case case16 hne hnlt _ ih => rw [spPlan, if_neg hne, if_neg hnlt, if_pos (by simp)]; exact ih

/-- a crossover: the common prologue, a plan (the single-point operator draws its crossing point for it), the walk over
    the plan, the child -/
def crossover (g og : Genome W) (id : Int) (plan : Rand (List ε)) (pick : ε → Rand (Chosen W × Bool)) : Rand (Genome W) := fun rs =>
  match matePrologue g og with
  | .error e => .error e
  | .ok (nt, t0, io) =>
    match plan rs with
    | .error e => .error e
    | .ok (es, rs1) =>
      match walkR pick nt t0 es { nodes := io, genes := [] } rs1 with
      | .error e => .error e
      | .ok (acc, rs') => .ok ({ id := id, traits := nt, nodes := acc.nodes, genes := acc.genes }, rs')

def mpPlanR (g og : Genome W) (f1 f2 : W) : Rand (List (Slot W)) := fun rs =>
  .ok (mpPlan (p1Better f1 f2 g.genes.length og.genes.length) g.genes og.genes, rs)

/-- the plan of the single-point operator: the crossing point is drawn in the parent with fewer genes -/
def spPlanR (g og : Genome W) : Rand (List (Origin W)) := fun rs =>
  match Rand.intn (shorter g og).genes.length rs with
  | .error e => .error e
  | .ok (cp, rs1) => .ok (spPlan cp (shorter g og).genes (longer g og).genes 0 false, rs1)

theorem mateMultipoint_eq (g og : Genome W) (id : Int) (f1 f2 : W) :
    mateMultipoint g og id f1 f2 = crossover g og id (mpPlanR g og f1 f2) (slotPick (plainPair g og) g og) := by
  funext rs
  unfold mateMultipoint crossover mpPlanR
  simp only [multipointWalk_eq]
  rcases matePrologue g og with e | ⟨nt, t0, io⟩
  · rfl
  · dsimp only
    generalize walkR _ nt t0 _ _ rs = r
    rcases r with e | ⟨acc, rs'⟩ <;> rfl

theorem mateMultipointAvg_eq (g og : Genome W) (id : Int) (f1 f2 : W) :
    mateMultipointAvg g og id f1 f2 = crossover g og id (mpPlanR g og f1 f2) (slotPick (avgPair g og) g og) := by
  funext rs
  unfold mateMultipointAvg crossover mpPlanR
  simp only [multipointAvgWalk_eq]
  rcases matePrologue g og with e | ⟨nt, t0, io⟩
  · rfl
  · dsimp only
    generalize walkR _ nt t0 _ _ rs = r
    rcases r with e | ⟨acc, rs'⟩ <;> rfl

theorem mateSinglePoint_eq (g og : Genome W) (id : Int) :
    mateSinglePoint g og id = crossover g og id (spPlanR g og) (spPick (shorter g og) (longer g og)) := by
  funext rs
  unfold mateSinglePoint crossover spPlanR shorter longer
  simp only [singlePointWalk_eq, Option.isSome_none]
  rcases matePrologue g og with e | ⟨nt, t0, io⟩
  · rfl
  · dsimp only
    generalize Rand.intn _ rs = r0
    rcases r0 with e | ⟨cp, rs1⟩
    · rfl
    · dsimp only
      generalize walkR _ nt t0 _ _ rs1 = r
      rcases r with e | ⟨acc, rs'⟩ <;> rfl

end GoNeat.C04
