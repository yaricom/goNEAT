/-
  The private depth function of the solver model (Model/Solver.lean: `depthAux`, `maxDepth`, used by
  `Network.RecursiveSteps`, C13/C12) computes the same depth and leaves the same marks as the depth model of C14
  (Model/Depth.lean) with cap 0, whenever the latter does not run out of fuel — which C14.no_fuel_error shows it
  never does.  So the C14 theorems (longest path, termination, marks restored) apply to the depth used by
  RecursiveSteps.
-/
import GoNeat.Model.Solver
import GoNeat.Model.Depth

namespace GoNeat.DepthUnify
open GoNeat
variable {W : Type} [Scalar W]

theorem overCap_zero (d : Nat) : Depth.overCap 0 d = false := by simp [Depth.overCap]

theorem fold_eq_loop (net : Net W) (f f' : Nat) (d : Nat)
    (ih : ∀ vis i d r, Depth.depth net 0 f vis i d = r → r.err = .ok → Solver.depthAux net f' vis i d = (r.d, r.vis))
    (ls : List (NLink W)) (mx : Nat) (vis : List Bool) (r : Depth.DRes)
    (h : Depth.loop (fun v j => Depth.depth net 0 f v j (d + 1)) (ls.map (·.src)) mx vis = r) (hok : r.err = .ok) :
    ls.foldl (fun (acc : Nat × List Bool) l =>
        if acc.2.getD l.src false then acc
        else
          let c := Solver.depthAux net f' acc.2 l.src (d + 1)
          (if c.1 > acc.1 then c.1 else acc.1, c.2)) (mx, vis) = (r.d, r.vis) := by
  induction ls generalizing mx vis with
  | nil => simp only [List.map_nil, Depth.loop] at h; subst h; rfl
  | cons l ls ihl =>
    simp only [List.map_cons, Depth.loop] at h
    simp only [List.foldl_cons]
    by_cases hm : Depth.marked vis l.src = true
    · simp only [hm, ↓reduceIte] at h
      have : vis.getD l.src false = true := hm
      simp only [this, ↓reduceIte]
      exact ihl mx vis h
    · simp only [hm, Bool.false_eq_true, ↓reduceIte] at h
      have hg : vis.getD l.src false = false := by
        have : Depth.marked vis l.src = false := by simpa using hm
        exact this
      simp only [hg, Bool.false_eq_true, ↓reduceIte]
      by_cases he : (Depth.depth net 0 f vis l.src (d + 1)).err = .ok
      · simp only [he, ne_eq, not_true_eq_false, ↓reduceIte] at h
        rw [ih vis l.src (d + 1) _ rfl he]
        exact ihl _ _ h
      · simp only [ne_eq, he, not_false_eq_true, ↓reduceIte] at h
        rw [← h] at hok
        exact absurd hok he

theorem depthAux_eq (net : Net W) (f : Nat) : ∀ (f' : Nat), f ≤ f' → ∀ vis i d r,
    Depth.depth net 0 f vis i d = r → r.err = .ok → Solver.depthAux net f' vis i d = (r.d, r.vis) := by
  induction f with
  | zero => intro f' _ vis i d r h hok; simp only [Depth.depth] at h; subst h; cases hok
  | succ f ihf =>
    intro f' hle vis i d r h hok
    obtain ⟨g, rfl⟩ : ∃ g, f' = g + 1 := ⟨f' - 1, by omega⟩
    simp only [Depth.depth, overCap_zero, Bool.false_eq_true, ↓reduceIte] at h
    simp only [Solver.depthAux]
    cases hn : net.nodes[i]? with
    | none => simp only [hn] at h; subst h; rfl
    | some nd =>
      simp only [hn] at h
      by_cases hs : nd.isSensor = true
      · simp only [hs, ↓reduceIte] at h ⊢; subst h; rfl
      · simp only [hs, Bool.false_eq_true, ↓reduceIte] at h ⊢
        subst h
        simp only at hok
        rw [fold_eq_loop net f g d (ihf g (by omega)) nd.incoming d (vis.set i true) _ rfl hok]

theorem outFold_eq (net : Net W) (os : List Nat) (mx : Nat) (vis : List Bool) (r : Depth.DRes)
    (h : Depth.outLoop net 0 os mx vis = r) (hok : r.err = .ok) :
    os.foldl (fun (acc : Nat × List Bool) o =>
        let c := Solver.depthAux net (net.nodes.length + 2) acc.2 o 0
        (if c.1 > acc.1 then c.1 else acc.1, c.2)) (mx, vis) = (r.d, r.vis) := by
  induction os generalizing mx vis with
  | nil => simp only [Depth.outLoop] at h; subst h; rfl
  | cons o os ih =>
    simp only [Depth.outLoop] at h
    simp only [List.foldl_cons]
    by_cases he : (Depth.depth net 0 (Depth.fuelOf net) vis o 0).err = .ok
    · simp only [he, ne_eq, not_true_eq_false, ↓reduceIte] at h
      rw [depthAux_eq net (Depth.fuelOf net) (net.nodes.length + 2) (by simp [Depth.fuelOf]) vis o 0 _ rfl he]
      exact ih _ _ h
    · simp only [ne_eq, he, not_false_eq_true, ↓reduceIte] at h
      rw [← h] at hok
      exact absurd hok he

/-- **the depth `RecursiveSteps` uses is the C14 depth**: for a non-modular network, whenever the C14 model's
    uncapped query succeeds (it always does on marks that fit the network — `C14.no_fuel_error`, and cap 0 never
    yields `exceeded`), the solver model's `maxDepth` returns the same depth and the same marks -/
theorem solver_maxDepth_eq (net : Net W) (vis : List Bool) (hc : net.ctrl.length = 0)
    (hok : (Depth.maxDepthCap net 0 vis).err = .ok) :
    Solver.maxDepth net vis = ((Depth.maxDepthCap net 0 vis).depth.toNat, (Depth.maxDepthCap net 0 vis).vis) := by
  unfold Depth.maxDepthCap at hok ⊢
  unfold Solver.maxDepth
  simp only [hc, gt_iff_lt, Nat.lt_irrefl, ↓reduceIte] at hok ⊢
  by_cases hs : Depth.noHiddenShortcut net = true
  · have : (net.nodes.length == net.inputs.length + net.outputs.length) = true := hs
    simp [hs, this]
  · have hs' : (net.nodes.length == net.inputs.length + net.outputs.length) = false := by
      simpa [Depth.noHiddenShortcut] using hs
    simp only [hs, Bool.false_eq_true, ↓reduceIte] at hok ⊢
    simp only [hs', Bool.false_eq_true, ↓reduceIte]
    rw [outFold_eq net net.outputs 0 vis _ rfl hok]
    simp

end GoNeat.DepthUnify
