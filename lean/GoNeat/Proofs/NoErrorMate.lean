/-
  C02 "without error": the three crossovers never return an implementation error on two non-modular parents with the
  same trait shape whose references resolve (`MateOk`; follows from `WF` of both, equal trait ids and equal trait
  parameter counts, see `mateOk_of_wf`).  The child has the trait shape of the parents.
  (Known finding K1 is not an error of the crossover: single-point crossover may return a gene-less child; that is
  excluded later by `SharedHead`, Props/C01.)
  Kind A.
-/
import GoNeat.Proofs.MateLemmas
import GoNeat.Proofs.NoErrorParam
import GoNeat.Props.C06

set_option linter.unusedSectionVars false

namespace GoNeat.NoErr
open GoNeat Scalar
variable {W : Type} [Scalar W]

/-- `newTraits[t.Id - g.Traits[0].Id]` (index 0 for a nil trait) is in range for `n` child traits -/
def RefRes (n : Nat) (t0 t : Option Int) : Prop :=
  match t with
  | none => 0 < n
  | some id => ∃ b, t0 = some b ∧ 0 ≤ id - b ∧ (id - b).toNat < n

theorem childTraitRef_safe (nt : List (Trait W)) (t0 t : Option Int) (h : RefRes nt.length t0 t) :
    SafeE (fun _ => True) (childTraitRef nt t0 t) := by
  unfold childTraitRef
  cases t with
  | none =>
    simp only
    rw [if_neg (by omega)]
    split
    · next hn => rw [List.getElem?_eq_none_iff] at hn; simp only [RefRes] at h; simp only [Int.toNat_zero] at hn; omega
    · trivial
  | some id =>
    obtain ⟨b, rfl, h0, h1⟩ := h
    simp only
    rw [if_neg (by omega)]
    split
    · next hn => rw [List.getElem?_eq_none_iff] at hn; omega
    · trivial

structure ChosenOk (n : Nat) (t0 : Option Int) (c : Chosen W) : Prop where
  src : ∃ sn, c.srcN = some sn ∧ RefRes n t0 sn.trait
  dst : ∃ dn, c.dstN = some dn ∧ RefRes n t0 dn.trait
  tr : RefRes n t0 c.gene.trait

theorem ensureNode_safe (nt : List (Trait W)) (t0 : Option Int) (nodes : List Node) (n : Node) (h : RefRes nt.length t0 n.trait) :
    SafeE (fun _ => True) (ensureNode nt t0 nodes n) := by
  unfold ensureNode
  split
  · trivial
  · have := childTraitRef_safe nt t0 n.trait h
    split
    · next e he => exact this.errE he
    · trivial

theorem addChosen_safe (nt : List (Trait W)) (t0 : Option Int) (acc : MateAcc W) (c : Chosen W) (dis : Bool)
    (h : ChosenOk nt.length t0 c) : SafeE (fun _ => True) (addChosen nt t0 acc c dis) := by
  unfold addChosen
  obtain ⟨⟨sn, hs, hsr⟩, ⟨dn, hd, hdr⟩, htr⟩ := h
  split
  · trivial
  · rw [hs, hd]
    simp only
    have h1 := ensureNode_safe nt t0 acc.nodes sn hsr
    split
    · next e he => exact h1.errE he
    · next nodes1 he =>
      have h2 := ensureNode_safe nt t0 nodes1 dn hdr
      split
      · next e he2 => exact h2.errE he2
      · have h3 := childTraitRef_safe nt t0 c.gene.trait htr
        split
        · next e he3 => exact h3.errE he3
        · trivial

theorem addChosen_ne {nt : List (Trait W)} {t0 : Option Int} {acc : MateAcc W} {c : Chosen W} {dis : Bool} {e : Stop}
    (h : ChosenOk nt.length t0 c) : addChosen nt t0 acc c dis ≠ .error e := by
  intro he; have := addChosen_safe nt t0 acc c dis h; rw [he] at this; exact this

structure ParentOk (n : Nat) (t0 : Option Int) (p : Genome W) : Prop where
  genes : ∀ x ∈ p.genes, (nodeById p.nodes x.src).isSome ∧ (nodeById p.nodes x.dst).isSome ∧ RefRes n t0 x.trait
  nodes : ∀ m ∈ p.nodes, RefRes n t0 m.trait

theorem chosenOk_chooseFrom {n : Nat} {t0 : Option Int} {p : Genome W} (hp : ParentOk n t0 p) {x : Gene W} (hx : x ∈ p.genes) :
    ChosenOk n t0 (chooseFrom p x) := by
  obtain ⟨h1, h2, h3⟩ := hp.genes x hx
  obtain ⟨sn, hs⟩ := Option.isSome_iff_exists.mp h1
  obtain ⟨dn, hd⟩ := Option.isSome_iff_exists.mp h2
  exact ⟨⟨sn, hs, hp.nodes sn (C06.nodeById_some _ _ _ hs).2⟩, ⟨dn, hd, hp.nodes dn (C06.nodeById_some _ _ _ hd).2⟩, h3⟩

theorem safe_disableDraw (e1 e2 : Bool) (rs : List Nat) : Safe (fun _ => True) (disableDraw (W := W) e1 e2 rs) := by
  unfold disableDraw
  split
  · trivial
  · split
    · have hf := safe_float64 (W := W) rs
      split
      · next e he => exact hf.err he
      · trivial
    · trivial

theorem safe_avgChosen {n : Nat} {t0 : Option Int} {p1 p2 : Genome W} (hp1 : ParentOk n t0 p1) (hp2 : ParentOk n t0 p2)
    {x y : Gene W} (hx : x ∈ p1.genes) (hy : y ∈ p2.genes) (rs : List Nat) :
    Safe (ChosenOk n t0) (avgChosen p1 p2 x y rs) := by
  have cx := chosenOk_chooseFrom hp1 hx
  have cy := chosenOk_chooseFrom hp2 hy
  unfold avgChosen
  have f1 := safe_float64 (W := W) rs
  split
  · next e he => exact f1.err he
  · next fT rs1 _ =>
    have f2 := safe_float64 (W := W) rs1
    split
    · next e he => exact f2.err he
    · next fI rs2 _ =>
      have f3 := safe_float64 (W := W) rs2
      split
      · next e he => exact f3.err he
      · next fO rs3 _ =>
        have f4 := safe_float64 (W := W) rs3
        split
        · next e he => exact f4.err he
        · next fR rs4 _ =>
          have f5 := safe_disableDraw (W := W) x.en y.en rs4
          split
          · next e he => exact f5.err he
          · next dis rs5 _ =>
            refine ⟨?_, ?_, ?_⟩
            · show ∃ sn, (if gt fI (ofDec 5 1) = true then nodeById p1.nodes x.src else nodeById p2.nodes y.src) = some sn ∧ _
              split
              · exact cx.src
              · exact cy.src
            · show ∃ dn, (if gt fO (ofDec 5 1) = true then nodeById p1.nodes x.dst else nodeById p2.nodes y.dst) = some dn ∧ _
              split
              · exact cx.dst
              · exact cy.dst
            · show RefRes n t0 (if gt fT (ofDec 5 1) = true then x.trait else y.trait)
              split
              · exact cx.tr
              · exact cy.tr

theorem safe_walkR {ε : Type} {pick : ε → Rand (Chosen W × Bool)} {nt : List (Trait W)} {t0 : Option Int} {es : List ε}
    (hp : ∀ e ∈ es, ∀ rs, Safe (fun p => ChosenOk nt.length t0 p.1) (pick e rs)) (acc : MateAcc W) (rs : List Nat) :
    Safe (fun _ => True) (C04.walkR pick nt t0 es acc rs) := by
  induction es generalizing acc rs with
  | nil => rw [C04.walkR]; trivial
  | cons e es ih =>
    have h := hp e List.mem_cons_self rs
    rw [C04.walkR]
    split
    · next err he => exact h.err he
    · next c dis r1 he =>
      split
      · next err ha => exact absurd ha (addChosen_ne (h.post he))
      · exact ih (tl hp) _ _

theorem safe_plainPair {n : Nat} {t0 : Option Int} {p1 p2 : Genome W} {x y : Gene W} (cx : ChosenOk n t0 (chooseFrom p1 x))
    (cy : ChosenOk n t0 (chooseFrom p2 y)) (rs : List Nat) : Safe (fun p => ChosenOk n t0 p.1) (C04.plainPair p1 p2 x y rs) := by
  unfold C04.plainPair
  split
  · next e he => exact (safe_float64 (W := W) rs).err he
  · next f r1 _ =>
    split
    · next e he => exact (safe_disableDraw (W := W) x.en y.en r1).err he
    · show ChosenOk n t0 (if lt f (ofDec 5 1) = true then _ else _)
      split
      · exact cx
      · exact cy

theorem safe_avgPair {n : Nat} {t0 : Option Int} {p1 p2 : Genome W} (hp1 : ParentOk n t0 p1) (hp2 : ParentOk n t0 p2)
    {x y : Gene W} (hx : x ∈ p1.genes) (hy : y ∈ p2.genes) (rs : List Nat) :
    Safe (fun p => ChosenOk n t0 p.1) (C04.avgPair p1 p2 x y rs) := by
  have h := safe_avgChosen hp1 hp2 hx hy rs
  unfold C04.avgPair
  split
  · next e he => exact h.err he
  · next c r1 he => exact h.post he

theorem safe_slotPick {m : Gene W → Gene W → Rand (Chosen W × Bool)} {n : Nat} {t0 : Option Int} {p1 p2 : Genome W}
    (hp1 : ParentOk n t0 p1) (hp2 : ParentOk n t0 p2)
    (hm : ∀ x ∈ p1.genes, ∀ y ∈ p2.genes, ∀ rs, Safe (fun p => ChosenOk n t0 p.1) (m x y rs)) {better : Bool} :
    ∀ e ∈ C04.mpPlan better p1.genes p2.genes, ∀ rs, Safe (fun p => ChosenOk n t0 p.1) (C04.slotPick m p1 p2 e rs) := by
  intro e he rs
  obtain ⟨a, b, _⟩ := C04.mem_align (List.mem_filter.mp he).1
  cases e with
  | both x y => exact hm x (a x rfl) y (b y rfl) rs
  | left x => exact chosenOk_chooseFrom hp1 (a x rfl)
  | right y => exact chosenOk_chooseFrom hp2 (b y rfl)

theorem safe_spPick {n : Nat} {t0 : Option Int} {q1 q2 : Genome W} (hp1 : ParentOk n t0 q1) (hp2 : ParentOk n t0 q2)
    {cp gc : Nat} {st : Bool} :
    ∀ o ∈ C04.spPlan cp q1.genes q2.genes gc st, ∀ rs, Safe (fun p => ChosenOk n t0 p.1) (C04.spPick q1 q2 o rs) := by
  intro o ho rs
  have hf := C04.spPlan_mem _ _ _ _ _ o ho
  cases o with
  | short x => exact chosenOk_chooseFrom hp1 hf
  | mean x y => exact safe_avgPair hp1 hp2 hf.1 hf.2.1 rs
  | long y => exact chosenOk_chooseFrom hp2 hf

theorem safe_mateTraits (ts1 ts2 : List (Trait W)) (hs : ts1.map (·.params.length) = ts2.map (·.params.length)) :
    SafeE (fun nt => nt.map (·.params.length) = ts1.map (·.params.length)) (mateTraits ts1 ts2) := by
  induction ts1 generalizing ts2 with
  | nil => unfold mateTraits; rfl
  | cons t1 ts1 ih =>
    cases ts2 with
    | nil => simp at hs
    | cons t2 ts2 =>
      simp only [List.map_cons, List.cons.injEq] at hs
      unfold mateTraits
      simp only [traitAvg]
      rw [if_neg (by simpa using hs.1)]
      simp only
      have := ih ts2 hs.2
      split
      · next e he => exact this.errE he
      · next ts he =>
        rw [he] at this
        show (_ :: ts).map _ = _
        simp only [List.map_cons, List.length_zipWith, hs.1, Nat.min_self]
        exact congrArg _ this

theorem ioNodes_safe (nt : List (Trait W)) (t0 : Option Int) (ns acc : List Node) (h : ∀ n ∈ ns, RefRes nt.length t0 n.trait) :
    SafeE (fun _ => True) (ioNodes nt t0 ns acc) := by
  induction ns generalizing acc with
  | nil => unfold ioNodes; trivial
  | cons n ns ih =>
    unfold ioNodes
    split
    · have := childTraitRef_safe nt t0 n.trait (h n List.mem_cons_self)
      split
      · next e he => exact this.errE he
      · exact ih _ (tl h)
    · exact ih _ (tl h)

structure MateOk (g og : Genome W) : Prop where
  nomod1 : g.modules = []
  nomod2 : og.modules = []
  shape : shape g = shape og
  par1 : ParentOk g.traits.length (g.traits.head?.map (·.id)) g
  par2 : ParentOk g.traits.length (g.traits.head?.map (·.id)) og

theorem safe_matePrologue (g og : Genome W) (h : MateOk g og) :
    SafeE (fun r => r.1.length = g.traits.length ∧ r.2.1 = g.traits.head?.map (·.id) ∧ r.1.map (·.params.length) = shape g)
      (matePrologue g og) := by
  unfold matePrologue
  rw [if_neg (by simp [h.nomod1, h.nomod2])]
  have hlen : g.traits.length = og.traits.length := by
    have := congrArg List.length h.shape; simpa [NoErr.shape] using this
  rw [if_neg (by simpa using hlen)]
  have h1 := safe_mateTraits g.traits og.traits h.shape
  split
  · next e he => exact h1.errE he
  · next nt he =>
    have hsh : nt.map (·.params.length) = g.traits.map (·.params.length) := h1.post he
    have hl : nt.length = g.traits.length := by simpa using congrArg List.length hsh
    simp only
    have h2 := ioNodes_safe nt (g.traits.head?.map (·.id)) og.nodes [] (by rw [hl]; exact h.par2.nodes)
    split
    · next e he2 => exact h2.errE he2
    · exact ⟨hl, rfl, hsh⟩

theorem MateOk.prologue {g og : Genome W} (h : MateOk g og) :
    ∃ nt io, matePrologue g og = .ok (nt, g.traits.head?.map (·.id), io) ∧ nt.map (·.params.length) = NoErr.shape g ∧
      ParentOk nt.length (g.traits.head?.map (·.id)) g ∧ ParentOk nt.length (g.traits.head?.map (·.id)) og := by
  obtain ⟨⟨nt, t0, io⟩, he, hl, rfl, hsh⟩ := (safe_matePrologue g og h).ok
  dsimp only at hl
  exact ⟨nt, io, he, hsh, by rw [hl]; exact h.par1, by rw [hl]; exact h.par2⟩

theorem safe_crossover {ε : Type} {g og : Genome W} {id : Int} {plan : Rand (List ε)} {pick : ε → Rand (Chosen W × Bool)}
    (h : MateOk g og) (rs : List Nat)
    (hp : ∀ n t0, ParentOk n t0 g → ParentOk n t0 og →
      Safe (fun es => ∀ e ∈ es, ∀ r, Safe (fun p => ChosenOk n t0 p.1) (pick e r)) (plan rs)) :
    Safe (fun c => shape c = shape g) (C04.crossover g og id plan pick rs) := by
  unfold C04.crossover
  obtain ⟨nt, io, hpro, hsh, hp1, hp2⟩ := h.prologue
  rw [hpro]
  dsimp only
  have hpl := hp nt.length _ hp1 hp2
  rcases he : plan rs with e | ⟨es, rs1⟩
  · exact hpl.err he
  dsimp only
  have hw := safe_walkR (hpl.post he) { nodes := io, genes := [] } rs1
  generalize C04.walkR pick nt _ es _ rs1 = r at hw ⊢
  rcases r with e | ⟨acc, rs'⟩
  · exact hw.of_error
  · exact hsh

theorem safe_mateMultipoint (g og : Genome W) (id : Int) (f1 f2 : W) (rs : List Nat) (h : MateOk g og) :
    Safe (fun c => shape c = shape g) (mateMultipoint g og id f1 f2 rs) := by
  rw [C04.mateMultipoint_eq]
  exact safe_crossover h rs fun n t0 hp1 hp2 => safe_slotPick hp1 hp2 fun x hx y hy =>
    safe_plainPair (chosenOk_chooseFrom hp1 hx) (chosenOk_chooseFrom hp2 hy)

theorem safe_mateMultipointAvg (g og : Genome W) (id : Int) (f1 f2 : W) (rs : List Nat) (h : MateOk g og) :
    Safe (fun c => shape c = shape g) (mateMultipointAvg g og id f1 f2 rs) := by
  rw [C04.mateMultipointAvg_eq]
  exact safe_crossover h rs fun n t0 hp1 hp2 => safe_slotPick hp1 hp2 fun x hx y hy => safe_avgPair hp1 hp2 hx hy

theorem safe_mateSinglePoint (g og : Genome W) (id : Int) (rs : List Nat) (h : MateOk g og)
    (hg1 : g.genes ≠ []) (hg2 : og.genes ≠ []) :
    Safe (fun c => shape c = shape g) (mateSinglePoint g og id rs) := by
  rw [C04.mateSinglePoint_eq]
  refine safe_crossover h rs fun n t0 hp1 hp2 => ?_
  -- the walk takes the parents shorter first; what is needed holds of them in either order
  obtain ⟨hq1, hq2, hne⟩ : ParentOk n t0 (C04.shorter g og) ∧ ParentOk n t0 (C04.longer g og) ∧ (C04.shorter g og).genes ≠ [] :=
    C04.shorter_longer_rec (P := fun q1 q2 => ParentOk n t0 q1 ∧ ParentOk n t0 q2 ∧ q1.genes ≠ []) ⟨hp1, hp2, hg1⟩ ⟨hp2, hp1, hg2⟩
  unfold C04.spPlanR
  rcases he : Rand.intn (C04.shorter g og).genes.length rs with e | ⟨cp, rs1⟩
  · exact (safe_intn _ (List.length_pos_iff.mpr hne) rs).err he
  · exact safe_spPick hq1 hq2

theorem refRes_of_traitRefOk (g p : Genome W) (hc : TraitsConsecutive g) (hti : traitIds p = traitIds g) (t : Option Int)
    (h : TraitRefOk p t) : RefRes g.traits.length (g.traits.head?.map (·.id)) t := by
  unfold TraitsConsecutive at hc
  split at hc
  · exact hc.elim
  · next t1 rest heq =>
    cases t with
    | none => simp [RefRes, heq]
    | some id =>
      obtain ⟨_, hmem⟩ := h
      rw [hti, hc] at hmem
      obtain ⟨i, hi, rfl⟩ := List.mem_map.mp hmem
      have := List.mem_range.mp hi
      refine ⟨t1.id, by simp [heq], ?_, ?_⟩
      · simp only [Int.ofNat_eq_natCast]; omega
      · simp only [Int.ofNat_eq_natCast]; omega

theorem parentOk_of_wf (g p : Genome W) (hc : TraitsConsecutive g) (hp : WF p) (hti : traitIds p = traitIds g) :
    ParentOk g.traits.length (g.traits.head?.map (·.id)) p := by
  refine ⟨fun x hx => ⟨?_, ?_, ?_⟩, fun m hm => ?_⟩
  · exact C06.nodeById_isSome _ _ (hp.endpoints x hx).1
  · exact C06.nodeById_isSome _ _ (hp.endpoints x hx).2
  · exact refRes_of_traitRefOk g p hc hti _ (hp.traitRefs.1 x hx)
  · exact refRes_of_traitRefOk g p hc hti _ (hp.traitRefs.2 m hm)

theorem mateOk_of_wf (g og : Genome W) (hw1 : WF g) (hw2 : WF og) (hm1 : g.modules = []) (hm2 : og.modules = [])
    (hti : traitIds g = traitIds og) (hsh : shape g = shape og) : MateOk g og :=
  ⟨hm1, hm2, hsh, parentOk_of_wf g g hw1.traits hw1 rfl, parentOk_of_wf g og hw1.traits hw2 hti.symm⟩

end GoNeat.NoErr
