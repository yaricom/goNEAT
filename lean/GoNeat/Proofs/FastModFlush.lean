/-
  C13 on the fast solver WITH modules (Model/FastSolverMod.lean).  For `modules = []` every operation is the operation of
  Model/FastSolver.lean (`*_refine`).  For `modules ≠ []` `RecursiveSteps` is refused, so `activated`, `inActivation`,
  `lastActivation` are never read or written: the observable state is (`neuronSignals`, `neuronSignalsBeingProcessed`) -
  relation `SP`; reachable states satisfy `Fast.InvBase` (array lengths, bias signals 1); `Flush` (repaired loop 1a387d5:
  ALL processing cells) of a reachable state is `SP`-equal to the fresh state, for every module wiring.
  Kind A: no arithmetic law.
-/
import GoNeat.Proofs.FastFlush
import GoNeat.Model.FastSolverMod

set_option linter.unusedSectionVars false
set_option linter.unusedVariables false

namespace GoNeat.FastMod
open GoNeat.Solver (Err Sim Respects Pres sim_of_pres iterE iterE_unique IsRun withObs FlushFresh)
open GoNeat.Fast

variable {W : Type} [Scalar W]

theorem fwdLoop_eq (fm : FastModNet W) (σ : Nat → W → Option W) (μ : Nat → List W → Option (List W)) :
    FastMod.fwdLoop fm σ μ = iterE (FastMod.forwardStep fm σ μ Scalar.zero) (fun _ => false) :=
  iterE_unique (fun _ _ => rfl) fun k res s => by
    rw [FastMod.fwdLoop]
    rcases FastMod.forwardStep fm σ μ Scalar.zero s with ⟨s', r, _ | e⟩ <;> rfl

theorem relaxLoop_eq (fm : FastModNet W) (σ : Nat → W → Option W) (μ : Nat → List W → Option (List W)) (delta : W) :
    FastMod.relaxLoop fm σ μ delta = iterE (FastMod.forwardStep fm σ μ delta) id :=
  iterE_unique (fun _ _ => rfl) fun k res s => by
    rw [FastMod.relaxLoop]
    rcases FastMod.forwardStep fm σ μ delta s with ⟨s', _ | _, _ | e⟩ <;> rfl

theorem step_eq (fm : FastModNet W) (σ : Nat → W → Option W) (μ : Nat → List W → Option (List W)) :
    FastMod.step fm σ μ =
      fastStep (FastMod.forwardStep fm σ μ) (loadSensors fm.base) (FastMod.recursiveSteps fm σ) (flush fm.base) := by
  funext s op
  cases op <;> simp only [FastMod.step, fastStep, FastMod.forwardSteps, FastMod.relax, fwdLoop_eq, relaxLoop_eq]

theorem isRun (fm : FastModNet W) (σ : Nat → W → Option W) (μ : Nat → List W → Option (List W)) :
    IsRun (withObs (readOutputs fm.base) (FastMod.step fm σ μ)) (FastMod.run fm σ μ) :=
  ⟨fun _ => rfl, fun _ _ _ => rfl⟩

theorem recursiveSteps_refused (fm : FastModNet W) (σ : Nat → W → Option W) (hm : fm.modules ≠ []) :
    FastMod.recursiveSteps fm σ = fun s => (s, false, some .recModules) := by
  funext s
  simp only [FastMod.recursiveSteps, List.length_pos_iff.mpr hm, if_true]

theorem forwardStep_refine (fm : FastModNet W) (σ : Nat → W → Option W) (μ : Nat → List W → Option (List W))
    (h : fm.modules = []) : FastMod.forwardStep fm σ μ = Fast.forwardStep fm.base σ := by
  funext delta s
  unfold FastMod.forwardStep Fast.forwardStep
  simp only [h, modLoop]
  rcases actLoop fm.base σ (neuronIdx fm.base) (connLoop s.signals fm.base.conns s.processing) with ⟨p2, _ | e⟩ <;> rfl

theorem step_refine (fm : FastModNet W) (σ : Nat → W → Option W) (μ : Nat → List W → Option (List W))
    (h : fm.modules = []) (s : FState W) (op : Op W) :
    FastMod.step fm σ μ s op = Fast.step fm.base σ s op := by
  have hr : FastMod.recursiveSteps fm σ = Fast.recursiveSteps fm.base σ := by
    funext s
    simp [FastMod.recursiveSteps, h]
  rw [step_eq, Fast.step_eq, forwardStep_refine fm σ μ h, hr]

theorem run_refine (fm : FastModNet W) (σ : Nat → W → Option W) (μ : Nat → List W → Option (List W))
    (h : fm.modules = []) (ops : List (Op W)) (s : FState W) :
    FastMod.run fm σ μ ops s = Fast.run fm.base σ ops s := by
  exact (isRun fm σ μ).ext (Fast.isRun fm.base σ) (fun s op => by simp only [withObs, step_refine fm σ μ h]) ops s

/-- equality of the two signal arrays (everything a solver with modules can observe) -/
structure SP (s t : FState W) : Prop where
  signals : s.signals = t.signals
  processing : s.processing = t.processing

theorem SP.refl (s : FState W) : SP s s := ⟨rfl, rfl⟩

theorem forwardStep_SP (fm : FastModNet W) (σ : Nat → W → Option W) (μ : Nat → List W → Option (List W)) (delta : W) :
    Respects SP (FastMod.forwardStep fm σ μ delta) := by
  intro s t h
  unfold FastMod.forwardStep
  simp only [h.signals, h.processing]
  rcases actLoop fm.base σ (neuronIdx fm.base) (connLoop t.signals fm.base.conns t.processing) with ⟨p2, _ | e⟩
  · simp only
    rcases modLoop μ fm.modules p2 with ⟨p3, _ | e⟩
    · exact ⟨⟨rfl, rfl⟩, rfl⟩
    · exact ⟨⟨rfl, rfl⟩, rfl⟩
  · exact ⟨⟨rfl, rfl⟩, rfl⟩

theorem length_modOuts (os : List Nat) (vs : List W) (p : List W) : (modOuts os vs p).1.length = p.length := by
  induction os generalizing vs p with
  | nil => rfl
  | cons o os ih =>
    cases vs with
    | nil => rfl
    | cons v vs => unfold modOuts; rw [ih]; simp

theorem length_modLoop (μ : Nat → List W → Option (List W)) (ms : List FMod) (p : List W) :
    (modLoop μ ms p).1.length = p.length := by
  induction ms generalizing p with
  | nil => rfl
  | cons m ms ih =>
    unfold modLoop
    cases μ m.act (m.ins.map (getW p)) with
    | none => rfl
    | some outs =>
      simp only
      have ho := length_modOuts m.outs outs p
      rcases hm : modOuts m.outs outs p with ⟨p', e⟩
      rw [hm] at ho
      cases e with
      | some e => exact ho
      | none => simp only; rw [ih]; exact ho

theorem InvBase_forwardStep (fm : FastModNet W) (σ : Nat → W → Option W) (μ : Nat → List W → Option (List W))
    (delta : W) : Pres (InvBase fm.base) (FastMod.forwardStep fm σ μ delta) := by
  intro s h
  unfold FastMod.forwardStep
  simp only
  have hl := length_actLoop fm.base σ (neuronIdx fm.base) (connLoop s.signals fm.base.conns s.processing)
  rw [length_connLoop, h.lenP] at hl
  generalize actLoop fm.base σ (neuronIdx fm.base) (connLoop s.signals fm.base.conns s.processing) = r at hl ⊢
  rcases r with ⟨p2, _ | e⟩
  · simp only
    have hmp := length_modLoop μ fm.modules p2
    generalize modLoop μ fm.modules p2 = r3 at hmp ⊢
    rcases r3 with ⟨p3, _ | e⟩
    · exact InvBase_move h (hmp.trans hl) _ _ _
    · exact InvBase_proc h (hmp.trans hl)
  · exact InvBase_proc h hl

theorem flush_SP_init (fm : FastModNet W) {s : FState W} (h : InvBase fm.base s) :
    SP (flush fm.base s).1 (FastMod.init fm) :=
  ⟨flush_signals_init fm.base h, flush_processing_init fm.base h.lenP⟩

/-- C13 for a fast solver with modules, every wiring: only the two signal arrays are ever read -/
theorem flushFresh (fm : FastModNet W) (σ : Nat → W → Option W) (μ : Nat → List W → Option (List W))
    (hm : fm.modules ≠ []) :
    FlushFresh (withObs (readOutputs fm.base) (FastMod.step fm σ μ)) (FastMod.run fm σ μ) (flush fm.base) (FastMod.init fm)
      SP (InvBase fm.base) (true, none) where
  isRun := isRun fm σ μ
  congr := Sim.withObs (fun op => by
    rw [step_eq, recursiveSteps_refused fm σ hm]
    refine sim_fastStep (forwardStep_SP fm σ μ) (fun xs s t h => ?_) (fun s t h => ?_) (fun s t h => ?_) op
    · unfold loadSensors
      split
      · exact ⟨⟨by simp only [h.signals], h.processing⟩, rfl⟩
      · exact ⟨h, rfl⟩
    · exact ⟨h, rfl⟩
    · exact ⟨⟨by simp only [flush, h.signals], by simp only [flush, h.processing]⟩, rfl⟩)
    (fun s t h => by simp only [readOutputs, h.signals])
  keeps := fun op => by
    show Pres (InvBase fm.base) (fun s => FastMod.step fm σ μ s op)
    rw [step_eq, recursiveSteps_refused fm σ hm]
    exact pres_fastStep (InvBase_forwardStep fm σ μ) (InvBase_loadSensors fm.base) (fun _ h => h) (InvBase_flush fm.base) op
  fresh := InvBase_init fm.base
  flush := fun _ h => ⟨rfl, flush_SP_init fm h⟩

end GoNeat.FastMod
