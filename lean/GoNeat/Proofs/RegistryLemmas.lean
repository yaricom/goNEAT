/-
  The registry and the bindings of a pool (base of C01, C03, C16).  C03's invariant `InvB` is a property of the *set* of
  bindings; it survives the growth of the registry by fresh records and the addition of a binding that a record dictates.
  A structural mutator touches the registry only by requests (`resolveLink`, `resolveNode`); a request is answered by a record
  that was there or has just been made from the counters (`Issue`), and the genome then takes the bindings that record
  dictates.  Whatever statement about a registry and a pool of bindings obeys the four laws `RegLaws` survives this.
  Core Lean only.
-/
import GoNeat.Spec.Registry
import GoNeat.Proofs.MutateLemmas

namespace GoNeat.C03
open GoNeat
variable {W : Type}

theorem flatMap_nodup_inj {α β : Type} (f : α → List β) (l : List α) (h : (l.flatMap f).Nodup)
    {i j : α} (hi : i ∈ l) (hj : j ∈ l) {k : β} (ki : k ∈ f i) (kj : k ∈ f j) : i = j := by
  induction l with
  | nil => cases hi
  | cons a t ih =>
    rw [List.flatMap_cons, List.nodup_append] at h
    obtain ⟨_, ht, hd⟩ := h
    rcases List.mem_cons.mp hi with rfl | hi' <;> rcases List.mem_cons.mp hj with rfl | hj'
    · rfl
    · exact absurd rfl (hd k ki k (List.mem_flatMap.mpr ⟨j, hj', kj⟩))
    · exact absurd rfl (hd k kj k (List.mem_flatMap.mpr ⟨i, hi', ki⟩))
    · exact ih ht hi' hj'

theorem binds_cons (g : Genome W) (gs : List (Genome W)) : binds (g :: gs) = g.genes.map geneBind ++ binds gs := by
  simp [binds]
theorem roles_cons (g : Genome W) (gs : List (Genome W)) : roles (g :: gs) = g.nodes.map nodeRole ++ roles gs := by
  simp [roles]

theorem binds_of_mem {g : Genome W} {gs : List (Genome W)} (hg : g ∈ gs) : ∀ b ∈ g.genes.map geneBind, b ∈ binds gs :=
  fun _ hb => List.mem_flatMap.mpr ⟨g, hg, hb⟩
theorem roles_of_mem {g : Genome W} {gs : List (Genome W)} (hg : g ∈ gs) : ∀ r ∈ g.nodes.map nodeRole, r ∈ roles gs :=
  fun _ hr => List.mem_flatMap.mpr ⟨g, hg, hr⟩

theorem mem_binds_of_mem {g : Genome W} {gs : List (Genome W)} (hg : g ∈ gs) {x : Gene W} (hx : x ∈ g.genes) :
    geneBind x ∈ binds gs :=
  binds_of_mem hg _ (List.mem_map_of_mem hx)
theorem mem_roles_of_mem {g : Genome W} {gs : List (Genome W)} (hg : g ∈ gs) {n : Node} (hn : n ∈ g.nodes) :
    nodeRole n ∈ roles gs :=
  roles_of_mem hg _ (List.mem_map_of_mem hn)

theorem recOk_link {B : List Bind} {R : List Role} {i : Innov W} (t : i.typ = 2) :
    RecOk B R i ↔ ∀ b ∈ B, b.1 = i.inn → b = (i.inn, i.inId, i.outId, i.recur) := by
  unfold RecOk
  rw [if_pos t]

theorem recOk_node {B : List Bind} {R : List Role} {i : Innov W} (t : i.typ = 1) :
    RecOk B R i ↔
      (∃ y ∈ B, y.1 = i.oldInn ∧ y.2.1 = i.inId ∧ y.2.2.1 = i.outId ∧
        ∀ b ∈ B, b.1 = i.inn → b = (i.inn, i.inId, i.newNode, y.2.2.2)) ∧
      (∀ b ∈ B, b.1 = i.inn2 → b = (i.inn2, i.newNode, i.outId, false)) ∧
      (∀ p ∈ R, p.1 = i.newNode → p.2 = Kind.hidden) := by
  unfold RecOk
  rw [if_neg (by omega), if_pos t]

theorem recOk_other {B : List Bind} {R : List Role} {i : Innov W} (t2 : ¬ i.typ = 2) (t1 : ¬ i.typ = 1) : RecOk B R i := by
  unfold RecOk
  rw [if_neg t2, if_neg t1]
  trivial

theorem RecOk.congr {B B' : List Bind} {R R' : List Role} {i : Innov W} (h : RecOk B R i)
    (hs : B' ⊆ B) (hs' : B ⊆ B') (hr : R' ⊆ R) : RecOk B' R' i := by
  by_cases h2 : i.typ = 2
  · rw [recOk_link h2] at h ⊢
    exact fun b hb e => h b (hs hb) e
  · by_cases h1 : i.typ = 1
    · rw [recOk_node h1] at h ⊢
      obtain ⟨⟨y, hy, e1, e2, e3, hall⟩, hb2, hro⟩ := h
      exact ⟨⟨y, hs' hy, e1, e2, e3, fun b hb e => hall b (hs hb) e⟩, fun b hb e => hb2 b (hs hb) e,
             fun p hp e => hro p (hr hp) e⟩
    · exact recOk_other h2 h1

theorem InvB.congr {reg : Reg W} {B B' : List Bind} {R R' : List Role} (h : InvB reg B R)
    (hs : B' ⊆ B) (hs' : B ⊆ B') (hr : R' ⊆ R) : InvB reg B' R' where
  genes := fun a ha b hb e => h.genes a (hs ha) b (hs hb) e
  roles := fun a ha b hb e => h.roles a (hr ha) b (hr hb) e
  compat := ⟨fun i hi => (h.compat.recs i hi).congr hs hs' hr, h.compat.innsNodup, h.compat.nodesNodup⟩
  above := ⟨fun b hb => h.above.inns b (hs hb), fun p hp => h.above.ids p (hr hp), h.above.recInns, h.above.recNodes⟩

theorem InvB.add_known {reg : Reg W} {B Bn : List Bind} {R Rn : List Role} (h : InvB reg B R)
    (hb : Bn ⊆ B) (hr : Rn ⊆ R) : InvB reg (Bn ++ B) (Rn ++ R) :=
  h.congr (List.append_subset.mpr ⟨hb, List.Subset.refl _⟩) (List.subset_append_right _ _)
    (List.append_subset.mpr ⟨hr, List.Subset.refl _⟩)

theorem inn_mem_recInns (i : Innov W) : i.inn ∈ recInns i := by
  unfold recInns; split <;> simp
theorem inn2_mem_recInns (i : Innov W) (h : i.typ = 1) : i.inn2 ∈ recInns i := by
  unfold recInns; simp [h]

theorem mem_regInns {reg : Reg W} {i : Innov W} (hi : i ∈ reg.records) {k : Int} (hk : k ∈ recInns i) : k ∈ regInns reg :=
  List.mem_flatMap.mpr ⟨i, hi, hk⟩
theorem mem_regNodes {reg : Reg W} {i : Innov W} (hi : i ∈ reg.records) (h1 : i.typ = 1) : i.newNode ∈ regNodes reg := by
  unfold regNodes
  exact List.mem_map.mpr ⟨i, List.mem_filter.mpr ⟨hi, by simp [h1]⟩, rfl⟩

theorem rec_inj {reg : Reg W} (hn : (regInns reg).Nodup) {i j : Innov W} (hi : i ∈ reg.records) (hj : j ∈ reg.records)
    {k : Int} (ki : k ∈ recInns i) (kj : k ∈ recInns j) : i = j :=
  flatMap_nodup_inj recInns reg.records hn hi hj ki kj

theorem inn_ne_inn2 {reg : Reg W} (hn : (regInns reg).Nodup) {i : Innov W} (hi : i ∈ reg.records) (h1 : i.typ = 1) :
    i.inn ≠ i.inn2 := by
  have := (List.pairwise_flatMap.mp hn).1 i hi
  unfold recInns at this
  simp only [h1, if_true] at this
  simpa using this

section

@[simp] theorem regInns_counters (l : List (Innov W)) (a b : Int) :
    regInns ({ records := l, nextInn := a, nextNode := b } : Reg W) = l.flatMap recInns := rfl
@[simp] theorem regNodes_counters (l : List (Innov W)) (a b : Int) :
    regNodes ({ records := l, nextInn := a, nextNode := b } : Reg W) = (l.filter (fun i => i.typ == 1)).map (·.newNode) := rfl
theorem regInns_def (reg : Reg W) : regInns reg = reg.records.flatMap recInns := rfl
theorem regNodes_def (reg : Reg W) : regNodes reg = (reg.records.filter (fun i => i.typ == 1)).map (·.newNode) := rfl

theorem regInns_snoc {reg reg' : Reg W} {i : Innov W} (h : reg'.records = reg.records ++ [i]) :
    regInns reg' = regInns reg ++ recInns i := by
  simp [regInns, h, List.flatMap_append]
theorem regNodes_snoc {reg reg' : Reg W} {i : Innov W} (h : reg'.records = reg.records ++ [i]) :
    regNodes reg' = regNodes reg ++ (if i.typ = 1 then [i.newNode] else []) := by
  unfold regNodes
  rw [h]
  by_cases t : i.typ = 1 <;> simp [List.filter_append, t]
theorem regInns_store (reg : Reg W) (i : Innov W) : regInns (reg.store i) = regInns reg ++ recInns i :=
  regInns_snoc rfl
theorem regNodes_store (reg : Reg W) (i : Innov W) :
    regNodes (reg.store i) = regNodes reg ++ (if i.typ = 1 then [i.newNode] else []) :=
  regNodes_snoc rfl

theorem RecOk.add_foreign {B : List Bind} {R : List Role} {i : Innov W} (h : RecOk B R i) (Bn : List Bind) (Rn : List Role)
    (hb : ∀ b ∈ Bn, b.1 ∉ recInns i) (hr : ∀ p ∈ Rn, p.2 = Kind.hidden) : RecOk (Bn ++ B) (Rn ++ R) i := by
  -- a clause about the bindings that carry a number of `i` is not about the new ones
  have ext : ∀ {k : Int} {P : Bind → Prop}, k ∈ recInns i → (∀ b ∈ B, b.1 = k → P b) → ∀ b ∈ Bn ++ B, b.1 = k → P b := by
    intro k P hk hP b hb' e
    rcases List.mem_append.mp hb' with hn | ho
    · exact absurd (e ▸ hk) (hb b hn)
    · exact hP b ho e
  by_cases h2 : i.typ = 2
  · rw [recOk_link h2] at h ⊢
    exact ext (inn_mem_recInns i) h
  · by_cases h1 : i.typ = 1
    · rw [recOk_node h1] at h ⊢
      obtain ⟨⟨y, hy, e1, e2, e3, hall⟩, hb2, hro⟩ := h
      refine ⟨⟨y, List.mem_append_right _ hy, e1, e2, e3, ext (inn_mem_recInns i) hall⟩, ext (inn2_mem_recInns i h1) hb2, ?_⟩
      intro p hp e
      rcases List.mem_append.mp hp with hn | ho
      · exact hr p hn
      · exact hro p ho e
    · exact recOk_other h2 h1

end

structure RegGrow (reg reg' : Reg W) (new : List (Innov W)) : Prop where
  inn : reg.nextInn ≤ reg'.nextInn
  node : reg.nextNode ≤ reg'.nextNode
  recs : reg'.records = reg.records ++ new

theorem RegGrow.refl (reg : Reg W) : RegGrow reg reg [] := ⟨Int.le_refl _, Int.le_refl _, by simp⟩

theorem RegGrow.trans {a b c : Reg W} {n1 n2 : List (Innov W)} (h1 : RegGrow a b n1) (h2 : RegGrow b c n2) :
    RegGrow a c (n1 ++ n2) :=
  ⟨Int.le_trans h1.inn h2.inn, Int.le_trans h1.node h2.node, by rw [h2.recs, h1.recs, List.append_assoc]⟩

/-- a record another thread (or this one) may append while the pool holds `B`, `R`: its numbers and node id are held
    by nobody, and a node-split record names a gene of the pool -/
structure FreshRec (B : List Bind) (R : List Role) (r : Innov W) : Prop where
  typ : r.typ = 2 ∨ r.typ = 1
  inns : ∀ b ∈ B, b.1 ∉ recInns r
  node : r.typ = 1 → ∀ p ∈ R, p.1 ≠ r.newNode
  split : r.typ = 1 → ∃ y ∈ B, y.1 = r.oldInn ∧ y.2.1 = r.inId ∧ y.2.2.1 = r.outId

theorem FreshRec.recOk {B : List Bind} {R : List Role} {r : Innov W} (h : FreshRec B R r) : RecOk B R r := by
  by_cases h2 : r.typ = 2
  · rw [recOk_link h2]
    exact fun b hb e => absurd (e ▸ inn_mem_recInns r) (h.inns b hb)
  · have h1 : r.typ = 1 := h.typ.resolve_left h2
    rw [recOk_node h1]
    obtain ⟨y, hy, e1, e2, e3⟩ := h.split h1
    exact ⟨⟨y, hy, e1, e2, e3, fun b hb e => absurd (e ▸ inn_mem_recInns r) (h.inns b hb)⟩,
           fun b hb e => absurd (e ▸ inn2_mem_recInns r h1) (h.inns b hb),
           fun p hp e => absurd e (h.node h1 p hp)⟩

theorem invB_frame {reg reg' : Reg W} {new : List (Innov W)} {B : List Bind} {R : List Role} (h : InvB reg B R)
    (hg : RegGrow reg reg' new) (hf : ∀ r ∈ new, FreshRec B R r)
    (hnd : (regInns reg').Nodup) (hnn : (regNodes reg').Nodup)
    (hbi : ∀ r ∈ new, ∀ k ∈ recInns r, k ≤ reg'.nextInn) (hbn : ∀ r ∈ new, r.typ = 1 → r.newNode ≤ reg'.nextNode) :
    InvB reg' B R := by
  refine ⟨h.genes, h.roles, ⟨?_, hnd, hnn⟩, ⟨fun b hb => Int.le_trans (h.above.inns b hb) hg.inn,
          fun p hp => Int.le_trans (h.above.ids p hp) hg.node, ?_, ?_⟩⟩
  · intro i hi
    rw [hg.recs] at hi
    rcases List.mem_append.mp hi with hi | hi
    · exact h.compat.recs i hi
    · exact (hf i hi).recOk
  · intro k hk
    rw [regInns_def, hg.recs, List.flatMap_append] at hk
    rcases List.mem_append.mp hk with hk | hk
    · exact Int.le_trans (h.above.recInns k hk) hg.inn
    · obtain ⟨r, hr, hk⟩ := List.mem_flatMap.mp hk
      exact hbi r hr k hk
  · intro k hk
    rw [regNodes_def, hg.recs, List.filter_append, List.map_append] at hk
    rcases List.mem_append.mp hk with hk | hk
    · exact Int.le_trans (h.above.recNodes k hk) hg.node
    · obtain ⟨r, hr, rfl⟩ := List.mem_map.mp hk
      obtain ⟨hr, ht⟩ := List.mem_filter.mp hr
      exact hbn r hr (by simpa using ht)

theorem invB_add_bind {reg : Reg W} {B : List Bind} {R : List Role} (h : InvB reg B R) {i : Innov W} {b : Bind}
    (hi : i ∈ reg.records) (hk : b.1 ∈ recInns i) (hagree : ∀ a ∈ B, a.1 = b.1 → a = b) (hself : RecOk (b :: B) R i) :
    InvB reg (b :: B) R := by
  refine ⟨?_, h.roles, ⟨?_, h.compat.innsNodup, h.compat.nodesNodup⟩, ⟨?_, h.above.ids, h.above.recInns, h.above.recNodes⟩⟩
  · intro a ha c hc e
    rcases List.mem_cons.mp ha with rfl | ha' <;> rcases List.mem_cons.mp hc with rfl | hc'
    · rfl
    · exact (hagree c hc' e.symm).symm
    · exact hagree a ha' e
    · exact h.genes a ha' c hc' e
  · intro j hj
    by_cases hij : j = i
    · subst hij; exact hself
    · have := (h.compat.recs j hj).add_foreign [b] []
        (by
          intro c hc hkj
          simp only [List.mem_singleton] at hc
          subst hc
          exact hij (rec_inj h.compat.innsNodup hj hi hkj hk))
        (by simp)
      simpa using this
  · intro c hc
    rcases List.mem_cons.mp hc with rfl | hc'
    · exact h.above.recInns _ (mem_regInns hi hk)
    · exact h.above.inns c hc'

theorem invB_add_link {reg : Reg W} {B : List Bind} {R : List Role} (h : InvB reg B R) {i : Innov W}
    (hi : i ∈ reg.records) (t2 : i.typ = 2) : InvB reg ((i.inn, i.inId, i.outId, i.recur) :: B) R := by
  have hrec := (recOk_link t2).mp (h.compat.recs i hi)
  exact invB_add_bind h hi (inn_mem_recInns i) (fun a ha e => hrec a ha e)
    ((recOk_link t2).mpr (List.forall_mem_cons.mpr ⟨fun _ => rfl, hrec⟩))

theorem invB_add_split1 {reg : Reg W} {B : List Bind} {R : List Role} (h : InvB reg B R) {i : Innov W}
    (hi : i ∈ reg.records) (t1 : i.typ = 1) {y : Bind} (hy : y ∈ B) (hyo : y.1 = i.oldInn) :
    InvB reg ((i.inn, i.inId, i.newNode, y.2.2.2) :: B) R := by
  obtain ⟨⟨y', hy', e1, e2, e3, hall⟩, hb2, hro⟩ := (recOk_node t1).mp (h.compat.recs i hi)
  have hyy : y = y' := h.genes y hy y' hy' (hyo.trans e1.symm)
  subst hyy
  refine invB_add_bind h hi (inn_mem_recInns i) (fun a ha e => hall a ha e) ((recOk_node t1).mpr ?_)
  exact ⟨⟨y, List.mem_cons_of_mem _ hy', e1, e2, e3, List.forall_mem_cons.mpr ⟨fun _ => rfl, hall⟩⟩,
    List.forall_mem_cons.mpr ⟨fun e => absurd e (inn_ne_inn2 h.compat.innsNodup hi t1), hb2⟩, hro⟩

theorem invB_add_split2 {reg : Reg W} {B : List Bind} {R : List Role} (h : InvB reg B R) {i : Innov W}
    (hi : i ∈ reg.records) (t1 : i.typ = 1) : InvB reg ((i.inn2, i.newNode, i.outId, false) :: B) R := by
  obtain ⟨⟨y', hy', e1, e2, e3, hall⟩, hb2, hro⟩ := (recOk_node t1).mp (h.compat.recs i hi)
  refine invB_add_bind h hi (inn2_mem_recInns i t1) (fun a ha e => hb2 a ha e) ((recOk_node t1).mpr ?_)
  exact ⟨⟨y', List.mem_cons_of_mem _ hy', e1, e2, e3,
      List.forall_mem_cons.mpr ⟨fun e => absurd e.symm (inn_ne_inn2 h.compat.innsNodup hi t1), hall⟩⟩,
    List.forall_mem_cons.mpr ⟨fun _ => rfl, hb2⟩, hro⟩

theorem invB_add_role {reg : Reg W} {B : List Bind} {R : List Role} (h : InvB reg B R) {i : Innov W}
    (hi : i ∈ reg.records) (t1 : i.typ = 1) : InvB reg B ((i.newNode, Kind.hidden) :: R) := by
  obtain ⟨_, _, hro⟩ := (recOk_node t1).mp (h.compat.recs i hi)
  refine ⟨h.genes, ?_, ⟨?_, h.compat.innsNodup, h.compat.nodesNodup⟩, ⟨h.above.inns, ?_, h.above.recInns, h.above.recNodes⟩⟩
  · intro a ha c hc e
    rcases List.mem_cons.mp ha with rfl | ha' <;> rcases List.mem_cons.mp hc with rfl | hc'
    · rfl
    · exact (hro c hc' e.symm).symm
    · exact hro a ha' e
    · exact h.roles a ha' c hc' e
  · intro j hj
    have := (h.compat.recs j hj).add_foreign [] [(i.newNode, Kind.hidden)] (by simp) (by simp)
    simpa using this
  · intro c hc
    rcases List.mem_cons.mp hc with rfl | hc'
    · exact h.above.recNodes _ (mem_regNodes hi t1)
    · exact h.above.ids c hc'

section
variable [Scalar W]

omit [Scalar W] in
theorem resolveLink_cases {reg reg' : Reg W} {s d : Int} {r : Bool} {w : W} {tn k : Int}
    (hres : resolveLink reg s d r w tn = (k, reg')) :
    (∃ i, reg.records.find? (linkMatch s d r) = some i ∧ k = i.inn ∧ reg' = reg) ∨
    (reg.records.find? (linkMatch s d r) = none ∧ k = reg.nextInn + 1 ∧
      reg' = (reg.nextInnovation.2).store { typ := 2, inId := s, outId := d, inn := reg.nextInn + 1, inn2 := 0, w := w,
                                            traitNum := tn, newNode := 0, oldInn := 0, recur := r }) := by
  unfold resolveLink at hres
  split at hres
  · rename_i i hf
    obtain ⟨rfl, rfl⟩ := Prod.mk.inj hres
    exact .inl ⟨i, hf, rfl, rfl⟩
  · rename_i hf
    obtain ⟨rfl, rfl⟩ := Prod.mk.inj hres
    exact .inr ⟨hf, rfl, rfl⟩

theorem resolveNode_cases {reg reg' : Reg W} {s d o n k1 k2 : Int} (hres : resolveNode reg s d o = ((n, k1, k2), reg')) :
    (∃ i, reg.records.find? (nodeMatch s d o) = some i ∧ n = i.newNode ∧ k1 = i.inn ∧ k2 = i.inn2 ∧ reg' = reg) ∨
    (reg.records.find? (nodeMatch s d o) = none ∧ n = reg.nextNode + 1 ∧ k1 = reg.nextInn + 1 ∧ k2 = reg.nextInn + 1 + 1 ∧
      reg' = (reg.nextNodeId.2.nextInnovation.2.nextInnovation.2).store
        { typ := 1, inId := s, outId := d, inn := reg.nextInn + 1, inn2 := reg.nextInn + 1 + 1, w := Scalar.zero,
          traitNum := 0, newNode := reg.nextNode + 1, oldInn := o, recur := false }) := by
  unfold resolveNode at hres
  split at hres
  · rename_i i hf
    obtain ⟨hnums, rfl⟩ := Prod.mk.inj hres
    obtain ⟨rfl, hk⟩ := Prod.mk.inj hnums
    obtain ⟨rfl, rfl⟩ := Prod.mk.inj hk
    exact .inl ⟨i, hf, rfl, rfl, rfl, rfl⟩
  · rename_i hf
    obtain ⟨hnums, rfl⟩ := Prod.mk.inj hres
    obtain ⟨rfl, hk⟩ := Prod.mk.inj hnums
    obtain ⟨rfl, rfl⟩ := Prod.mk.inj hk
    exact .inr ⟨hf, rfl, rfl, rfl, rfl⟩

/-! "The registry has grown from `reg` to `reg'`" is said in five ways, from strong to weak:
* `Made reg i reg'`: exactly the record `i` is appended, made of numbers the counters have just handed out;
  `Issue reg i reg'`: that, or nothing has changed and `i` was there - how the registry answers one request;
* `C01.RegExt` (WFLemmas): counters only grow, the appended records carry numbers above the OLD counters - what holds after
  any number of sequential requests (`Issue.regExt` in WFStruct, `Keeps.regExt` in WFClose);
* `RegGrow reg reg' new` (= `C16.RegGrow`): counters only grow, `new` is appended, nothing said about its numbers - all that
  holds of what other threads append (`Made.grow`, `Issue.grow`);
* `RegExtends` (RegistrySteps): some records are appended; `CtrLe` (EpochRegistry): counters only grow (`Issue.genInv`).
`RegExt → ∃ new, RegGrow … new`, and `RegGrow … new → RegExtends ∧ CtrLe`. -/

omit [Scalar W] in
structure Made (reg : Reg W) (i : Innov W) (reg' : Reg W) : Prop where
  recs : reg'.records = reg.records ++ [i]
  typ : i.typ = 2 ∨ i.typ = 1
  inns : ∀ k ∈ recInns i, reg.nextInn < k ∧ k ≤ reg'.nextInn
  nodup : (recInns i).Nodup
  node : i.typ = 1 → reg.nextNode < i.newNode ∧ i.newNode ≤ reg'.nextNode
  nodeMono : reg.nextNode ≤ reg'.nextNode

def Issue (reg : Reg W) (i : Innov W) (reg' : Reg W) : Prop := (i ∈ reg.records ∧ reg' = reg) ∨ Made reg i reg'

omit [Scalar W] in
theorem Made.innMono {reg reg' : Reg W} {i : Innov W} (h : Made reg i reg') : reg.nextInn ≤ reg'.nextInn := by
  have := h.inns _ (inn_mem_recInns i); omega

omit [Scalar W] in
theorem Made.grow {reg reg' : Reg W} {i : Innov W} (h : Made reg i reg') : RegGrow reg reg' [i] := ⟨h.innMono, h.nodeMono, h.recs⟩

omit [Scalar W] in
theorem Issue.mem {reg reg' : Reg W} {i : Innov W} (h : Issue reg i reg') : i ∈ reg'.records := by
  rcases h with ⟨hi, rfl⟩ | hm
  · exact hi
  · rw [hm.recs]; simp

omit [Scalar W] in
theorem Made.invB {reg reg' : Reg W} {i : Innov W} {B : List Bind} {R : List Role} (hm : Made reg i reg') (h : InvB reg B R)
    (hsplit : i.typ = 1 → ∃ y ∈ B, y.1 = i.oldInn ∧ y.2.1 = i.inId ∧ y.2.2.1 = i.outId) : InvB reg' B R := by
  have hfresh : FreshRec B R i :=
    ⟨hm.typ, fun b hb hk => by have := h.above.inns b hb; have := (hm.inns _ hk).1; omega,
     fun t p hp e => by have := h.above.ids p hp; have := (hm.node t).1; omega, hsplit⟩
  refine invB_frame h hm.grow (fun x hx => (List.mem_singleton.mp hx) ▸ hfresh) ?_ ?_
    (fun x hx k hk => ((List.mem_singleton.mp hx) ▸ hm.inns) k hk |>.2) (fun x hx t => ((List.mem_singleton.mp hx) ▸ hm.node) t |>.2)
  · rw [regInns_snoc hm.recs, List.nodup_append]
    refine ⟨h.compat.innsNodup, hm.nodup, fun a ha b hb e => ?_⟩
    have := h.above.recInns a ha
    have := (hm.inns b hb).1
    omega
  · rw [regNodes_snoc hm.recs]
    by_cases t : i.typ = 1
    · rw [if_pos t, List.nodup_append]
      refine ⟨h.compat.nodesNodup, by simp, fun a ha b hb e => ?_⟩
      have := h.above.recNodes a ha
      have := (hm.node t).1
      simp only [List.mem_singleton] at hb
      omega
    · rw [if_neg t, List.append_nil]
      exact h.compat.nodesNodup

omit [Scalar W] in
theorem Made.nums {reg reg' : Reg W} {i : Innov W} (h : Made reg i reg') :
    (reg.nextInn < i.inn ∧ i.inn ≤ reg'.nextInn) ∧ (i.typ = 1 → reg.nextInn < i.inn2 ∧ i.inn2 ≤ reg'.nextInn ∧ i.inn ≠ i.inn2) := by
  refine ⟨h.inns _ (inn_mem_recInns i), fun t => ?_⟩
  have h2 := h.inns _ (inn2_mem_recInns i t)
  have hn := h.nodup
  unfold recInns at hn
  rw [if_pos t] at hn
  exact ⟨h2.1, h2.2, by simpa using hn⟩

omit [Scalar W] in
/-- the record `resolveLink` makes when it finds none -/
theorem made_link (reg : Reg W) (s d : Int) (r : Bool) (w : W) (tn : Int) :
    Made reg { typ := 2, inId := s, outId := d, inn := reg.nextInn + 1, inn2 := 0, w := w, traitNum := tn, newNode := 0,
               oldInn := 0, recur := r }
      (reg.nextInnovation.2.store { typ := 2, inId := s, outId := d, inn := reg.nextInn + 1, inn2 := 0, w := w, traitNum := tn,
                                    newNode := 0, oldInn := 0, recur := r }) := by
  refine ⟨rfl, .inl rfl, fun k hk => ?_, by simp [recInns], fun t => absurd t (show ¬ (2 : Nat) = 1 by decide), Int.le_refl _⟩
  simp only [recInns, if_neg (show ¬ (2 : Nat) = 1 by decide), List.mem_singleton] at hk
  subst hk
  exact ⟨by omega, Int.le_refl _⟩

/-- the record `resolveNode` makes when it finds none -/
theorem made_node (reg : Reg W) (s d o : Int) :
    Made reg { typ := 1, inId := s, outId := d, inn := reg.nextInn + 1, inn2 := reg.nextInn + 1 + 1, w := Scalar.zero,
               traitNum := 0, newNode := reg.nextNode + 1, oldInn := o, recur := false }
      ((reg.nextNodeId.2.nextInnovation.2.nextInnovation.2).store
        { typ := 1, inId := s, outId := d, inn := reg.nextInn + 1, inn2 := reg.nextInn + 1 + 1, w := Scalar.zero,
          traitNum := 0, newNode := reg.nextNode + 1, oldInn := o, recur := false }) := by
  refine ⟨rfl, .inr rfl, fun k hk => ?_, by simp [recInns]; omega,
    fun _ => ⟨by show reg.nextNode < reg.nextNode + 1; omega, Int.le_refl _⟩, by show reg.nextNode ≤ reg.nextNode + 1; omega⟩
  simp only [recInns, if_true, List.mem_cons, List.not_mem_nil, or_false] at hk
  rcases hk with rfl | rfl
  · exact ⟨by omega, by show reg.nextInn + 1 ≤ reg.nextInn + 1 + 1; omega⟩
  · exact ⟨by omega, Int.le_refl _⟩

omit [Scalar W] in
theorem resolveLink_issue {reg reg' : Reg W} {s d : Int} {r : Bool} {w : W} {tn k : Int}
    (hres : resolveLink reg s d r w tn = (k, reg')) :
    ∃ i, Issue reg i reg' ∧ reg'.records.find? (linkMatch s d r) = some i ∧ i.inn = k := by
  rcases resolveLink_cases hres with ⟨i, hf, rfl, rfl⟩ | ⟨hf, rfl, rfl⟩
  · exact ⟨i, .inl ⟨List.mem_of_find?_eq_some hf, rfl⟩, hf, rfl⟩
  · refine ⟨_, .inr (made_link reg s d r w tn), ?_, rfl⟩
    simp only [Reg.store, Reg.nextInnovation, List.find?_append, hf, Option.none_or]
    rw [List.find?_cons_of_pos]
    simp [linkMatch]

theorem resolveNode_issue {reg reg' : Reg W} {s d o n k1 k2 : Int} (hres : resolveNode reg s d o = ((n, k1, k2), reg')) :
    ∃ i, Issue reg i reg' ∧ reg'.records.find? (nodeMatch s d o) = some i ∧ i.newNode = n ∧ i.inn = k1 ∧ i.inn2 = k2 := by
  rcases resolveNode_cases hres with ⟨i, hf, rfl, rfl, rfl, rfl⟩ | ⟨hf, rfl, rfl, rfl, rfl⟩
  · exact ⟨i, .inl ⟨List.mem_of_find?_eq_some hf, rfl⟩, hf, rfl, rfl, rfl⟩
  · refine ⟨_, .inr (made_node reg s d o), ?_, rfl, rfl, rfl⟩
    simp only [Reg.store, Reg.nextInnovation, Reg.nextNodeId, List.find?_append, hf, Option.none_or]
    rw [List.find?_cons_of_pos]
    simp [nodeMatch]

omit [Scalar W] in
/-- `I reg B R` depends on the set of bindings only, survives a request the registry answers, and admits the bindings a
    record dictates: the link of a link record; the two halves and the hidden node of a split record whose split gene (`y`) the
    pool holds.  A structural mutator does nothing else to registry and bindings, so every such `I` is kept (`Keeps`).
    Instances: `invB_laws` (C03's invariant), `issued_laws` (what is issued is fresh), `C01.sound_laws` (C01's `RegInv`),
    `C01.poolI_laws` (C01's pool invariant). -/
structure RegLaws (I : Reg W → List Bind → List Role → Prop) : Prop where
  congr : ∀ {reg B B' R R'}, I reg B R → B' ⊆ B → B ⊆ B' → R' ⊆ R → I reg B' R'
  issue : ∀ {reg reg' i B R}, I reg B R → Issue reg i reg' →
    (i.typ = 1 → ∃ y ∈ B, y.1 = i.oldInn ∧ y.2.1 = i.inId ∧ y.2.2.1 = i.outId) → I reg' B R
  link : ∀ {reg i B R}, I reg B R → i ∈ reg.records → i.typ = 2 → I reg ((i.inn, i.inId, i.outId, i.recur) :: B) R
  split : ∀ {reg i B R y}, I reg B R → i ∈ reg.records → i.typ = 1 → y ∈ B → y.1 = i.oldInn →
    I reg ((i.inn, i.inId, i.newNode, y.2.2.2) :: (i.inn2, i.newNode, i.outId, false) :: B) ((i.newNode, Kind.hidden) :: R)

omit [Scalar W] in
theorem invB_laws : RegLaws (InvB (W := W)) where
  congr := fun h hs hs' hr => h.congr hs hs' hr
  issue := fun h hi hs => by
    rcases hi with ⟨_, rfl⟩ | hm
    · exact h
    · exact hm.invB h hs
  link := fun h hi t2 => invB_add_link h hi t2
  split := fun h hi t1 hy ho =>
    invB_add_role (invB_add_split1 (invB_add_split2 h hi t1) hi t1 (List.mem_cons_of_mem _ hy) ho) hi t1

variable {I : Reg W → List Bind → List Role → Prop}

omit [Scalar W] in
theorem resolveLink_keeps (L : RegLaws I) {reg reg' : Reg W} {B : List Bind} {R : List Role} (h : I reg B R)
    {s d : Int} {r : Bool} {w : W} {tn k : Int} (hres : resolveLink reg s d r w tn = (k, reg')) : I reg' ((k, s, d, r) :: B) R := by
  obtain ⟨i, hi, hf, rfl⟩ := resolveLink_issue hres
  obtain ⟨t2, rfl, rfl, rfl⟩ := (linkMatch_iff _ _ _ i).mp (List.find?_some hf)
  exact L.link (L.issue h hi (fun t => by omega)) hi.mem t2

theorem resolveNode_keeps (L : RegLaws I) {reg reg' : Reg W} {B : List Bind} {R : List Role} (h : I reg B R)
    {s d old : Int} {r : Bool} (hold : (old, s, d, r) ∈ B) {n k1 k2 : Int} (hres : resolveNode reg s d old = ((n, k1, k2), reg')) :
    I reg' ((k1, s, n, r) :: (k2, n, d, false) :: B) ((n, Kind.hidden) :: R) := by
  obtain ⟨i, hi, hf, rfl, rfl, rfl⟩ := resolveNode_issue hres
  obtain ⟨t1, rfl, rfl, rfl⟩ := (nodeMatch_iff _ _ _ i).mp (List.find?_some hf)
  exact L.split (L.issue h hi (fun _ => ⟨_, hold, rfl, rfl, rfl⟩)) hi.mem t1 hold rfl

omit [Scalar W] in
theorem resolveLink_inv {reg reg' : Reg W} {B : List Bind} {R : List Role} (h : InvB reg B R)
    (s d : Int) (r : Bool) (w : W) (tn : Int) (k : Int) (hres : resolveLink reg s d r w tn = (k, reg')) :
    InvB reg' ((k, s, d, r) :: B) R :=
  resolveLink_keeps invB_laws h hres

theorem resolveNode_inv {reg reg' : Reg W} {B : List Bind} {R : List Role} (h : InvB reg B R)
    (s d old : Int) (r : Bool) (hold : (old, s, d, r) ∈ B) (n k1 k2 : Int)
    (hres : resolveNode reg s d old = ((n, k1, k2), reg')) :
    InvB reg' ((k1, s, n, r) :: (k2, n, d, false) :: B) ((n, Kind.hidden) :: R) :=
  resolveNode_keeps invB_laws h hold hres

end

end GoNeat.C03
