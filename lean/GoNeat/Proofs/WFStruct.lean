/-
  Base of C01 and C16: a gene or a node added to a well-formed genome leaves it well-formed (for the sequential and the
  parallel mutators alike), the `haveGene` guard, and `RegInv` read over bindings (`Sound`) as an instance of `C03.RegLaws`.
-/
import GoNeat.Proofs.WFLemmas
import GoNeat.Proofs.MaxFrom
import GoNeat.Proofs.RegistryLemmas

namespace GoNeat.C01
open GoNeat
variable {W : Type}

theorem geneKey_eq {z y : Gene W} (h : geneKey z = geneKey y) :
    z.inn = y.inn ∧ z.src = y.src ∧ z.dst = y.dst ∧ z.recur = y.recur ∧ z.link = y.link := by
  unfold geneKey at h
  simp only [Prod.mk.injEq] at h
  have hl := h.2
  unfold Gene.link at hl
  simp only [Prod.mk.injEq] at hl
  exact ⟨h.1, hl.1, hl.2.1, hl.2.2, h.2⟩

theorem typ_absurd {P : Prop} {r : Innov W} (h1 : r.typ = 1) (h2 : r.typ = 2) : P := by omega

theorem sorted_le_last (genes : List (Gene W)) (hs : GenesSorted genes) (last : Gene W)
    (hl : genes.getLast? = some last) : ∀ y ∈ genes, y.inn ≤ last.inn :=
  pairwise_le_last (fun x : Gene W => x.inn) genes hs last hl

/-- **the `haveGene` guard suffices**: if `haveGene x` is false and every gene of `g` carrying `x`'s number has
    `x`'s link (`RegCompat` for a recorded number), then no gene of `g` carries that number.
    (The converse direction - no gene with these endpoints, so `haveGene` is false - is `MutateLemmas.haveGene_false`.) -/
theorem haveGene_false (g : Genome W) (x : Gene W) (hs : GenesSorted g.genes) (h : g.haveGene x = false)
    (hc : ∀ y ∈ g.genes, y.inn = x.inn → y.link = x.link) : ∀ y ∈ g.genes, y.inn ≠ x.inn := by
  intro y hy hinn
  have hsame : y.sameLink x = true := by
    have := hc y hy hinn
    unfold Gene.link at this
    simp only [Prod.mk.injEq] at this
    unfold Gene.sameLink
    simp [this.1, this.2.1, this.2.2]
  have hany : g.genes.any (·.sameLink x) = true := List.any_eq_true.mpr ⟨y, hy, hsame⟩
  -- `hs` belongs to the statement as C01 cites it; since `getNextGeneInnovNum` takes the maximum (goNEAT fix 48b1f99) the
  -- argument does not use it
  have _ := hs
  unfold Genome.haveGene at h
  cases hni : g.nextGeneInnov with
  | error e =>
    obtain ⟨ni, e'⟩ := g.nextGeneInnov_ok (List.ne_nil_of_mem hy)
    rw [e'] at hni; cases hni
  | ok ni =>
    rw [hni] at h
    simp only at h
    have hmax := g.nextGeneInnov_gt ni hni y hy
    by_cases hc2 : x.inn ≥ ni
    · omega
    · rw [if_neg hc2, hany] at h; cases h

theorem addGene_wft (g : Genome W) (x : Gene W) (hw : WFT g)
    (hinn : ∀ y ∈ g.genes, y.inn ≠ x.inn) (hlink : ∀ y ∈ g.genes, y.link ≠ x.link)
    (hsrc : x.src ∈ nodeIds g) (hdst : x.dst ∈ nodeIds g)
    (hsens : ∀ n ∈ g.nodes, n.id = x.dst → n.isSensor = false) (htr : TraitRefOk g x.trait) :
    WFT { g with genes := geneInsert g.genes x } := by
  have hmem : ∀ y, y ∈ geneInsert g.genes x ↔ y = x ∨ y ∈ g.genes := fun y => mem_insertAt _ _ _ _
  have hsorted := insertAt_sorted (fun y : Gene W => y.inn) g.genes x hw.wf.genesSorted hinn
  refine ⟨⟨hsorted.1, ?_, hw.wf.nodesSorted, ?_, ⟨?_, hw.wf.traitRefs.2⟩, ?_, insertAt_ne_nil _ _ _, hw.wf.hasOutput,
           hw.wf.traits⟩, hw.tnz, hw.kinds⟩
  · have hp : (geneInsert g.genes x).Perm (x :: g.genes) := hsorted.2
    have : LinksDistinct (x :: g.genes) := by
      unfold LinksDistinct
      rw [List.pairwise_cons]
      exact ⟨fun y hy => (hlink y hy).symm, hw.wf.linksDistinct⟩
    unfold LinksDistinct at this ⊢
    exact (hp.pairwise_iff (fun h => Ne.symm h)).mpr this
  · intro y hy
    rcases (hmem y).mp hy with rfl | h
    · exact ⟨hsrc, hdst⟩
    · exact hw.wf.endpoints y h
  · intro y hy
    rcases (hmem y).mp hy with rfl | h
    · exact htr
    · exact hw.wf.traitRefs.1 y h
  · intro y hy n hn hid
    rcases (hmem y).mp hy with rfl | h
    · exact hsens n hn hid
    · exact hw.wf.noSensorTarget y h n hn hid

theorem addNode_wft (g : Genome W) (n : Node) (hw : WFT g)
    (hid : ∀ m ∈ g.nodes, m.id ≠ n.id) (htr : TraitRefOk g n.trait) (hk : n.kind ≤ 3) :
    WFT { g with nodes := nodeInsert g.nodes n } := by
  have hmem : ∀ m, m ∈ nodeInsert g.nodes n ↔ m = n ∨ m ∈ g.nodes := fun m => mem_insertAt _ _ _ _
  have hsorted := insertAt_sorted (fun m : Node => m.id) g.nodes n hw.wf.nodesSorted hid
  have hsub : ∀ i ∈ nodeIds g, i ∈ nodeIds ({ g with nodes := nodeInsert g.nodes n } : Genome W) :=
    fun _ hi => ((insertAt_sublist g.nodes _ n).map _).subset hi
  refine ⟨⟨hw.wf.genesSorted, hw.wf.linksDistinct, hsorted.1, ?_, ⟨hw.wf.traitRefs.1, ?_⟩, ?_, hw.wf.hasGene, ?_,
           hw.wf.traits⟩, hw.tnz, fun m hm => by
             rcases (hmem m).mp hm with rfl | h
             · exact hk
             · exact hw.kinds m h⟩
  · intro y hy
    exact ⟨hsub _ (hw.wf.endpoints y hy).1, hsub _ (hw.wf.endpoints y hy).2⟩
  · intro m hm
    rcases (hmem m).mp hm with rfl | h
    · exact htr
    · exact hw.wf.traitRefs.2 m h
  · intro y hy m hm hmid
    rcases (hmem m).mp hm with rfl | h
    · exfalso
      obtain ⟨k, hk, e⟩ := List.mem_map.mp (hw.wf.endpoints y hy).2
      exact hid k hk (by rw [e, hmid])
    · exact hw.wf.noSensorTarget y hy m h hmid
  · obtain ⟨m, hm, hk⟩ := hw.wf.hasOutput
    exact ⟨m, (hmem m).mpr (Or.inr hm), hk⟩

/-- the pair conditions of `RegOk` say that every other record with that number records the same link -/
theorem GeneOk.of_record2 {reg : Reg W} {i : Innov W} (h : RegOk reg) (hi : i ∈ reg.records) (ht : i.typ = 2) :
    GeneOk reg (i.inn, (i.inId, i.outId, i.recur)) := by
  refine ⟨(h.1 i hi).1 ht, fun j hj => ⟨fun tj e => ?_, fun tj => ⟨fun e => ?_, fun e => ?_⟩⟩⟩
  · obtain ⟨e1, e2, e3⟩ := (h.2 i hi j hj).1 ht tj e
    rw [e1, e2, e3]
  · exact absurd e ((h.2 i hi j hj).2.1 ht tj).1
  · exact absurd e ((h.2 i hi j hj).2.1 ht tj).2

theorem GeneOk.of_record1a {reg : Reg W} {i : Innov W} (h : RegOk reg) (hi : i ∈ reg.records) (ht : i.typ = 1) (r : Bool) :
    GeneOk reg (i.inn, (i.inId, i.newNode, r)) := by
  refine ⟨((h.1 i hi).2 ht).1, fun j hj => ⟨fun tj e => ?_, fun tj => ⟨fun e => ?_, fun e => ?_⟩⟩⟩
  · exact absurd e.symm ((h.2 j hj i hi).2.1 tj ht).1
  · exact ((h.2 i hi j hj).2.2 ht tj).1 e
  · exact absurd e ((h.2 i hi j hj).2.2 ht tj).2.2

theorem GeneOk.of_record1b {reg : Reg W} {i : Innov W} (h : RegOk reg) (hi : i ∈ reg.records) (ht : i.typ = 1) :
    GeneOk reg (i.inn2, (i.newNode, i.outId, false)) := by
  refine ⟨((h.1 i hi).2 ht).2.1, fun j hj => ⟨fun tj e => ?_, fun tj => ⟨fun e => ?_, fun e => ?_⟩⟩⟩
  · exact absurd e.symm ((h.2 j hj i hi).2.1 tj ht).2
  · exact absurd e.symm ((h.2 j hj i hi).2.2 tj ht).2.2
  · obtain ⟨e1, e2⟩ := ((h.2 i hi j hj).2.2 ht tj).2.1 e
    exact ⟨e1, e2, rfl⟩

theorem NodeOk.of_record1 {reg : Reg W} {i : Innov W} (h : RegOk reg) (hi : i ∈ reg.records) (ht : i.typ = 1) :
    NodeOk reg (i.newNode, Kind.hidden) :=
  ⟨((h.1 i hi).2 ht).2.2, fun _ _ _ _ => rfl⟩

theorem RegOk.add {reg reg' : Reg W} {r : Innov W} (h : RegOk reg) (hrec : reg'.records = reg.records ++ [r])
    (hi : reg.nextInn ≤ reg'.nextInn) (hn : reg.nextNode ≤ reg'.nextNode) (hb : RecBound reg' r)
    (h2 : r.typ = 2 → reg.nextInn < r.inn)
    (h1 : r.typ = 1 → reg.nextInn < r.inn ∧ reg.nextInn < r.inn2 ∧ r.inn ≠ r.inn2) : RegOk reg' := by
  have hmem : ∀ j ∈ reg'.records, j ∈ reg.records ∨ j = r := by
    intro j hj
    rw [hrec] at hj
    simpa using hj
  -- an old record against the new one: their numbers cannot meet
  have hor : ∀ j ∈ reg.records, RecPairOk j r ∧ RecPairOk r j := by
    intro j hj
    have b2 := (h.1 j hj).1
    have b1 := (h.1 j hj).2
    unfold RecPairOk RecPair22 RecPair21 RecPair11
    refine ⟨⟨fun tj tr e => ?_, fun tj tr => ?_, fun tj tr => ?_⟩, ⟨fun tr tj e => ?_, fun tr tj => ?_, fun tr tj => ?_⟩⟩
    · have := b2 tj; have := h2 tr; omega
    · have := b2 tj; have := h1 tr; omega
    · have := b1 tj; have := h1 tr
      exact ⟨fun e => by omega, fun e => by omega, by omega⟩
    · have := b2 tj; have := h2 tr; omega
    · have := b1 tj; have := h2 tr; omega
    · have := b1 tj; have := h1 tr
      exact ⟨fun e => by omega, fun e => by omega, by omega⟩
  refine ⟨fun j hj => ?_, fun i hi' j hj => ?_⟩
  · rcases hmem j hj with hj | rfl
    · have b := h.1 j hj
      exact ⟨fun t => by have := b.1 t; omega, fun t => by have := b.2 t; omega⟩
    · exact hb
  · rcases hmem i hi' with hi' | rfl <;> rcases hmem j hj with hj | rfl
    · exact h.2 i hi' j hj
    · exact (hor i hi').1
    · exact (hor j hj).2
    · exact ⟨fun _ _ _ => ⟨rfl, rfl, rfl⟩, fun t2 t1 => by omega, fun t _ => ⟨fun _ => ⟨rfl, rfl⟩, fun _ => ⟨rfl, rfl⟩, (h1 t).2.2⟩⟩

theorem _root_.GoNeat.C03.Made.regExt {reg reg' : Reg W} {i : Innov W} (h : C03.Made reg i reg') : RegExt reg reg' := by
  refine ⟨h.innMono, h.nodeMono, [i], h.recs, fun r hr => ?_⟩
  rw [List.mem_singleton.mp hr]
  exact ⟨fun _ => h.nums.1.1, fun t => ⟨h.nums.1.1, (h.nums.2 t).1, (h.node t).1⟩⟩

theorem _root_.GoNeat.C03.Issue.regExt {reg reg' : Reg W} {i : Innov W} (h : C03.Issue reg i reg') : RegExt reg reg' := by
  rcases h with ⟨_, rfl⟩ | hm
  · exact .refl _
  · exact hm.regExt

theorem _root_.GoNeat.C03.Made.regOk {reg reg' : Reg W} {i : Innov W} (h : C03.Made reg i reg') (hok : RegOk reg) : RegOk reg' :=
  hok.add h.recs h.innMono h.nodeMono
    ⟨fun _ => h.nums.1.2, fun t => ⟨h.nums.1.2, (h.nums.2 t).2.1, (h.node t).2⟩⟩ (fun _ => h.nums.1.1)
    (fun t => ⟨h.nums.1.1, (h.nums.2 t).1, (h.nums.2 t).2.2⟩)

/-- `RegInv` over any pool of bindings: `RegInv reg g` is `Sound reg` of the bindings of `g` (`regInv_iff_sound`) -/
structure Sound (reg : Reg W) (B : List C03.Bind) (R : List C03.Role) : Prop where
  genes : ∀ b ∈ B, GeneOk reg b
  nodes : ∀ r ∈ R, NodeOk reg r
  ok : RegOk reg

theorem regInv_iff_sound {reg : Reg W} {g : Genome W} :
    RegInv reg g ↔ Sound reg (g.genes.map C03.geneBind) (g.nodes.map C03.nodeRole) := by
  rw [regInv_iff]
  exact ⟨fun h => ⟨List.forall_mem_map.mpr h.1, List.forall_mem_map.mpr h.2.1, h.2.2⟩,
         fun h => ⟨List.forall_mem_map.mp h.genes, List.forall_mem_map.mp h.nodes, h.ok⟩⟩

theorem Sound.mono {reg : Reg W} {B B' : List C03.Bind} {R R' : List C03.Role} (h : Sound reg B R) (hB : B' ⊆ B) (hR : R' ⊆ R) :
    Sound reg B' R' := ⟨fun b hb => h.genes b (hB hb), fun r hr => h.nodes r (hR hr), h.ok⟩

theorem sound_laws : C03.RegLaws (Sound (W := W)) where
  congr := fun h hs _ hr => h.mono hs hr
  issue := fun h hi _ => by
    rcases hi with ⟨_, rfl⟩ | hm
    · exact h
    · exact ⟨fun b hb => (h.genes b hb).ext hm.regExt, fun r hr => (h.nodes r hr).ext hm.regExt, hm.regOk h.ok⟩
  link := fun h hi t2 => ⟨List.forall_mem_cons.mpr ⟨GeneOk.of_record2 h.ok hi t2, h.genes⟩, h.nodes, h.ok⟩
  split := fun h hi t1 _ _ =>
    ⟨List.forall_mem_cons.mpr ⟨GeneOk.of_record1a h.ok hi t1 _, List.forall_mem_cons.mpr ⟨GeneOk.of_record1b h.ok hi t1, h.genes⟩⟩,
     List.forall_mem_cons.mpr ⟨NodeOk.of_record1 h.ok hi t1, h.nodes⟩, h.ok⟩

theorem node_unique (nodes : List Node) (hs : NodesSorted nodes) (n m : Node) (hn : n ∈ nodes) (hm : m ∈ nodes)
    (hid : n.id = m.id) : n = m :=
  nodup_map_inj (·.id) (sorted_ids_nodup nodes hs) hn hm hid

theorem not_mem_nodeIds_of_hasNode (g : Genome W) (id : Int) (h : g.hasNode id = false) : id ∉ nodeIds g := by
  intro hm
  have : (nodeById g.nodes id).isSome = true := by
    unfold nodeById
    rw [List.find?_isSome]
    obtain ⟨n, hn, e⟩ := List.mem_map.mp hm
    exact ⟨n, List.mem_reverse.mpr hn, by simp [e]⟩
  unfold Genome.hasNode at h
  rw [this] at h; cases h

theorem addSplit_wft (g : Genome W) (n : Node) (x1 x2 : Gene W) (hw : WFT g)
    (hnid : n.id ∉ nodeIds g) (hnh : n.kind = Kind.hidden) (hnt : TraitRefOk g n.trait)
    (h1 : x1.dst = n.id ∧ x1.src ∈ nodeIds g ∧ TraitRefOk g x1.trait)
    (h2 : x2.src = n.id ∧ x2.dst ∈ nodeIds g ∧ TraitRefOk g x2.trait)
    (h2s : ∀ m ∈ g.nodes, m.id = x2.dst → m.isSensor = false)
    (hi1 : ∀ y ∈ g.genes, y.inn ≠ x1.inn) (hi2 : ∀ y ∈ g.genes, y.inn ≠ x2.inn) (hi12 : x1.inn ≠ x2.inn) :
    WFT { g with genes := geneInsert (geneInsert g.genes x1) x2, nodes := nodeInsert g.nodes n } := by
  have hnid' : ∀ m ∈ g.nodes, m.id ≠ n.id := fun m hm e => hnid (List.mem_map.mpr ⟨m, hm, e⟩)
  have hnk : n.isSensor = false := by unfold Node.isSensor; rw [hnh]; rfl
  have w2 := addNode_wft g n hw hnid' hnt (by rw [hnh]; decide)
  have hmemN : ∀ m, m ∈ nodeInsert g.nodes n ↔ m = n ∨ m ∈ g.nodes := fun m => mem_insertAt _ _ _ _
  have hsubN : ∀ i ∈ nodeIds g, i ∈ nodeIds ({ g with nodes := nodeInsert g.nodes n } : Genome W) :=
    fun _ hi => ((insertAt_sublist g.nodes _ n).map _).subset hi
  have hnin : n.id ∈ nodeIds ({ g with nodes := nodeInsert g.nodes n } : Genome W) :=
    List.mem_map.mpr ⟨n, (hmemN n).mpr (Or.inl rfl), rfl⟩
  have hdstOld : ∀ y ∈ g.genes, y.dst ≠ n.id := fun y hy e => hnid (e ▸ (hw.wf.endpoints y hy).2)
  have hsrcOld : ∀ y ∈ g.genes, y.src ≠ n.id := fun y hy e => hnid (e ▸ (hw.wf.endpoints y hy).1)
  have w3 := addGene_wft ({ g with nodes := nodeInsert g.nodes n } : Genome W) x1 w2 hi1
    (fun y hy e => by
      unfold Gene.link at e; simp only [Prod.mk.injEq] at e
      exact hdstOld y hy (by rw [e.2.1, h1.1]))
    (hsubN _ h1.2.1) (by rw [h1.1]; exact hnin)
    (fun m hm e => by
      rcases (hmemN m).mp hm with rfl | hm'
      · exact hnk
      · exact absurd (by rw [e, h1.1]) (hnid' m hm'))
    h1.2.2
  have hmemG : ∀ y, y ∈ geneInsert g.genes x1 ↔ y = x1 ∨ y ∈ g.genes := fun y => mem_insertAt _ _ _ _
  have w4 := addGene_wft ({ g with nodes := nodeInsert g.nodes n, genes := geneInsert g.genes x1 } : Genome W) x2 w3
    (fun y hy => by
      rcases (hmemG y).mp hy with rfl | hy'
      · exact hi12
      · exact hi2 y hy')
    (fun y hy e => by
      unfold Gene.link at e; simp only [Prod.mk.injEq] at e
      rcases (hmemG y).mp hy with rfl | hy'
      · exact hnid (by rw [← h2.1, ← e.1]; exact h1.2.1)
      · exact hsrcOld y hy' (by rw [e.1, h2.1]))
    (by rw [h2.1]; exact hnin) (hsubN _ h2.2.1)
    (fun m hm e => by
      rcases (hmemN m).mp hm with rfl | hm'
      · exact absurd (e ▸ h2.2.1) hnid
      · exact h2s m hm' e)
    h2.2.2
  exact w4

theorem Retains.of_nodes_sub (g g' : Genome W) (h : ∀ n ∈ g.nodes, n ∈ g'.nodes) : Retains g g' := by
  intro n hn _; exact ⟨n, h n hn, rfl, rfl⟩

theorem Retains.of_nodes_eq (g g' : Genome W) (h : g'.nodes = g.nodes) : Retains g g' :=
  Retains.of_nodes_sub g g' fun _ hn => h ▸ hn

end GoNeat.C01
