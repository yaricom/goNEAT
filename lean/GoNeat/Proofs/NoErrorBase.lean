/-
  Property C02, clause "turning over an epoch succeeds without error": vocabulary and the random primitives.

  `Safe Post r`  : the result `r` of a computation over the raw stream is not an implementation error
                   (`.error (.error msg)`); running out of random numbers on a finite stream is allowed; and if it is
                   a value, the value satisfies `Post`.
  `SafeE Post r` : the same for a computation that draws nothing (it must return a value).
  Kind A: every lemma holds for every scalar type, every stream.
-/
import GoNeat.Proofs.MutateLemmas
import GoNeat.Proofs.PrefixDet

namespace GoNeat.NoErr
open GoNeat Scalar
variable {W : Type} [Scalar W] {α β : Type}

/-- `outOfRandom => True`: the model draws from a finite list where Go draws from an endless source, so `Safe` says "does not
    end with an implementation error", not "ends with a value" (for the latter see `C16.execution_exists`) -/
def Safe (Post : α → Prop) : R α → Prop
  | .ok (a, _) => Post a
  | .error .outOfRandom => True
  | .error (.error _) => False

def SafeE (Post : α → Prop) : Except Stop α → Prop
  | .ok a => Post a
  | .error _ => False

theorem Safe.of_error {P : α → Prop} {Q : β → Prop} {e : Stop} (h : Safe P (.error e : R α)) : Safe Q (.error e : R β) := by
  cases e <;> simp_all [Safe]

theorem Safe.err {P : α → Prop} {Q : β → Prop} {r : R α} {e : Stop} (h : Safe P r) (he : r = .error e) :
    Safe Q (.error e : R β) := (he ▸ h).of_error

theorem Safe.mono {P Q : α → Prop} {r : R α} (h : Safe P r) (hpq : ∀ a, P a → Q a) : Safe Q r := by
  match r, h with
  | .ok (a, _), h => exact hpq a h
  | .error .outOfRandom, _ => trivial

/-- strengthen the postcondition with facts that follow from the equation `r = ok …` (theorems such as `C04.intn_lt` are
    stated about an `ok` result) -/
theorem Safe.and_ok {P Q : α → Prop} {r : R α} (h : Safe P r) (hq : ∀ a rs, r = .ok (a, rs) → P a → Q a) : Safe Q r := by
  match r, h, hq with
  | .ok (a, rs), h, hq => exact hq a rs rfl h
  | .error .outOfRandom, _, _ => trivial

theorem Safe.ne {P : α → Prop} {r : R α} (h : Safe P r) (msg : String) : r ≠ .error (.error msg) := by
  intro e; rw [e] at h; exact h

theorem Safe.post {P : α → Prop} {r : R α} (h : Safe P r) {a : α} {rs : List Nat} (e : r = .ok (a, rs)) : P a := by
  rw [e] at h; exact h

theorem safe_of_ne {r : R α} (h : ∀ msg, r ≠ .error (.error msg)) : Safe (fun _ => True) r := by
  match r, h with
  | .ok (a, _), _ => trivial
  | .error .outOfRandom, _ => trivial
  | .error (.error m), h => exact absurd rfl (h m)

theorem SafeE.of_error {P : α → Prop} {Q : β → Prop} {e : Stop} (h : SafeE P (.error e : Except Stop α)) : Safe Q (.error e : R β) :=
  absurd h (by simp [SafeE])

theorem SafeE.of_errorE {P : α → Prop} {Q : β → Prop} {e : Stop} (h : SafeE P (.error e : Except Stop α)) :
    SafeE Q (.error e : Except Stop β) := absurd h (by simp [SafeE])

theorem SafeE.err {P : α → Prop} {Q : β → Prop} {r : Except Stop α} {e : Stop} (h : SafeE P r) (he : r = .error e) :
    Safe Q (.error e : R β) := (he ▸ h).of_error

theorem SafeE.errE {P : α → Prop} {Q : β → Prop} {r : Except Stop α} {e : Stop} (h : SafeE P r) (he : r = .error e) :
    SafeE Q (.error e : Except Stop β) := (he ▸ h).of_errorE

theorem SafeE.ok {P : α → Prop} {r : Except Stop α} (h : SafeE P r) : ∃ a, r = .ok a ∧ P a := by
  match r, h with
  | .ok a, h => exact ⟨a, rfl, h⟩

theorem SafeE.post {P : α → Prop} {r : Except Stop α} (h : SafeE P r) {a : α} (e : r = .ok a) : P a := by
  rw [e] at h; exact h

theorem SafeE.mono {P Q : α → Prop} {r : Except Stop α} (h : SafeE P r) (hpq : ∀ a, P a → Q a) : SafeE Q r := by
  match r, h with
  | .ok a, h => exact hpq a h

/-- the raw stream consists of 63-bit values — what `rand.Int63()` returns (DESIGN §2.3).  The float facts
    (`UnitMulLe`, `PickLaw`) speak about draws in `[0,1)`, i.e. about such raw values only. -/
def Valid (rs : List Nat) : Prop := ∀ x ∈ rs, x < 2 ^ 63
instance (rs : List Nat) : Decidable (Valid rs) := by unfold Valid; infer_instance

/-- every computation of the model returns an unconsumed rest of its input stream (C17, `PrefixDet`) -/
theorem _root_.GoNeat.Det.valid {m : Rand α} (hm : Det m) {rs rs' : List Nat} {a : α} (hv : Valid rs) (he : m rs = .ok (a, rs')) :
    Valid rs' := by
  obtain ⟨used, hu, _⟩ := hm.ok rs a rs' he
  intro x hx; exact hv x (by rw [hu]; exact List.mem_append_right _ hx)

/-- `rand.Float64` returns a unit-interval draw different from 1, made of a raw value of the stream -/
def IsDraw (rs : List Nat) (f : W) : Prop := ∃ x ∈ rs, f = ofUnit63 x ∧ eq f one = false

theorem safe_float64 (rs : List Nat) : Safe (IsDraw (W := W) rs) (Rand.float64 (W := W) rs) := by
  induction rs with
  | nil => simp [Rand.float64, Safe]
  | cons x rs ih =>
    unfold Rand.float64
    simp only
    split
    · exact ih.mono (fun f ⟨y, hy, h⟩ => ⟨y, List.mem_cons_of_mem _ hy, h⟩)
    · rename_i h
      exact ⟨x, List.mem_cons_self, rfl, by simpa using h⟩

theorem safe_float32 (rs : List Nat) : Safe (fun _ => True) (Rand.float32Ge03 W rs) := by
  induction rs with
  | nil => simp [Rand.float32Ge03, Safe]
  | cons x rs ih =>
    unfold Rand.float32Ge03
    simp only
    split
    · exact ih
    · split
      · exact ih
      · trivial

theorem safe_int31nLoop (n max : Nat) (rs : List Nat) : Safe (fun _ => True) (Rand.int31nLoop n max rs) := by
  induction rs with
  | nil => simp [Rand.int31nLoop, Safe]
  | cons x rs ih =>
    unfold Rand.int31nLoop
    simp only
    split
    · exact ih
    · trivial

theorem safe_intn (n : Nat) (hn : 0 < n) (rs : List Nat) : Safe (fun k => k < n) (Rand.intn n rs) := by
  have h0 : Safe (fun _ => True) (Rand.intn n rs) := by
    unfold Rand.intn
    split
    · omega
    · split
      · split <;> trivial
      · exact safe_int31nLoop _ _ _
  exact h0.and_ok (fun a rs' e _ => C04.intn_lt n rs rs' a e)

theorem safe_randSign (rs : List Nat) : Safe (fun _ => True) (Rand.randSign rs) := by
  cases rs <;> simp [Rand.randSign, Safe]

theorem safe_signedUnit (rs : List Nat) : Safe (fun _ => True) (Rand.signedUnit (W := W) rs) := by
  unfold Rand.signedUnit
  have h1 := safe_randSign rs
  split
  · next e he => exact h1.err he
  · next s rs1 he =>
    have h2 := safe_float64 (W := W) rs1
    split
    · next e he2 => exact h2.err he2
    · trivial

end GoNeat.NoErr
