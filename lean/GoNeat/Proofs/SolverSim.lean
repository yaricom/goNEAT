/-
  A solver is a machine: calls (`step`), sequences of calls (`run`), a reset (`Flush`) and a fresh state.  C13 for such
  a machine is `FlushFresh`: a relation `E` that every call respects (what it ignores is dead state; neither symmetry
  nor transitivity is asked of it), an invariant of all histories, and "the reset of a state with the invariant is
  `E`-related to the fresh state"; flush = fresh, independence of earlier calls and deadness follow once
  (`FlushFresh.flushed`, `.like_fresh`, `.dead`).

  Below the calls are the drivers shared by the four solver models (`ActivateSteps` loop, `ForwardSteps` / `Relax`
  loop, the calls of a standard network `stdStep`) as functions of their leaves, and the one fact about them that every
  congruence, refinement, truncation and invariant proof needs: a simulation between the leaves lifts through each
  driver (an invariant `P` is the simulation `fun s t => s = t ∧ P s` of a leaf with itself).  The models' own loops
  and calls are instances (`*_eq` next to their users).
-/
import GoNeat.Model.Solver

namespace GoNeat.Solver

variable {S T O B : Type}

def Sim (Rel : S → T → Prop) (f : S → S × B) (g : T → T × B) : Prop :=
  ∀ s t, Rel s t → Rel (f s).1 (g t).1 ∧ (f s).2 = (g t).2

abbrev Respects (Rel : S → S → Prop) (f : S → S × B) : Prop := Sim Rel f f

def Pres (P : S → Prop) (f : S → S × B) : Prop := ∀ s, P s → P (f s).1

theorem sim_of_pres {P : S → Prop} {f : S → S × B} (h : Pres P f) : Respects (fun s t => s = t ∧ P s) f :=
  fun s _ hst => hst.1 ▸ ⟨⟨rfl, h s hst.2⟩, rfl⟩

theorem sim_cases {Rel : S → T → Prop} {f : S → S × B} {g : T → T × B} {s : S} {t : T}
    (h : Rel (f s).1 (g t).1 ∧ (f s).2 = (g t).2) : ∃ s' t' b, f s = (s', b) ∧ g t = (t', b) ∧ Rel s' t' :=
  ⟨_, _, _, rfl, Prod.ext rfl h.2.symm, h.1⟩

theorem fuel_mono_le {A V : Type} {F : Nat → A → Option V} (h : ∀ f i v, F f i = some v → F (f + 1) i = some v)
    {f g : Nat} (hfg : f ≤ g) (i : A) (v : V) (hv : F f i = some v) : F g i = some v := by
  induction g with
  | zero => exact Nat.le_zero.mp hfg ▸ hv
  | succ g ih =>
    rcases Nat.lt_or_eq_of_le hfg with hlt | heq
    · exact h g i v (ih (Nat.le_of_lt_succ hlt))
    · exact heq ▸ hv

def seqE (f g : S → S × Option Err) (s : S) : S × Option Err :=
  match f s with
  | (s2, some e) => (s2, some e)
  | (s2, none) => g s2

def foldE {α : Type} (f : S → α → S × Option Err) : List α → S → S × Option Err
  | [] => fun s => (s, none)
  | a :: l => seqE (fun s => f s a) (foldE f l)

/-- the `for n.OutputIsOff() || !oneTime` loop of `ActivateSteps` over one pass `body` of the sweeps -/
def actLoopG (off : S → Bool) (body : S → S × Option Err) (maxSteps : Int) :
    Nat → Nat → Bool → S → S × Bool × Option Err
  | 0, _, _, s => (s, false, some .fuel)
  | fuel + 1, abort, oneTime, s =>
    if off s || !oneTime then
      if (abort : Int) ≥ maxSteps then (s, false, some .exceeded)
      else
        match body s with
        | (s2, some e) => (s2, false, some e)
        | (s2, none) => actLoopG off body maxSteps fuel (abort + 1) true s2
    else (s, true, none)

/-- `maxSteps.toNat + 2` is the fuel the model gives the loop (`Solver.activateSteps`; the Go loop has none): it makes at most
    `maxSteps` passes and one more test of `abort ≥ maxSteps`, so at most `maxSteps + 1` of it are used and it does not run out -/
def activateStepsG (off : S → Bool) (body : S → S × Option Err) (maxSteps : Int) (s : S) : S × Bool × Option Err :=
  if maxSteps == 0 then (s, false, some .zeroSteps)
  else actLoopG off body maxSteps (maxSteps.toNat + 2) 0 false s

/-- the loop of `ForwardSteps` (`stop` never) and of `Relax` (`stop` = the flag `isRelaxed`) over one step `body` -/
def iterE (body : S → S × Bool × Option Err) (stop : Bool → Bool) : Nat → Bool → S → S × Bool × Option Err
  | 0, res, s => (s, res, none)
  | k + 1, _, s =>
    match body s with
    | (s', _, some e) => (s', false, some e)
    | (s', r, none) => if stop r then (s', r, none) else iterE body stop k r s'

theorem iterE_unique {body : S → S × Bool × Option Err} {stop : Bool → Bool} {g : Nat → Bool → S → S × Bool × Option Err}
    (h0 : ∀ res s, g 0 res s = (s, res, none))
    (h1 : ∀ k res s, g (k + 1) res s =
      match body s with
      | (s', _, some e) => (s', false, some e)
      | (s', r, none) => if stop r then (s', r, none) else g k r s') : g = iterE body stop := by
  funext k
  induction k with
  | zero => funext res s; exact h0 res s
  | succ k ih =>
    funext res s
    rw [h1, ih, iterE]

def forwardStepsG (act : S → S × Bool × Option Err) (steps : Int) (s : S) : S × Bool × Option Err :=
  if steps == 0 then (s, false, some .zeroSteps) else iterE act (fun _ => false) steps.toNat false s

structure IsRun (step : S → O → S × B) (run : List O → S → S × List B) : Prop where
  nil : ∀ s, run [] s = (s, [])
  cons : ∀ op ops s, run (op :: ops) s = ((run ops (step s op).1).1, (step s op).2 :: (run ops (step s op).1).2)

/-- the calls of a standard network over their leaves (`depth`: the depth query of `RecursiveSteps`, new marks and depth;
    `guard`: the error with which `RecursiveSteps` is refused, if any).  The leaves are explicit arguments, not a record:
    unifying a record projection `L.body` with a model function unfolds the model function first, which is dear. -/
def stdStep {W : Type} (off : S → Bool) (body : S → S × Option Err) (load : List W → S → S × Option Err)
    (guard : Option Err) (depth : S → S × Int) (flush : S → S × Bool × Option Err) (s : S) :
    Op W → S × Bool × Option Err
  | .load xs => let r := load xs s; (r.1, r.2.isNone, r.2)
  | .activate n => activateStepsG off body n s
  | .forward n => forwardStepsG (activateStepsG off body n) n s
  | .recursive =>
    match guard with
    | some e => (s, false, some e)
    | none => forwardStepsG (activateStepsG off body (depth s).2) (depth s).2 (depth s).1
  | .relax => (s, false, some .notImpl)
  | .flush => flush s

def withObs {W : Type} (outs : S → List W) (f : S → O → S × Bool × Option Err) (s : S) (op : O) : S × Obs W :=
  ((f s op).1, { res := (f s op).2.1, err := (f s op).2.2, outs := outs (f s op).1 })

namespace Sim
variable {Rel : S → T → Prop}

theorem seq {f g : S → S × Option Err} {f' g' : T → T × Option Err} (hf : Sim Rel f f') (hg : Sim Rel g g') :
    Sim Rel (seqE f g) (seqE f' g') := by
  intro s t h
  unfold seqE
  obtain ⟨s2, t2, e, hs, ht, h1⟩ := sim_cases (hf s t h)
  rw [hs, ht]
  cases e with
  | some e => exact ⟨h1, rfl⟩
  | none => exact hg s2 t2 h1

theorem fold {α : Type} {f : S → α → S × Option Err} {g : T → α → T × Option Err} (l : List α)
    (h : ∀ a ∈ l, Sim Rel (fun s => f s a) (fun t => g t a)) : Sim Rel (foldE f l) (foldE g l) := by
  induction l with
  | nil => exact fun _ _ h => ⟨h, rfl⟩
  | cons a l ih =>
    exact seq (h a (List.mem_cons_self ..)) (ih fun b hb => h b (List.mem_cons_of_mem _ hb))

theorem foldl {α : Type} {f : S → α → S} {g : T → α → T} (l : List α)
    (h : ∀ a ∈ l, ∀ s t, Rel s t → Rel (f s a) (g t a)) {s : S} {t : T} (hst : Rel s t) :
    Rel (l.foldl f s) (l.foldl g t) := by
  induction l generalizing s t with
  | nil => exact hst
  | cons a l ih =>
    exact ih (fun b hb => h b (List.mem_cons_of_mem _ hb)) (h a (List.mem_cons_self ..) s t hst)

theorem actLoop {off : S → Bool} {off' : T → Bool} {body : S → S × Option Err} {body' : T → T × Option Err}
    (ho : ∀ s t, Rel s t → off s = off' t) (hb : Sim Rel body body') (n : Int) (fuel abort : Nat) (one : Bool) :
    Sim Rel (actLoopG off body n fuel abort one) (actLoopG off' body' n fuel abort one) := by
  induction fuel generalizing abort one with
  | zero => exact fun _ _ h => ⟨h, rfl⟩
  | succ fuel ih =>
    intro s t h
    unfold Solver.actLoopG
    rw [ho s t h]
    split
    · split
      · exact ⟨h, rfl⟩
      · obtain ⟨s2, t2, e, hs, ht, h1⟩ := sim_cases (hb s t h)
        rw [hs, ht]
        cases e with
        | some e => exact ⟨h1, rfl⟩
        | none => exact ih (abort + 1) true s2 t2 h1
    · exact ⟨h, rfl⟩

theorem activateSteps {off : S → Bool} {off' : T → Bool} {body : S → S × Option Err} {body' : T → T × Option Err}
    (ho : ∀ s t, Rel s t → off s = off' t) (hb : Sim Rel body body') (n : Int) :
    Sim Rel (activateStepsG off body n) (activateStepsG off' body' n) := by
  intro s t h
  unfold Solver.activateStepsG
  split
  · exact ⟨h, rfl⟩
  · exact actLoop ho hb n _ 0 false s t h

theorem iter {body : S → S × Bool × Option Err} {body' : T → T × Bool × Option Err} (hb : Sim Rel body body')
    (stop : Bool → Bool) (k : Nat) (res : Bool) : Sim Rel (iterE body stop k res) (iterE body' stop k res) := by
  induction k generalizing res with
  | zero => exact fun _ _ h => ⟨h, rfl⟩
  | succ k ih =>
    intro s t h
    unfold Solver.iterE
    obtain ⟨s', t', ⟨r, e⟩, hs, ht, h1⟩ := sim_cases (hb s t h)
    rw [hs, ht]
    cases e with
    | some e => exact ⟨h1, rfl⟩
    | none =>
      simp only
      split
      · exact ⟨h1, rfl⟩
      · exact ih r s' t' h1

theorem forwardSteps {act : S → S × Bool × Option Err} {act' : T → T × Bool × Option Err} (hb : Sim Rel act act')
    (n : Int) : Sim Rel (forwardStepsG act n) (forwardStepsG act' n) := by
  intro s t h
  unfold Solver.forwardStepsG
  split
  · exact ⟨h, rfl⟩
  · exact iter hb _ _ false s t h

theorem run {step : S → O → S × B} {step' : T → O → T × B} {r : List O → S → S × List B} {r' : List O → T → T × List B}
    (hr : IsRun step r) (hr' : IsRun step' r') (hb : ∀ op, Sim Rel (fun s => step s op) (fun t => step' t op))
    (ops : List O) : Sim Rel (r ops) (r' ops) := by
  induction ops with
  | nil =>
    intro s t h
    rw [hr.nil, hr'.nil]
    exact ⟨h, rfl⟩
  | cons op ops ih =>
    intro s t h
    obtain ⟨h1, h2⟩ := hb op s t h
    obtain ⟨h3, h4⟩ := ih _ _ h1
    rw [hr.cons, hr'.cons]
    exact ⟨h3, by rw [h2, h4]⟩

theorem withObs {W : Type} {f : S → O → S × Bool × Option Err} {g : T → O → T × Bool × Option Err} {outs : S → List W}
    {outs' : T → List W} (hf : ∀ op, Sim Rel (fun s => f s op) (fun t => g t op)) (ho : ∀ s t, Rel s t → outs s = outs' t)
    (op : O) : Sim Rel (fun s => Solver.withObs outs f s op) (fun t => Solver.withObs outs' g t op) := by
  intro s t h
  obtain ⟨h1, h2⟩ := hf op s t h
  exact ⟨h1, by simp only [Solver.withObs, h2, ho _ _ h1]⟩

end Sim

section
variable {W : Type} {off : S → Bool} {body : S → S × Option Err} {load : List W → S → S × Option Err} {guard : Option Err}
  {depth : S → S × Int} {flush : S → S × Bool × Option Err}

theorem Sim.stdStep {Rel : S → T → Prop} {off' : T → Bool} {body' : T → T × Option Err}
    {load' : List W → T → T × Option Err} {depth' : T → T × Int} {flush' : T → T × Bool × Option Err}
    (hoff : ∀ s t, Rel s t → off s = off' t) (hbody : Sim Rel body body') (hload : ∀ xs, Sim Rel (load xs) (load' xs))
    (hdepth : guard = none → Sim Rel depth depth') (hflush : Sim Rel flush flush') (op : Op W) :
    Sim Rel (fun s => Solver.stdStep off body load guard depth flush s op)
      (fun t => Solver.stdStep off' body' load' guard depth' flush' t op) := by
  cases op with
  | load xs =>
    intro s t h
    obtain ⟨h1, h2⟩ := hload xs s t h
    exact ⟨h1, by simp only [Solver.stdStep, h2]⟩
  | activate n => exact Sim.activateSteps hoff hbody n
  | forward n => exact Sim.forwardSteps (Sim.activateSteps hoff hbody n) n
  | recursive =>
    intro s t h
    simp only [Solver.stdStep]
    cases guard with
    | some e => exact ⟨h, rfl⟩
    | none =>
      obtain ⟨h1, h2⟩ := hdepth rfl s t h
      simp only [← h2]
      exact Sim.forwardSteps (Sim.activateSteps hoff hbody _) _ _ _ h1
  | relax => exact fun _ _ h => ⟨h, rfl⟩
  | flush => exact hflush

end

theorem Pres.run {P : S → Prop} {step : S → O → S × B} {r : List O → S → S × List B} (hr : IsRun step r)
    (h : ∀ op, Pres P (fun s => step s op)) (ops : List O) : Pres P (r ops) :=
  fun s hs => (Sim.run hr hr (fun op => sim_of_pres (h op)) ops s s ⟨rfl, hs⟩).1.2

theorem IsRun.ext {step step' : S → O → S × B} {r r' : List O → S → S × List B} (hr : IsRun step r) (hr' : IsRun step' r')
    (h : ∀ s op, step s op = step' s op) (ops : List O) (s : S) : r ops s = r' ops s :=
  have := Sim.run (Rel := Eq) hr hr' (fun op s t e => by subst e; exact ⟨congrArg Prod.fst (h s op), congrArg Prod.snd (h s op)⟩) ops s s rfl
  Prod.ext this.1 this.2

/-- C13 for a machine: `E` = equality up to dead state, `I` = what every history keeps, `ok` = what a successful reset reports -/
structure FlushFresh {R : Type} (step : S → O → S × B) (run : List O → S → S × List B) (reset : S → S × R) (init : S)
    (E : S → S → Prop) (I : S → Prop) (ok : R) : Prop where
  isRun : IsRun step run
  congr : ∀ op, Respects E (fun s => step s op)
  keeps : ∀ op, Pres I (fun s => step s op)
  fresh : I init
  flush : ∀ s, I s → (reset s).2 = ok ∧ E (reset s).1 init

namespace FlushFresh
variable {R : Type} {step : S → O → S × B} {run : List O → S → S × List B} {reset : S → S × R} {init : S}
  {E : S → S → Prop} {I : S → Prop} {ok : R} (h : FlushFresh step run reset init E I ok)
include h

/-- dead state is never read -/
theorem dead (ops : List O) : Respects E (run ops) := Sim.run h.isRun h.isRun h.congr ops

theorem reach (hist : List O) : I (run hist init).1 := Pres.run h.isRun h.keeps hist init h.fresh

theorem flushed (hist : List O) : (reset (run hist init).1).2 = ok ∧ E (reset (run hist init).1).1 init :=
  h.flush _ (h.reach hist)

/-- independence of earlier calls -/
theorem like_fresh (hist ops : List O) : (run ops (reset (run hist init).1).1).2 = (run ops init).2 :=
  (h.dead ops _ _ (h.flushed hist).2).2

end FlushFresh

end GoNeat.Solver
