/-
  C12, fast solver, Kind A part: on an acyclic fast network the recursive activation evaluates every neuron it
  reaches exactly once and leaves in `neuronSignals` the feed-forward value `fvalNode` of the fast representation
  (sum over `reverseAdjacentList` with `adjacentMatrix` weights from 0, then the bias, then the activation) - same
  operations in the same order, so the statement is exact for every scalar type.

  This file also HOLDS the specification functions `adjSum`, `fvalNode` and `biased` (the fast counterpart of
  `SolverSpec.evalNode`; the statements of C12 mention them): the differential driver runs `fvalNode` on the Go side's
  networks (Driver/FastHand.lean imports Proofs/FastFFAll for it), so they must stay executable and where they are.
-/
import GoNeat.Proofs.FastFlush

set_option linter.unusedSectionVars false

namespace GoNeat.Fast
open GoNeat.Solver (Err)

variable {W : Type} [Scalar W]

/-- `acc + Σ ev(adj)·adjacentMatrix[adj][cur]` over a list of sources, in list order -/
def adjSum (fn : FastNet W) (ev : Nat → Option W) (cur : Nat) : List Nat → W → Option W
  | [], acc => some acc
  | adj :: rest, acc =>
    match ev adj with
    | none => none
    | some v => adjSum fn ev cur rest (Scalar.add acc (Scalar.mul v (matW fn adj cur)))

/-- the feed-forward function of the fast representation; `sig i` is the signal of sensor `i` -/
def fvalNode (fn : FastNet W) (σ : Nat → W → Option W) (sig : Nat → W) : Nat → Nat → Option W
  | 0, _ => none
  | f + 1, i =>
    if i < fn.nSensor then some (sig i)
    else
      match adjSum fn (fvalNode fn σ sig f) i (revAdj fn i) Scalar.zero with
      | none => none
      | some x => σ (fn.acts.getD i 0) (if fn.nBias > 0 then Scalar.add x (getW fn.biasList i) else x)

theorem adjSum_mono (fn : FastNet W) (e1 e2 : Nat → Option W) (h : ∀ j v, e1 j = some v → e2 j = some v) (cur : Nat)
    (adjs : List Nat) (acc x : W) (hx : adjSum fn e1 cur adjs acc = some x) : adjSum fn e2 cur adjs acc = some x := by
  induction adjs generalizing acc with
  | nil => exact hx
  | cons a rest ih =>
    unfold adjSum at hx ⊢
    cases h1 : e1 a with
    | none => rw [h1] at hx; simp at hx
    | some v => rw [h1] at hx; rw [h a v h1]; exact ih _ hx

theorem fvalNode_mono (fn : FastNet W) (σ : Nat → W → Option W) (sig : Nat → W) (f : Nat) :
    ∀ i v, fvalNode fn σ sig f i = some v → fvalNode fn σ sig (f + 1) i = some v := by
  induction f with
  | zero => intro i v h; simp [fvalNode] at h
  | succ f ih =>
    intro i v h
    unfold fvalNode at h ⊢
    by_cases hs : i < fn.nSensor
    · simpa [hs] using h
    · simp only [hs, if_false] at h ⊢
      cases hsum : adjSum fn (fvalNode fn σ sig f) i (revAdj fn i) Scalar.zero with
      | none => rw [hsum] at h; simp at h
      | some x =>
        rw [hsum] at h
        rw [adjSum_mono fn _ _ ih i _ _ x hsum]
        exact h

theorem fvalNode_mono_le (fn : FastNet W) (σ : Nat → W → Option W) (sig : Nat → W) (f g : Nat) (hfg : f ≤ g)
    (i : Nat) (v : W) (h : fvalNode fn σ sig f i = some v) : fvalNode fn σ sig g i = some v :=
  Solver.fuel_mono_le (fvalNode_mono fn σ sig) hfg i v h

/-- acyclic fast network: every connection goes from a lower to a higher rank, inside the arrays; ranks bounded -/
structure FFFast (fn : FastNet W) (lvl : Nat → Nat) : Prop where
  conn : ∀ c ∈ fn.conns, lvl c.src < lvl c.dst ∧ c.src < fn.nTotal
  bound : ∀ j, j < fn.nTotal → lvl j ≤ fn.nTotal
  outs : fn.nSensor + fn.nOutput ≤ fn.nTotal

theorem revAdj_mem (fn : FastNet W) (lvl : Nat → Nat) (h : FFFast fn lvl) (cur a : Nat) (ha : a ∈ revAdj fn cur) :
    lvl a < lvl cur ∧ a < fn.nTotal := by
  unfold revAdj at ha
  simp only [List.mem_map, List.mem_filter, beq_iff_eq] at ha
  obtain ⟨c, ⟨hc, hd⟩, rfl⟩ := ha
  have := h.conn c hc
  rw [hd] at this
  exact this

/-- `RI` (recursion invariant) of `RecursiveSteps`: array lengths; sensors are marked and hold `sig`; every marked node
    holds its value -/
structure RI (fn : FastNet W) (σ : Nat → W → Option W) (sig : Nat → W) (lvl : Nat → Nat) (s : FState W) : Prop where
  lenS : s.signals.length = fn.nTotal
  lenP : s.processing.length = fn.nTotal
  lenA : s.activated.length = fn.nTotal
  lenI : s.inAct.length = fn.nTotal
  sens : ∀ j, j < fn.nSensor → j < fn.nTotal → getB s.activated j = true ∧ getW s.signals j = sig j
  val : ∀ j, j < fn.nTotal → getB s.activated j = true → fvalNode fn σ sig (lvl j + 1) j = some (getW s.signals j)

theorem RI_addProc {fn : FastNet W} {σ : Nat → W → Option W} {sig : Nat → W} {lvl : Nat → Nat} {s : FState W}
    (h : RI fn σ sig lvl s) (cur : Nat) (x : W) : RI fn σ sig lvl (addProc s cur x) :=
  ⟨h.lenS, by simp [addProc, h.lenP], h.lenA, h.lenI, h.sens, h.val⟩

/-- `Post cur s s'`, what a successful call of `recursiveActivateNode` on `cur` from `s` guarantees of its final state `s'`:
    the invariant `RI`; the stack marks `inActivation` are as before; `cur` is marked; no processing cell of a node of
    higher rank has been touched (those belong to callers further up the stack) -/
structure Post (fn : FastNet W) (σ : Nat → W → Option W) (sig : Nat → W) (lvl : Nat → Nat) (cur : Nat)
    (s s' : FState W) : Prop where
  ri : RI fn σ sig lvl s'
  inAct : ∀ j, getB s'.inAct j = getB s.inAct j
  done : getB s'.activated cur = true
  proc : ∀ j, lvl cur < lvl j → getW s'.processing j = getW s.processing j

/-- `AdjPost`, the same for the loop over the sources `adjs` of `cur`: besides, the cell of `cur` has grown by their weighted
    values -/
structure AdjPost (fn : FastNet W) (σ : Nat → W → Option W) (sig : Nat → W) (lvl : Nat → Nat) (cur : Nat)
    (adjs : List Nat) (s s' : FState W) : Prop where
  ri : RI fn σ sig lvl s'
  inAct : ∀ j, getB s'.inAct j = getB s.inAct j
  proc : ∀ j, j ≠ cur → lvl cur ≤ lvl j → getW s'.processing j = getW s.processing j
  sum : adjSum fn (fvalNode fn σ sig (lvl cur)) cur adjs (getW s.processing cur) = some (getW s'.processing cur)

theorem recAdj_ff (fn : FastNet W) (σ : Nat → W → Option W) (sig : Nat → W) (lvl : Nat → Nat) (cur : Nat)
    (hcur : cur < fn.nTotal) (rc : Nat → FState W → Res W)
    (hrc : ∀ a s, lvl a < lvl cur → a < fn.nTotal → RI fn σ sig lvl s → getB s.activated a = false →
      (∀ j, getB s.inAct j = true → lvl a < lvl j) → ∃ s', rc a s = (s', true, none) ∧ Post fn σ sig lvl a s s')
    (adjs : List Nat) (hadj : ∀ a ∈ adjs, lvl a < lvl cur ∧ a < fn.nTotal) (s : FState W) (hri : RI fn σ sig lvl s)
    (hstack : ∀ j, getB s.inAct j = true → lvl cur ≤ lvl j) :
    ∃ s', recAdj fn rc cur adjs s = (s', none) ∧ AdjPost fn σ sig lvl cur adjs s s' := by
  induction adjs generalizing s with
  | nil => exact ⟨s, rfl, hri, fun _ => rfl, fun _ _ _ => rfl, rfl⟩
  | cons a rest ih =>
    obtain ⟨hla, hat⟩ := hadj a (List.mem_cons_self ..)
    have hrest : ∀ a' ∈ rest, lvl a' < lvl cur ∧ a' < fn.nTotal := fun a' h' => hadj a' (List.mem_cons_of_mem _ h')
    -- `a` is not on the stack
    have hnot : getB s.inAct a = false := by
      cases h : getB s.inAct a with
      | false => rfl
      | true => have := hstack a h; omega
    -- continuation once `a` is marked in a state s1 that agrees with s above rank(a)
    have key : ∀ (s1 : FState W), RI fn σ sig lvl s1 → getB s1.activated a = true →
        (∀ j, getB s1.inAct j = getB s.inAct j) →
        (∀ j, lvl a < lvl j → getW s1.processing j = getW s.processing j) →
        ∃ s', recAdj fn rc cur rest (addProc s1 cur (Scalar.mul (getW s1.signals a) (matW fn a cur))) = (s', none) ∧
          AdjPost fn σ sig lvl cur (a :: rest) s s' := by
      intro s1 hri1 hact1 hin1 hproc1
      obtain ⟨s', hrun, i2, i3, i4, i5⟩ := ih hrest _ (RI_addProc hri1 cur _)
        (fun j hj => hstack j (by rw [← hin1 j]; exact hj))
      have hclen : cur < s1.processing.length := by rw [hri1.lenP]; exact hcur
      refine ⟨s', hrun, i2, fun j => by rw [i3 j]; exact hin1 j, fun j hj hl => ?_, ?_⟩
      · rw [i4 j hj hl]
        simp only [addProc]
        rw [getW_set_ne _ _ hj]
        exact hproc1 j (by omega)
      · unfold adjSum
        have hv' : fvalNode fn σ sig (lvl cur) a = some (getW s1.signals a) :=
          fvalNode_mono_le fn σ sig _ _ (by omega) a _ (hri1.val a hat hact1)
        simp only [hv']
        rw [← i5]
        congr 1
        simp only [addProc]
        rw [getW_set_self _ _ hclen, hproc1 cur hla]
    unfold recAdj
    simp only [hnot, Bool.false_eq_true, if_false]
    cases hact : getB s.activated a with
    | false =>
      simp only [Bool.not_false, if_true]
      obtain ⟨s', hcall, r2⟩ := hrc a s hla hat hri hact (fun j hj => by have := hstack j hj; omega)
      rw [hcall]
      exact key s' r2.ri r2.done r2.inAct r2.proc
    | true =>
      simp only [Bool.not_true, Bool.false_eq_true, if_false]
      exact key s hri hact (fun _ => rfl) (fun _ _ => rfl)

/-- a call of `recursiveActivateNode` on an unmarked node whose stack lies strictly above it -/
theorem recNode_ff (fn : FastNet W) (σ : Nat → W → Option W) (sig : Nat → W) (lvl : Nat → Nat) (hff : FFFast fn lvl)
    (hσ : ∀ i, fn.nSensor ≤ i → i < fn.nTotal → ∀ x, (σ (fn.acts.getD i 0) x).isSome = true) (fuel : Nat) :
    ∀ (cur : Nat) (s : FState W), lvl cur < fuel → cur < fn.nTotal → RI fn σ sig lvl s →
      getB s.activated cur = false → (∀ j, getB s.inAct j = true → lvl cur < lvl j) →
      ∃ s', recNode fn σ fuel cur s = (s', true, none) ∧ Post fn σ sig lvl cur s s' := by
  induction fuel with
  | zero => intro cur s h; omega
  | succ fuel ih =>
    intro cur s hfuel hcur hri hact hstack
    unfold recNode
    simp only [hact, Bool.false_eq_true, if_false]
    have hnotI : getB s.inAct cur = false := by
      cases h : getB s.inAct cur with
      | false => rfl
      | true => have := hstack cur h; omega
    have hri1 : RI fn σ sig lvl (recStart s cur) :=
      ⟨hri.lenS, by simp [recStart, hri.lenP], hri.lenA, by simp [recStart, hri.lenI], hri.sens, hri.val⟩
    have hstack1 : ∀ j, getB (recStart s cur).inAct j = true → lvl cur ≤ lvl j := by
      intro j hj
      by_cases hjc : j = cur
      · subst hjc; omega
      · simp only [recStart] at hj
        rw [getB_set_ne _ _ hjc] at hj
        have := hstack j hj; omega
    obtain ⟨s2, hloop, l2, l3, l4, l5⟩ := recAdj_ff fn σ sig lvl cur hcur (recNode fn σ fuel)
      (fun a s' hla hat hr ha hs => ih a s' (by omega) hat hr ha hs) (revAdj fn cur)
      (fun a ha => revAdj_mem fn lvl hff cur a ha) (recStart s cur) hri1 hstack1
    rw [hloop]
    simp only
    have hzero : getW (recStart s cur).processing cur = Scalar.zero := by
      simp only [recStart]
      exact getW_set_self _ _ (by rw [hri.lenP]; exact hcur)
    rw [hzero] at l5
    have hneuron : fn.nSensor ≤ cur := by
      apply Nat.le_of_not_lt
      intro hlt
      have := (hri.sens cur hlt hcur).1
      rw [hact] at this
      simp at this
    unfold recFinish
    simp only
    have hsome := hσ cur hneuron hcur
      (if fn.nBias > 0 then Scalar.add (getW s2.processing cur) (getW fn.biasList cur) else getW s2.processing cur)
    cases hout : σ (fn.acts.getD cur 0)
        (if fn.nBias > 0 then Scalar.add (getW s2.processing cur) (getW fn.biasList cur) else getW s2.processing cur) with
    | none => rw [hout] at hsome; simp at hsome
    | some v =>
      simp only
      refine ⟨_, rfl, ⟨by simp [l2.lenS], by simp [l2.lenP], by simp [l2.lenA], by simp [l2.lenI], ?_, ?_⟩, ?_, ?_, ?_⟩
      · intro j hj hjt
        have hjc : j ≠ cur := by omega
        simp only
        rw [getB_set_ne _ _ hjc, getW_set_ne _ _ hjc]
        exact l2.sens j hj hjt
      · intro j hjt hja
        simp only at hja ⊢
        by_cases hjc : j = cur
        · subst hjc
          rw [getW_set_self _ _ (by rw [l2.lenS]; exact hcur)]
          unfold fvalNode
          have : ¬ j < fn.nSensor := by omega
          simp only [this, if_false]
          rw [l5]
          exact hout
        · rw [getW_set_ne _ _ hjc]
          rw [getB_set_ne _ _ hjc] at hja
          exact l2.val j hjt hja
      · -- stack restored
        intro j
        simp only
        by_cases hjc : j = cur
        · subst hjc
          rw [getB_set_self _ _ (by rw [l2.lenI]; exact hcur)]
          exact hnotI.symm
        · rw [getB_set_ne _ _ hjc, l3 j]
          simp only [recStart]
          rw [getB_set_ne _ _ hjc]
      · simp only
        exact getB_set_self _ _ (by rw [l2.lenA]; exact hcur)
      · intro j hj
        have hjc : j ≠ cur := by intro h; subst h; omega
        simp only
        rw [getW_set_ne _ _ hjc, l4 j hjc (by omega)]
        simp only [recStart]
        rw [getW_set_ne _ _ hjc]

theorem recOutputs_ff (fn : FastNet W) (σ : Nat → W → Option W) (sig : Nat → W) (lvl : Nat → Nat) (hff : FFFast fn lvl)
    (hσ : ∀ i, fn.nSensor ≤ i → i < fn.nTotal → ∀ x, (σ (fn.acts.getD i 0) x).isSome = true) (os : List Nat) :
    ∀ (res : Bool) (s : FState W), (∀ o ∈ os, o < fn.nTotal) → RI fn σ sig lvl s → (∀ j, getB s.inAct j = false) →
      ∃ s' r, recOutputs fn σ os res s = (s', r, none) ∧ (os ≠ [] → r = true) ∧ RI fn σ sig lvl s' ∧
        ∀ o ∈ os, getB s'.activated o = true := by
  induction os with
  | nil => intro res s _ hri _; exact ⟨s, res, rfl, fun h => absurd rfl h, hri, fun o ho => absurd ho List.not_mem_nil⟩
  | cons o os ih =>
    intro res s hos hri hin
    have hot : o < fn.nTotal := hos o (List.mem_cons_self ..)
    have hcall : ∃ s', recNode fn σ (fn.nTotal + 1) o s = (s', true, none) ∧ RI fn σ sig lvl s' ∧
        (∀ j, getB s'.inAct j = false) ∧ getB s'.activated o = true := by
      cases hact : getB s.activated o with
      | true =>
        unfold recNode
        simp only [hact, if_true]
        refine ⟨_, rfl, ⟨hri.lenS, hri.lenP, hri.lenA, by simp [hri.lenI], hri.sens, hri.val⟩, fun j => ?_, hact⟩
        rw [getB_set]
        split
        · rfl
        · exact hin j
      | false =>
        obtain ⟨s', c1, c2⟩ := recNode_ff fn σ sig lvl hff hσ (fn.nTotal + 1) o s (by have := hff.bound o hot; omega)
          hot hri hact (fun j hj => by rw [hin j] at hj; simp at hj)
        exact ⟨s', c1, c2.ri, fun j => by rw [c2.inAct j]; exact hin j, c2.done⟩
    obtain ⟨s', hr, c2, c3, c4⟩ := hcall
    obtain ⟨s'', r, hrun, i2, i3, i4⟩ := ih true s' (fun o' h' => hos o' (List.mem_cons_of_mem _ h')) c2 c3
    unfold recOutputs
    rw [hr]
    refine ⟨s'', r, hrun, fun _ => ?_, i3, fun o' ho' => ?_⟩
    · cases os with
      | nil => cases hrun; rfl
      | cons o2 os2 => exact i2 (List.cons_ne_nil _ _)
    · rcases List.mem_cons.mp ho' with rfl | ho'
      · have := (recOutputs_Q fn σ os true s').actMono _ c4
        rw [hrun] at this
        exact this
      · exact i4 o' ho'

/-- what `forwardStep`'s first loop adds to one target cell: the connections into `t`, in connection order -/
def tFold (sig : Nat → W) (cs : List (FLink W)) (x : W) : W :=
  cs.foldl (fun a c => Scalar.add a (Scalar.mul (sig c.src) c.w)) x

theorem connLoop_cell (sig : List W) (cs : List (FLink W)) (p : List W) (t : Nat) (ht : t < p.length) :
    getW (connLoop sig cs p) t = tFold (getW sig) (cs.filter fun c => c.dst == t) (getW p t) := by
  induction cs generalizing p with
  | nil => rfl
  | cons c cs ih =>
    unfold connLoop
    rw [ih _ (by simpa using ht)]
    by_cases hc : c.dst = t
    · subst hc
      simp only [List.filter_cons, beq_self_eq_true, if_true, tFold, List.foldl_cons]
      rw [getW_set_self _ _ ht]
    · have : (c.dst == t) = false := by simpa using hc
      simp only [List.filter_cons, this, Bool.false_eq_true, if_false]
      rw [getW_set_ne _ _ (Ne.symm hc)]

/-- pre-activation value with the bias added as `forwardStep` does (its second loop is `Fast.actLoop`, the loop that applies
    the activation functions - not `Solver.actLoop`, the `ActivateSteps` loop of the standard solver) -/
def biased (fn : FastNet W) (i : Nat) (x : W) : W :=
  if fn.nBias > 0 then Scalar.add x (getW fn.biasList i) else x

theorem actLoop_spec (fn : FastNet W) (σ : Nat → W → Option W) (is : List Nat) :
    ∀ (p : List W), is.Nodup → (∀ i ∈ is, i < p.length ∧ ∀ x, (σ (fn.acts.getD i 0) x).isSome = true) →
      ∃ p', actLoop fn σ is p = (p', none) ∧ p'.length = p.length ∧
        (∀ j, j ∉ is → getW p' j = getW p j) ∧
        (∀ i ∈ is, σ (fn.acts.getD i 0) (biased fn i (getW p i)) = some (getW p' i)) := by
  induction is with
  | nil => intro p _ _; exact ⟨p, rfl, rfl, fun _ _ => rfl, fun i hi => absurd hi List.not_mem_nil⟩
  | cons i is ih =>
    intro p hnd hall
    have hi := hall i (List.mem_cons_self ..)
    obtain ⟨hni, hnd'⟩ := List.nodup_cons.mp hnd
    unfold actLoop
    simp only
    have hsome := hi.2 (biased fn i (getW p i))
    unfold biased at hsome
    cases hout : σ (fn.acts.getD i 0) (if fn.nBias > 0 then Scalar.add (getW p i) (getW fn.biasList i) else getW p i) with
    | none => rw [hout] at hsome; simp at hsome
    | some v =>
      simp only
      obtain ⟨p', a1, a2, a3, a4⟩ := ih (p.set i v) hnd' (fun i' h' =>
        ⟨by simpa using (hall i' (List.mem_cons_of_mem _ h')).1, (hall i' (List.mem_cons_of_mem _ h')).2⟩)
      refine ⟨p', a1, by rw [a2, List.length_set], fun j hj => ?_, fun i' hi' => ?_⟩
      · have hji : j ≠ i := fun h => hj (h ▸ List.mem_cons_self ..)
        rw [a3 j (fun h => hj (List.mem_cons_of_mem _ h)), getW_set_ne _ _ hji]
      · rcases List.mem_cons.mp hi' with rfl | hi'
        · rw [a3 i' hni, getW_set_self _ _ hi.1]
          exact hout
        · have hne : i' ≠ i := fun h => hni (h ▸ hi')
          rw [← a4 i' hi', getW_set_ne _ _ hne]

end GoNeat.Fast
