/-
  C16(b), THREAD OBLIGATIONS, part 2: the thread-local obligation (`PValid`) of a whole species goroutine (`reproduceSpeciesP`, Model/ParEpoch.lean).
  Mating, duplication and the parametric mutators do not touch the registry: the genome a baby starts from is chosen by
  the sequential `planBaby` (`reproduceOneP_eq`), so per thread they are the sequential lemmas of C01 (`Source.closed`,
  `nonstructural_closed`, …) and C03 (`Source.genomeIn`, `mutateAllNonstructural_sameBinds`) against the STATIC registry
  and pool of the epoch's start; the structural mutations are `mutKind_valid` (Proofs/ParFrameMut.lean).

  Postcondition of a goroutine (`SpeciesPost`): it delivers exactly its quota of babies; every baby genome is well-formed
  (`WFT`), is a structural step (`LStep`) of a genome that fits the pool of the epoch's start (`Fits reg0 P0`), and
  its bindings are in the thread's view.
-/
import GoNeat.Proofs.ParFrameMut
import GoNeat.Props.C01
import GoNeat.Proofs.EpochRegistry

set_option linter.unusedSectionVars false

namespace GoNeat.C16
open GoNeat GoNeat.C03 GoNeat.C01 Scalar
variable {W : Type} [Scalar W]

theorem ViewExt.congr {L L' : Local W} {g g' : Genome W} (h : ViewExt L L' g) (hb : gb g' = gb g) (hr : gr g' = gr g) :
    ViewExt L L' g' :=
  ⟨h.subB, h.subR, (h.holds.same hb hr).B, (h.holds.same hb hr).R,
   fun b hb' => (h.exactB b hb').elim .inl (fun h' => .inr (hb ▸ h')),
   fun p hp => (h.exactR p hp).elim .inl (fun h' => .inr (hr ▸ h'))⟩

/-- the registry `reg0` and the population's genomes `P0` at the start of the parallel phase, inside the history `H` -/
structure EpochCtx (reg0 : Reg W) (H P0 : List (Genome W)) : Prop where
  inv : C03.Inv reg0 H
  pool : PoolOk reg0 P0
  cov : ∀ g ∈ P0, GenomeIn H g

def Base (H : List (Genome W)) (L : Local W) : Prop := (∀ b ∈ binds H, b ∈ L.B) ∧ (∀ p ∈ roles H, p ∈ L.R)

def ViewGrow (L L' : Local W) : Prop := (∀ b ∈ L.B, b ∈ L'.B) ∧ (∀ p ∈ L.R, p ∈ L'.R)

theorem ViewGrow.refl (L : Local W) : ViewGrow L L := ⟨fun _ h => h, fun _ h => h⟩
theorem ViewGrow.trans {a b c : Local W} (h1 : ViewGrow a b) (h2 : ViewGrow b c) : ViewGrow a c :=
  ⟨fun x hx => h2.1 x (h1.1 x hx), fun x hx => h2.2 x (h1.2 x hx)⟩
theorem ViewExt.grow {L L' : Local W} {g : Genome W} (h : ViewExt L L' g) : ViewGrow L L' := ⟨h.subB, h.subR⟩
theorem Base.mono {H : List (Genome W)} {L L' : Local W} (h : Base H L) (hg : ViewGrow L L') : Base H L' :=
  ⟨fun b hb => hg.1 b (h.1 b hb), fun p hp => hg.2 p (h.2 p hp)⟩

structure GenOk (reg0 : Reg W) (P0 : List (Genome W)) (B : List Bind) (R : List Role) (g1 : Genome W) : Prop where
  wft : WFT g1
  src : ∃ g0, Fits reg0 P0 g0 ∧ LStep g0 g1
  /-- `Fits reg0 P0 g0` compares `g0` with the members of `P0` only; at the join two babies' ancestors, neither in `P0`, are
      compared through a member (`poolOk_join`), so there has to be one -/
  wit : ∃ x, x ∈ P0
  within : Within g1 B R

theorem GenOk.mono {reg0 : Reg W} {P0 : List (Genome W)} {B B' : List Bind} {R R' : List Role} {g : Genome W}
    (h : GenOk reg0 P0 B R g) (hB : ∀ b ∈ B, b ∈ B') (hR : ∀ r ∈ R, r ∈ R') : GenOk reg0 P0 B' R' g :=
  ⟨h.wft, h.src, h.wit, h.within.mono hB hR⟩

theorem GenOk.of_fits {reg0 : Reg W} {P0 : List (Genome W)} {B : List Bind} {R : List Role} {g x : Genome W} (hx : x ∈ P0)
    (hf : Fits reg0 P0 g) (hh : Within g B R) : GenOk reg0 P0 B R g := ⟨hf.wft, ⟨g, hf, LStep.refl g⟩, ⟨x, hx⟩, hh⟩

theorem fits_headLe {reg0 : Reg W} {P0 : List (Genome W)} {g : Genome W} (hf : Fits reg0 P0 g) : HeadLe reg0.nextInn g :=
  fun h0 h0m => hf.rinv.above.1 h0 (List.mem_of_mem_take h0m)

theorem holds_of_mem {H : List (Genome W)} {L : Local W} (hb : Base H L) {g : Genome W} (hg : GenomeIn H g) : Holds L g :=
  (within_iff.mpr hg).mono hb.1 hb.2

theorem flagTrue_valid {bi : Int} {g0 : Genome W} {L L' : Local W} (r : MRes W) (hp : MutPost g0 L L' r) :
    PValid bi (MutPost g0 L) L' (flagTrue r) := by
  unfold flagTrue
  split
  · exact .done trivial
  · exact .done hp

theorem structStageP_valid {bi : Int} (o : EpochOpts W) (g0 : Genome W) (f1 : W) (rs1 : List Nat) (L : Local W)
    (hw : WFT g0) (hh : Holds L g0) (hd : HeadLe bi g0) : PValid bi (MutPost g0 L) L (structStageP o g0 f1 rs1) := by
  unfold structStageP
  split
  · exact (mutateAddNodeP_valid g0 o.mopts rs1 L hw hh hd).bind (fun L' r hp => flagTrue_valid r hp)
  split
  · exact .done trivial
  split
  · exact (mutateAddLinkP_valid g0 o.mopts _ L hw hh hd).bind (fun L' r hp => flagTrue_valid r hp)
  split
  · exact .done trivial
  split
  · exact mutateConnectSensorsP_valid g0 _ L hw hh hd
  · exact .done ⟨hw, LStep.refl g0, ViewExt.of_holds hh rfl rfl⟩

theorem paramStage_valid {bi : Int} (o : EpochOpts W) {g0 : Genome W} {L L' : Local W} (r : MRes W) (hp : MutPost g0 L L' r) :
    PValid bi (MutPost g0 L) L' (paramStage o r) := by
  unfold paramStage
  split
  · exact .done trivial
  · exact .done hp
  · rename_i g' rs'
    obtain ⟨hw', hs', hv'⟩ := hp
    split
    · exact .done trivial
    · rename_i g'' rs'' hns
      obtain ⟨w, _, _, hsk⟩ := mutateAllNonstructural_wf g' g'' o.mopts rs' rs'' hw' hns
      obtain ⟨e1, e2⟩ := mutateAllNonstructural_sameBinds g' g'' o.mopts rs' rs'' hns
      exact .done ⟨w, hs'.trans (lstep_of_same e1 e2 hsk.tids hsk.mods), hv'.congr e1 e2⟩

theorem mutateBabyP_valid {bi : Int} (o : EpochOpts W) (g0 : Genome W) (rs : List Nat) (L : Local W)
    (hw : WFT g0) (hh : Holds L g0) (hd : HeadLe bi g0) : PValid bi (MutPost g0 L) L (mutateBabyP o g0 rs) := by
  unfold mutateBabyP
  split
  · exact .done trivial
  · exact (structStageP_valid o g0 _ _ L hw hh hd).bind (fun L' r hp => paramStage_valid o r hp)

theorem genOk_of_post {reg0 : Reg W} {P0 : List (Genome W)} {L L' : Local W} {g0 g1 x : Genome W} {b : Bool} {rs' : List Nat}
    (hx : x ∈ P0) (hf : Fits reg0 P0 g0) (hp : MutPost g0 L L' (.ok ((g1, b), rs'))) : GenOk reg0 P0 L'.B L'.R g1 ∧ ViewGrow L L' :=
  ⟨⟨hp.1, ⟨g0, hf, hp.2.1⟩, ⟨x, hx⟩, hp.2.2.holds⟩, hp.2.2.grow⟩

def StOk (reg0 : Reg W) (P0 : List (Genome W)) (L : Local W) (st : ReproState W) : Prop :=
  ∀ b ∈ st.babies, GenOk reg0 P0 L.B L.R b.genome

def OnePost (reg0 : Reg W) (P0 : List (Genome W)) (L : Local W) (st : ReproState W) (L' : Local W) (r : SRes W) : Prop :=
  match r with
  | .error _ => True
  | .ok (st', _) => ViewGrow L L' ∧ StOk reg0 P0 L' st' ∧ st'.babies.length = st.babies.length + 1

theorem stOk_finish {reg0 : Reg W} {P0 : List (Genome W)} {L L' : Local W} {st : ReproState W} (hst : StOk reg0 P0 L st)
    (hg : ViewGrow L L') {g1 : Genome W} (h1 : GenOk reg0 P0 L'.B L'.R g1) (generation : Int) (a b c : Bool) (hf : W) :
    StOk reg0 P0 L' (finishP generation g1 a b c hf st) ∧
    (finishP generation g1 a b c hf st).babies.length = st.babies.length + 1 := by
  refine ⟨fun x hx => ?_, by simp [finishP]⟩
  simp only [finishP, List.mem_append, List.mem_singleton] at hx
  rcases hx with hx | rfl
  · exact (hst x hx).mono hg.1 hg.2
  · exact h1

theorem superChampMutP_valid {bi : Int} (o : EpochOpts W) (g0 : Genome W) (sc : Int) (rs : List Nat) (L : Local W)
    (hw : WFT g0) (hh : Holds L g0) (hd : HeadLe bi g0) : PValid bi (MutPost g0 L) L (superChampMutP o g0 sc rs) := by
  unfold superChampMutP
  split
  · split
    · exact .done trivial
    split
    · split
      · exact .done trivial
      · rename_i g1 rs2 hlw
        obtain ⟨w, _, _, hsk⟩ := mutateLinkWeights_wf g0 g1 _ _ _ _ rs2 hw hlw
        obtain ⟨e1, e2⟩ := (parametric_sameBinds g0 g1 o.mopts _ _ _ 0 _ rs2).1 hlw
        exact .done ⟨w, lstep_of_same e1 e2 hsk.tids hsk.mods, (ViewExt.of_holds hh rfl rfl).congr e1 e2⟩
    · exact (mutateAddLinkP_valid g0 o.mopts _ L hw hh hd).bind (fun L' r hp => flagTrue_valid r hp)
  · exact .done ⟨hw, LStep.refl g0, ViewExt.of_holds hh rfl rfl⟩

theorem source_ok {reg0 : Reg W} {H P0 : List (Genome W)} (ctx : EpochCtx reg0 H P0) {L : Local W} (hb : Base H L)
    {s : Species W} {sorted : List (Species W)} {champ : Org W} {g0 : Genome W} (h : Source s sorted champ g0)
    (hchamp : champ.genome ∈ P0) (hs : ∀ x ∈ s.orgs, x.genome ∈ P0) (hsorted : ∀ sp ∈ sorted, ∀ x ∈ sp.orgs, x.genome ∈ P0) :
    Fits reg0 P0 g0 ∧ Holds L g0 :=
  ⟨h.closed ctx.pool hchamp hs hsorted,
   holds_of_mem hb (h.genomeIn ⟨fun x hx => ctx.cov _ (hs x hx), fun sp hsp x hx => ctx.cov _ (hsorted sp hsp x hx),
     ctx.cov _ hchamp⟩ ctx.inv.genes)⟩

theorem makeBabyP_valid {reg0 : Reg W} {P0 : List (Genome W)} (o : EpochOpts W) (generation : Int) (champ : Org W)
    (st : ReproState W) (pl : Plan W) (rs : List Nat) (L : Local W) {x : Genome W} (hx : x ∈ P0)
    (hf : Fits reg0 P0 pl.genome) (hh : Holds L pl.genome) (hst : StOk reg0 P0 L st) :
    PValid reg0.nextInn (OnePost reg0 P0 L st) L (makeBabyP o generation champ st pl rs) := by
  have fin : ∀ {L' : Local W} {g1 : Genome W} {ms : Bool} {rs' : List Nat}
      (hp : MutPost pl.genome L L' (.ok ((g1, ms), rs'))) (a b c : Bool) (hfit : W),
      ViewGrow L L' ∧ StOk reg0 P0 L' (finishP generation g1 a b c hfit st) ∧
        (finishP generation g1 a b c hfit st).babies.length = st.babies.length + 1 := by
    intro L' g1 ms rs' hp a b c hfit
    obtain ⟨hgo, hgr⟩ := genOk_of_post hx hf hp
    exact ⟨hgr, stOk_finish hst hgr hgo generation a b c hfit⟩
  have asIs : ∀ (a b c : Bool) (hfit : W), ViewGrow L L ∧ StOk reg0 P0 L (finishP generation pl.genome a b c hfit st) ∧
      (finishP generation pl.genome a b c hfit st).babies.length = st.babies.length + 1 :=
    fun a b c hfit => ⟨ViewGrow.refl L, stOk_finish hst (ViewGrow.refl L) (GenOk.of_fits hx hf hh) generation a b c hfit⟩
  cases pl with
  | super g0 =>
    refine (superChampMutP_valid o g0 st.superChamp rs L hf.wft hh (fits_headLe hf)).bind (fun L' r hp => ?_)
    split
    · exact .done trivial
    · exact .done (fin hp _ _ _ _)
  | clone g0 => exact .done (asIs false false false zero)
  | mutate g0 mate =>
    refine (mutateBabyP_valid o g0 rs L hf.wft hh (fits_headLe hf)).bind (fun L' r hp => ?_)
    split
    · exact .done trivial
    · exact .done (fin hp _ _ _ _)
  | asIs child => exact .done (asIs false true false zero)

theorem reproduceOneP_valid {reg0 : Reg W} {H P0 : List (Genome W)} (ctx : EpochCtx reg0 H P0) (o : EpochOpts W)
    (generation : Int) (s : Species W) (sorted : List (Species W)) (champ : Org W) (count : Int) (st : ReproState W)
    (rs : List Nat) (L : Local W) (hchamp : champ.genome ∈ P0) (hs : ∀ x ∈ s.orgs, x.genome ∈ P0)
    (hsorted : ∀ sp ∈ sorted, ∀ x ∈ sp.orgs, x.genome ∈ P0) (hb : Base H L) (hst : StOk reg0 P0 L st) :
    PValid reg0.nextInn (OnePost reg0 P0 L st) L (reproduceOneP o generation s sorted champ count st rs) := by
  rw [reproduceOneP_eq]
  rcases hpl : planBaby o s sorted champ count st rs with e | ⟨pl, rs'⟩
  · exact .done trivial
  · obtain ⟨hf, hh⟩ := source_ok ctx hb (planBaby_source hpl) hchamp hs hsorted
    exact makeBabyP_valid o generation champ st pl rs' L hchamp hf hh hst

def LoopPost (reg0 : Reg W) (P0 : List (Genome W)) (L : Local W) (st : ReproState W) (n : Nat) (L' : Local W) (r : SRes W) : Prop :=
  match r with
  | .error _ => True
  | .ok (st', _) => ViewGrow L L' ∧ StOk reg0 P0 L' st' ∧ st'.babies.length = st.babies.length + n

theorem reproduceLoopP_valid {reg0 : Reg W} {H P0 : List (Genome W)} (ctx : EpochCtx reg0 H P0) (o : EpochOpts W)
    (generation : Int) (s : Species W) (sorted : List (Species W)) (champ : Org W) (hchamp : champ.genome ∈ P0)
    (hs : ∀ x ∈ s.orgs, x.genome ∈ P0) (hsorted : ∀ sp ∈ sorted, ∀ x ∈ sp.orgs, x.genome ∈ P0) (n : Nat) :
    ∀ (count : Int) (st : ReproState W) (rs : List Nat) (L : Local W), Base H L → StOk reg0 P0 L st →
      PValid reg0.nextInn (LoopPost reg0 P0 L st n) L (reproduceLoopP o generation s sorted champ n count st rs) := by
  induction n with
  | zero =>
    intro count st rs L hb hst
    exact .done ⟨ViewGrow.refl L, hst, rfl⟩
  | succ n ih =>
    intro count st rs L hb hst
    unfold reproduceLoopP
    refine (reproduceOneP_valid ctx o generation s sorted champ count st rs L hchamp hs hsorted hb hst).bind
      (fun L' r hp => ?_)
    split
    · exact .done trivial
    · rename_i st' rs'
      obtain ⟨hg, hst', hlen⟩ := hp
      refine (ih (count + 1) st' rs' L' (hb.mono hg) hst').mono (fun L'' r' hp' => ?_)
      unfold LoopPost at hp' ⊢
      split
      · trivial
      · rename_i st'' _
        simp only at hp'
        exact ⟨hg.trans hp'.1, hp'.2.1, by rw [hp'.2.2, hlen]; omega⟩

def SpeciesPost (reg0 : Reg W) (P0 : List (Genome W)) (quota : Nat) (L : Local W) (L' : Local W) (r : BRes W) : Prop :=
  match r with
  | .error _ => True
  | .ok ((babies, _), _) => ViewGrow L L' ∧ (∀ b ∈ babies, GenOk reg0 P0 L'.B L'.R b.genome) ∧ babies.length = quota

theorem reproduceSpeciesP_valid {reg0 : Reg W} {H P0 : List (Genome W)} (ctx : EpochCtx reg0 H P0) (o : EpochOpts W)
    (generation : Int) (s : Species W) (sorted : List (Species W)) (r0 : Reg W) (uid : Nat) (rs : List Nat) (L : Local W)
    (hs : ∀ x ∈ s.orgs, x.genome ∈ P0) (hsorted : ∀ sp ∈ sorted, ∀ x ∈ sp.orgs, x.genome ∈ P0) (hb : Base H L) :
    PValid reg0.nextInn (SpeciesPost reg0 P0 s.expectedOffspring.toNat L) L
      (reproduceSpeciesP o generation s sorted r0 uid rs) := by
  unfold reproduceSpeciesP
  split
  · split <;> exact .done trivial
  · rename_i champ hchamp
    dsimp only
    refine (reproduceLoopP_valid ctx o generation s sorted champ (hs champ (List.mem_of_mem_head? hchamp)) hs hsorted
      s.expectedOffspring.toNat 0 _ rs L hb (fun b hb' => by simp at hb')).bind (fun L' r hp => ?_)
    split
    · exact .done trivial
    · rename_i st rs'
      obtain ⟨hg, hst, hlen⟩ := hp
      exact .done ⟨hg, hst, by simpa using hlen⟩

end GoNeat.C16
