/-
  Helper lemmas for C14 (Model/Depth.lean).  Core Lean only.

  `sp net f vis i` is the longest path into `i` through unmarked nodes that repeats no node, as a pure function.
  Started on an unmarked node, on marks that fit and with enough fuel, `NNode.Depth` is
  `depth net cap f vis i d = answer cap (d + sp net f vis i) vis` on every graph and for every cap (`depth_eq`):
  the model's cap test, applied once to the uncapped result, and the marks given back.  `answer` is stated through
  `overCap` so that the test at the head of `depth` is literally the side condition of the loop lemma `loop_answer`.
  `outLoop_eq` / `maxDepthCap_closed` say the same of the query (`netDepth` = maximum of `sp` over the outputs);
  termination, the bounds, the cap and the acyclic case are then facts about `sp` (`sp_le`, `sp_path`, `sp_ranked`).
  What holds without `marksFit` (the marks are restored; a depth reported without error is a path length; a
  non-positive cap is no cap) cannot be read off the closed form, which needs enough fuel: `depth_vis`,
  `depth_attained`, `depth_nonpos_cap`.
-/
import GoNeat.Spec.Depth
import GoNeat.Proofs.RunningBest
import GoNeat.Proofs.ListLemmas

namespace GoNeat.Depth

variable {W : Type}

theorem marked_set (vis : List Bool) (i j : Nat) (b : Bool) :
    marked (vis.set i b) j = if i = j ∧ i < vis.length then b else marked vis j := by
  unfold marked
  rw [getD_set]
  by_cases h : i = j
  · subst h; rfl
  · rw [if_neg (fun hc => h hc.1.symm), if_neg (fun hc => h hc.1)]

theorem marked_of_ge {vis : List Bool} {j : Nat} (h : vis.length ≤ j) : marked vis j = false := by
  unfold marked
  simp [List.getD_eq_getElem?_getD, List.getElem?_eq_none h]

theorem set_true_false {vis : List Bool} {i : Nat} (h : marked vis i = false) :
    (vis.set i true).set i false = vis := by
  rw [List.set_set]
  by_cases hl : i < vis.length
  · have : vis[i] = false := by
      unfold marked at h
      simpa [List.getD_eq_getElem?_getD, List.getElem?_eq_getElem hl] using h
    have h2 := List.set_getElem_self (as := vis) hl
    rw [this] at h2
    exact h2
  · exact List.set_eq_of_length_le (by omega)

def unmarked (vis : List Bool) : Nat := vis.count false

theorem unmarked_le (vis : List Bool) : unmarked vis ≤ vis.length := List.count_le_length

theorem unmarked_set {vis : List Bool} {i : Nat} (h : marked vis i = false) (hl : i < vis.length) :
    unmarked (vis.set i true) + 1 = unmarked vis := by
  have hv : vis[i] = false := by
    unfold marked at h
    simpa [List.getD_eq_getElem?_getD, List.getElem?_eq_getElem hl] using h
  unfold unmarked
  rw [List.count_set hl, hv]
  have : 0 < List.count false vis := by
    apply List.count_pos_iff.mpr
    rw [← hv]; exact List.getElem_mem hl
  simp
  omega

/-- `maxList` (Spec/Depth.lean) folds with `Nat.max`; the model's `loop` keeps its maximum by `if r.d > mx then r.d else mx`,
    the `keepBest (· < ·)` step, and is brought to the `max` form where it is unfolded (`hmax` in `loop_eq`, `loop_answer`) -/
theorem foldl_max_keep (g : Nat → Nat) (l : List Nat) (m : Nat) :
    l.foldl (fun m w => max m (g w)) m = keepBest (· < ·) g m l := by
  unfold keepBest
  congr 1
  funext m w
  rw [Nat.max_def]
  split <;> split <;> omega

theorem foldl_max_ge (g : Nat → Nat) (l : List Nat) (m : Nat) :
    m ≤ l.foldl (fun m w => max m (g w)) m ∧ ∀ w ∈ l, g w ≤ l.foldl (fun m w => max m (g w)) m := by
  rw [foldl_max_keep]
  obtain ⟨_, h2, h3⟩ := keepBest_spec (R := (· < ·)) (inj := g) Nat.lt_irrefl (fun _ _ _ => Nat.lt_trans) m l
  exact ⟨Nat.not_lt.mp (h2 m (Nat.lt_irrefl m)), fun w hw => Nat.not_lt.mp (h3 w hw)⟩

theorem foldl_max_attained (g : Nat → Nat) (l : List Nat) (m : Nat) :
    l.foldl (fun m w => max m (g w)) m = m ∨ ∃ w ∈ l, l.foldl (fun m w => max m (g w)) m = g w := by
  rw [foldl_max_keep]
  exact (keepBest_spec (R := (· < ·)) (inj := g) Nat.lt_irrefl (fun _ _ _ => Nat.lt_trans) m l).1

theorem foldl_max_add (g : Nat → Nat) (d : Nat) (l : List Nat) (m : Nat) :
    l.foldl (fun m j => max m (d + g j)) (d + m) = d + l.foldl (fun m j => max m (g j)) m := by
  induction l generalizing m with
  | nil => rfl
  | cons a l ih => rw [List.foldl_cons, List.foldl_cons, ← ih, Nat.add_max_add_left]

theorem le_maxList (g : Nat → Nat) {l : List Nat} {w : Nat} (h : w ∈ l) : g w ≤ maxList g l :=
  (foldl_max_ge g l 0).2 w h

theorem maxList_attained (g : Nat → Nat) (l : List Nat) : maxList g l = 0 ∨ ∃ w ∈ l, maxList g l = g w :=
  foldl_max_attained g l 0

theorem maxList_le (g : Nat → Nat) (l : List Nat) (b : Nat) (h : ∀ w ∈ l, g w ≤ b) : maxList g l ≤ b := by
  rcases maxList_attained g l with h0 | ⟨w, hw, h1⟩
  · omega
  · rw [h1]; exact h w hw

theorem maxList_congr {g g' : Nat → Nat} {l : List Nat} (h : ∀ w ∈ l, g w = g' w) : maxList g l = maxList g' l :=
  Nat.le_antisymm (maxList_le _ _ _ fun w hw => h w hw ▸ le_maxList g' hw)
    (maxList_le _ _ _ fun w hw => (h w hw).symm ▸ le_maxList g hw)

def Restores (call : List Bool → Nat → DRes) : Prop :=
  ∀ v j, marked v j = false → (call v j).vis = v

def callees (v : List Bool) (ls : List Nat) : List Nat := ls.filter fun j => !marked v j

theorem mem_callees {v : List Bool} {ls : List Nat} {j : Nat} :
    j ∈ callees v ls ↔ j ∈ ls ∧ marked v j = false := by
  simp [callees]

/-- the loop for ARBITRARY calls that give the marks back (fuel may run out, the marks need not fit): `loop_vis` and
    `loop_attained` below, and through them the results that do not assume `marksFit`, rest on it; where the calls are
    known to be `answer`s, `loop_answer` is the lemma to use -/
theorem loop_eq {call : List Bool → Nat → DRes} {v : List Bool} {ls : List Nat}
    (hc : ∀ j ∈ callees v ls, (call v j).vis = v) (mx : Nat) :
    loop call ls mx v =
      match (callees v ls).find? (fun j => (call v j).err != .ok) with
      | some j => call v j
      | none => ⟨(callees v ls).foldl (fun m j => max m (call v j).d) mx, .ok, v⟩ := by
  induction ls generalizing mx with
  | nil => rfl
  | cons l ls ih =>
    unfold loop
    cases hm : marked v l
    · have hcs : callees v (l :: ls) = l :: callees v ls := by simp [callees, hm]
      rw [hcs] at hc ⊢
      have hmax : (if (call v l).d > mx then (call v l).d else mx) = max mx (call v l).d := by
        split <;> omega
      by_cases he : (call v l).err = .ok
      · simp only [Bool.false_eq_true, ↓reduceIte, he, ne_eq, not_true_eq_false, List.find?_cons, bne_self_eq_false,
          List.foldl_cons, hc l (by simp), hmax]
        exact ih (fun j hj => hc j (by simp [hj])) _
      · simp [he]
    · have hcs : callees v (l :: ls) = callees v ls := by simp [callees, hm]
      rw [hcs] at hc ⊢
      simp only [↓reduceIte]
      exact ih hc mx

theorem loop_cases {call : List Bool → Nat → DRes} {v : List Bool} {ls : List Nat}
    (hc : ∀ j ∈ callees v ls, (call v j).vis = v) (mx : Nat) :
    (∃ j ∈ callees v ls, (call v j).err ≠ .ok ∧ loop call ls mx v = call v j) ∨
    ((∀ j ∈ callees v ls, (call v j).err = .ok) ∧
      loop call ls mx v = ⟨(callees v ls).foldl (fun m j => max m (call v j).d) mx, .ok, v⟩) := by
  rw [loop_eq hc]
  split
  · next j hj =>
    exact Or.inl ⟨j, List.mem_of_find?_eq_some hj, by simpa using List.find?_some hj, rfl⟩
  · next hn =>
    exact Or.inr ⟨fun j hj => by simpa using List.find?_eq_none.mp hn j hj, rfl⟩

theorem loop_vis {call : List Bool → Nat → DRes} (hc : Restores call) (ls : List Nat) (mx : Nat)
    (vis : List Bool) : (loop call ls mx vis).vis = vis := by
  rcases loop_cases (fun j hj => hc vis j (mem_callees.mp hj).2) mx with ⟨j, hj, _, h⟩ | ⟨_, h⟩
  · rw [h]; exact hc vis j (mem_callees.mp hj).2
  · rw [h]

theorem loop_attained {call : List Bool → Nat → DRes} {v : List Bool} {ls : List Nat}
    (hc : ∀ j ∈ callees v ls, (call v j).vis = v) (mx : Nat) (h : (loop call ls mx v).err = .ok) :
    (loop call ls mx v).d = mx ∨
      ∃ j ∈ callees v ls, (call v j).err = .ok ∧ (call v j).d = (loop call ls mx v).d := by
  rcases loop_cases hc mx with ⟨j, hj, hbad, he⟩ | ⟨hall, he⟩
  · rw [he] at h; exact absurd h hbad
  · rw [he]
    rcases foldl_max_attained (fun j => (call v j).d) (callees v ls) mx with h0 | ⟨j, hj, h1⟩
    · exact Or.inl h0
    · exact Or.inr ⟨j, hj, hall j hj, h1.symm⟩

theorem overCap_nonpos {cap : Int} (h : cap ≤ 0) (d : Nat) : overCap cap d = false := by
  unfold overCap
  have : ¬ cap > 0 := by omega
  simp [this]

theorem overCap_pos {cap : Int} (h : 0 < cap) (d : Nat) : overCap cap d = decide ((d : Int) > cap) := by
  unfold overCap
  simp [h]

theorem overCap_mono {cap : Int} {a b : Nat} (h : overCap cap a = true) (hab : a ≤ b) : overCap cap b = true := by
  simp only [overCap, Bool.and_eq_true, decide_eq_true_eq] at h ⊢
  omega

/-- the answer of a depth call whose uncapped result is `D`: the cap test of `NNode.Depth` (`overCap`, as the model
    writes it), applied once to `D` -/
def answer (cap : Int) (D : Nat) (vis : List Bool) : DRes :=
  if overCap cap D then ⟨cap.toNat, .exceeded, vis⟩ else ⟨D, .ok, vis⟩

theorem answer_vis (cap : Int) (D : Nat) (v vis : List Bool) :
    (⟨(answer cap D v).d, (answer cap D v).err, vis⟩ : DRes) = answer cap D vis := by
  unfold answer
  cases overCap cap D <;> rfl

theorem loop_answer {call : List Bool → Nat → DRes} {v : List Bool} {cap : Int} {g : Nat → Nat} {ls : List Nat}
    (hc : ∀ j ∈ callees v ls, call v j = answer cap (g j) v) (mx : Nat) (hmx : overCap cap mx = false) :
    loop call ls mx v = answer cap ((callees v ls).foldl (fun m j => max m (g j)) mx) v := by
  induction ls generalizing mx with
  | nil => simp only [loop, callees, List.filter_nil, List.foldl_nil, answer, hmx, Bool.false_eq_true, ↓reduceIte]
  | cons l ls ih =>
    unfold loop
    cases hm : marked v l
    · have hcs : callees v (l :: ls) = l :: callees v ls := by simp [callees, hm]
      rw [hcs] at hc ⊢
      rw [if_neg (by simp), hc l (by simp), List.foldl_cons]
      cases hg : overCap cap (g l)
      · -- the call stays below the cap: go on with the larger maximum
        have hmax : (if g l > mx then g l else mx) = max mx (g l) := by split <;> omega
        have hmx' : overCap cap (max mx (g l)) = false := by
          rw [Nat.max_def]; split <;> assumption
        simp only [answer, hg, Bool.false_eq_true, ↓reduceIte, ne_eq, not_true_eq_false, hmax]
        exact ih (fun j hj => hc j (by simp [hj])) _ hmx'
      · -- the call is over the cap, and so is the maximum
        have hover := overCap_mono hg (Nat.le_trans (Nat.le_max_right mx (g l))
          (foldl_max_ge g (callees v ls) (max mx (g l))).1)
        simp [answer, hg, hover]
    · have hcs : callees v (l :: ls) = callees v ls := by simp [callees, hm]
      rw [hcs] at hc ⊢
      rw [if_pos rfl]
      exact ih hc mx hmx

theorem mem_preds {net : Net W} {i w : Nat} (h : w ∈ preds net i) :
    ∃ nd, net.nodes[i]? = some nd ∧ nd.isSensor = false ∧ w ∈ nd.incoming.map (·.src) := by
  unfold preds at h
  split at h
  · simp at h
  · rename_i nd hnd
    by_cases hs : nd.isSensor = true
    · simp [hs] at h
    · have hs' : nd.isSensor = false := by simpa using hs
      rw [if_neg hs] at h
      exact ⟨nd, hnd, hs', h⟩

theorem preds_lt {net : Net W} {i w : Nat} (h : w ∈ preds net i) : i < net.nodes.length := by
  obtain ⟨nd, hnd, _⟩ := mem_preds h
  exact (List.getElem?_eq_some_iff.mp hnd).1

theorem depth_vis (net : Net W) (cap : Int) (f : Nat) :
    ∀ vis i d, marked vis i = false → (depth net cap f vis i d).vis = vis := by
  induction f with
  | zero => intro vis i d _; rfl
  | succ f ih =>
    intro vis i d hm
    unfold depth
    split
    · rfl
    · split
      · rfl
      · split
        · rfl
        · simp only
          rw [loop_vis (fun v j h => ih v j (d + 1) h)]
          exact set_true_false hm

theorem depth_restores (net : Net W) (cap : Int) (f d : Nat) : Restores (fun v j => depth net cap f v j d) :=
  fun v j h => depth_vis net cap f v j d h

theorem depth_over (net : Net W) {cap : Int} (f : Nat) (vis : List Bool) (i : Nat) {d : Nat}
    (h : overCap cap d = true) : depth net cap (f + 1) vis i d = ⟨cap.toNat, .exceeded, vis⟩ := by
  simp [depth, h]

theorem depth_succ (net : Net W) {cap : Int} (f : Nat) {vis : List Bool} {i d : Nat}
    (hm : marked vis i = false) (h : overCap cap d = false) :
    depth net cap (f + 1) vis i d =
      ⟨(loop (fun v j => depth net cap f v j (d + 1)) (preds net i) d (vis.set i true)).d,
       (loop (fun v j => depth net cap f v j (d + 1)) (preds net i) d (vis.set i true)).err, vis⟩ := by
  have hv := depth_vis net cap (f + 1) vis i d hm
  cases hn : net.nodes[i]? with
  | none => simp only [depth, preds, h, hn, loop, Bool.false_eq_true, ↓reduceIte]
  | some nd =>
    cases hs : nd.isSensor
    · simp only [depth, preds, h, hn, hs, Bool.false_eq_true, ↓reduceIte] at hv ⊢
      rw [hv]
    · simp only [depth, preds, h, hn, hs, loop, Bool.false_eq_true, ↓reduceIte]

/-- `sp` = "simple path": the longest path into `i` through unmarked nodes that repeats no node (`i` is marked before
    its sources are followed), i.e. what `NNode.Depth` adds to `d`.  Fuel as in `depth`; with none left the value is 0
    where `depth` reports `fuel`. -/
def sp (net : Net W) : Nat → List Bool → Nat → Nat
  | 0, _, _ => 0
  | f + 1, vis, i => maxList (fun j => sp net f (vis.set i true) j + 1) (callees (vis.set i true) (preds net i))

theorem depth_eq (net : Net W) (cap : Int) (f : Nat) :
    ∀ vis i d, marked vis i = false → vis.length = net.nodes.length → unmarked vis < f →
      depth net cap f vis i d = answer cap (d + sp net f vis i) vis := by
  induction f with
  | zero => intro vis i d _ _ h; omega
  | succ f ih =>
    intro vis i d hm hl hf
    cases hoc : overCap cap d
    · have key : (callees (vis.set i true) (preds net i)).foldl
          (fun m j => max m (d + (sp net f (vis.set i true) j + 1))) d = d + sp net (f + 1) vis i := by
        have := foldl_max_add (fun j => sp net f (vis.set i true) j + 1) d (callees (vis.set i true) (preds net i)) 0
        rwa [Nat.add_zero] at this
      rw [depth_succ net f hm hoc, loop_answer (fun j hj => ?_) d hoc, answer_vis, key]
      obtain ⟨hjp, hju⟩ := mem_callees.mp hj
      have hu := unmarked_set hm (hl ▸ preds_lt hjp)
      rw [ih _ j (d + 1) hju (by simp [hl]) (by omega), Nat.add_assoc, Nat.add_comm 1]
    · rw [depth_over net f vis i hoc, answer, overCap_mono hoc (Nat.le_add_right d _), if_pos rfl]

theorem sp_le (net : Net W) (f : Nat) :
    ∀ vis i, marked vis i = false → vis.length = net.nodes.length → sp net f vis i ≤ unmarked vis := by
  induction f with
  | zero => intro vis i _ _; exact Nat.zero_le _
  | succ f ih =>
    intro vis i hm hl
    refine maxList_le _ _ _ fun j hj => ?_
    obtain ⟨hjp, hju⟩ := mem_callees.mp hj
    have hu := unmarked_set hm (hl ▸ preds_lt hjp)
    have := ih (vis.set i true) j hju (by simp [hl])
    omega

theorem sp_path (net : Net W) (f : Nat) : ∀ vis i, ∃ u, Path net u i (sp net f vis i) := by
  induction f with
  | zero => intro vis i; exact ⟨i, Path.nil i⟩
  | succ f ih =>
    intro vis i
    unfold sp
    rcases maxList_attained (fun j => sp net f (vis.set i true) j + 1) (callees (vis.set i true) (preds net i)) with
      h | ⟨w, hw, h⟩
    · rw [h]; exact ⟨i, Path.nil i⟩
    · rw [h]
      obtain ⟨u, hp⟩ := ih (vis.set i true) w
      exact ⟨u, Path.snoc hp (mem_callees.mp hw).1⟩

theorem depth_nonpos_cap (net : Net W) {cap : Int} (h : cap ≤ 0) (f : Nat) :
    ∀ vis i d, depth net cap f vis i d = depth net 0 f vis i d := by
  induction f with
  | zero => intro vis i d; rfl
  | succ f ih =>
    intro vis i d
    unfold depth
    rw [overCap_nonpos h, overCap_nonpos (Int.le_refl 0)]
    have : (fun v j => depth net cap f v j (d + 1)) = (fun v j => depth net 0 f v j (d + 1)) := by
      funext v j; exact ih v j (d + 1)
    simp [this]

theorem depth_attained (net : Net W) (cap : Int) (f : Nat) :
    ∀ vis i d, marked vis i = false → (depth net cap f vis i d).err = .ok →
      ∃ u k, Path net u i k ∧ (depth net cap f vis i d).d = d + k := by
  induction f with
  | zero => intro vis i d _ h; simp [depth] at h
  | succ f ih =>
    intro vis i d hm
    cases hoc : overCap cap d
    · rw [depth_succ net f hm hoc]
      intro h
      rcases loop_attained (call := fun v j => depth net cap f v j (d + 1))
        (fun j hj => depth_vis net cap f _ j (d + 1) (mem_callees.mp hj).2) d h with
        h1 | ⟨j, hj, h2, h3⟩
      · exact ⟨i, 0, Path.nil i, h1⟩
      · obtain ⟨hjp, hju⟩ := mem_callees.mp hj
        obtain ⟨u, k, hp, hk⟩ := ih _ j (d + 1) hju h2
        exact ⟨u, k + 1, Path.snoc hp hjp, by simp only at h3 ⊢; omega⟩
    · rw [depth_over net f vis i hoc]
      intro h
      cases h

def RankedP (net : Net W) (lvl : Nat → Nat) : Prop := ∀ i w, w ∈ preds net i → lvl w < lvl i

theorem rankedP_of_ranked {net : Net W} {lvl : Nat → Nat} (h : Ranked net lvl = true) : RankedP net lvl := by
  intro i w hw
  obtain ⟨nd, hnd, _, _⟩ := mem_preds hw
  have hi : i < net.nodes.length := (List.getElem?_eq_some_iff.mp hnd).1
  unfold Ranked at h
  rw [List.all_eq_true] at h
  have := h i (List.mem_range.mpr hi)
  rw [List.all_eq_true] at this
  simpa using this w hw

theorem ranked_of_rankedP {net : Net W} {lvl : Nat → Nat} (h : RankedP net lvl) : Ranked net lvl = true := by
  unfold Ranked
  rw [List.all_eq_true]
  intro i _
  rw [List.all_eq_true]
  intro w hw
  simpa using h i w hw

/-- on a ranked graph the search never meets a mark: every node on the stack has a higher rank than the node
    being searched -/
def Above (lvl : Nat → Nat) (vis : List Bool) (i : Nat) : Prop := ∀ j, marked vis j = true → lvl i < lvl j

theorem above_unmarked {lvl : Nat → Nat} {vis : List Bool} {i : Nat} (h : Above lvl vis i) : marked vis i = false := by
  by_cases hm : marked vis i = true
  · exact absurd (h i hm) (Nat.lt_irrefl _)
  · simpa using hm

theorem Above.step {net : Net W} {lvl : Nat → Nat} (hr : RankedP net lvl) {vis : List Bool} {i w : Nat}
    (ha : Above lvl vis i) (hw : w ∈ preds net i) : Above lvl (vis.set i true) w := by
  intro j hj
  have hlt := hr i w hw
  rw [marked_set] at hj
  by_cases hc : i = j ∧ i < vis.length
  · exact hc.1 ▸ hlt
  · rw [if_neg hc] at hj
    exact Nat.lt_trans hlt (ha j hj)

theorem sp_ranked {net : Net W} {lvl : Nat → Nat} (hr : RankedP net lvl) (f : Nat) :
    ∀ vis i, Above lvl vis i → vis.length = net.nodes.length → unmarked vis < f →
      ∀ u k, Path net u i k → k ≤ sp net f vis i := by
  induction f with
  | zero => intro vis i _ _ h; omega
  | succ f ih =>
    intro vis i ha hl hf u k hp
    cases hp with
    | nil => exact Nat.zero_le _
    | snoc hp' hw =>
      rename_i w k'
      have haw := ha.step hr hw
      have hu := unmarked_set (above_unmarked ha) (hl ▸ preds_lt hw)
      have h1 := ih (vis.set i true) w haw (by simp [hl]) (by omega) u k' hp'
      have h2 := le_maxList (fun j => sp net f (vis.set i true) j + 1) (mem_callees.mpr ⟨hw, above_unmarked haw⟩)
      unfold sp
      omega

theorem outsUnmarked_iff {net : Net W} {vis : List Bool} :
    outsUnmarked net vis = true ↔ ∀ o ∈ net.outputs, marked vis o = false := by
  unfold outsUnmarked
  rw [List.all_eq_true]
  constructor
  · intro h o ho; simpa using h o ho
  · intro h o ho; simpa using h o ho

theorem marksFit_iff {net : Net W} {vis : List Bool} : marksFit net vis = true ↔ vis.length = net.nodes.length := by
  unfold marksFit; simp

theorem marked_clean (net : Net W) (j : Nat) : marked (clean net) j = false := by
  unfold marked clean
  rw [List.getD_eq_getElem?_getD, List.getElem?_map]
  cases net.nodes[j]? <;> rfl

theorem clean_fit (net : Net W) : marksFit net (clean net) = true := by simp [marksFit, clean]

theorem clean_outs (net : Net W) : outsUnmarked net (clean net) = true :=
  outsUnmarked_iff.mpr fun o _ => marked_clean net o

theorem clean_eq_replicate (net : Net W) : clean net = List.replicate net.nodes.length false :=
  List.map_const' ..

theorem outLoop_eq_loop (net : Net W) (cap : Int) (os : List Nat) (mx : Nat) (vis : List Bool)
    (ho : ∀ o ∈ os, marked vis o = false) :
    outLoop net cap os mx vis = loop (fun v j => depth net cap (fuelOf net) v j 0) os mx vis := by
  induction os generalizing mx with
  | nil => rfl
  | cons o os ih =>
    unfold outLoop loop
    have hmo := ho o (by simp)
    have hv := depth_vis net cap (fuelOf net) vis o 0 hmo
    simp only [hmo, Bool.false_eq_true, ↓reduceIte, hv]
    have ho' : ∀ o' ∈ os, marked vis o' = false := fun o' h' => ho o' (by simp [h'])
    by_cases he : (depth net cap (fuelOf net) vis o 0).err ≠ .ok
    · simp only [if_pos he]
    · simp only [if_neg he]
      exact ih _ ho'

theorem outLoop_vis (net : Net W) (cap : Int) (os : List Nat) (mx : Nat) (vis : List Bool)
    (ho : ∀ o ∈ os, marked vis o = false) : (outLoop net cap os mx vis).vis = vis := by
  rw [outLoop_eq_loop net cap os mx vis ho]
  exact loop_vis (depth_restores net cap _ 0) os mx vis

theorem maxDepthCap_eq {net : Net W} (hc : net.ctrl = []) (hs : noHiddenShortcut net = false) (cap : Int)
    (vis : List Bool) :
    maxDepthCap net cap vis = ⟨((outLoop net cap net.outputs 0 vis).d : Int), (outLoop net cap net.outputs 0 vis).err,
      (outLoop net cap net.outputs 0 vis).vis⟩ := by
  simp [maxDepthCap, hc, hs]

theorem outLoop_nonpos_cap (net : Net W) {cap : Int} (h : cap ≤ 0) (os : List Nat) (mx : Nat) (vis : List Bool) :
    outLoop net cap os mx vis = outLoop net 0 os mx vis := by
  induction os generalizing mx vis with
  | nil => rfl
  | cons o os ih =>
    unfold outLoop
    rw [depth_nonpos_cap net h]
    simp only [ih]

theorem callees_eq_self {v : List Bool} {ls : List Nat} (h : ∀ j ∈ ls, marked v j = false) : callees v ls = ls :=
  List.filter_eq_self.mpr fun j hj => by simp [h j hj]

def netDepth (net : Net W) (vis : List Bool) : Nat := maxList (sp net (fuelOf net) vis) net.outputs

theorem outLoop_eq (net : Net W) (cap : Int) {vis : List Bool} (hl : vis.length = net.nodes.length)
    (ho : ∀ o ∈ net.outputs, marked vis o = false) :
    outLoop net cap net.outputs 0 vis = answer cap (netDepth net vis) vis := by
  have hu := unmarked_le vis
  rw [outLoop_eq_loop net cap _ _ _ ho,
    loop_answer (cap := cap) (g := sp net (fuelOf net) vis) (fun j hj => ?_) 0 (by simp [overCap]; omega), callees_eq_self ho]
  · rfl
  · rw [depth_eq net cap _ vis j 0 (mem_callees.mp hj).2 hl (by unfold fuelOf; omega), Nat.zero_add]

theorem netDepth_le (net : Net W) {vis : List Bool} (hl : vis.length = net.nodes.length)
    (ho : ∀ o ∈ net.outputs, marked vis o = false) : netDepth net vis ≤ net.nodes.length :=
  maxList_le _ _ _ fun o hom => by
    have := sp_le net (fuelOf net) vis o (ho o hom) hl
    have := unmarked_le vis
    omega

theorem maxDepthCap_closed {net : Net W} (hc : net.ctrl = []) (hs : noHiddenShortcut net = false) (cap : Int)
    {vis : List Bool} (hf : marksFit net vis = true) (ho : outsUnmarked net vis = true) :
    maxDepthCap net cap vis =
      if overCap cap (netDepth net vis) then ⟨cap, .exceeded, vis⟩ else ⟨netDepth net vis, .ok, vis⟩ := by
  rw [maxDepthCap_eq hc hs, outLoop_eq net cap (marksFit_iff.mp hf) (outsUnmarked_iff.mp ho), answer]
  cases h : overCap cap (netDepth net vis)
  · rfl
  · simp only [overCap, Bool.and_eq_true, decide_eq_true_eq] at h
    simp only [↓reduceIte, Int.toNat_of_nonneg (Int.le_of_lt h.1)]

theorem maxDepthCap_zero {net : Net W} (hc : net.ctrl = []) (hs : noHiddenShortcut net = false) {vis : List Bool}
    (hf : marksFit net vis = true) (ho : outsUnmarked net vis = true) :
    maxDepthCap net 0 vis = ⟨netDepth net vis, .ok, vis⟩ := by
  rw [maxDepthCap_closed hc hs 0 hf ho, overCap_nonpos (Int.le_refl 0), if_neg Bool.false_ne_true]

/-- outside the case of `maxDepthCap_closed` the query does no search: its answer is a constant, whatever the cap -/
theorem maxDepthCap_const {net : Net W} (h : ¬(net.ctrl = [] ∧ noHiddenShortcut net = false)) :
    ∃ k : Int, ∃ e, k ≤ 1 ∧ e ≠ .fuel ∧ ∀ cap vis, maxDepthCap net cap vis = ⟨k, e, vis⟩ := by
  by_cases hc : net.ctrl.length > 0
  · exact ⟨-1, .modular, by omega, by simp, fun cap vis => by rw [maxDepthCap, if_pos hc]⟩
  · by_cases hs : noHiddenShortcut net = true
    · exact ⟨1, .ok, Int.le_refl _, by simp, fun cap vis => by rw [maxDepthCap, if_neg hc, if_pos hs]⟩
    · exact absurd ⟨List.eq_nil_of_length_eq_zero (by omega), by simpa using hs⟩ h

/-- the clean marks put nothing on the stack -/
theorem sp_clean_ge {net : Net W} {lvl : Nat → Nat} (hr : RankedP net lvl) {u o k : Nat} (hp : Path net u o k) :
    k ≤ sp net (fuelOf net) (clean net) o :=
  sp_ranked hr (fuelOf net) (clean net) o (fun j hj => by rw [marked_clean net j] at hj; cases hj)
    (marksFit_iff.mp (clean_fit net)) (Nat.lt_succ_of_le (Nat.le_trans (unmarked_le _) (Nat.le_of_eq (marksFit_iff.mp (clean_fit net))))) u k hp

theorem lp_attained (net : Net W) (f : Nat) : ∀ v, ∃ u, Path net u v (lp net f v) := by
  induction f with
  | zero => intro v; exact ⟨v, Path.nil v⟩
  | succ f ih =>
    intro v
    unfold lp
    rcases maxList_attained (fun w => lp net f w + 1) (preds net v) with h | ⟨w, hw, h⟩
    · rw [h]; exact ⟨v, Path.nil v⟩
    · rw [h]
      obtain ⟨u, hp⟩ := ih w
      exact ⟨u, Path.snoc hp hw⟩

theorem lp_le_lvl {net : Net W} {lvl : Nat → Nat} (hr : RankedP net lvl) (f : Nat) : ∀ v, lp net f v ≤ lvl v := by
  induction f with
  | zero => intro v; simp [lp]
  | succ f ih =>
    intro v
    unfold lp
    apply maxList_le
    intro w hw
    have := hr v w hw
    have := ih w
    omega

theorem lp_ge {net : Net W} {lvl : Nat → Nat} (hr : RankedP net lvl) (f : Nat) :
    ∀ v u k, lvl v < f → Path net u v k → k ≤ lp net f v := by
  induction f with
  | zero => intro v u k h; omega
  | succ f ih =>
    intro v u k hf hp
    cases hp with
    | nil => omega
    | snoc hp' hw =>
      rename_i w k'
      have hlt := hr v w hw
      have := ih w u k' (by omega) hp'
      unfold lp
      have := le_maxList (fun w => lp net f w + 1) hw
      omega

theorem lp_exact {net : Net W} {F : Nat} (hr : RankedP net (lp net F)) {u v k : Nat} (hp : Path net u v k) :
    k ≤ lp net F v := by
  have h1 := lp_ge hr (lp net F v + 1) v u k (by omega) hp
  have h2 := lp_le_lvl hr (lp net F v + 1) v
  omega

/-- on an acyclic graph the search from clean marks and `lp` are both the longest path into `o` -/
theorem sp_clean_eq_lp {net : Net W} {F : Nat} (hr : RankedP net (lp net F)) (o : Nat) :
    sp net (fuelOf net) (clean net) o = lp net F o := by
  obtain ⟨_, hs⟩ := sp_path net (fuelOf net) (clean net) o
  obtain ⟨_, hl⟩ := lp_attained net F o
  exact Nat.le_antisymm (lp_exact hr hs) (sp_clean_ge hr hl)

theorem filter3_le {α} (p q r : α → Bool) (hex : ∀ a, (p a = true → q a = false ∧ r a = false) ∧ (q a = true → r a = false))
    (l : List α) : (l.filter p).length + (l.filter q).length + (l.filter r).length ≤ l.length := by
  induction l with
  | nil => simp
  | cons a l ih =>
    obtain ⟨hpq, hqr⟩ := hex a
    simp only [List.filter_cons, List.length_cons]
    cases hp : p a
    · cases hq : q a
      · cases hr : r a <;> simp only [Bool.false_eq_true, ↓reduceIte, List.length_cons] <;> omega
      · simp only [hqr hq, Bool.false_eq_true, ↓reduceIte, List.length_cons]
        omega
    · simp only [(hpq hp).1, (hpq hp).2, Bool.false_eq_true, ↓reduceIte, List.length_cons]
      omega

theorem kinds_exclusive (a : NNodeS W) :
    (a.isSensor = true → (a.kind == Kind.output) = false ∧ (a.kind == Kind.hidden) = false) ∧
    ((a.kind == Kind.output) = true → (a.kind == Kind.hidden) = false) := by
  unfold NNodeS.isSensor Kind.input Kind.bias Kind.output Kind.hidden
  simp only [Bool.or_eq_true, beq_iff_eq, beq_eq_false_iff_ne, ne_eq]
  refine ⟨fun h => ?_, fun h => ?_⟩
  · rcases h with h | h <;> rw [h] <;> decide
  · rw [h]; decide

end GoNeat.Depth
