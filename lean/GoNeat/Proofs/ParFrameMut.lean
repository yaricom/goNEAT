/-
  C16(b), THREAD OBLIGATIONS, part 1: the thread-local obligations (`PValid`) of the three non-atomic structural mutators.
  Each proof walks the program of Model/ParEpoch.lean once; what it may use about the registry is only what
  `SnapOk` / `FreshI` / `FreshN` grant (facts that survive any interference), what it has to show at a store is that
  the record consists of numbers the thread drew itself.

  Postcondition `MutPost g L`: the resulting genome is well-formed (`WFT`), is a structural step of `g`
  (`LStep`: old nodes kept, new nodes hidden, trait ids / modules / first gene unchanged) and the thread's view was
  extended by exactly the new genome's bindings (`ViewExt`).
-/
import GoNeat.Proofs.WFParam
import GoNeat.Proofs.WFStep
import GoNeat.Proofs.ParStages
import GoNeat.Proofs.ParFrame
import GoNeat.Proofs.ParFrameLogic

set_option linter.unusedSectionVars false

namespace GoNeat.C16
open GoNeat GoNeat.C03 GoNeat.C01 Scalar
variable {W : Type} [Scalar W]

def HeadLe (bi : Int) (g : Genome W) : Prop := ∀ h ∈ g.genes.take 1, h.inn ≤ bi
instance (bi : Int) (g : Genome W) : Decidable (HeadLe bi g) := by unfold HeadLe; infer_instance

theorem HeadLe.of_step {bi : Int} {g g' : Genome W} (h : HeadLe bi g) (hs : LStep g g') : HeadLe bi g' := by
  intro h0 hh
  have hhead := hs.head
  cases hg' : g'.genes with
  | nil => rw [hg'] at hh; simp at hh
  | cons f' t' =>
    rw [hg'] at hh hhead
    simp only [List.take_succ_cons, List.take_zero, List.mem_singleton] at hh
    subst hh
    cases hg : g.genes with
    | nil => rw [hg] at hhead; simp at hhead
    | cons f t =>
      rw [hg] at hhead
      simp only [List.head?_cons, Option.map_some, Option.some.injEq] at hhead
      rw [hhead]; exact h f (by rw [hg]; simp)

structure ViewExt (L L' : Local W) (g' : Genome W) : Prop where
  subB : ∀ b ∈ L.B, b ∈ L'.B
  subR : ∀ p ∈ L.R, p ∈ L'.R
  holdB : ∀ x ∈ g'.genes, geneBind x ∈ L'.B
  holdR : ∀ n ∈ g'.nodes, nodeRole n ∈ L'.R
  exactB : ∀ b ∈ L'.B, b ∈ L.B ∨ b ∈ gb g'
  exactR : ∀ p ∈ L'.R, p ∈ L.R ∨ p ∈ gr g'

abbrev Holds (L : Local W) (g : Genome W) : Prop := Within g L.B L.R

theorem ViewExt.of_perm {L L' : Local W} {g g' : Genome W} (h : Holds L g) {bs : List Bind} {rs : List Role}
    (hB : L'.B = bs ++ L.B) (hR : L'.R = rs ++ L.R) (hb : (gb g').Perm (bs ++ gb g)) (hr : (gr g').Perm (rs ++ gr g)) :
    ViewExt L L' g' := by
  have key : ∀ {β : Type} {X X' G G' N : List β}, X' = N ++ X → G'.Perm (N ++ G) → (∀ c ∈ G, c ∈ X) →
      (∀ c ∈ X, c ∈ X') ∧ (∀ c ∈ G', c ∈ X') ∧ ∀ c ∈ X', c ∈ X ∨ c ∈ G' := by
    intro β X X' G G' N e hp hG
    subst e
    refine ⟨fun c hc => List.mem_append_right _ hc, fun c hc => ?_, fun c hc => ?_⟩
    · exact (List.mem_append.mp (hp.subset hc)).elim (List.mem_append_left _) (fun h => List.mem_append_right _ (hG c h))
    · exact (List.mem_append.mp hc).elim (fun h => .inr (hp.symm.subset (List.mem_append_left _ h))) .inl
  obtain ⟨b1, b2, b3⟩ := key hB hb (within_iff.mp h).1
  obtain ⟨r1, r2, r3⟩ := key hR hr (within_iff.mp h).2
  exact ⟨b1, r1, List.forall_mem_map.mp b2, List.forall_mem_map.mp r2, b3, r3⟩

theorem ViewExt.of_holds {L L' : Local W} {g : Genome W} (h : Holds L g) (hB : L'.B = L.B) (hR : L'.R = L.R) : ViewExt L L' g :=
  .of_perm (bs := []) (rs := []) h hB hR (.refl _) (.refl _)

theorem ViewExt.holds {L L' : Local W} {g : Genome W} (h : ViewExt L L' g) : Holds L' g := ⟨h.holdB, h.holdR⟩

theorem ViewExt.trans {L L1 L2 : Local W} {g1 g2 : Genome W} (h1 : ViewExt L L1 g1) (h2 : ViewExt L1 L2 g2)
    (hb : ∀ b ∈ gb g1, b ∈ gb g2) (hr : ∀ p ∈ gr g1, p ∈ gr g2) : ViewExt L L2 g2 :=
  ⟨fun b hb' => h2.subB b (h1.subB b hb'), fun p hp => h2.subR p (h1.subR p hp), h2.holdB, h2.holdR,
   fun b hb' => (h2.exactB b hb').elim (fun h => (h1.exactB b h).elim .inl (fun h' => .inr (hb b h'))) .inr,
   fun p hp => (h2.exactR p hp).elim (fun h => (h1.exactR p h).elim .inl (fun h' => .inr (hr p h'))) .inr⟩

/-- asks nothing of an error result: `par_mutation_wf`, `par_mutation_consistent` (Props/C16Par.lean) speak of threads that
    returned a genome; that no thread returns a model error is Proofs/ParNoError.lean … Props/C16NoError.lean -/
def MutPost (g : Genome W) (L : Local W) (L' : Local W) (r : MRes W) : Prop :=
  match r with
  | .error _ => True
  | .ok ((g', _), _) => WFT g' ∧ LStep g g' ∧ ViewExt L L' g'

theorem viewExt_addGene {L L' : Local W} {g : Genome W} (x : Gene W) (h : Holds L g)
    (hB : L'.B = geneBind x :: L.B) (hR : L'.R = L.R) : ViewExt L L' ({ g with genes := geneInsert g.genes x } : Genome W) :=
  .of_perm (bs := [geneBind x]) (rs := []) h hB hR (gb_addGene g x) (.refl _)

/-- the number of a record seen in a snapshot, for the requested link, is not yet in the genome (else the genome would
    already have the link, or `haveGene` would have fired) -/
theorem found_link_new {bi : Int} {L : Local W} {recs : List (Innov W)} (hs : SnapOk bi L recs) {g : Genome W} (hw : WFT g)
    (hh : Holds L g) {inn : Innov W} (hm : inn ∈ recs) (ht : inn.typ = 2) (x : Gene W) (hx : x.inn = inn.inn)
    (hl : x.link = (inn.inId, inn.outId, inn.recur)) (hhave : g.haveGene x = false) : ∀ y ∈ g.genes, y.inn ≠ x.inn := by
  refine haveGene_false g x hw.wf.genesSorted hhave ?_
  intro y hy e
  have := hs.link inn hm ht _ (hh.B y hy) (by rw [← hx]; exact e)
  simp only [geneBind, Prod.mk.injEq] at this
  rw [hl]; unfold Gene.link
  rw [this.2.1, this.2.2.1, this.2.2.2]

theorem addGene_post {bi : Int} {L L' : Local W} {g : Genome W} (x : Gene W) (hw : WFT g) (hh : Holds L g) (hd : HeadLe bi g)
    (hinn : ∀ y ∈ g.genes, y.inn ≠ x.inn) (hnew : ∀ y ∈ g.genes, ¬ (y.src = x.src ∧ y.dst = x.dst ∧ y.recur = x.recur))
    (hsrc : x.src ∈ nodeIds g) (hdst : x.dst ∈ nodeIds g) (hsens : ∀ n ∈ g.nodes, n.id = x.dst → n.isSensor = false)
    (htr : TraitRefOk g x.trait) (hlt : bi < x.inn) (hB : L'.B = geneBind x :: L.B) (hR : L'.R = L.R) :
    WFT ({ g with genes := geneInsert g.genes x } : Genome W) ∧ LStep g ({ g with genes := geneInsert g.genes x } : Genome W) ∧
      ViewExt L L' ({ g with genes := geneInsert g.genes x } : Genome W) := by
  have hw' := addGene_wft g x hw hinn (by
    intro y hy e
    unfold Gene.link at e
    simp only [Prod.mk.injEq] at e
    exact hnew y hy e) hsrc hdst hsens htr
  exact ⟨hw', lstep_addGene g x hw hw' (fun h0 h0m => Int.lt_of_le_of_lt (hd h0 h0m) hlt), viewExt_addGene x hh hB hR⟩

/-- `pr`, `dup`, `fin` as in `linkTailP` (Proofs/ParStages.lean): `dup` is continued with on an unchanged view (`hdup`),
    `fin x rs'` with `MutPost`'s three facts for `g` with `x` inserted (`hfin`); `hsrc hdst hsens hnew`: the link `s → d` with
    flag `r` is new to `g` -/
theorem linkTailP_valid {β : Type} {bi : Int} {Post : Local W → Except Stop β → Prop} (g : Genome W) (s d : Int) (r : Bool)
    (pr : Bool → Bool) (rs : List Nat) (dup : Prog W (Except Stop β)) (fin : Gene W → List Nat → Prog W (Except Stop β))
    (L : Local W) (hw : WFT g) (hh : Holds L g) (hd : HeadLe bi g) (hpr : ∀ b, pr b = true → b = r)
    (hsrc : s ∈ nodeIds g) (hdst : d ∈ nodeIds g) (hsens : ∀ n ∈ g.nodes, n.id = d → n.isSensor = false)
    (hnew : ∀ y ∈ g.genes, ¬ (y.src = s ∧ y.dst = d ∧ y.recur = r)) (herr : ∀ L' e, Post L' (.error e))
    (hdup : ∀ L', L'.B = L.B → L'.R = L.R → PValid bi Post L' dup)
    (hfin : ∀ L' x rs', WFT ({ g with genes := geneInsert g.genes x } : Genome W) →
      LStep g ({ g with genes := geneInsert g.genes x } : Genome W) →
      ViewExt L L' ({ g with genes := geneInsert g.genes x } : Genome W) → PValid bi Post L' (fin x rs')) :
    PValid bi Post L (linkTailP g s d r pr rs dup fin) := by
  unfold linkTailP
  refine .snap fun recs hs => ?_
  split
  · rename_i inn hfind
    have hmem : inn ∈ recs := List.mem_of_find?_eq_some hfind
    have hp := List.find?_some hfind
    simp only [Bool.and_eq_true, beq_iff_eq] at hp
    obtain ⟨⟨⟨ht, hin⟩, hout⟩, hrec⟩ := hp
    have hrec := hpr _ hrec
    split
    · exact .done (herr _ _)
    rename_i tr htr
    dsimp only
    split
    · exact hdup _ rfl rfl
    rename_i hhave
    have hinn := found_link_new hs hw hh hmem ht
      { inn := inn.inn, src := s, dst := d, recur := r, w := inn.w, mnum := zero, en := true, trait := tr } rfl
      (by unfold Gene.link; simp only [hin, hout, hrec]) (Bool.eq_false_iff.mpr hhave)
    refine .ghostB (b := (inn.inn, inn.inId, inn.outId, inn.recur)) (.inl ⟨inn, List.mem_append_left _ hmem, ht, rfl⟩) ?_
    obtain ⟨h1, h2, h3⟩ := addGene_post (bi := bi) (L := L)
      (L' := { L with B := (inn.inn, inn.inId, inn.outId, inn.recur) :: L.B, known := recs ++ L.known })
      { inn := inn.inn, src := s, dst := d, recur := r, w := inn.w, mnum := zero, en := true, trait := tr } hw hh hd hinn hnew
      hsrc hdst hsens (traitAt_ok g _ tr htr hw.tnz) (hs.above inn hmem _ (inn_mem_recInns inn))
      (by simp only [geneBind, hin, hout, hrec]) rfl
    exact hfin _ _ _ h1 h2 h3
  · split
    · exact .done (herr _ _)
    rename_i traitNum rs1 _
    split
    · exact .done (herr _ _)
    rename_i w rs2 _
    refine .nextInn fun innId hfr => ?_
    split
    · exact .done (herr _ _)
    rename_i tr htr
    refine .store (.inl ⟨rfl, List.mem_cons_self⟩) ?_
    have hinn : ∀ y ∈ g.genes, y.inn ≠ innId := by
      intro y hy e
      have := hfr.1 _ (hh.B y hy)
      simp only [geneBind] at this
      omega
    refine .ghostB (b := (innId, s, d, r)) (.inl ⟨_, List.mem_cons_self, rfl, rfl⟩) ?_
    obtain ⟨h1, h2, h3⟩ := addGene_post (bi := bi) (L := L)
      (L' := { (Local.afterStore { L with known := recs ++ L.known, pendI := innId :: L.pendI }
                (linkRec s d r innId w traitNum)) with B := (innId, s, d, r) :: L.B })
      { inn := innId, src := s, dst := d, recur := r, w := w, mnum := w, en := true, trait := tr } hw hh hd hinn hnew
      hsrc hdst hsens (traitAt_ok g _ tr htr hw.tnz) hfr.2.2 rfl rfl
    exact hfin _ _ _ h1 h2 h3

theorem mutateAddLinkP_valid {bi : Int} (g : Genome W) (o : MutOpts W) (rs : List Nat) (L : Local W)
    (hw : WFT g) (hh : Holds L g) (hd : HeadLe bi g) : PValid bi (MutPost g L) L (mutateAddLinkP g o rs) := by
  have hrefl : ∀ (L' : Local W) b rs', L'.B = L.B → L'.R = L.R → MutPost g L L' (.ok ((g, b), rs')) :=
    fun L' b rs' e1 e2 => ⟨hw, LStep.refl g, ViewExt.of_holds hh e1 e2⟩
  rw [mutateAddLinkP_eq]
  split
  · exact .done trivial
  split
  · exact .done trivial
  split
  · exact .done trivial
  split
  · exact .done trivial
  · exact .done (hrefl _ _ _ rfl rfl)
  · exact .done (hrefl _ _ _ rfl rfl)
  rename_i n1 n2 rs2 hf
  obtain ⟨hn1, hn2, hsens, hnew⟩ := C05.findOpenLink_spec g _ _ _ _ _ _ n1 n2 hf
  refine linkTailP_valid g _ _ _ _ _ _ _ L hw hh hd (fun b hb => by simpa using hb) (List.mem_map_of_mem hn1)
    (List.mem_map_of_mem hn2) ?_ hnew (fun _ _ => trivial) (fun L' e1 e2 => .done (hrefl _ _ _ e1 e2)) ?_
  · intro n hn e
    rw [node_unique g.nodes hw.wf.nodesSorted n n2 hn hn2 e]
    exact hsens
  · intro L' x rs' h1 h2 h3
    split
    · exact .done trivial
    · exact .done ⟨h1, h2, h3⟩

theorem LStep.rolesOld {g g' : Genome W} (h : LStep g g') : ∀ p ∈ gr g, p ∈ gr g' := by
  intro p hp
  obtain ⟨n, hn, rfl⟩ := List.mem_map.mp hp
  obtain ⟨m, hm, e1, e2⟩ := h.nodesOld n hn
  exact List.mem_map.mpr ⟨m, hm, by simp only [nodeRole, e1, e2]⟩

theorem MutPost.trans {g g1 : Genome W} {L L1 L2 : Local W} {r : MRes W} (hs : LStep g g1) (hv : ViewExt L L1 g1)
    (h : MutPost g1 L1 L2 r) : MutPost g L L2 r := by
  unfold MutPost at h ⊢
  split
  · trivial
  · rename_i g' _ _
    dsimp only at h
    exact ⟨h.1, hs.trans h.2.1, hv.trans h.2.2 h.2.1.bindsOld h.2.1.rolesOld⟩

def ConnPost (g : Genome W) (L : Local W) (L' : Local W) (r : CRes W) : Prop :=
  match r with
  | .error _ => True
  | .ok (none, _) => L'.B = L.B ∧ L'.R = L.R
  | .ok (some (g', _), _) => WFT g' ∧ LStep g g' ∧ ViewExt L L' g' ∧ g'.nodes = g.nodes

theorem connectOneP_valid {bi : Int} (sensor output : Node) (g : Genome W) (added : Bool) (rs : List Nat) (L : Local W)
    (hw : WFT g) (hh : Holds L g) (hd : HeadLe bi g) (hsn : sensor ∈ g.nodes) (ho : output ∈ g.nodes)
    (hos : output.isSensor = false) : PValid bi (ConnPost g L) L (connectOneP sensor output g added rs) := by
  rw [connectOneP_eq]
  split
  · exact .done ⟨hw, LStep.refl g, ViewExt.of_holds hh rfl rfl, rfl⟩
  rename_i hany
  refine linkTailP_valid g _ _ _ _ _ _ _ L hw hh hd (fun b hb => by simpa using hb) (List.mem_map_of_mem hsn)
    (List.mem_map_of_mem ho) ?_ ?_ (fun _ _ => trivial) (fun L' e1 e2 => .done ⟨e1, e2⟩)
    (fun L' x rs' h1 h2 h3 => .done ⟨h1, h2, h3, rfl⟩)
  · intro n hn e
    rw [node_unique g.nodes hw.wf.nodesSorted n output hn ho e]
    exact hos
  · intro y hy e
    apply hany
    exact List.any_eq_true.mpr ⟨y, hy, by simp [e.1, e.2.1]⟩

theorem connectLoopP_valid {bi : Int} (sensor : Node) (outs : List Node) :
    ∀ (g : Genome W) (added : Bool) (rs : List Nat) (L : Local W), WFT g → Holds L g → HeadLe bi g → sensor ∈ g.nodes →
      (∀ o ∈ outs, o ∈ g.nodes ∧ o.isSensor = false) →
      PValid bi (MutPost g L) L (connectLoopP sensor outs g added rs) := by
  induction outs with
  | nil =>
    intro g added rs L hw hh _ _ _
    exact .done ⟨hw, LStep.refl g, ViewExt.of_holds hh rfl rfl⟩
  | cons o os ih =>
    intro g added rs L hw hh hd hsn ho
    unfold connectLoopP
    refine (connectOneP_valid sensor o g added rs L hw hh hd hsn (ho o (by simp)).1 (ho o (by simp)).2).bind ?_
    intro L' r hpost
    unfold ConnPost at hpost
    split
    · exact .done trivial
    · simp only at hpost
      exact .done ⟨hw, LStep.refl g, ViewExt.of_holds hh hpost.1 hpost.2⟩
    · rename_i g' added' rs'
      dsimp only at hpost
      obtain ⟨hw', hs', hv', hn'⟩ := hpost
      refine (ih g' added' rs' L' hw' hv'.holds (hd.of_step hs') (hn' ▸ hsn)
        (fun x hx => hn' ▸ ho x (List.mem_cons_of_mem _ hx))).mono ?_
      intro L'' r' hp
      exact MutPost.trans hs' hv' hp

theorem mutateConnectSensorsP_valid {bi : Int} (g : Genome W) (rs : List Nat) (L : Local W)
    (hw : WFT g) (hh : Holds L g) (hd : HeadLe bi g) : PValid bi (MutPost g L) L (mutateConnectSensorsP g rs) := by
  unfold mutateConnectSensorsP
  split
  · exact .done trivial
  dsimp only
  split
  · exact .done ⟨hw, LStep.refl g, ViewExt.of_holds hh rfl rfl⟩
  split
  · exact .done trivial
  split
  · exact .done trivial
  rename_i sensor hsen
  have hsm := List.mem_of_getElem? hsen
  have hs : sensor ∈ g.nodes := (List.mem_filter.mp (List.mem_filter.mp hsm).1).1
  exact connectLoopP_valid sensor _ g false _ L hw hh hd hs (fun o ho => by
    have := List.mem_filter.mp ho
    exact ⟨this.1, by simpa using this.2⟩)

theorem viewExt_addSplit {L L' : Local W} {g : Genome W} (x1 x2 : Gene W) (n : Node) (h : Holds L g)
    (hB : L'.B = geneBind x2 :: geneBind x1 :: L.B) (hR : L'.R = nodeRole n :: L.R) :
    ViewExt L L' ({ g with genes := geneInsert (geneInsert g.genes x1) x2, nodes := nodeInsert g.nodes n } : Genome W) :=
  .of_perm (bs := [geneBind x2, geneBind x1]) (rs := [nodeRole n]) h hB hR (gb_addSplit g x1 x2 n) (gr_addSplit g x1 x2 n)

theorem addSplit_post {bi : Int} {L L' : Local W} {g g1 : Genome W} (n : Node) (x1 x2 : Gene W) (hs1 : LStep g g1) (hw1 : WFT g1)
    (hh1 : Holds L g1) (hd1 : HeadLe bi g1) (hnid : n.id ∉ nodeIds g1) (hnh : n.kind = Kind.hidden) (hnt : TraitRefOk g1 n.trait)
    (h1 : x1.dst = n.id ∧ x1.src ∈ nodeIds g1 ∧ TraitRefOk g1 x1.trait)
    (h2 : x2.src = n.id ∧ x2.dst ∈ nodeIds g1 ∧ TraitRefOk g1 x2.trait)
    (h2s : ∀ m ∈ g1.nodes, m.id = x2.dst → m.isSensor = false)
    (hi1 : ∀ y ∈ g1.genes, y.inn ≠ x1.inn) (hi2 : ∀ y ∈ g1.genes, y.inn ≠ x2.inn) (hi12 : x1.inn ≠ x2.inn)
    (hlt1 : bi < x1.inn) (hlt2 : bi < x2.inn) (hB : L'.B = geneBind x2 :: geneBind x1 :: L.B) (hR : L'.R = nodeRole n :: L.R) :
    WFT ({ g1 with genes := geneInsert (geneInsert g1.genes x1) x2, nodes := nodeInsert g1.nodes n } : Genome W) ∧
      LStep g ({ g1 with genes := geneInsert (geneInsert g1.genes x1) x2, nodes := nodeInsert g1.nodes n } : Genome W) ∧
      ViewExt L L' ({ g1 with genes := geneInsert (geneInsert g1.genes x1) x2, nodes := nodeInsert g1.nodes n } : Genome W) := by
  have hw' := addSplit_wft g1 n x1 x2 hw1 hnid hnh hnt h1 h2 h2s hi1 hi2 hi12
  exact ⟨hw', hs1.trans (lstep_addSplit g1 x1 x2 n hw1 hw' hnh (fun h0 h0m => Int.lt_of_le_of_lt (hd1 h0 h0m) hlt1)
    (fun h0 h0m => Int.lt_of_le_of_lt (hd1 h0 h0m) hlt2)), viewExt_addSplit x1 x2 n hh1 hB hR⟩

theorem mutateAddNodeP_valid {bi : Int} (g : Genome W) (o : MutOpts W) (rs : List Nat) (L : Local W)
    (hw : WFT g) (hh : Holds L g) (hd : HeadLe bi g) : PValid bi (MutPost g L) L (mutateAddNodeP g o rs) := by
  have hrefl : ∀ (L' : Local W) b rs', L'.B = L.B → L'.R = L.R → MutPost g L L' (.ok ((g, b), rs')) :=
    fun L' b rs' e1 e2 => ⟨hw, LStep.refl g, ViewExt.of_holds hh e1 e2⟩
  unfold mutateAddNodeP
  by_cases hg : g.genes.isEmpty = true
  · rw [if_pos hg]
    exact .done (hrefl _ _ _ rfl rfl)
  rw [if_neg hg]
  dsimp only
  split
  · exact .done trivial
  · exact .done (hrefl _ _ _ rfl rfl)
  rename_i k rs1 _
  split
  · exact .done trivial
  rename_i gene hk
  have hgm : gene ∈ g.genes := List.mem_of_getElem? hk
  obtain ⟨hs1, hw1, hgb1⟩ := lstep_disable g k hw
  have hh1 : Holds L ({ g with genes := setEnabledAt g.genes k false } : Genome W) := hh.same hgb1 rfl
  have hd1 : HeadLe bi ({ g with genes := setEnabledAt g.genes k false } : Genome W) := hd.of_step hs1
  have hsrc : gene.src ∈ nodeIds g := (hw.wf.endpoints gene hgm).1
  have hdst : gene.dst ∈ nodeIds g := (hw.wf.endpoints gene hgm).2
  have hsens : ∀ m ∈ g.nodes, m.id = gene.dst → m.isSensor = false := hw.wf.noSensorTarget gene hgm
  have htrg : TraitRefOk g gene.trait := hw.wf.traitRefs.1 gene hgm
  have hgeneB : geneBind gene ∈ L.B := hh.B gene hgm
  refine .snap fun recs hs => ?_
  split
  · rename_i inn hfind
    have hmem : inn ∈ recs := List.mem_of_find?_eq_some hfind
    have hp := List.find?_some hfind
    simp only [Bool.and_eq_true, beq_iff_eq] at hp
    obtain ⟨⟨⟨ht, hin⟩, hout⟩, hold⟩ := hp
    split
    · exact .done trivial
    rename_i tr0 htr0
    split
    · exact .done ⟨hw1, hs1, ViewExt.of_holds hh1 rfl rfl⟩
    rename_i hhas
    have hnid : inn.newNode ∉ nodeIds g :=
      not_mem_nodeIds_of_hasNode ({ g with genes := setEnabledAt g.genes k false } : Genome W) _
        (Bool.eq_false_iff.mpr hhas)
    have hk1 := List.mem_append_left L.known hmem
    refine .ghostB (b := (inn.inn, inn.inId, inn.newNode, gene.recur))
      (.inr (.inl ⟨inn, hk1, ht, geneBind gene, hgeneB, hold.symm, rfl⟩)) ?_
    refine .ghostB (b := (inn.inn2, inn.newNode, inn.outId, false)) (.inr (.inr ⟨inn, hk1, ht, rfl⟩)) ?_
    refine .ghostR (r := (inn.newNode, Kind.hidden)) ⟨inn, hk1, ht, rfl⟩ (.done ?_)
    refine addSplit_post (bi := bi) (L := L)
      { id := inn.newNode, kind := Kind.hidden, act := defaultActivation, trait := tr0 }
      { inn := inn.inn, src := gene.src, dst := inn.newNode, recur := gene.recur, w := one, mnum := zero, en := true,
        trait := gene.trait }
      { inn := inn.inn2, src := inn.newNode, dst := gene.dst, recur := false, w := gene.w, mnum := zero, en := true,
        trait := gene.trait }
      hs1 hw1 hh1 hd1 hnid rfl (traitAt_ok _ _ tr0 htr0 hw.tnz) ⟨rfl, hsrc, htrg⟩ ⟨rfl, hdst, htrg⟩ hsens ?_ ?_
      (hs.ne12 inn hmem ht) (hs.above inn hmem _ (inn_mem_recInns inn)) (hs.above inn hmem _ (inn2_mem_recInns inn ht))
      (by simp only [geneBind, hin, hout]) rfl
    · intro y hy e
      have := (hs.node1 inn hmem ht _ (hh1.B y hy) e).2
      simp only [geneBind] at this
      exact hnid (this ▸ (hw1.wf.endpoints y hy).2)
    · intro y hy e
      have := hs.node2 inn hmem ht _ (hh1.B y hy) e
      simp only [geneBind, Prod.mk.injEq] at this
      exact hnid (this.2.1 ▸ (hw1.wf.endpoints y hy).1)
  · refine .nextNode fun nid hfn => ?_
    split
    · exact .done trivial
    rename_i tr0 htr0
    split
    · exact .done trivial
    rename_i act rs2 _
    refine .nextInn fun k1 hf1 => ?_
    refine .nextInn fun k2 hf2 => ?_
    have hk12 : k1 ≠ k2 := fun e => hf2.2.1 (e ▸ List.mem_cons_self)
    refine .store (.inr ⟨rfl, List.mem_cons_of_mem _ List.mem_cons_self, List.mem_cons_self, hk12, List.mem_cons_self,
      geneBind gene, hgeneB, rfl, rfl, rfl⟩) ?_
    have hnid : nid ∉ nodeIds g := by
      intro hm
      obtain ⟨m, hm', e⟩ := List.mem_map.mp hm
      exact hfn.1 _ (hh.R m hm') e
    refine .ghostB (b := (k1, gene.src, nid, gene.recur))
      (.inr (.inl ⟨_, List.mem_cons_self, rfl, geneBind gene, hgeneB, rfl, rfl⟩)) ?_
    refine .ghostB (b := (k2, nid, gene.dst, false)) (.inr (.inr ⟨_, List.mem_cons_self, rfl, rfl⟩)) ?_
    refine .ghostR (r := (nid, Kind.hidden)) ⟨_, List.mem_cons_self, rfl, rfl⟩ (.done ?_)
    refine addSplit_post (bi := bi) (L := L) { id := nid, kind := Kind.hidden, act := act, trait := tr0 }
      { inn := k1, src := gene.src, dst := nid, recur := gene.recur, w := one, mnum := zero, en := true, trait := gene.trait }
      { inn := k2, src := nid, dst := gene.dst, recur := false, w := gene.w, mnum := zero, en := true, trait := gene.trait }
      hs1 hw1 hh1 hd1 hnid rfl (traitAt_ok _ _ tr0 htr0 hw.tnz) ⟨rfl, hsrc, htrg⟩ ⟨rfl, hdst, htrg⟩ hsens ?_ ?_
      hk12 hf1.2.2 hf2.2.2 rfl rfl
    · intro y hy (e : y.inn = k1)
      have := hf1.1 _ (hh1.B y hy)
      simp only [geneBind] at this
      omega
    · intro y hy (e : y.inn = k2)
      have := hf2.1 _ (hh1.B y hy)
      simp only [geneBind] at this
      omega

theorem mutKind_valid {bi : Int} (k : MutKind W) (g : Genome W) (rs : List Nat) (L : Local W)
    (hw : WFT g) (hh : Holds L g) (hd : HeadLe bi g) : PValid bi (MutPost g L) L (k.prog g rs) := by
  cases k with
  | addLink o => exact mutateAddLinkP_valid g o rs L hw hh hd
  | addNode o => exact mutateAddNodeP_valid g o rs L hw hh hd
  | connectSensors => exact mutateConnectSensorsP_valid g rs L hw hh hd

end GoNeat.C16
