/-
  Kind B (exact arithmetic) helper lemmas for C12: the network → fast-solver translation folds the bias links of a
  neuron into `biasList` and keeps the other links as connections; in a commutative (semi)ring the fast solver's
  pre-activation value  Σ_{connections into t} signal·weight + biasList[t]  equals the standard solver's
  Σ_{incoming links} weight·source  with bias sources valued 1 - the two differ only in summation order, operand
  order of the products and the position of the bias terms, which is why the cross-solver statement of C12 is
  "up to floating-point summation order".

  `ExactArith K` bridges the core-only `Scalar` operations to Mathlib's algebraic structure on the same type.
-/
import GoNeat.Proofs.FastFF
import GoNeat.Proofs.ScalarInt
import Mathlib.Algebra.Ring.Int.Defs
import Mathlib.Tactic.Ring

set_option linter.unusedSectionVars false

namespace GoNeat

class ExactArith (K : Type) [Scalar K] [CommSemiring K] : Prop where
  zero_eq : (Scalar.zero : K) = 0
  one_eq : (Scalar.one : K) = 1
  add_eq : ∀ a b : K, Scalar.add a b = a + b
  mul_eq : ∀ a b : K, Scalar.mul a b = a * b

open ExactInt in
instance : ExactArith Int := ⟨rfl, rfl, fun _ _ => rfl, fun _ _ => rfl⟩

namespace Fast
open GoNeat.Solver (Err)

variable {W : Type} [Scalar W]

/-- one link of `processIncomingConnections` that did not fail: its source node exists and has a fast index; a bias
    link is folded into the bias cell `t`, any other becomes a connection -/
theorem links_cons_ok (net : Net W) (lk : List (Int × Nat)) (t : Nat) (l : NLink W) (ls : List (NLink W))
    (b : List W) (c : List (FLink W)) (r : List W × List (FLink W))
    (hrun : procIncoming.links net lk t (l :: ls) b c = .ok r) :
    ∃ sn sIdx, net.nodes[l.src]? = some sn ∧ lookupId lk sn.id = some sIdx ∧
      (((sn.kind == Kind.bias) = true ∧
          procIncoming.links net lk t ls (b.set t (Scalar.add (getW b t) l.w)) c = .ok r) ∨
       ((sn.kind == Kind.bias) = false ∧
          procIncoming.links net lk t ls b (c ++ [{ src := sIdx, dst := t, w := l.w }]) = .ok r)) := by
  unfold procIncoming.links at hrun
  cases hn : net.nodes[l.src]? with
  | none => rw [hn] at hrun; cases hrun
  | some sn =>
    rw [hn] at hrun
    simp only at hrun
    cases hl : lookupId lk sn.id with
    | none => rw [hl] at hrun; cases hrun
    | some sIdx =>
      rw [hl] at hrun
      simp only at hrun
      refine ⟨sn, sIdx, rfl, hl, ?_⟩
      by_cases hb : (sn.kind == Kind.bias) = true
      · exact Or.inl ⟨hb, by rw [if_pos hb] at hrun; exact hrun⟩
      · exact Or.inr ⟨by simpa using hb, by rw [if_neg hb] at hrun; exact hrun⟩

section Exact
variable {K : Type} [Scalar K] [CommSemiring K] [ExactArith K]

/-- Σ weight·value over a link list, as the standard solver accumulates it (from `acc`, in list order) -/
def linkSum (vals : Nat → K) (ls : List (NLink K)) (acc : K) : K :=
  ls.foldl (fun a l => Scalar.add a (Scalar.mul l.w (vals l.src))) acc

theorem foldl_add_shift {α : Type} (t : α → K) (l : List α) (acc : K) :
    l.foldl (fun a x => Scalar.add a (t x)) acc = acc + l.foldl (fun a x => Scalar.add a (t x)) 0 := by
  induction l generalizing acc with
  | nil => simp
  | cons x l ih =>
    simp only [List.foldl_cons]
    rw [ih (Scalar.add acc _), ih (Scalar.add 0 _), ExactArith.add_eq, ExactArith.add_eq]
    ring

theorem linkSum_cons (vals : Nat → K) (l : NLink K) (ls : List (NLink K)) :
    linkSum vals (l :: ls) 0 = l.w * vals l.src + linkSum vals ls 0 := by
  simp only [linkSum, List.foldl_cons]
  rw [foldl_add_shift (fun x : NLink K => Scalar.mul x.w (vals x.src)), ExactArith.add_eq, ExactArith.mul_eq, zero_add]

theorem tFold_cons (sig : Nat → K) (c : FLink K) (cs : List (FLink K)) :
    tFold sig (c :: cs) 0 = sig c.src * c.w + tFold sig cs 0 := by
  simp only [tFold, List.foldl_cons]
  rw [foldl_add_shift (fun x : FLink K => Scalar.mul (sig x.src) x.w), ExactArith.add_eq, ExactArith.mul_eq, zero_add]

theorem translation_node (net : Net K) (lk : List (Int × Nat)) (t : Nat) (vals sig : Nat → K)
    (ls : List (NLink K)) (b : List K) (c : List (FLink K)) (b' : List K) (c' : List (FLink K))
    (ht : t < b.length)
    (hrun : procIncoming.links net lk t ls b c = .ok (b', c'))
    (hval : ∀ l ∈ ls, ∀ sn, net.nodes[l.src]? = some sn →
      (sn.kind == Kind.bias) = true → vals l.src = 1)
    (hsig : ∀ l ∈ ls, ∀ sn sIdx, net.nodes[l.src]? = some sn → lookupId lk sn.id = some sIdx →
      (sn.kind == Kind.bias) = false → sig sIdx = vals l.src) :
    ∃ new, c' = c ++ new ∧ (∀ n ∈ new, n.dst = t) ∧ b'.length = b.length ∧
      (∀ j, j ≠ t → getW b' j = getW b j) ∧
      tFold sig new 0 + getW b' t = getW b t + linkSum vals ls 0 := by
  induction ls generalizing b c with
  | nil =>
    simp only [procIncoming.links, Except.ok.injEq, Prod.mk.injEq] at hrun
    obtain ⟨rfl, rfl⟩ := hrun
    exact ⟨[], by simp, by simp, rfl, fun _ _ => rfl, by simp [tFold, linkSum]⟩
  | cons l ls ih =>
    obtain ⟨sn, sIdx, hn, hl, hcase⟩ := links_cons_ok net lk t l ls b c _ hrun
    have hval' : ∀ l' ∈ ls, ∀ sn, net.nodes[l'.src]? = some sn → (sn.kind == Kind.bias) = true → vals l'.src = 1 :=
      fun l' h' => hval l' (by simp [h'])
    have hsig' : ∀ l' ∈ ls, ∀ sn sIdx, net.nodes[l'.src]? = some sn → lookupId lk sn.id = some sIdx →
        (sn.kind == Kind.bias) = false → sig sIdx = vals l'.src := fun l' h' => hsig l' (by simp [h'])
    rcases hcase with ⟨hb, hrun⟩ | ⟨hb', hrun⟩
    · -- bias link: folded into biases[t]
      obtain ⟨new, h1, h2, h3, h4, h5⟩ := ih (b.set t (Scalar.add (getW b t) l.w)) c (by simpa using ht) hrun
        hval' hsig'
      refine ⟨new, h1, h2, by rw [h3]; simp, fun j hj => ?_, ?_⟩
      · rw [h4 j hj, getW_set_ne _ _ hj]
      · rw [h5, getW_set_self _ _ ht, linkSum_cons, hval l (by simp) sn hn hb, ExactArith.add_eq]
        ring
    · -- ordinary link: one new connection
      obtain ⟨new, h1, h2, h3, h4, h5⟩ := ih b (c ++ [{ src := sIdx, dst := t, w := l.w }]) ht hrun hval' hsig'
      refine ⟨{ src := sIdx, dst := t, w := l.w } :: new, by rw [h1]; simp, ?_, h3, h4, ?_⟩
      · intro n hn'
        rcases List.mem_cons.mp hn' with rfl | hn'
        · rfl
        · exact h2 n hn'
      · rw [tFold_cons, linkSum_cons, add_assoc, h5, ← hsig l (by simp) sn sIdx hn hl hb']
        ring

end Exact
end Fast
end GoNeat
