/-
  Every network built by `Genome.Genesis` (Model/Genesis.lean) satisfies `SolverMod.ctrlUnread`: the links of the
  ordinary nodes come from connection genes (endpoints resolved among the genome's nodes), the wires of a control
  gene are attached to the control node only and resolved among the genome's nodes, outputs are genome nodes.
  Hence the control-node state is dead in every phenotype (C13Mod); that `Network.Flush` did not reset it before repair
  842abdd (defect F15) was harmless for this reason.
-/
import GoNeat.Proofs.Genesis
import GoNeat.Model.SolverMod

set_option linter.unusedSectionVars false

namespace GoNeat.Genesis

variable {W : Type}

theorem wireLinks_src_lt {nodes : List Node} {c : Nat} (ws : List (Wire W)) :
    ∀ ls, wireLinks nodes c true ws = .ok ls → ∀ l ∈ ls, l.src < nodes.length := by
  intro ls h l hl
  obtain ⟨hk, rfl⟩ := (wireLinks_ok ws ls).mp h
  obtain ⟨w, hw, rfl⟩ := List.mem_map.mp hl
  obtain ⟨k, hk⟩ := hk w hw
  rw [if_pos rfl, hk]
  exact idxOf_lt hk

theorem ctrlNodes_src_lt (nodes : List Node) :
    ∀ (mods : List (Module W)) next cs, ctrlNodes nodes mods next = .ok cs →
      ∀ cn ∈ cs, ∀ l ∈ cn.incoming, l.src < nodes.length := by
  refine ctrlNodes_induct ?_ ?_ ?_
  · intro next cn hcn
    exact absurd hcn List.not_mem_nil
  · intro m ms next cs _ ih
    exact ih
  · intro m ms next ins outs cs _ hin _ ih cn hcn
    rcases List.mem_cons.mp hcn with rfl | hcn
    · exact wireLinks_src_lt m.ins ins hin
    · exact ih cn hcn

theorem positions_lt (p : Node → Bool) (nodes : List Node) (i : Nat) :
    ∀ o ∈ positions p nodes i, o < i + nodes.length := by
  induction nodes generalizing i with
  | nil => simp [positions]
  | cons n ns ih =>
    intro o ho
    unfold positions at ho
    split at ho
    · simp only [List.mem_cons] at ho
      rcases ho with rfl | ho
      · simp
      · have := ih (i + 1) o ho; simp; omega
    · have := ih (i + 1) o ho; simp; omega

theorem genesis_ctrlUnread [Scalar W] {g : Genome W} {netId : Int} {net : Net W} (h : genesis g netId = .ok net) :
    SolverMod.ctrlUnread net = true := by
  obtain ⟨tbl, cs, hl, hc, rfl, _, _⟩ := genesis_ok h
  have hlen : tbl.length = g.nodes.length := by rw [length_linkGenes _ _ _ _ hl]; simp
  unfold SolverMod.ctrlUnread
  simp only [Bool.and_eq_true, List.all_eq_true, Bool.or_eq_true, Bool.not_eq_true', decide_eq_true_eq, hlen]
  refine ⟨⟨fun nd hnd => Or.inr (fun l hlk => ?_), ctrlNodes_src_lt _ _ _ _ hc⟩, fun o ho => ?_⟩
  · obtain ⟨i, hi, hget⟩ := List.getElem_of_mem hnd
    have hspec := genesis_node hl i
    rw [List.getElem?_eq_getElem hi, hget, List.getElem?_eq_getElem (hlen ▸ hi)] at hspec
    cases Option.some.inj hspec
    simp only [into, List.mem_filter, List.mem_filterMap] at hlk
    obtain ⟨⟨x, _, hx⟩, _⟩ := hlk
    unfold expr at hx
    split at hx
    · exact (geneLink_lt hx).1
    · cases hx
  · have := positions_lt _ g.nodes 0 o ho
    omega

end GoNeat.Genesis
