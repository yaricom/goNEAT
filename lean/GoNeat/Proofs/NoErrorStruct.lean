/-
  C02 "without error": what the three structural mutators (`mutateConnectSensors`, `mutateAddLink`, `mutateAddNode`) draw
  and search before they turn to the innovation registry never returns an implementation error:
    * the search for an open pair of nodes (`safe_findOpenLink`: two listed nodes, at different positions unless a recurrent
      link was asked for) and the choice of the gene to split (`safe_pickSplitSmall`, `safe_pickSplitLarge`: an index of the
      gene list);
    * the activation type of a new node (`safe_randomNodeActivationType`), given `ActOk o`: the node-activator table of the
      options is usable (one activator, or as many probabilities as activators with a non-negative total) together with
      the float fact `UnitMulLe` (a draw `f < 1` times a non-negative total does not exceed the total).
  `RecTraits T reg`: every link record of the innovation registry names a trait index below the common trait count `T`
  (records are written with `rand.Intn(len(g.Traits))`, and all genomes of a population have the same number of traits).
  The mutators themselves are Proofs/ParNoError.lean (their programs, under every interference) and Proofs/NoErrorSeq.lean
  (the sequential operators).
  Kind A (the float fact is an explicit hypothesis; proved for exact arithmetic in Props/C02NoErrorExact.lean).
-/
import GoNeat.Proofs.NoErrorBase
import GoNeat.Proofs.WFLemmas

set_option linter.unusedSectionVars false

namespace GoNeat.NoErr
open GoNeat Scalar
variable {W : Type} [Scalar W]

def RecTraits (T : Nat) (reg : Reg W) : Prop := ∀ i ∈ reg.records, i.typ = 2 → 0 ≤ i.traitNum ∧ i.traitNum.toNat < T
instance (T : Nat) (reg : Reg W) : Decidable (RecTraits T reg) := by unfold RecTraits; infer_instance

/-- float fact used by `SingleRouletteThrow`: a draw below one times a non-negative total is at most the total -/
def UnitMulLe (W : Type) [Scalar W] : Prop :=
  ∀ (x : Nat) (t : W), x < 2 ^ 63 → eq (ofUnit63 x : W) one = false → le zero t = true → le (mul (ofUnit63 x) t) t = true

def ActOk (o : MutOpts W) : Prop :=
  o.activators.length = 1 ∨
  (2 ≤ o.activators.length ∧ o.activators.length = o.activatorProbs.length ∧ le zero (o.activatorProbs.foldl add zero) = true)
instance (o : MutOpts W) : Decidable (ActOk o) := by unfold ActOk; infer_instance

theorem safe_newLinkWeight (rs : List Nat) : Safe (fun _ => True) (newLinkWeight (W := W) rs) := by
  unfold newLinkWeight
  have h := safe_signedUnit (W := W) rs
  split
  · next e he => exact h.err he
  · trivial

theorem rouletteScan_some (t : W) (vs : List W) (acc : W) (i : Nat) (hne : vs ≠ []) (h : le t (vs.foldl add acc) = true) :
    ∃ k, rouletteScan t vs acc i = some k ∧ k < i + vs.length := by
  induction vs generalizing acc i with
  | nil => exact absurd rfl hne
  | cons v vs ih =>
    unfold rouletteScan
    simp only
    split
    · exact ⟨i, rfl, by simp⟩
    · next hle =>
      cases vs with
      | nil => simp only [List.foldl_cons, List.foldl_nil] at h; exact absurd h hle
      | cons v2 vs2 =>
        obtain ⟨k, hk, hlt⟩ := ih (add acc v) (i + 1) (by simp) (by simpa using h)
        exact ⟨k, hk, by simp only [List.length_cons] at hlt ⊢; omega⟩

theorem safe_singleRouletteThrow (hlaw : UnitMulLe W) (probs : List W) (hne : probs ≠ [])
    (htot : le zero (probs.foldl add zero) = true) (rs : List Nat) (hv : Valid rs) :
    Safe (fun r => ∃ k, r = some k ∧ k < probs.length) (singleRouletteThrow probs rs) := by
  unfold singleRouletteThrow
  dsimp only
  have hf := safe_float64 (W := W) rs
  rcases he : Rand.float64 (W := W) rs with e | ⟨f, rs1⟩
  · exact hf.err he
  obtain ⟨x, hxm, rfl, hx⟩ := hf.post he
  obtain ⟨k, hk, hlt⟩ := rouletteScan_some (mul (ofUnit63 x) (probs.foldl add zero)) probs zero 0 hne (hlaw x _ (hv x hxm) hx htot)
  exact ⟨k, hk, by omega⟩

theorem safe_randomNodeActivationType (hlaw : UnitMulLe W) (o : MutOpts W) (ha : ActOk o) (rs : List Nat) (hv : Valid rs) :
    Safe (fun _ => True) (randomNodeActivationType o rs) := by
  unfold randomNodeActivationType
  split
  · next h0 => rcases ha with h | ⟨h, _⟩ <;> simp [h0] at h
  · trivial
  · next hn0 hn1 =>
    rcases ha with h | ⟨h2, hlen, htot⟩
    · exfalso
      match hacts : o.activators, h with
      | [a], _ => exact hn1 a hacts
    · rw [if_neg (by simpa using hlen)]
      have hne : o.activatorProbs ≠ [] := by
        intro hnil; rw [hnil] at hlen; simp only [List.length_nil] at hlen; omega
      have hs := safe_singleRouletteThrow hlaw o.activatorProbs hne htot rs hv
      rcases he : singleRouletteThrow o.activatorProbs rs with e | ⟨_ | i, rs'⟩
      · exact hs.err he
      · obtain ⟨k, hk, _⟩ := hs.post he
        cases hk
      · obtain ⟨k, hk, hlt⟩ := hs.post he
        cases hk
        dsimp only
        rcases hact : o.activators[i]? with _ | a
        · rw [List.getElem?_eq_none_iff] at hact; omega
        · trivial

theorem safe_pickDistinct (nodesLen fns : Nat) (h1 : 0 < nodesLen) (h2 : fns < nodesLen) (fuel : Nat) (rs : List Nat) :
    Safe (fun r => r.1 < nodesLen ∧ r.2 < nodesLen ∧ r.1 ≠ r.2) (pickDistinct nodesLen fns fuel rs) := by
  induction fuel generalizing rs with
  | zero => simp [pickDistinct, Safe]
  | succ n ih =>
    unfold pickDistinct
    have ha := safe_intn nodesLen h1 rs
    split
    · next e he => exact ha.err he
    · next n1 rs1 he =>
      rw [he] at ha
      have hb := safe_intn (nodesLen - fns) (by omega) rs1
      split
      · next e he2 => exact hb.err he2
      · next k rs2 he2 =>
        rw [he2] at hb
        simp only
        split
        · exact ih rs2
        · next hne =>
          have hk : k < nodesLen - fns := hb
          exact ⟨ha, by show fns + k < nodesLen; omega, by simpa using hne⟩

theorem safe_pickPair (nodesLen fns : Nat) (h1 : 0 < nodesLen) (h2 : fns < nodesLen) (doRecur : Bool) (rs : List Nat) :
    Safe (fun r => r.1 < nodesLen ∧ r.2 < nodesLen ∧ (doRecur = false → r.1 ≠ r.2)) (pickPair (W := W) nodesLen fns doRecur rs) := by
  unfold pickPair
  split
  · next hd =>
    have hf := safe_float64 (W := W) rs
    split
    · next e he => exact hf.err he
    · next f rs1 he =>
      split
      · have hb := safe_intn (nodesLen - fns) (by omega) rs1
        split
        · next e he2 => exact hb.err he2
        · next k rs2 he2 =>
          have hk : k < nodesLen - fns := hb.post he2
          exact ⟨by show fns + k < nodesLen; omega, by show fns + k < nodesLen; omega, by simp [hd]⟩
      · exact (safe_pickDistinct nodesLen fns h1 h2 _ rs1).mono (fun a ha => ⟨ha.1, ha.2.1, fun _ => ha.2.2⟩)
  · exact (safe_pickDistinct nodesLen fns h1 h2 _ rs).mono (fun a ha => ⟨ha.1, ha.2.1, fun _ => ha.2.2⟩)

def FoundOk (g : Genome W) (doRecur : Bool) (r : Option (Node × Node) × Bool) : Prop :=
  r.2 = true → ∃ (n1 n2 : Node) (i1 i2 : Nat), r.1 = some (n1, n2) ∧ g.nodes[i1]? = some n1 ∧ g.nodes[i2]? = some n2 ∧ (doRecur = false → i1 ≠ i2)

theorem safe_findOpenLink (g : Genome W) (fns : Nat) (h1 : 0 < g.nodes.length) (h2 : fns < g.nodes.length) (doRecur : Bool)
    (tries : Nat) (last : Option (Node × Node)) (rs : List Nat) :
    Safe (FoundOk g doRecur) (findOpenLink g fns doRecur tries last rs) := by
  induction tries generalizing last rs with
  | zero => unfold findOpenLink; show FoundOk g doRecur _; intro h; cases h
  | succ n ih =>
    unfold findOpenLink
    have hp := safe_pickPair (W := W) g.nodes.length fns h1 h2 doRecur rs
    split
    · next e he => exact hp.err he
    · next i1 i2 rs1 he =>
      obtain ⟨hi1, hi2, hne⟩ : i1 < g.nodes.length ∧ i2 < g.nodes.length ∧ (doRecur = false → i1 ≠ i2) := hp.post he
      split
      · next n1 n2 hn1 hn2 =>
        simp only
        split
        · exact ih _ rs1
        · split
          · exact ih _ rs1
          · show FoundOk g doRecur _; intro _; exact ⟨n1, n2, i1, i2, rfl, hn1, hn2, hne⟩
      · next hnone =>
        exfalso
        have a1 : g.nodes[i1]? = some g.nodes[i1] := List.getElem?_eq_getElem hi1
        have a2 : g.nodes[i2]? = some g.nodes[i2] := List.getElem?_eq_getElem hi2
        exact hnone _ _ a1 a2

theorem ids_ne_of_sorted (nodes : List Node) (hs : NodesSorted nodes) {i j : Nat} {a b : Node}
    (hi : nodes[i]? = some a) (hj : nodes[j]? = some b) (hne : i ≠ j) : a.id ≠ b.id :=
  fun e => hne (idxOf_unique (C01.sorted_ids_nodup nodes hs) (a := a.id) (by rw [hi]; rfl) (by rw [hj, e]; rfl))

theorem takeWhile_lt {α} (p : α → Bool) (l : List α) (h : ∃ a ∈ l, p a = false) : (l.takeWhile p).length < l.length := by
  induction l with
  | nil => obtain ⟨a, ha, _⟩ := h; cases ha
  | cons x xs ih =>
    rw [List.takeWhile_cons]
    split
    · next hx =>
      obtain ⟨a, ha, hpa⟩ := h
      rcases List.mem_cons.mp ha with rfl | ha'
      · rw [hx] at hpa; cases hpa
      · have := ih ⟨a, ha', hpa⟩; simp only [List.length_cons]; omega
    · simp

theorem safe_pickSplitSmall (g : Genome W) (l : List (Gene W)) (i : Nat) (rs : List Nat) :
    Safe (fun r => ∀ k, r = some k → k < i + l.length) (pickSplitSmall g l i rs) := by
  induction l generalizing i rs with
  | nil => unfold pickSplitSmall; intro k h; cases h
  | cons x xs ih =>
    unfold pickSplitSmall
    split
    · have hf := safe_float32 (W := W) rs
      split
      · next e he => exact hf.err he
      · intro k h; cases h; simp
      · exact (ih (i + 1) _).mono (fun a ha k hk => by have := ha k hk; simp only [List.length_cons]; omega)
    · exact (ih (i + 1) _).mono (fun a ha k hk => by have := ha k hk; simp only [List.length_cons]; omega)

theorem safe_pickSplitLarge (g : Genome W) (hg : g.genes ≠ []) (tries : Nat) (rs : List Nat) :
    Safe (fun r => ∀ k, r = some k → k < g.genes.length) (pickSplitLarge g tries rs) := by
  induction tries generalizing rs with
  | zero => unfold pickSplitLarge; intro k h; cases h
  | succ n ih =>
    unfold pickSplitLarge
    have h1 := safe_intn g.genes.length (List.length_pos_iff.mpr hg) rs
    split
    · next e he => exact h1.err he
    · next k rs1 he =>
      have hk : k < g.genes.length := h1.post he
      split
      · next hn => rw [List.getElem?_eq_none_iff] at hn; omega
      · split
        · intro k' h; cases h; exact hk
        · exact ih rs1

end GoNeat.NoErr
