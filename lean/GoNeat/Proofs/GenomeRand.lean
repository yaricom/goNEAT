/-
  Helper lemmas about the model of `newGenomeRand` (Model/GenomeRand.lean): what the three node loops build, what one
  matrix cell / one row / all columns contribute, for every random stream.  Kind A: no law of the scalar type is used.
-/
import GoNeat.Model.GenomeRand
import GoNeat.Spec.WF

set_option linter.unusedSectionVars false

namespace GoNeat.GenRand
open GoNeat Scalar
variable {W : Type} [Scalar W]

/-- what a node of the random genome looks like: id range ↦ kind, always trait 1 -/
def NodeFact (nIn n firstOutput nOut : Nat) (x : Node) : Prop :=
  x.trait = some 1 ∧
  ((1 ≤ x.id ∧ x.id ≤ (nIn : Int) ∧ x.kind = (if x.id = (nIn : Int) then Kind.bias else Kind.input)) ∨
   ((nIn : Int) < x.id ∧ x.id ≤ ((nIn + n : Nat) : Int) ∧ x.kind = Kind.hidden) ∨
   (((firstOutput : Nat) : Int) ≤ x.id ∧ x.id < ((firstOutput + nOut : Nat) : Int) ∧ x.kind = Kind.output))

theorem sensorNodes_mem (nIn : Nat) (x : Node) (h : x ∈ sensorNodes nIn) :
    x.trait = some 1 ∧ 1 ≤ x.id ∧ x.id ≤ (nIn : Int) ∧ x.kind = (if x.id = (nIn : Int) then Kind.bias else Kind.input) := by
  unfold sensorNodes at h
  obtain ⟨i, hi, rfl⟩ := List.mem_map.mp h
  have hi' := List.mem_range.mp hi
  refine ⟨rfl, by simp only; omega, by simp only; omega, ?_⟩
  simp only
  by_cases hc : i + 1 = nIn
  · rw [if_pos hc, if_pos (by omega)]
  · rw [if_neg hc, if_neg (by omega)]

theorem sensorNodes_sorted (nIn : Nat) : NodesSorted (sensorNodes nIn) := by
  unfold NodesSorted sensorNodes
  rw [List.pairwise_map]
  exact List.Pairwise.imp (fun {a b} (h : a < b) => by simp only; omega) List.pairwise_lt_range

theorem outputNodes_mem (fo nOut : Nat) (x : Node) (h : x ∈ outputNodes fo nOut) :
    x.trait = some 1 ∧ ((fo : Nat) : Int) ≤ x.id ∧ x.id < ((fo + nOut : Nat) : Int) ∧ x.kind = Kind.output := by
  unfold outputNodes at h
  obtain ⟨i, hi, rfl⟩ := List.mem_map.mp h
  have hi' := List.mem_range.mp hi
  exact ⟨rfl, by simp only; omega, by simp only; omega, rfl⟩

theorem outputNodes_sorted (fo nOut : Nat) : NodesSorted (outputNodes fo nOut) := by
  unfold NodesSorted outputNodes
  rw [List.pairwise_map]
  exact List.Pairwise.imp (fun {a b} (h : a < b) => by simp only; omega) List.pairwise_lt_range

theorem outputNodes_ne_nil (fo nOut : Nat) (h : 1 ≤ nOut) : ∃ x ∈ outputNodes fo nOut, x.kind = Kind.output := by
  refine ⟨{ id := ((fo + 0 : Nat) : Int), kind := Kind.output, act := defaultActivation, trait := some 1 }, ?_, rfl⟩
  unfold outputNodes
  exact List.mem_map.mpr ⟨0, List.mem_range.mpr (by omega), rfl⟩

theorem hiddenNodes_spec (o : MutOpts W) (k i : Nat) (rs rs' : List Nat) (ns : List Node)
    (h : hiddenNodes o k i rs = .ok (ns, rs')) :
    NodesSorted ns ∧ ns.length = k ∧
      ∀ x ∈ ns, x.trait = some 1 ∧ ((i : Nat) : Int) ≤ x.id ∧ x.id < ((i + k : Nat) : Int) ∧ x.kind = Kind.hidden := by
  induction k generalizing i rs rs' ns with
  | zero =>
    simp only [hiddenNodes, Except.ok.injEq, Prod.mk.injEq] at h
    obtain ⟨rfl, _⟩ := h
    exact ⟨List.Pairwise.nil, rfl, fun x hx => by cases hx⟩
  | succ k ih =>
    unfold hiddenNodes at h
    split at h
    · cases h
    · rename_i a rs1 ha
      split at h
      · cases h
      · rename_i rest rs2 hrest
        simp only [Except.ok.injEq, Prod.mk.injEq] at h
        obtain ⟨rfl, _⟩ := h
        obtain ⟨s, l, m⟩ := ih (i + 1) rs1 rs2 rest hrest
        refine ⟨?_, by simp [l], ?_⟩
        · unfold NodesSorted
          rw [List.pairwise_cons]
          refine ⟨fun b hb => ?_, s⟩
          have := (m b hb).2.1
          simp only; omega
        · intro x hx
          rcases List.mem_cons.mp hx with rfl | hx
          · exact ⟨rfl, by simp only; omega, by simp only; omega, rfl⟩
          · obtain ⟨a1, a2, a3, a4⟩ := m x hx
            exact ⟨a1, by omega, by omega, a4⟩

theorem nodes_fact (nIn n fo nOut : Nat) (hid : List Node)
    (hh : ∀ x ∈ hid, x.trait = some 1 ∧ ((nIn + 1 : Nat) : Int) ≤ x.id ∧ x.id < ((nIn + 1 + n : Nat) : Int) ∧ x.kind = Kind.hidden) :
    ∀ x ∈ sensorNodes nIn ++ hid ++ outputNodes fo nOut, NodeFact nIn n fo nOut x := by
  intro x hx
  rcases List.mem_append.mp hx with hx | hx
  · rcases List.mem_append.mp hx with hx | hx
    · obtain ⟨a, b, c, d⟩ := sensorNodes_mem nIn x hx
      exact ⟨a, .inl ⟨b, c, d⟩⟩
    · obtain ⟨a, b, c, d⟩ := hh x hx
      exact ⟨a, .inr (.inl ⟨by omega, by omega, d⟩)⟩
  · obtain ⟨a, b, c, d⟩ := outputNodes_mem fo nOut x hx
    exact ⟨a, .inr (.inr ⟨b, c, d⟩)⟩

theorem nodes_sorted (nIn n fo nOut : Nat) (hid : List Node) (hs : NodesSorted hid) (hfo : nIn + n < fo)
    (hh : ∀ x ∈ hid, x.trait = some 1 ∧ ((nIn + 1 : Nat) : Int) ≤ x.id ∧ x.id < ((nIn + 1 + n : Nat) : Int) ∧ x.kind = Kind.hidden) :
    NodesSorted (sensorNodes nIn ++ hid ++ outputNodes fo nOut) := by
  unfold NodesSorted
  rw [List.pairwise_append]
  refine ⟨?_, outputNodes_sorted fo nOut, ?_⟩
  · rw [List.pairwise_append]
    refine ⟨sensorNodes_sorted nIn, hs, fun a ha b hb => ?_⟩
    have := (sensorNodes_mem nIn a ha).2.2.1
    have := (hh b hb).2.1
    omega
  · intro a ha b hb
    have hb' := (outputNodes_mem fo nOut b hb).2.1
    rcases List.mem_append.mp ha with ha | ha
    · have := (sensorNodes_mem nIn a ha).2.2.1
      omega
    · have := (hh a ha).2.2.1
      omega

/-- what the gene made for matrix cell (column `col`, row `row`) with running index `count` looks like -/
structure CellFact (d : RandDims) (recurrent : Bool) (nodes : List Node) (col row count : Nat) (x : Gene W) : Prop where
  inn : x.inn = (count : Int)
  src : x.src = (row : Int)
  dst : x.dst = (col : Int)
  inM : d.inMatrix col row = true
  recur : x.recur = !decide (col > row)
  allowed : col > row ∨ recurrent = true
  en : x.en = true
  mnum : x.mnum = x.w
  trait : x.trait = some 1
  srcIn : x.src ∈ nodes.map (·.id)
  dstIn : x.dst ∈ nodes.map (·.id)

/-- the condition under which the Go code creates a gene for a cell -/
def Creates (d : RandDims) (recurrent : Bool) (bit : Bool) (col row : Nat) : Prop :=
  bit = true ∧ d.inMatrix col row = true ∧ (col > row ∨ recurrent = true)

theorem cellGene_spec (d : RandDims) (recurrent : Bool) (nodes : List Node) (bit : Bool) (col row count : Nat)
    (rs rs1 : List Nat) (gs : List (Gene W)) (h : cellGene d recurrent nodes bit col row count rs = .ok (gs, rs1)) :
    (∀ x ∈ gs, CellFact d recurrent nodes col row count x) ∧ GenesSorted gs ∧ (gs = [] ↔ ¬ Creates d recurrent bit col row) := by
  unfold cellGene at h
  simp only at h
  split at h
  · rename_i hc
    simp only [Bool.and_eq_true] at hc
    split at h
    · rename_i hr
      simp only [Bool.or_eq_true, decide_eq_true_eq] at hr
      split at h
      · rename_i a b ha hb
        split at h
        · cases h
        · rename_i w rs2 hw
          simp only [Except.ok.injEq, Prod.mk.injEq] at h
          obtain ⟨rfl, _⟩ := h
          have ha' := List.find?_some ha
          have hb' := List.find?_some hb
          simp only [beq_iff_eq] at ha' hb'
          refine ⟨fun x hx => ?_, List.pairwise_singleton _ _, ?_⟩
          · simp only [List.mem_singleton] at hx
            subst hx
            exact { inn := rfl, src := ha', dst := hb', inM := hc.2, recur := rfl, allowed := hr, en := rfl, mnum := rfl,
                    trait := rfl,
                    srcIn := List.mem_map.mpr ⟨a, List.mem_of_find?_eq_some ha, rfl⟩,
                    dstIn := List.mem_map.mpr ⟨b, List.mem_of_find?_eq_some hb, rfl⟩ }
          · constructor
            · intro h0; cases h0
            · intro hn; exact absurd ⟨hc.1, hc.2, hr⟩ hn
      · cases h
    · rename_i hr
      simp only [Bool.or_eq_true, decide_eq_true_eq] at hr
      simp only [Except.ok.injEq, Prod.mk.injEq] at h
      obtain ⟨rfl, _⟩ := h
      exact ⟨fun x hx => (by cases hx), List.Pairwise.nil, ⟨fun _ hcr => hr hcr.2.2, fun _ => rfl⟩⟩
  · rename_i hc
    simp only [Bool.and_eq_true] at hc
    simp only [Except.ok.injEq, Prod.mk.injEq] at h
    obtain ⟨rfl, _⟩ := h
    exact ⟨fun x hx => (by cases hx), List.Pairwise.nil, ⟨fun _ hcr => hc ⟨hcr.1, hcr.2.1⟩, fun _ => rfl⟩⟩

/-- cell `count` of the connection matrix is set and the Go code creates a gene for it -/
def CreatesAt (d : RandDims) (recurrent : Bool) (cm : List Bool) (col row count : Nat) : Prop :=
  cm[count]? = some true ∧ d.inMatrix col row = true ∧ (col > row ∨ recurrent = true)

theorem rowLoop_spec (d : RandDims) (recurrent : Bool) (nodes : List Node) (cm : List Bool) (col k row count : Nat)
    (rs rs' : List Nat) (gs : List (Gene W)) (c : Nat)
    (h : rowLoop d recurrent nodes cm col k row count rs = .ok ((gs, c), rs')) :
    c = count + k ∧
    (∀ x ∈ gs, ∃ j, j < k ∧ CellFact d recurrent nodes col (row + j) (count + j) x) ∧
    GenesSorted gs ∧
    (gs = [] ↔ ∀ j, j < k → ¬ CreatesAt d recurrent cm col (row + j) (count + j)) := by
  induction k generalizing row count rs rs' gs c with
  | zero =>
    simp only [rowLoop, Except.ok.injEq, Prod.mk.injEq] at h
    obtain ⟨⟨rfl, rfl⟩, _⟩ := h
    exact ⟨rfl, fun x hx => (by cases hx), List.Pairwise.nil, ⟨fun _ j hj => (by omega), fun _ => rfl⟩⟩
  | succ k ih =>
    unfold rowLoop at h
    split at h
    · cases h
    · rename_i bit hbit
      split at h
      · cases h
      · rename_i g1 rs1 hcell
        split at h
        · cases h
        · rename_i rest c1 rs2 hrest
          simp only [Except.ok.injEq, Prod.mk.injEq] at h
          obtain ⟨⟨rfl, rfl⟩, _⟩ := h
          obtain ⟨f1, s1, e1⟩ := cellGene_spec d recurrent nodes bit col row count rs rs1 g1 hcell
          obtain ⟨hc, f2, s2, e2⟩ := ih (row + 1) (count + 1) rs1 rs2 rest c1 hrest
          -- `row + 1 + j` is turned into `row + j + 1`, which is `row + (j + 1)` by definition
          simp only [Nat.add_right_comm row 1, Nat.add_right_comm count 1] at f2 e2
          refine ⟨by omega, ?_, ?_, ?_⟩
          · intro x hx
            rcases List.mem_append.mp hx with hx | hx
            · exact ⟨0, by omega, f1 x hx⟩
            · obtain ⟨j, hj, hf⟩ := f2 x hx
              exact ⟨j + 1, by omega, hf⟩
          · unfold GenesSorted
            rw [List.pairwise_append]
            refine ⟨s1, s2, fun a ha b hb => ?_⟩
            have h1 := (f1 a ha).inn
            obtain ⟨j, _, hf⟩ := f2 b hb
            have h2 := hf.inn
            omega
          · rw [List.append_eq_nil_iff, e1, e2]
            constructor
            · rintro ⟨hn, hall⟩ j hj
              rcases j with _ | j
              · intro hcr
                exact hn ⟨by have := hcr.1; simp only [Nat.add_zero, hbit, Option.some.injEq] at this; exact this, hcr.2.1, hcr.2.2⟩
              · exact hall j (by omega)
            · intro hall
              exact ⟨fun hcr => hall 0 (by omega) ⟨by simp only [Nat.add_zero, hbit, hcr.1], hcr.2.1, hcr.2.2⟩,
                fun j hj => hall (j + 1) (by omega)⟩

theorem colLoop_spec (d : RandDims) (recurrent : Bool) (nodes : List Node) (cm : List Bool) (k col count : Nat)
    (rs rs' : List Nat) (gs : List (Gene W)) (c : Nat)
    (h : colLoop d recurrent nodes cm k col count rs = .ok ((gs, c), rs')) :
    c = count + k * d.total ∧
    (∀ x ∈ gs, ∃ i j, i < k ∧ j < d.total ∧ CellFact d recurrent nodes (col + i) (1 + j) (count + i * d.total + j) x) ∧
    GenesSorted gs ∧
    (gs = [] ↔ ∀ i j, i < k → j < d.total → ¬ CreatesAt d recurrent cm (col + i) (1 + j) (count + i * d.total + j)) := by
  induction k generalizing col count rs rs' gs c with
  | zero =>
    simp only [colLoop, Except.ok.injEq, Prod.mk.injEq] at h
    obtain ⟨⟨rfl, rfl⟩, _⟩ := h
    exact ⟨by omega, fun x hx => (by cases hx), List.Pairwise.nil, ⟨fun _ i j hi => (by omega), fun _ => rfl⟩⟩
  | succ k ih =>
    unfold colLoop at h
    split at h
    · cases h
    · rename_i g1 c1 rs1 hrow
      split at h
      · cases h
      · rename_i rest c2 rs2 hrest
        simp only [Except.ok.injEq, Prod.mk.injEq] at h
        obtain ⟨⟨rfl, rfl⟩, _⟩ := h
        obtain ⟨hc1, f1, s1, e1⟩ := rowLoop_spec d recurrent nodes cm col d.total 1 count rs rs1 g1 c1 hrow
        obtain ⟨hc2, f2, s2, e2⟩ := ih (col + 1) c1 rs1 rs2 rest c2 hrest
        subst hc1
        -- column `col + 1 + i`, index `count + total + i * total + j`: column `col + (i + 1)`, index `count + (i + 1) * total + j`
        have hidx : ∀ i j : Nat, count + d.total + i * d.total + j = count + (i + 1) * d.total + j := fun i j => by
          rw [Nat.succ_mul]; omega
        simp only [Nat.add_right_comm col 1, hidx] at f2 e2
        have h0 : ∀ j : Nat, count + 0 * d.total + j = count + j := fun j => by omega
        refine ⟨by rw [hc2, Nat.succ_mul]; omega, ?_, ?_, ?_⟩
        · intro x hx
          rcases List.mem_append.mp hx with hx | hx
          · obtain ⟨j, hj, hf⟩ := f1 x hx
            exact ⟨0, j, by omega, hj, (h0 j).symm ▸ hf⟩
          · obtain ⟨i, j, hi, hj, hf⟩ := f2 x hx
            exact ⟨i + 1, j, by omega, hj, hf⟩
        · unfold GenesSorted
          rw [List.pairwise_append]
          refine ⟨s1, s2, fun a ha b hb => ?_⟩
          obtain ⟨j, hj, hf⟩ := f1 a ha
          obtain ⟨i', j', _, _, hf'⟩ := f2 b hb
          have h1 := hf.inn
          have h2 := hf'.inn
          rw [h1, h2, ← hidx]
          have : count + j < count + d.total + i' * d.total + j' := by omega
          exact Int.ofNat_lt.mpr this
        · rw [List.append_eq_nil_iff, e1, e2]
          constructor
          · rintro ⟨hr, hall⟩ i j hi hj
            rcases i with _ | i
            · rw [h0]; exact hr j hj
            · exact hall i j (by omega) hj
          · intro hall
            exact ⟨fun j hj => h0 j ▸ hall 0 j (by omega) hj, fun i j hi hj => hall (i + 1) j (by omega) hj⟩

theorem drawMatrix_length (linkProb : W) (k : Nat) (rs rs' : List Nat) (cm : List Bool)
    (h : drawMatrix linkProb k rs = .ok (cm, rs')) : cm.length = k := by
  induction k generalizing rs rs' cm with
  | zero => simp only [drawMatrix, Except.ok.injEq, Prod.mk.injEq] at h; obtain ⟨rfl, _⟩ := h; rfl
  | succ k ih =>
    unfold drawMatrix at h
    split at h
    · cases h
    · split at h
      · cases h
      · rename_i cm1 rs2 hrest
        simp only [Except.ok.injEq, Prod.mk.injEq] at h
        obtain ⟨rfl, _⟩ := h
        simp [ih _ _ _ hrest]

structure Facts (newId : Int) (nIn nOut n mH : Nat) (recurrent : Bool) (g : Genome W) : Prop where
  id : g.id = newId
  traits : g.traits = [{ id := 1, params := List.replicate numTraitParams zero }]
  modules : g.modules = []
  nodesFact : ∀ x ∈ g.nodes, NodeFact nIn n (nIn + mH + 1) nOut x
  nodesSorted : n ≤ mH → NodesSorted g.nodes
  hasOutput : 1 ≤ nOut → HasOutput g
  genesSorted : GenesSorted g.genes
  cells : ∀ x ∈ g.genes, ∃ i j, i < nIn + nOut + mH ∧ j < nIn + nOut + mH ∧
    CellFact (randDims nIn nOut n mH) recurrent g.nodes (1 + i) (1 + j) (i * (nIn + nOut + mH) + j) x

theorem firstOutput_eq (nIn nOut n mH : Nat) : (randDims nIn nOut n mH).firstOutput = nIn + mH + 1 := by
  simp only [randDims]; omega

theorem newGenomeRand_facts {newId : Int} {nIn nOut n mH : Nat} {recurrent : Bool} {linkProb : W} {o : MutOpts W}
    {rs rs' : List Nat} {g : Genome W} (h : newGenomeRand newId nIn nOut n mH recurrent linkProb o rs = .ok (g, rs')) :
    Facts newId nIn nOut n mH recurrent g ∧
    ∃ cm rs1, drawMatrix linkProb ((nIn + nOut + mH) * (nIn + nOut + mH)) rs = .ok (cm, rs1) ∧
      (g.genes = [] ↔ ∀ i j, i < nIn + nOut + mH → j < nIn + nOut + mH →
        ¬ CreatesAt (randDims nIn nOut n mH) recurrent cm (1 + i) (1 + j) (i * (nIn + nOut + mH) + j)) := by
  unfold newGenomeRand at h
  simp only at h
  split at h
  · cases h
  · rename_i cm rs1 hcm
    split at h
    · cases h
    · rename_i hid rs2 hhid
      split at h
      · cases h
      · rename_i genes c rs3 hcol
        simp only [Except.ok.injEq, Prod.mk.injEq] at h
        obtain ⟨rfl, _⟩ := h
        rw [firstOutput_eq] at hcol
        obtain ⟨hs, hl, hm⟩ := hiddenNodes_spec o n (nIn + 1) rs1 rs2 hid hhid
        obtain ⟨_, f, s, e⟩ := colLoop_spec _ recurrent _ cm _ 1 0 rs2 rs3 genes c hcol
        have htot : (randDims nIn nOut n mH).total = nIn + nOut + mH := rfl
        rw [htot] at f e
        simp only [Nat.zero_add] at f e
        exact ⟨{ id := rfl, traits := rfl, modules := rfl,
                 nodesFact := by simp only [firstOutput_eq]; exact nodes_fact nIn n _ nOut hid hm,
                 nodesSorted := fun hn => by simp only [firstOutput_eq]; exact nodes_sorted nIn n _ nOut hid hs (by omega) hm,
                 hasOutput := fun ho => by
                   obtain ⟨x, hx, hk⟩ := outputNodes_ne_nil (randDims nIn nOut n mH).firstOutput nOut ho
                   exact ⟨x, List.mem_append_right _ hx, hk⟩,
                 genesSorted := s,
                 cells := by simp only [firstOutput_eq]; exact f }, cm, rs1, hcm, e⟩

end GoNeat.GenRand
