/-
  The exact-arithmetic instance of `Scalar` (DESIGN §2.2, "Kind B"): any linearly ordered field with a floor.
  Theorems stated with this instance speak about the model evaluated in exact arithmetic; the rounding
  behaviour of float64 is outside (trusted base).
-/
import GoNeat.Model.Scalar
import Mathlib.Algebra.Order.Floor.Ring
import Mathlib.Tactic.Linarith
import Mathlib.Tactic.Ring
import Mathlib.Tactic.FieldSimp

namespace GoNeat

open Classical in
noncomputable instance exactScalar (K : Type) [Field K] [LinearOrder K] [IsStrictOrderedRing K] [FloorRing K] : Scalar K where
  zero := 0
  one := 1
  add := (· + ·)
  sub := (· - ·)
  mul := (· * ·)
  div := (· / ·)
  neg := fun x => -x
  abs := fun x => |x|
  lt := fun a b => decide (a < b)
  le := fun a b => decide (a ≤ b)
  eq := fun a b => decide (a = b)
  ofInt := fun i => (i : K)
  ofDec := fun m e => (m : K) / (10 : K) ^ e
  ofUnit63 := fun x => (x : K) / (2 : K) ^ 63
  floorInt := fun x => ⌊x⌋
  floor := fun x => (⌊x⌋ : K)
  fmod1 := fun x => if 0 ≤ x then Int.fract x else -(Int.fract (-x))
  f32IsOne := fun _ => false
  f32Ge03 := fun x => decide ((3 : K) / 10 ≤ x)
  maxVal := 0   -- no largest element in a field; only used as the initial "best distance" sentinel (see C08)

end GoNeat

namespace GoNeat.Exact
open GoNeat
variable {K : Type} [Field K] [LinearOrder K] [IsStrictOrderedRing K] [FloorRing K]

@[simp] theorem zero_eq : (Scalar.zero : K) = 0 := rfl
@[simp] theorem one_eq : (Scalar.one : K) = 1 := rfl
@[simp] theorem add_eq (a b : K) : Scalar.add a b = a + b := rfl
@[simp] theorem sub_eq (a b : K) : Scalar.sub a b = a - b := rfl
@[simp] theorem mul_eq (a b : K) : Scalar.mul a b = a * b := rfl
@[simp] theorem div_eq (a b : K) : Scalar.div a b = a / b := rfl
@[simp] theorem neg_eq (a : K) : Scalar.neg a = -a := rfl
@[simp] theorem abs_eq (a : K) : Scalar.abs a = |a| := rfl
@[simp] theorem ofInt_eq (i : Int) : (Scalar.ofInt i : K) = (i : K) := rfl
@[simp] theorem ofDec_eq (m e : Nat) : (Scalar.ofDec m e : K) = (m : K) / (10 : K) ^ e := rfl
@[simp] theorem lt_eq (a b : K) : Scalar.lt a b = decide (a < b) := rfl
@[simp] theorem le_eq (a b : K) : Scalar.le a b = decide (a ≤ b) := rfl
@[simp] theorem eq_eq (a b : K) : Scalar.eq a b = decide (a = b) := rfl
@[simp] theorem gt_eq (a b : K) : Scalar.gt a b = decide (b < a) := rfl
@[simp] theorem ge_eq (a b : K) : Scalar.ge a b = decide (b ≤ a) := rfl
@[simp] theorem floorInt_eq (a : K) : Scalar.floorInt a = ⌊a⌋ := rfl
@[simp] theorem floor_eq (a : K) : Scalar.floor a = (⌊a⌋ : K) := rfl

theorem ofDec_pos (e : Nat) : (0 : K) < Scalar.ofDec 1 e := by rw [ofDec_eq]; positivity

end GoNeat.Exact
