/-
  C16 / C02 "without error" for the PARALLEL executor, part 2: one species goroutine (`reproduceSpeciesP`) never
  returns a model error under ARBITRARY interference on the registry (`PSafe`, Proofs/ParNoError.lean), delivers exactly
  its quota of babies, each of the common trait shape `S`.

  A goroutine only reads genomes of the prepared population (`P0`, with the C01 pool invariant `PoolOk reg0 P0` for the
  registry `reg0` at the start of the phase): every baby is a duplicate or a crossover child of genomes of `P0`, followed
  by at most one structural mutation.  So the thread-local facts the error exits need (`WF` of the genome being mutated)
  come from the sequential closure lemmas for `P0` alone; the interference enters only through `PSafe`'s rely.
  Kind A (float facts `UnitMulLe`, `PickLaw` explicit).
-/
import GoNeat.Proofs.ParNoError
import GoNeat.Proofs.NoErrorRepro

set_option linter.unusedSectionVars false

namespace GoNeat.C16
open GoNeat Scalar GoNeat.NoErr GoNeat.C01
variable {W : Type} [Scalar W]

theorem flagTrue_safe {T : Nat} {V : Prop} {g : Genome W} (r : MRes W) (hr : OkV (fun r => Like g r.1) V r) :
    PSafe T (OkV (fun r => Like g r.1) V) (flagTrue r) := by
  unfold flagTrue
  split
  · exact .done hr
  · exact .done hr

theorem structStageP_safe (hlaw : UnitMulLe W) (o : EpochOpts W) (ha : ActOk o.mopts) (g : Genome W) (f1 : W) (rs1 : List Nat)
    (hv : Valid rs1) (T : Nat) (hw : WF g) (hT : g.traits.length = T) :
    PSafe T (OkV (fun r => Like g r.1)) (structStageP o g f1 rs1) := by
  have hb := basic_of_wf hw
  unfold structStageP
  split
  · exact (mutateAddNodeP_safe hlaw T g o.mopts rs1 hv ha hb.traits).bind flagTrue_safe
  · have f2 := safe_float64 (W := W) rs1
    split
    · next e he => rw [he] at f2; exact .done (OkV.of_error f2)
    · next f2v rs2 he =>
      have hv2 := Rand.float64_det.valid hv he
      split
      · exact (mutateAddLinkP_safe T g o.mopts rs2 (fun _ => hv2) hb.genes hw.hasOutput hw.nodesSorted hb.traits hT).bind
          flagTrue_safe
      · have f3 := safe_float64 (W := W) rs2
        split
        · next e he3 => rw [he3] at f3; exact .done (OkV.of_error f3)
        · next f3v rs3 he3 =>
          have hv3 := Rand.float64_det.valid hv2 he3
          split
          · exact mutateConnectSensorsP_safe T g rs3 (fun _ => hv3) hb.genes hb.traits hT
          · exact .done ⟨Like.refl g, fun _ => hv3⟩

theorem paramStage_safe {T : Nat} {V : Prop} (o : EpochOpts W) (g : Genome W) (hb : Basic g) (r : MRes W)
    (hr : OkV (fun r => Like g r.1) V r) : PSafe T (OkV (fun r => Like g r.1) V) (paramStage o r) := by
  unfold paramStage
  split
  · exact .done hr
  · exact .done hr
  · next g' rs' =>
    have hl : Like g g' := hr.1
    have hn := safe_mutateAllNonstructural g' o.mopts rs' (hl.basic hb)
    split
    · next e he => rw [he] at hn; exact .done (OkV.of_error hn)
    · next g'' rs'' he =>
      rw [he] at hn
      exact .done ⟨hl.trans hn, fun v => (mutateAllNonstructural_det g' o.mopts).valid (hr.2 v) he⟩

theorem mutateBabyP_safe (hlaw : UnitMulLe W) (o : EpochOpts W) (ha : ActOk o.mopts) (g : Genome W) (rs : List Nat)
    (hv : Valid rs) (T : Nat) (hw : WF g) (hT : g.traits.length = T) :
    PSafe T (OkV (fun r => Like g r.1)) (mutateBabyP o g rs) := by
  unfold mutateBabyP
  have f1 := safe_float64 (W := W) rs
  split
  · next e he => rw [he] at f1; exact .done (OkV.of_error f1)
  · next f1v rs1 he =>
    exact (structStageP_safe hlaw o ha g f1v rs1 (Rand.float64_det.valid hv he) T hw hT).bind
      (fun r hr => paramStage_safe o g (basic_of_wf hw) r hr)

theorem superChampMutP_safe (o : EpochOpts W) (g0 : Genome W) (sc : Int) (rs : List Nat) (hv : Valid rs) (T : Nat)
    (hw : WF g0) (hT : g0.traits.length = T) :
    PSafe T (OkV (fun r => Like g0 r.1)) (superChampMutP o g0 sc rs) := by
  have hb := basic_of_wf hw
  unfold superChampMutP
  split
  · have hf := safe_float64 (W := W) rs
    split
    · next e he => rw [he] at hf; exact .done (OkV.of_error hf)
    · next f rs1 he =>
      have hv1 := Rand.float64_det.valid hv he
      split
      · have h1 := safe_mutateLinkWeights g0 o.mopts.weightMutPower one .gaussian rs1 hb.genes
        split
        · next e he2 => rw [he2] at h1; exact .done (OkV.of_error h1)
        · next g1 rs2 he2 =>
          rw [he2] at h1
          exact .done ⟨h1, fun _ => (mutateLinkWeights_det _ _ _ _).valid hv1 he2⟩
      · exact (mutateAddLinkP_safe T g0 o.mopts rs1 (fun _ => hv1) hb.genes hw.hasOutput hw.nodesSorted hb.traits hT).bind
          flagTrue_safe
  · exact .done ⟨Like.refl g0, fun _ => hv⟩

def OneMore (S : List Nat) (st st' : ReproState W) : Prop :=
  ∃ b, st'.babies = st.babies ++ [b] ∧ shape b.genome = S

theorem makeBabyP_safe (hlaw : UnitMulLe W) (o : EpochOpts W) (ha : ActOk o.mopts) (generation : Int) (champ : Org W)
    (st : ReproState W) (pl : Plan W) (rs : List Nat) (hv : Valid rs) (S : List Nat) (hw : WF pl.genome)
    (hsh : shape pl.genome = S) : PSafe S.length (OkV (OneMore S st)) (makeBabyP o generation champ st pl rs) := by
  have hT := traitsLen_of_shape hsh
  cases pl with
  | super g0 =>
    refine (superChampMutP_safe o g0 st.superChamp rs hv S.length hw hT).bind (fun r hr => ?_)
    split
    · exact .done hr.error_cast
    · exact .done ⟨⟨_, rfl, hr.1.shape.trans hsh⟩, hr.2⟩
  | clone g0 => exact .done ⟨⟨_, rfl, hsh⟩, fun _ => hv⟩
  | mutate g0 mate =>
    refine (mutateBabyP_safe hlaw o ha g0 rs hv S.length hw hT).bind (fun r hr => ?_)
    split
    · exact .done hr.error_cast
    · exact .done ⟨⟨_, rfl, hr.1.shape.trans hsh⟩, hr.2⟩
  | asIs child => exact .done ⟨⟨_, rfl, hsh⟩, fun _ => hv⟩

theorem reproduceOneP_safe (hlaw : UnitMulLe W) (hpick : PickLaw W) (o : EpochOpts W) (ha : ActOk o.mopts) (generation : Int)
    {s : Species W} {sorted : List (Species W)} (champ : Org W) (count : Int) (st : ReproState W) (rs : List Nat) (hv : Valid rs)
    {reg0 : Reg W} {P0 : List (Genome W)} {S : List Nat} (henv : ReproEnv S reg0 P0 s sorted) (hchamp : champ.genome ∈ P0) :
    PSafe S.length (OkV (OneMore S st)) (reproduceOneP o generation s sorted champ count st rs) := by
  rw [reproduceOneP_eq]
  have hp := safe_planBaby hpick o champ count st rs hv henv hchamp
  rcases hpl : planBaby o s sorted champ count st rs with e | ⟨pl, rs'⟩
  · rw [hpl] at hp
    exact .done (OkV.of_error hp)
  · obtain ⟨h1, h2⟩ := hp.post hpl
    exact makeBabyP_safe hlaw o ha generation champ st pl rs' ((planBaby_det o s sorted champ count st).valid hv hpl)
      S h2.wft.wf h1

def NMore (S : List Nat) (n : Nat) (st st' : ReproState W) : Prop :=
  st'.babies.length = st.babies.length + n ∧ ((∀ b ∈ st.babies, shape b.genome = S) → ∀ b ∈ st'.babies, shape b.genome = S)

theorem reproduceLoopP_safe (hlaw : UnitMulLe W) (hpick : PickLaw W) (o : EpochOpts W) (ha : ActOk o.mopts) (generation : Int)
    {s : Species W} {sorted : List (Species W)} (champ : Org W) {reg0 : Reg W} {P0 : List (Genome W)} {S : List Nat}
    (henv : ReproEnv S reg0 P0 s sorted) (hchamp : champ.genome ∈ P0) (n : Nat) :
    ∀ (count : Int) (st : ReproState W) (rs : List Nat), Valid rs →
      PSafe S.length (OkV (NMore S n st)) (reproduceLoopP o generation s sorted champ n count st rs) := by
  induction n with
  | zero => intro count st rs hv; exact .done ⟨⟨rfl, fun h => h⟩, fun _ => hv⟩
  | succ n ih =>
    intro count st rs hv
    unfold reproduceLoopP
    refine (reproduceOneP_safe hlaw hpick o ha generation champ count st rs hv henv hchamp).bind (fun r hr => ?_)
    split
    · exact .done hr.error_cast
    · next st' rs' =>
      obtain ⟨⟨b, hb, hbs⟩, hv'⟩ := hr
      refine (ih (count + 1) st' rs' (hv' trivial)).mono (fun r' hr' => hr'.mono (fun st'' h => ?_))
      obtain ⟨h1, h2⟩ := h
      refine ⟨by rw [h1, hb]; simp; omega, fun h0 => h2 (fun x hx => ?_)⟩
      rw [hb] at hx
      rcases List.mem_append.mp hx with hx | hx
      · exact h0 x hx
      · simp only [List.mem_singleton] at hx; rw [hx]; exact hbs

def Delivers (S : List Nat) (quota : Nat) (r : List (Org W) × Nat) : Prop :=
  r.1.length = quota ∧ ∀ b ∈ r.1, shape b.genome = S

theorem reproduceSpeciesP_safe (hlaw : UnitMulLe W) (hpick : PickLaw W) (o : EpochOpts W) (ha : ActOk o.mopts) (generation : Int)
    {s : Species W} {sorted : List (Species W)} (r0 : Reg W) (uid : Nat) (rs : List Nat) (hv : Valid rs)
    {reg0 : Reg W} {P0 : List (Genome W)} {S : List Nat} (henv : ReproEnv S reg0 P0 s sorted) :
    PSafe S.length (OkV (Delivers S s.expectedOffspring.toNat)) (reproduceSpeciesP o generation s sorted r0 uid rs) := by
  unfold reproduceSpeciesP
  split
  · next hn => cases hso : s.orgs with
    | nil => exact absurd hso henv.ne
    | cons a l => rw [hso] at hn; cases hn
  · next champ hchamp =>
    dsimp only
    refine (reproduceLoopP_safe hlaw hpick o ha generation champ henv (henv.champ hchamp) s.expectedOffspring.toNat 0 _ rs
      hv).bind (fun r hr => ?_)
    split
    · exact .done hr.error_cast
    · next st rs' =>
      obtain ⟨⟨h1, h2⟩, hv'⟩ := hr
      exact .done ⟨⟨by simpa using h1, h2 (by intro b hb; cases hb)⟩, hv'⟩

end GoNeat.C16
