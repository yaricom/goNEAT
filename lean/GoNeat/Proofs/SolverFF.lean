/-
  Helper lemmas for C12, standard solver (Kind A): what one pass of the two sweeps of `ActivateSteps` does to a
  feed-forward network, and the induction over depth layers.
-/
import GoNeat.Proofs.SolverFlush
import GoNeat.Spec.Solver

set_option linter.unusedSectionVars false

namespace GoNeat.Solver
open GoNeat.SolverSpec

variable {W : Type} [Scalar W]

theorem get_linkStep_ne (net : Net W) (i : Nat) (s : St W) (l : NLink W) (j : Nat) (h : j ≠ i) :
    get (linkStep net i s l) j = get s j := by
  unfold linkStep
  simp only
  split
  · rw [get_upd_ne _ _ _ _ h]
    split
    · rw [get_upd_ne _ _ _ _ h]
    · rfl
  · rw [get_upd_ne _ _ _ _ h]

theorem get_linkStep_self (net : Net W) (i : Nat) (s : St W) (l : NLink W) (hi : i < s.length)
    (htd : l.timeDelayed = false) :
    get (linkStep net i s l) i =
      { get s i with
        sum := Scalar.add (get s i).sum (Scalar.mul l.w (activeOut (get s l.src)))
        isActive := (get s i).isActive || ((get s l.src).isActive || isSensorAt net l.src) } := by
  unfold linkStep
  simp only [htd, Bool.not_false, if_true]
  by_cases hc : ((get s l.src).isActive || isSensorAt net l.src) = true
  · rw [if_pos hc, get_upd_self _ _ _ (by simpa using hi), get_upd_self _ _ _ hi]
    simp [hc]
  · rw [if_neg hc, get_upd_self _ _ _ hi]
    have : ((get s l.src).isActive || isSensorAt net l.src) = false := by simpa using hc
    simp [this]

def sumOf (s : St W) (ls : List (NLink W)) (acc : W) : W :=
  ls.foldl (fun a l => Scalar.add a (Scalar.mul l.w (activeOut (get s l.src)))) acc

theorem foldl_linkStep_cell (net : Net W) (i : Nat) (ls : List (NLink W)) (s : St W)
    (hls : ∀ l ∈ ls, l.timeDelayed = false ∧ l.src ≠ i) (s0 : St W) (hi : i < s0.length)
    (h0 : ∀ j, j ≠ i → get s0 j = get s j) :
    (∀ j, j ≠ i → get (ls.foldl (linkStep net i) s0) j = get s j) ∧
    get (ls.foldl (linkStep net i) s0) i =
      { get s0 i with
        sum := sumOf s ls (get s0 i).sum
        isActive := (get s0 i).isActive || ls.any fun l => (get s l.src).isActive || isSensorAt net l.src } := by
  induction ls generalizing s0 with
  | nil => exact ⟨h0, by simp [sumOf]⟩
  | cons l ls ih =>
    have hl := hls l (List.mem_cons_self ..)
    obtain ⟨h1, h2⟩ := ih (fun l' h' => hls l' (List.mem_cons_of_mem _ h')) (linkStep net i s0 l)
      (by rw [length_linkStep]; exact hi) (fun j hj => by rw [get_linkStep_ne net i s0 l j hj, h0 j hj])
    rw [List.foldl_cons]
    refine ⟨h1, ?_⟩
    rw [h2, get_linkStep_self net i s0 l hi hl.1, h0 l.src hl.2]
    simp only [sumOf, List.foldl_cons, List.any_cons, Bool.or_assoc]

theorem sumNode_cell (net : Net W) (nd : NNodeS W) (i : Nat) (s : St W) (hi : i < s.length)
    (hls : ∀ l ∈ nd.incoming, l.timeDelayed = false ∧ l.src ≠ i) :
    (∀ j, j ≠ i → get (sumNode net nd i s) j = get s j) ∧
    get (sumNode net nd i s) i =
      { get s i with
        sum := sumOf s nd.incoming Scalar.zero
        isActive := (get s i).isActive || nd.incoming.any fun l => (get s l.src).isActive || isSensorAt net l.src } := by
  obtain ⟨h1, h2⟩ := foldl_linkStep_cell net i nd.incoming s hls (upd s i fun x => { x with sum := Scalar.zero })
    (by simpa using hi) (fun j hj => get_upd_ne _ _ _ _ hj)
  refine ⟨h1, ?_⟩
  rw [sumNode, h2, get_upd_self _ _ _ hi]

theorem activeOut_eq {a b : NState W} (h1 : a.activation = b.activation) (h2 : a.count = b.count) :
    activeOut a = activeOut b := by
  simp [activeOut, h1, h2]

theorem sumOf_congr (s s' : St W) (ls : List (NLink W)) (acc : W)
    (h : ∀ j, (get s' j).activation = (get s j).activation ∧ (get s' j).count = (get s j).count) :
    sumOf s' ls acc = sumOf s ls acc := by
  unfold sumOf
  congr 1
  funext a l
  rw [activeOut_eq (h l.src).1 (h l.src).2]

/-- what the first sweep keeps of every cell (a frame of one sweep over the node states; nothing to do with the frames of
    epochs or threads in Proofs/EpochFrame.lean, Proofs/ParFrame.lean) -/
structure Frame (s s' : St W) : Prop where
  len : s'.length = s.length
  act : ∀ j, (get s' j).activation = (get s j).activation
  count : ∀ j, (get s' j).count = (get s j).count
  active : ∀ j, (get s j).isActive = true → (get s' j).isActive = true

theorem Frame.refl (s : St W) : Frame s s := ⟨rfl, fun _ => rfl, fun _ => rfl, fun _ h => h⟩

theorem Frame.trans {a b c : St W} (h1 : Frame a b) (h2 : Frame b c) : Frame a c :=
  ⟨h2.len.trans h1.len, fun j => (h2.act j).trans (h1.act j), fun j => (h2.count j).trans (h1.count j),
   fun j h => h2.active j (h1.active j h)⟩

theorem node1_spec (net : Net W) (p : NNodeS W × Nat) (s : St W) (hi : p.2 < s.length)
    (hls : p.1.isNeuron = true → ∀ l ∈ p.1.incoming, l.timeDelayed = false ∧ l.src ≠ p.2) :
    Frame s (node1 net s p) ∧ (∀ j, j ≠ p.2 → get (node1 net s p) j = get s j) ∧
    (p.1.isNeuron = true →
      (get (node1 net s p) p.2).sum = sumOf s p.1.incoming Scalar.zero ∧
      ((∃ l ∈ p.1.incoming, (get s l.src).isActive = true ∨ isSensorAt net l.src = true) →
        (get (node1 net s p) p.2).isActive = true)) := by
  unfold node1
  by_cases hn : p.1.isNeuron = true
  · simp only [hn, if_true]
    obtain ⟨a1, a2⟩ := sumNode_cell net p.1 p.2 s hi (hls hn)
    refine ⟨⟨by simp [sumNode, length_foldl_linkStep], fun j => ?_, fun j => ?_, fun j => ?_⟩, a1,
      fun _ => ⟨by rw [a2], fun ⟨l, hl, h⟩ => ?_⟩⟩
    · by_cases hj : j = p.2
      · rw [hj, a2]
      · rw [a1 j hj]
    · by_cases hj : j = p.2
      · rw [hj, a2]
      · rw [a1 j hj]
    · by_cases hj : j = p.2
      · rw [hj, a2]
        exact fun h => by simp [h]
      · rw [a1 j hj]
        exact id
    · rw [a2]
      simp only [Bool.or_eq_true, List.any_eq_true]
      exact Or.inr ⟨l, hl, h⟩
  · simp only [hn]
    exact ⟨Frame.refl s, fun _ _ => rfl, fun h => by cases h⟩

/-- the first sweep over nodes with distinct indices, none feeding itself: every neuron's sum is the sum over its
    links read off the state before the sweep, and it is active if one of its sources was (or is a sensor) -/
theorem foldl_node1_spec (net : Net W) (l : List (NNodeS W × Nat)) (hnd : (l.map (·.2)).Nodup) (s : St W)
    (hlen : ∀ p ∈ l, p.2 < s.length)
    (hok : ∀ p ∈ l, p.1.isNeuron = true → ∀ lk ∈ p.1.incoming, lk.timeDelayed = false ∧ lk.src ≠ p.2) :
    Frame s (l.foldl (node1 net) s) ∧
    (∀ j, j ∉ l.map (·.2) → get (l.foldl (node1 net) s) j = get s j) ∧
    (∀ p ∈ l, p.1.isNeuron = true →
      (get (l.foldl (node1 net) s) p.2).sum = sumOf s p.1.incoming Scalar.zero ∧
      ((∃ lk ∈ p.1.incoming, (get s lk.src).isActive = true ∨ isSensorAt net lk.src = true) →
        (get (l.foldl (node1 net) s) p.2).isActive = true)) := by
  induction l generalizing s with
  | nil => exact ⟨Frame.refl s, fun _ _ => rfl, fun p hp => absurd hp List.not_mem_nil⟩
  | cons q l ih =>
    obtain ⟨hq, hnd'⟩ := List.nodup_cons.mp hnd
    obtain ⟨f1, n1, v1⟩ := node1_spec net q s (hlen q (List.mem_cons_self ..)) (hok q (List.mem_cons_self ..))
    obtain ⟨f2, n2, v2⟩ := ih hnd' (node1 net s q)
      (fun p hp => by rw [f1.len]; exact hlen p (List.mem_cons_of_mem _ hp))
      (fun p hp => hok p (List.mem_cons_of_mem _ hp))
    rw [List.foldl_cons]
    refine ⟨f1.trans f2, fun j hj => ?_, fun p hp hn => ?_⟩
    · simp only [List.map_cons, List.mem_cons, not_or] at hj
      rw [n2 j hj.2, n1 j hj.1]
    · rcases List.mem_cons.mp hp with rfl | hp
      · rw [n2 _ hq]
        exact v1 hn
      · obtain ⟨e1, e2⟩ := v2 p hp hn
        refine ⟨by rw [e1]; exact sumOf_congr s _ p.1.incoming _ (fun j => ⟨f1.act j, f1.count j⟩), ?_⟩
        rintro ⟨lk, hlk, hact⟩
        exact e2 ⟨lk, hlk, hact.imp (f1.active lk.src) id⟩

theorem node2_local (σ : Nat → W → Option W) (p : NNodeS W × Nat) {s s' : St W} (hl : s'.length = s.length)
    (hg : get s' p.2 = get s p.2) : get (node2 σ s' p).1 p.2 = get (node2 σ s p).1 p.2 := by
  unfold node2
  rw [hg]
  split
  · cases σ p.1.act (get s p.2).sum with
    | none => exact hg
    | some out => simp only [get_upd_at, hl, hg]
  · exact hg

/-- the second sweep over nodes with distinct indices and known activation types: no error, and every node's cell
    is what its own step makes of the state before the sweep -/
theorem foldE_node2_spec (σ : Nat → W → Option W) (l : List (NNodeS W × Nat)) (hnd : (l.map (·.2)).Nodup)
    (hσ : ∀ p ∈ l, p.1.isNeuron = true → ∀ x, (σ p.1.act x).isSome = true) (s : St W) :
    ∃ s', foldE (node2 σ) l s = (s', none) ∧ s'.length = s.length ∧
      (∀ j, j ∉ l.map (·.2) → get s' j = get s j) ∧
      (∀ p ∈ l, get s' p.2 = get (node2 σ s p).1 p.2) := by
  induction l generalizing s with
  | nil => exact ⟨s, rfl, rfl, fun _ _ => rfl, fun p hp => absurd hp List.not_mem_nil⟩
  | cons q l ih =>
    obtain ⟨hq, hnd'⟩ := List.nodup_cons.mp hnd
    have hstep : ∃ s1, node2 σ s q = (s1, none) ∧ s1.length = s.length ∧ ∀ j, j ≠ q.2 → get s1 j = get s j := by
      unfold node2
      split
      · next hc =>
        have hsome := hσ q (List.mem_cons_self ..) (by simp only [Bool.and_eq_true] at hc; exact hc.1) (get s q.2).sum
        cases hout : σ q.1.act (get s q.2).sum with
        | none => rw [hout] at hsome; cases hsome
        | some out => exact ⟨_, rfl, length_upd .., fun j hj => get_upd_ne _ _ _ _ hj⟩
      · exact ⟨s, rfl, rfl, fun _ _ => rfl⟩
    obtain ⟨s1, hq1, h1, h2⟩ := hstep
    obtain ⟨s', hrun, i1, i2, i3⟩ := ih hnd' (fun p hp => hσ p (List.mem_cons_of_mem _ hp)) s1
    refine ⟨s', by rw [foldE, seqE, hq1]; exact hrun, i1.trans h1, fun j hj => ?_, fun p hp => ?_⟩
    · simp only [List.map_cons, List.mem_cons, not_or] at hj
      rw [i2 j hj.2, h2 j hj.1]
    · rcases List.mem_cons.mp hp with rfl | hp
      · rw [hq1]
        exact i2 _ hq
      · rw [i3 p hp]
        exact node2_local σ p h1 (h2 p.2 (fun e => hq (List.mem_map.mpr ⟨p, hp, e⟩)))

theorem sumIn_mono (e1 e2 : Nat → Option W) (h : ∀ j v, e1 j = some v → e2 j = some v) (ls : List (NLink W)) (acc x : W)
    (hx : sumIn e1 ls acc = some x) : sumIn e2 ls acc = some x := by
  induction ls generalizing acc with
  | nil => exact hx
  | cons l ls ih =>
    unfold sumIn at hx ⊢
    cases h1 : e1 l.src with
    | none => rw [h1] at hx; simp at hx
    | some v =>
      rw [h1] at hx
      rw [h l.src v h1]
      exact ih _ hx

theorem evalNode_mono (net : Net W) (σ : Nat → W → Option W) (sens : Nat → W) (f : Nat) :
    ∀ i v, evalNode net σ sens f i = some v → evalNode net σ sens (f + 1) i = some v := by
  induction f with
  | zero => intro i v h; simp [evalNode] at h
  | succ f ih =>
    intro i v h
    unfold evalNode at h ⊢
    cases hn : net.nodes[i]? with
    | none => rw [hn] at h; simp at h
    | some nd =>
      rw [hn] at h
      simp only at h ⊢
      by_cases hs : nd.isSensor = true
      · simpa [hs] using h
      · simp only [hs] at h ⊢
        cases hsum : sumIn (evalNode net σ sens f) nd.incoming Scalar.zero with
        | none => rw [hsum] at h; simp at h
        | some x =>
          rw [hsum] at h
          rw [sumIn_mono _ _ ih nd.incoming _ x hsum]
          exact h

theorem evalNode_mono_le (net : Net W) (σ : Nat → W → Option W) (sens : Nat → W) (f g : Nat) (hfg : f ≤ g)
    (i : Nat) (v : W) (h : evalNode net σ sens f i = some v) : evalNode net σ sens g i = some v :=
  fuel_mono_le (evalNode_mono net σ sens) hfg i v h

/-- with every source evaluated, `sumIn` is the solver's running sum over the link list (`sumOf`, `Fast.linkSum`) -/
theorem sumIn_eq (e : Nat → Option W) (vals : Nat → W) (ls : List (NLink W)) (acc : W)
    (h : ∀ l ∈ ls, e l.src = some (vals l.src)) :
    sumIn e ls acc = some (ls.foldl (fun a l => Scalar.add a (Scalar.mul l.w (vals l.src))) acc) := by
  induction ls generalizing acc with
  | nil => rfl
  | cons l ls ih =>
    unfold sumIn
    rw [h l (by simp)]
    exact ih _ (fun l' hl' => h l' (by simp [hl']))

theorem ffAux_get (net : Net W) (lvl : Nat → Nat) (rest : List (NNodeS W)) (i0 : Nat)
    (h : ffAux net lvl rest i0 = true) (k : Nat) (nd : NNodeS W) (hk : rest[k]? = some nd) :
    ffNode net lvl (i0 + k) nd = true := by
  induction rest generalizing i0 k with
  | nil => simp at hk
  | cons a rest ih =>
    simp only [ffAux, Bool.and_eq_true] at h
    cases k with
    | zero => simp at hk; subst hk; exact h.1
    | succ k' =>
      have := ih (i0 + 1) h.2 k' (by simpa using hk)
      have hidx : i0 + (k' + 1) = i0 + 1 + k' := by omega
      rw [hidx]; exact this

structure FFProps (net : Net W) (lvl : Nat → Nat) : Prop where
  node : ∀ i nd, net.nodes[i]? = some nd → ffNode net lvl i nd = true
  outs : ∀ o ∈ net.outputs, o < net.nodes.length

theorem FFNet_props (net : Net W) (lvl : Nat → Nat) (h : FFNet net lvl = true) : FFProps net lvl := by
  simp only [FFNet, Bool.and_eq_true, List.all_eq_true, decide_eq_true_eq] at h
  exact ⟨fun i nd hi => by simpa using ffAux_get net lvl net.nodes 0 h.1.2 i nd hi, h.2⟩

theorem ffNode_neuron (net : Net W) (lvl : Nat → Nat) (i : Nat) (nd : NNodeS W) (h : ffNode net lvl i nd = true)
    (hs : nd.isSensor = false) :
    nd.isNeuron = true ∧ nd.incoming ≠ [] ∧
      ∀ l ∈ nd.incoming, l.src < net.nodes.length ∧ l.timeDelayed = false ∧ lvl l.src < lvl i := by
  simp only [ffNode, hs, Bool.false_eq_true, if_false, Bool.and_eq_true, List.all_eq_true, decide_eq_true_eq,
    Bool.not_eq_true', List.isEmpty_eq_false_iff] at h
  exact ⟨h.1.1, h.1.2, fun l hl => ⟨(h.2 l hl).1.1, (h.2 l hl).1.2, (h.2 l hl).2⟩⟩

theorem neuron_facts (net : Net W) (lvl : Nat → Nat) (hff : FFProps net lvl) (i : Nat) (nd : NNodeS W)
    (hi : net.nodes[i]? = some nd) (hs : nd.isSensor = false) :
    nd.isNeuron = true ∧ 1 ≤ lvl i ∧ ∀ l ∈ nd.incoming, lvl l.src < lvl i := by
  obtain ⟨h1, hne, hl⟩ := ffNode_neuron net lvl i nd (hff.node i nd hi) hs
  obtain ⟨l, hl'⟩ := List.exists_mem_of_ne_nil _ hne
  have := (hl l hl').2.2
  exact ⟨h1, by omega, fun l hl' => (hl l hl').2.2⟩

/-- `P t s`, the layer invariant of the standard solver (the induction over passes of `ActivateSteps` carries it): sensors
    are loaded with `sens`; every neuron of rank ≤ t is active and holds its feed-forward value -/
structure P (net : Net W) (σ : Nat → W → Option W) (sens : Nat → W) (lvl : Nat → Nat) (t : Nat) (s : St W) : Prop where
  len : s.length = net.nodes.length
  sensor : ∀ i nd, net.nodes[i]? = some nd → nd.isSensor = true → (get s i).count > 0 ∧ (get s i).activation = sens i
  neuron : ∀ i nd, net.nodes[i]? = some nd → nd.isSensor = false → lvl i ≤ t →
    (get s i).isActive = true ∧ (get s i).count > 0 ∧ evalNode net σ sens (lvl i + 1) i = some (get s i).activation

theorem P.mono {net : Net W} {σ : Nat → W → Option W} {sens : Nat → W} {lvl : Nat → Nat} {t t' : Nat} {s : St W}
    (h : P net σ sens lvl t s) (ht : t' ≤ t) : P net σ sens lvl t' s :=
  ⟨h.len, h.sensor, fun i nd hi hs hl => h.neuron i nd hi hs (by omega)⟩

theorem sensor_not_neuron (nd : NNodeS W) (h : nd.isSensor = true) : nd.isNeuron = false := by
  simp only [NNodeS.isSensor, NNodeS.isNeuron, Kind.input, Kind.bias, Kind.hidden, Kind.output, Bool.or_eq_true,
    beq_iff_eq] at h ⊢
  rcases h with h | h <;> simp [h]

/-- the two clauses of `P` read as one: a link's source and an output may be a sensor or a neuron -/
theorem P.value {net : Net W} {σ : Nat → W → Option W} {sens : Nat → W} {lvl : Nat → Nat} {t : Nat} {s : St W}
    (hP : P net σ sens lvl t s) {j : Nat} (hj : j < net.nodes.length) (hl : lvl j ≤ t) {f : Nat} (hf : lvl j + 1 ≤ f) :
    (get s j).count > 0 ∧ evalNode net σ sens f j = some (get s j).activation ∧
      ((get s j).isActive = true ∨ isSensorAt net j = true) := by
  have hn : net.nodes[j]? = some net.nodes[j] := List.getElem?_eq_getElem hj
  by_cases hs : (net.nodes[j]).isSensor = true
  · obtain ⟨h1, h2⟩ := hP.sensor j _ hn hs
    refine ⟨h1, ?_, Or.inr (by simp [isSensorAt, hn, hs])⟩
    obtain ⟨f', rfl⟩ : ∃ f', f = f' + 1 := ⟨f - 1, by omega⟩
    unfold evalNode
    simp [hn, hs, h2]
  · obtain ⟨h1, h2, h3⟩ := hP.neuron j _ hn (by simpa using hs) hl
    exact ⟨h2, evalNode_mono_le net σ sens _ f hf j _ h3, Or.inl h1⟩

theorem sweeps_step (net : Net W) (σ : Nat → W → Option W) (sens : Nat → W) (lvl : Nat → Nat)
    (hff : FFProps net lvl)
    (hσ : ∀ (i : Nat) (nd : NNodeS W), net.nodes[i]? = some nd → nd.isNeuron = true → ∀ x, (σ nd.act x).isSome = true)
    (t : Nat) (s : St W) (hP : P net σ sens lvl t s) :
    ∃ s2, sweep2 net σ (sweep1 net s) = (s2, none) ∧ P net σ sens lvl (t + 1) s2 := by
  have hmem : ∀ p ∈ net.nodes.zipIdx, net.nodes[p.2]? = some p.1 := fun p hp => List.mem_zipIdx_iff_getElem?.mp hp
  have hlt : ∀ p ∈ net.nodes.zipIdx, p.2 < s.length := by
    intro p hp
    rw [hP.len]
    exact (List.getElem?_eq_some_iff.mp (hmem p hp)).1
  -- a neuron is fed from strictly lower ranks, so not by itself
  have hok : ∀ p ∈ net.nodes.zipIdx, p.1.isNeuron = true →
      ∀ l ∈ p.1.incoming, l.timeDelayed = false ∧ l.src ≠ p.2 := by
    intro p hp hn l hl
    have hs : p.1.isSensor = false := by
      cases h : p.1.isSensor with
      | false => rfl
      | true => rw [sensor_not_neuron p.1 h] at hn; simp at hn
    obtain ⟨_, _, h3⟩ := ffNode_neuron net lvl p.2 p.1 (hff.node p.2 p.1 (hmem p hp)) hs
    refine ⟨(h3 l hl).2.1, fun heq => ?_⟩
    have h4 := (h3 l hl).2.2
    rw [heq] at h4
    exact Nat.lt_irrefl _ h4
  have hS1 : sweep1 net s = net.nodes.zipIdx.foldl (node1 net) s := sweep1Aux_eq net net.nodes 0 s
  have hS2 : sweep2 net σ (sweep1 net s) = foldE (node2 σ) net.nodes.zipIdx (sweep1 net s) :=
    sweep2Aux_eq σ net.nodes 0 _
  obtain ⟨fr, _, a4⟩ := foldl_node1_spec net _ (zipIdx_nodup net.nodes) s hlt hok
  rw [← hS1] at fr a4
  obtain ⟨s2, hrun, b1, _, b4⟩ := foldE_node2_spec σ _ (zipIdx_nodup net.nodes)
    (fun p hp hn => hσ p.2 p.1 (hmem p hp) hn) (sweep1 net s)
  rw [← hS2] at hrun
  refine ⟨s2, hrun, ⟨by rw [b1, fr.len, hP.len], fun i nd hi hs => ?_, fun i nd hi hs hl => ?_⟩⟩
  · -- sensors are not touched
    have hnn := sensor_not_neuron nd hs
    have := b4 (nd, i) (List.mem_zipIdx_iff_getElem?.mpr hi)
    simp only [node2, hnn, Bool.false_and, Bool.false_eq_true, if_false] at this
    rw [this, fr.act i, fr.count i]
    exact hP.sensor i nd hi hs
  · -- a neuron of rank ≤ t+1: all its sources hold their values
    obtain ⟨hn, hne, hlinks⟩ := ffNode_neuron net lvl i nd (hff.node i nd hi) hs
    have hsrc : ∀ l ∈ nd.incoming, evalNode net σ sens (lvl i) l.src = some (activeOut (get s l.src)) ∧
        ((get s l.src).isActive = true ∨ isSensorAt net l.src = true) := by
      intro l hl'
      obtain ⟨h1, _, h3⟩ := hlinks l hl'
      obtain ⟨c, e, a⟩ := hP.value (f := lvl i) h1 (by omega) (by omega)
      exact ⟨by rw [e, activeOut, if_pos c], a⟩
    have hin : (nd, i) ∈ net.nodes.zipIdx := List.mem_zipIdx_iff_getElem?.mpr hi
    obtain ⟨c1, c2⟩ := a4 (nd, i) hin hn
    have hact : (get (sweep1 net s) i).isActive = true := by
      apply c2
      obtain ⟨l, hl'⟩ := List.exists_mem_of_ne_nil _ hne
      exact ⟨l, hl', (hsrc l hl').2⟩
    have hget := b4 (nd, i) hin
    simp only [node2, hn, hact, Bool.and_self, if_true] at hget
    have hsome := hσ i nd hi hn (get (sweep1 net s) i).sum
    cases hout : σ nd.act (get (sweep1 net s) i).sum with
    | none => rw [hout] at hsome; cases hsome
    | some out =>
      rw [hout] at hget
      simp only at hget
      rw [get_upd_self _ _ _ (by rw [fr.len]; exact hlt (nd, i) hin)] at hget
      rw [hget]
      refine ⟨by simp [setActivation, saveActs, hact], by simp [setActivation, saveActs], ?_⟩
      have hsum : sumIn (evalNode net σ sens (lvl i)) nd.incoming Scalar.zero = some (sumOf s nd.incoming Scalar.zero) :=
        sumIn_eq _ (fun j => activeOut (get s j)) nd.incoming _ (fun l hl' => (hsrc l hl').1)
      unfold evalNode
      simp only [hi, hs, Bool.false_eq_true, if_false, hsum]
      rw [← c1, hout]
      simp [setActivation, saveActs]

theorem outputs_on (net : Net W) (σ : Nat → W → Option W) (sens : Nat → W) (lvl : Nat → Nat) (hff : FFProps net lvl)
    (t : Nat) (s : St W) (hP : P net σ sens lvl t s) (hk : ∀ o ∈ net.outputs, lvl o ≤ t) :
    outputIsOff net s = false := by
  unfold outputIsOff
  rw [List.any_eq_false]
  intro o ho
  have hpos := (hP.value (hff.outs o ho) (hk o ho) (Nat.le_refl _)).1
  simp only [beq_iff_eq]
  omega

/-- `Solver.actLoop` is the loop of `Network.ActivateSteps` (not `Fast.actLoop`, the activation loop of the fast solver).
    `abort` is Go's `abortCount`, the passes made so far; `one` is `oneTime`, false until the first pass.  Every pass advances
    the layer invariant, so `abort ≤ t` is kept; once `abort ≥ k` all outputs hold a value and the loop exits with `true`,
    before the `exceeded` exit at `abort = maxSteps = k`.  A pass trades one unit of fuel for one of `abort`, so
    `k + 1 ≤ fuel + abort` is kept from the start `fuel = k + 2`, `abort = 0`. -/
theorem actLoop_ff (net : Net W) (σ : Nat → W → Option W) (sens : Nat → W) (lvl : Nat → Nat) (hff : FFProps net lvl)
    (hσ : ∀ (i : Nat) (nd : NNodeS W), net.nodes[i]? = some nd → nd.isNeuron = true → ∀ x, (σ nd.act x).isSome = true)
    (k : Nat) (hk : ∀ o ∈ net.outputs, lvl o ≤ k) (hk1 : 1 ≤ k) (fuel : Nat) :
    ∀ (abort : Nat) (one : Bool) (t : Nat) (s : St W), P net σ sens lvl t s → abort ≤ t →
      (one = false → abort = 0) → k + 1 ≤ fuel + abort → 1 ≤ fuel →
      ∃ s', actLoop net σ (k : Int) fuel abort one s = (s', true, none) ∧
        P net σ sens lvl (if one then t else t + 1) s' := by
  induction fuel with
  | zero => intro _ _ _ _ _ _ _ _ h; omega
  | succ fuel ih =>
    intro abort one t s hP hat hone hfuel _
    unfold actLoop
    by_cases hcond : (outputIsOff net s || !one) = true
    · simp only [hcond, if_true]
      have hlt : abort < k := by
        cases one with
        | false => have := hone rfl; omega
        | true =>
          simp only [Bool.not_true, Bool.or_false] at hcond
          apply Nat.lt_of_not_le
          intro hge
          have := outputs_on net σ sens lvl hff t s hP (fun o ho => Nat.le_trans (hk o ho) (Nat.le_trans hge hat))
          rw [this] at hcond
          simp at hcond
      have hnot : ¬ ((abort : Int) ≥ (k : Int)) := by omega
      simp only [hnot, if_false]
      obtain ⟨s2, hsw, e2⟩ := sweeps_step net σ sens lvl hff hσ t s hP
      rw [hsw]
      simp only
      obtain ⟨s', hrun, hP'⟩ := ih (abort + 1) true (t + 1) s2 e2 (by omega) (by simp) (by omega) (by omega)
      simp only [if_true] at hP'
      refine ⟨s', hrun, ?_⟩
      cases one with
      | false => simpa using hP'
      | true => simpa using hP'.mono (by omega)
    · have hc : (outputIsOff net s || !one) = false := by simpa using hcond
      simp only [hc, Bool.false_eq_true, if_false]
      have hone' : one = true := by
        cases one with
        | true => rfl
        | false => simp at hc
      subst hone'
      exact ⟨s, rfl, by simpa using hP⟩

theorem activateSteps_ff (net : Net W) (σ : Nat → W → Option W) (sens : Nat → W) (lvl : Nat → Nat) (hff : FFProps net lvl)
    (hσ : ∀ (i : Nat) (nd : NNodeS W), net.nodes[i]? = some nd → nd.isNeuron = true → ∀ x, (σ nd.act x).isSome = true)
    (k : Nat) (hk : ∀ o ∈ net.outputs, lvl o ≤ k) (hk1 : 1 ≤ k) (t : Nat) (s : St W) (hP : P net σ sens lvl t s) :
    ∃ s', activateSteps net σ (k : Int) s = (s', true, none) ∧ P net σ sens lvl (t + 1) s' := by
  unfold activateSteps
  have hk0 : ((k : Int) == 0) = false := by
    simp only [beq_eq_false_iff_ne, ne_eq]
    omega
  simp only [hk0, Bool.false_eq_true, if_false]
  exact actLoop_ff net σ sens lvl hff hσ k hk hk1 ((k : Int).toNat + 2) 0 false t s hP (by omega) (fun _ => rfl)
    (by simp) (by omega)

theorem fwdLoop_ff (net : Net W) (σ : Nat → W → Option W) (sens : Nat → W) (lvl : Nat → Nat) (hff : FFProps net lvl)
    (hσ : ∀ (i : Nat) (nd : NNodeS W), net.nodes[i]? = some nd → nd.isNeuron = true → ∀ x, (σ nd.act x).isSome = true)
    (k : Nat) (hk : ∀ o ∈ net.outputs, lvl o ≤ k) (hk1 : 1 ≤ k) (n : Nat) :
    ∀ (res : Bool) (t : Nat) (s : St W), P net σ sens lvl t s → 1 ≤ n →
      ∃ s', fwdLoop net σ (k : Int) n res s = (s', true, none) ∧ P net σ sens lvl (t + n) s' := by
  induction n with
  | zero => intro _ _ _ _ h; omega
  | succ n ih =>
    intro res t s hP _
    unfold fwdLoop
    obtain ⟨s', ha, e2⟩ := activateSteps_ff net σ sens lvl hff hσ k hk hk1 t s hP
    rw [ha]
    simp only
    cases n with
    | zero => exact ⟨s', rfl, e2⟩
    | succ n' =>
      obtain ⟨s'', hrun, hP'⟩ := ih true (t + 1) s' e2 (by omega)
      refine ⟨s'', hrun, ?_⟩
      have heq : t + 1 + (n' + 1) = t + (n' + 1 + 1) := by omega
      rw [← heq]
      exact hP'


theorem count_upd_sensorLoad (s : St W) (i : Nat) (x : W) (j : Nat) :
    (get s j).count ≤ (get (upd s i (sensorLoad x)) j).count ∧
      (j = i → i < s.length → 0 < (get (upd s i (sensorLoad x)) j).count) := by
  by_cases hj : j = i
  · subst hj
    by_cases hl : j < s.length
    · rw [get_upd_self _ _ _ hl]
      simp [sensorLoad, saveActs]
    · rw [upd_ge _ _ _ (by omega)]
      exact ⟨Nat.le_refl _, fun _ h => absurd h hl⟩
  · rw [get_upd_ne _ _ _ _ hj]
    exact ⟨Nat.le_refl _, fun h => absurd h hj⟩

theorem count_loads (L : List (Nat × W)) (s : St W) :
    (∀ j, (get s j).count ≤ (get (updAll (L.map fun p => (p.1, sensorLoad p.2)) s) j).count) ∧
    (∀ i ∈ L.map (·.1), i < s.length → 0 < (get (updAll (L.map fun p => (p.1, sensorLoad p.2)) s) i).count) := by
  induction L generalizing s with
  | nil => exact ⟨fun _ => Nat.le_refl _, fun i hi => by simp at hi⟩
  | cons p L ih =>
    obtain ⟨m, q⟩ := ih (upd s p.1 (sensorLoad p.2))
    have c := count_upd_sensorLoad s p.1 p.2
    refine ⟨fun j => Nat.le_trans (c j).1 (m j), fun i hi hl => ?_⟩
    rcases List.mem_cons.mp hi with rfl | hi
    · exact Nat.lt_of_lt_of_le ((c _).2 rfl hl) (m _)
    · exact q i hi (by simpa using hl)

theorem loadSensors_loaded (net : Net W) (xs : List W) (s : St W) (hok : (loadSensors net xs s).2 = none) :
    (loadSensors net xs s).1.length = s.length ∧
      ∀ i ∈ net.inputs, isSensorAt net i = true → i < s.length → 0 < (get (loadSensors net xs s).1 i).count := by
  obtain ⟨L, e, hL, hcov⟩ := loadSensors_eq net xs
  rw [hL s] at hok ⊢
  exact ⟨length_updAll _ s, fun i hi hs hl => (count_loads L s).2 i (hcov hok i hi hs) hl⟩

/-- the hypotheses of the layer invariant `P` at rank 0, on a fresh network after `LoadSensors`: the right length, and every
    sensor that `inputs` lists is loaded -/
theorem loadSensors_init_loaded (net : Net W) (xs : List W) (hok : (loadSensors net xs (init net)).2 = none) :
    (loadSensors net xs (init net)).1.length = net.nodes.length ∧
      ∀ i nd, net.nodes[i]? = some nd → nd.isSensor = true → i ∈ net.inputs →
        0 < (get (loadSensors net xs (init net)).1 i).count := by
  obtain ⟨hl, hc⟩ := loadSensors_loaded net xs (init net) hok
  have hn : (init net).length = net.nodes.length := by simp [init]
  exact ⟨hl.trans hn, fun i nd hi hs hin =>
    hc i hin (by simp [isSensorAt, hi, hs]) (hn ▸ (List.getElem?_eq_some_iff.mp hi).1)⟩

end GoNeat.Solver
