/-
  Helper lemmas for C11, graph view: `edgeBetween` directed and undirected (with its control-node branches as repaired
  by 513f15a), `From` / `To` and absent ids, on any network that `expresses` a well-formed genome with ANY number of
  enabled modules - none included: the statements of Props/C11.lean for `enabledMods g = []` are instances.  The
  answers are those of the genome-level specification (Spec/Genesis.lean: `specEdge`, `specHasEdge`, `specFrom`,
  `specTo` over `dirEdges` = enabled genes, then per enabled module its input wires `node → ctrl` and output wires
  `ctrl → node`).  Core Lean only.

  Method: a control node is looked at only through its id and the id-level images of its wire lists (`cview`);
  `Expressed` says that these views are exactly the views of the enabled modules (`mview`), so the search loops
  become functions of the genome (`vScan`); control ids being pairwise different, both `vScan` and `List.find?` over
  `dirEdges` look into the one module with the control id asked for (`vScan_eq`, `modEdges_find_to/from`).
-/
import GoNeat.Proofs.GraphView
import GoNeat.Proofs.ListLemmas

set_option linter.unusedSectionVars false

namespace GoNeat.Genesis

variable {W : Type}

structure CView (W : Type) where
  id : Int
  ins : List (ELink W)
  outs : List (ELink W)

def cview (net : Net W) (cn : NNodeS W) : CView W :=
  ⟨cn.id, cn.incoming.map (elink net), cn.outgoing.map (elink net)⟩

def mview (m : Module W) : CView W := ⟨m.ctrl.id, modIns m, modOuts m⟩

def vEdgeOut (c : CView W) (oid : Int) (directed vKnown : Bool) : Option (Option (ELink W)) :=
  match c.outs.find? fun e => e.dst == some oid with
  | some l => if !directed then some (some l) else if vKnown then some (some l) else some none
  | none => none

def vEdge (c : CView W) (oid : Int) (directed uKnown vKnown : Bool) : Option (Option (ELink W)) :=
  match c.ins.find? fun e => e.src == some oid with
  | some l => if !directed || uKnown then some (some l) else vEdgeOut c oid directed vKnown
  | none => vEdgeOut c oid directed vKnown

def vScan (cid oid : Int) (directed uKnown vKnown : Bool) : List (CView W) → Option (ELink W)
  | [] => none
  | c :: rest =>
    if c.id != cid then vScan cid oid directed uKnown vKnown rest
    else
      match vEdge c oid directed uKnown vKnown with
      | some r => r
      | none => vScan cid oid directed uKnown vKnown rest

theorem ctrlEdgeOut_view (net : Net W) (cn : NNodeS W) (oid : Int) (d vk : Bool) :
    (ctrlEdgeOut net cn oid d vk).map (Option.map (elink net)) = vEdgeOut (cview net cn) oid d vk := by
  unfold ctrlEdgeOut vEdgeOut cview
  simp only
  rw [List.find?_map]
  have : ((fun e : ELink W => e.dst == some oid) ∘ elink net) = fun l => idAt net l.dst == some oid := rfl
  rw [this]
  cases cn.outgoing.find? fun l => idAt net l.dst == some oid with
  | none => rfl
  | some l => cases d <;> cases vk <;> rfl

theorem ctrlEdge_view (net : Net W) (cn : NNodeS W) (oid : Int) (d uk vk : Bool) :
    (ctrlEdge net cn oid d uk vk).map (Option.map (elink net)) = vEdge (cview net cn) oid d uk vk := by
  unfold ctrlEdge vEdge
  have hin : (cview net cn).ins.find? (fun e => e.src == some oid) =
      (cn.incoming.find? fun l => idAt net l.src == some oid).map (elink net) := by
    unfold cview; simp only; rw [List.find?_map]; rfl
  rw [hin]
  cases cn.incoming.find? fun l => idAt net l.src == some oid with
  | none => exact ctrlEdgeOut_view net cn oid d vk
  | some l =>
    simp only [Option.map_some]
    by_cases h : (!d || uk) = true
    · simp [h]
    · simp only [h, Bool.false_eq_true, ↓reduceIte]
      exact ctrlEdgeOut_view net cn oid d vk

theorem ctrlScan_view (net : Net W) (cid oid : Int) (d uk vk : Bool) (cs : List (NNodeS W)) :
    (ctrlScan net cid oid d uk vk cs).map (elink net) = vScan cid oid d uk vk (cs.map (cview net)) := by
  induction cs with
  | nil => rfl
  | cons cn rest ih =>
    unfold ctrlScan
    simp only [List.map_cons]
    unfold vScan
    have hid : (cview net cn).id = cn.id := rfl
    rw [hid]
    by_cases hc : (cn.id != cid) = true
    · simp only [hc, ↓reduceIte]; exact ih
    · simp only [hc, Bool.false_eq_true, ↓reduceIte]
      rw [← ctrlEdge_view]
      cases ctrlEdge net cn oid d uk vk with
      | none => exact ih
      | some r => rfl

section
variable [DecidableEq W]

theorem ctrl_views {g : Genome W} {netId : Int} {net : Net W} (hx : Expressed g netId net) :
    net.ctrl.map (cview net) = (enabledMods g).map mview := by
  apply List.ext_getElem?
  intro i
  have ht := congrArg (·[i]?) hx.ctrlTriples
  simp only [nodeTriples, List.getElem?_map] at ht ⊢
  cases ha : net.ctrl[i]? with
  | none =>
    cases hb : (enabledMods g)[i]? with
    | none => rfl
    | some b => simp [ha, hb] at ht
  | some a =>
    cases hb : (enabledMods g)[i]? with
    | none => simp [ha, hb] at ht
    | some b =>
      obtain ⟨h1, h2⟩ := hx.ctrlLinks (a, b) (List.mem_of_getElem? (List.getElem?_zip_eq_some.mpr ⟨ha, hb⟩))
      simp only [ha, hb, Option.map_some, Option.some.injEq, Prod.mk.injEq] at ht
      simp only [Option.map_some, cview, mview, ht.1, h1, h2]

end

def modEdgesOf (M : List (Module W)) : List (ELink W) := M.flatMap fun m => modIns m ++ modOuts m

theorem dirEdges_eq (g : Genome W) : dirEdges g = EG g ++ modEdgesOf (enabledMods g) := rfl

theorem mem_modIns {m : Module W} {e : ELink W} (h : e ∈ modIns m) :
    ∃ w ∈ m.ins, e.src = some w.node ∧ e.dst = some m.ctrl.id := by
  unfold modIns at h
  obtain ⟨w, hw, rfl⟩ := List.mem_map.mp h
  exact ⟨w, hw, rfl, rfl⟩

theorem mem_modOuts {m : Module W} {e : ELink W} (h : e ∈ modOuts m) :
    ∃ w ∈ m.outs, e.src = some m.ctrl.id ∧ e.dst = some w.node := by
  unfold modOuts at h
  obtain ⟨w, hw, rfl⟩ := List.mem_map.mp h
  exact ⟨w, hw, rfl, rfl⟩

structure ModsOk (ids : List Int) (M : List (Module W)) : Prop where
  fresh : ∀ m ∈ M, m.ctrl.id ∉ ids
  ins : ∀ m ∈ M, ∀ w ∈ m.ins, w.node ∈ ids
  outs : ∀ m ∈ M, ∀ w ∈ m.outs, w.node ∈ ids
  distinct : (M.map (·.ctrl.id)).Nodup

theorem modsOk_of_ok {g : Genome W} (hok : Ok g) : ModsOk (nodeIds' g) (enabledMods g) := by
  have hnd := List.nodup_append.mp hok.nodup
  have hsub : (enabledMods g).Sublist g.modules := List.filter_sublist
  refine ⟨?_, ?_, ?_, ?_⟩
  · intro m hm hmem
    have hm' : m ∈ g.modules := (List.mem_filter.mp hm).1
    exact hnd.2.2 _ hmem _ (List.mem_map.mpr ⟨m, hm', rfl⟩) rfl
  · intro m hm
    exact (hok.wires m (List.mem_filter.mp hm).1).1
  · intro m hm
    exact (hok.wires m (List.mem_filter.mp hm).1).2
  · exact List.Pairwise.sublist (hsub.map _) hnd.2.1

theorem modsOk_nil (ids : List Int) : ModsOk ids ([] : List (Module W)) :=
  ⟨fun _ h => by simp at h, fun _ h => by simp at h, fun _ h => by simp at h, List.nodup_nil⟩

theorem find_modIns (m : Module W) (a b : Int) :
    (modIns m).find? (edgeP a b) = if m.ctrl.id = b then (modIns m).find? (fun e => e.src == some a) else none :=
  find?_and_const (modIns m) (fun e => e.src == some a) (fun e => e.dst == some b) _ fun e he => by
    obtain ⟨w, _, _, hd⟩ := mem_modIns he
    simp [hd]

theorem find_modOuts (m : Module W) (a b : Int) :
    (modOuts m).find? (edgeP a b) = if m.ctrl.id = a then (modOuts m).find? (fun e => e.dst == some b) else none :=
  (find_congr _ fun e _ => Bool.and_comm _ _).trans <|
    find?_and_const (modOuts m) (fun e => e.dst == some b) (fun e => e.src == some a) _ fun e he => by
      obtain ⟨w, _, hs, _⟩ := mem_modOuts he
      simp [hs]

theorem find_ctrl_none {M : List (Module W)} {c : Int} (h : ∀ m ∈ M, m.ctrl.id ≠ c) :
    M.find? (·.ctrl.id == c) = none :=
  List.find?_eq_none.mpr fun m hm hp => h m hm (by simpa using hp)

theorem modEdges_find_to {M : List (Module W)} (hd : (M.map (·.ctrl.id)).Nodup) {a b : Int}
    (ha : ∀ m ∈ M, m.ctrl.id ≠ a) :
    (modEdgesOf M).find? (edgeP a b) =
      (M.find? (·.ctrl.id == b)).bind fun m => (modIns m).find? (fun e => e.src == some a) :=
  find?_flatMap_key (·.ctrl.id) (fun m => modIns m ++ modOuts m) (edgeP a b) b
    (fun m => (modIns m).find? (fun e => e.src == some a)) M hd fun m hm => by
    rw [List.find?_append, find_modIns, find_modOuts, if_neg (ha m hm), Option.or_none]

theorem modEdges_find_from {M : List (Module W)} (hd : (M.map (·.ctrl.id)).Nodup) {a b : Int}
    (hb : ∀ m ∈ M, m.ctrl.id ≠ b) :
    (modEdgesOf M).find? (edgeP a b) =
      (M.find? (·.ctrl.id == a)).bind fun m => (modOuts m).find? (fun e => e.dst == some b) :=
  find?_flatMap_key (·.ctrl.id) (fun m => modIns m ++ modOuts m) (edgeP a b) a
    (fun m => (modOuts m).find? (fun e => e.dst == some b)) M hd fun m hm => by
    rw [List.find?_append, find_modIns, find_modOuts, if_neg (hb m hm), Option.none_or]

theorem modEdges_none_ordinary {ids : List Int} {M : List (Module W)} (h : ModsOk ids M) {u v : Int}
    (hu : u ∈ ids) (hv : v ∈ ids) : (modEdgesOf M).find? (edgeP u v) = none := by
  rw [modEdges_find_to h.distinct (fun m hm hmu => h.fresh m hm (hmu ▸ hu)),
    find_ctrl_none (fun m hm hmv => h.fresh m hm (hmv ▸ hv))]
  rfl

theorem modEdges_none_absent {ids : List Int} {M : List (Module W)} (h : ModsOk ids M) {u v : Int}
    (hu : u ∉ ids) (hv : v ∉ ids) : (modEdgesOf M).find? (edgeP u v) = none := by
  rw [List.find?_eq_none]
  intro e he hp
  unfold modEdgesOf at he
  obtain ⟨m, hm, hem⟩ := List.mem_flatMap.mp he
  simp only [edgeP, Bool.and_eq_true, beq_iff_eq] at hp
  rcases List.mem_append.mp hem with h1 | h1
  · obtain ⟨w, hw, hs, _⟩ := mem_modIns h1
    rw [hs] at hp
    exact hu (Option.some.inj hp.1 ▸ h.ins m hm w hw)
  · obtain ⟨w, hw, _, hd⟩ := mem_modOuts h1
    rw [hd] at hp
    exact hv (Option.some.inj hp.2 ▸ h.outs m hm w hw)

theorem vScan_none {M : List (Module W)} {c : Int} (h : ∀ m ∈ M, m.ctrl.id ≠ c) (o : Int) (d uk vk : Bool) :
    vScan c o d uk vk (M.map mview) = none := by
  induction M with
  | nil => rfl
  | cons m ms ih =>
    have hb : ((mview m).id != c) = true := by simpa [mview] using h m (by simp)
    simp only [List.map_cons, vScan, hb, ↓reduceIte]
    exact ih fun x hx => h x (by simp [hx])

theorem vScan_eq {M : List (Module W)} (hd : (M.map (·.ctrl.id)).Nodup) (c o : Int) (d uk vk : Bool) :
    vScan c o d uk vk (M.map mview) =
      (M.find? (·.ctrl.id == c)).bind fun m => (vEdge (mview m) o d uk vk).join := by
  induction M with
  | nil => rfl
  | cons m ms ih =>
    rw [List.map_cons, List.nodup_cons] at hd
    rw [List.find?_cons]
    by_cases hmc : m.ctrl.id = c
    · have hb : ((mview m).id != c) = false := by simp [mview, hmc]
      have hrest := vScan_none (fun x hx hxc => hd.1 (List.mem_map.mpr ⟨x, hx, hxc.trans hmc.symm⟩)) o d uk vk
      simp only [List.map_cons, vScan, hb, Bool.false_eq_true, ↓reduceIte, hrest, hmc, beq_self_eq_true,
        Option.bind_some]
      cases vEdge (mview m) o d uk vk <;> rfl
    · have hb : ((mview m).id != c) = true := by simp [mview, hmc]
      have hq : (m.ctrl.id == c) = false := by simpa using hmc
      simp only [List.map_cons, vScan, hb, ↓reduceIte, hq]
      exact ih hd.2

/-- what the search inside the one module returns: directed from the control node, directed to it, undirected -/
theorem vEdge_join (m : Module W) (o : Int) :
    (vEdge (mview m) o true false true).join = (modOuts m).find? (fun e => e.dst == some o) ∧
    (vEdge (mview m) o true true false).join = (modIns m).find? (fun e => e.src == some o) ∧
    ∀ uk vk, (vEdge (mview m) o false uk vk).join =
      ((modIns m).find? (fun e => e.src == some o)).or ((modOuts m).find? (fun e => e.dst == some o)) := by
  unfold vEdge vEdgeOut mview
  simp only
  cases (modIns m).find? (fun e => e.src == some o) <;> cases (modOuts m).find? (fun e => e.dst == some o) <;> simp

theorem vScan_from_ctrl {ids : List Int} (M : List (Module W)) (h : ModsOk ids M) {c o : Int} (ho : o ∈ ids) :
    vScan c o true false true (M.map mview) = (modEdgesOf M).find? (edgeP c o) := by
  rw [vScan_eq h.distinct, modEdges_find_from h.distinct (fun m hm hmo => h.fresh m hm (hmo ▸ ho))]
  simp only [(vEdge_join _ o).1]

theorem vScan_to_ctrl {ids : List Int} (M : List (Module W)) (h : ModsOk ids M) {c o : Int} (ho : o ∈ ids) :
    vScan c o true true false (M.map mview) = (modEdgesOf M).find? (edgeP o c) := by
  rw [vScan_eq h.distinct, modEdges_find_to h.distinct (fun m hm hmo => h.fresh m hm (hmo ▸ ho))]
  simp only [(vEdge_join _ o).2.1]

theorem vScan_between {ids : List Int} (M : List (Module W)) (h : ModsOk ids M) {c o : Int} (ho : o ∈ ids)
    (uk vk : Bool) :
    (vScan c o false uk vk (M.map mview)).isSome =
      (((modEdgesOf M).find? (edgeP o c)).isSome || ((modEdgesOf M).find? (edgeP c o)).isSome) := by
  have hno : ∀ m ∈ M, m.ctrl.id ≠ o := fun m hm hmo => h.fresh m hm (hmo ▸ ho)
  rw [vScan_eq h.distinct, modEdges_find_from h.distinct hno, modEdges_find_to h.distinct hno]
  simp only [(vEdge_join _ o).2.2]
  cases M.find? (·.ctrl.id == c) with
  | none => rfl
  | some m => simp

section
variable [DecidableEq W]

theorem mem_ids_of_find {g : Genome W} {netId : Int} {net : Net W} (hx : Expressed g netId net) {u : Int} {nd : NNodeS W}
    (h : net.nodes.find? (·.id == u) = some nd) : u ∈ nodeIds' g := by
  obtain ⟨hM, hI⟩ := find_node h
  rw [← hx.ids]
  exact List.mem_map.mpr ⟨nd, hM, hI⟩

theorem EG_none_left {g : Genome W} (hok : Ok g) {u v : Int} (h : u ∉ nodeIds' g) :
    (EG g).find? (edgeP u v) = none := EG_find_none_of_absent hok (Or.inl h)

theorem EG_none_right {g : Genome W} (hok : Ok g) {u v : Int} (h : v ∉ nodeIds' g) :
    (EG g).find? (edgeP u v) = none := EG_find_none_of_absent hok (Or.inr h)

theorem edgeBetween_directed_mod {g : Genome W} {netId : Int} {net : Net W} (hok : Ok g) (hx : Expressed g netId net)
    (u v : Int) : (edgeBetween net u v true).map (elink net) = (dirEdges g).find? (edgeP u v) := by
  have hnd : (net.nodes.map (·.id)).Nodup := by rw [hx.ids]; exact hok.nodupNodes
  have hM := modsOk_of_ok hok
  rw [dirEdges_eq, List.find?_append]
  unfold edgeBetween
  rw [scanUV_top u v net.nodes hnd]
  cases hu : net.nodes.find? (·.id == u) with
  | none =>
    have hua := find_node_none hx hu
    rw [EG_none_left hok hua, Option.none_or]
    cases hv : net.nodes.find? (·.id == v) with
    | none =>
      rw [modEdges_none_absent hM hua (find_node_none hx hv)]; rfl
    | some vN =>
      simp only
      rw [ctrlScan_view, ctrl_views hx]
      exact vScan_from_ctrl _ hM (mem_ids_of_find hx hv)
  | some uN =>
    have hum := mem_ids_of_find hx hu
    obtain ⟨huM, huI⟩ := find_node hu
    cases hv : net.nodes.find? (·.id == v) with
    | none =>
      have hva := find_node_none hx hv
      rw [EG_none_right hok hva, Option.none_or]
      simp only
      rw [ctrlScan_view, ctrl_views hx]
      exact vScan_to_ctrl _ hM hum
    | some vN =>
      have hvm := mem_ids_of_find hx hv
      obtain ⟨hvM, hvI⟩ := find_node hv
      rw [modEdges_none_ordinary hM hum hvm, Option.or_none]
      have hA := incoming_find hx hvM u
      have hB := outgoing_find hx huM v
      rw [hvI] at hA
      rw [huI] at hB
      simp only [Bool.not_true, Bool.false_eq_true, ↓reduceIte]
      cases hf : vN.incoming.find? (fun l => idAt net l.src == some u) with
      | some l => rw [hf] at hA; simpa using hA
      | none => simpa using hB

theorem edgeBetween_undirected_mod {g : Genome W} {netId : Int} {net : Net W} (hok : Ok g) (hx : Expressed g netId net)
    (u v : Int) :
    (edgeBetween net u v false).isSome =
      (((dirEdges g).find? (edgeP u v)).isSome || ((dirEdges g).find? (edgeP v u)).isSome) := by
  have hnd : (net.nodes.map (·.id)).Nodup := by rw [hx.ids]; exact hok.nodupNodes
  have hM := modsOk_of_ok hok
  have hsome : ∀ o : Option (NLink W), o.isSome = (o.map (elink net)).isSome := fun o => by cases o <;> rfl
  rw [dirEdges_eq, List.find?_append, List.find?_append]
  unfold edgeBetween
  rw [scanUV_top u v net.nodes hnd]
  cases hu : net.nodes.find? (·.id == u) with
  | none =>
    have hua := find_node_none hx hu
    rw [EG_none_left hok hua, EG_none_right hok hua, Option.none_or, Option.none_or]
    cases hv : net.nodes.find? (·.id == v) with
    | none =>
      have hva := find_node_none hx hv
      rw [modEdges_none_absent hM hua hva, modEdges_none_absent hM hva hua]; rfl
    | some vN =>
      simp only
      rw [hsome, ctrlScan_view, ctrl_views hx, vScan_between _ hM (mem_ids_of_find hx hv), Bool.or_comm]
  | some uN =>
    have hum := mem_ids_of_find hx hu
    obtain ⟨huM, huI⟩ := find_node hu
    cases hv : net.nodes.find? (·.id == v) with
    | none =>
      have hva := find_node_none hx hv
      rw [EG_none_right hok hva, EG_none_left hok hva, Option.none_or, Option.none_or]
      simp only
      rw [hsome, ctrlScan_view, ctrl_views hx, vScan_between _ hM hum]
    | some vN =>
      have hvm := mem_ids_of_find hx hv
      rw [modEdges_none_ordinary hM hum hvm, modEdges_none_ordinary hM hvm hum, Option.or_none, Option.or_none]
      have hA := incoming_find hx huM v
      have hB := outgoing_find hx huM v
      rw [huI] at hA hB
      simp only [Bool.not_false, ↓reduceIte]
      cases hf : uN.incoming.find? (fun l => idAt net l.src == some v) with
      | some l => rw [hf] at hA; rw [← hA]; simp
      | none =>
        rw [hf] at hA
        rw [← hA, ← hB]
        cases uN.outgoing.find? (fun l => idAt net l.dst == some v) <;> rfl

theorem ctrl_filter {g : Genome W} {netId : Int} {net : Net W} (hx : Expressed g netId net) (p : CView W → Bool) :
    (net.ctrl.filter (p ∘ cview net)).map (fun cn => some cn.id) =
      ((enabledMods g).filter (p ∘ mview)).map fun m => some m.ctrl.id := by
  have h := congrArg (fun l => (l.filter p).map fun c => some c.id) (ctrl_views hx)
  simp only [List.filter_map, List.map_map] at h
  exact h

theorem ctrl_fed_by {g : Genome W} {netId : Int} {net : Net W} (hx : Expressed g netId net) (u : Int) :
    (net.ctrl.filter fun cn => cn.incoming.any fun l => idAt net l.src == some u).map (fun cn => some cn.id) =
      ((enabledMods g).filter fun m => m.ins.any fun w => w.node == u).map fun m => some m.ctrl.id := by
  have h := ctrl_filter hx fun c => c.ins.any fun e => e.src == some u
  simp only [Function.comp_def, cview, mview, modIns, List.any_map, Option.some_beq_some] at h
  exact h

theorem ctrl_feeding {g : Genome W} {netId : Int} {net : Net W} (hx : Expressed g netId net) (v : Int) :
    (net.ctrl.filter fun cn => cn.outgoing.any fun l => idAt net l.dst == some v).map (fun cn => some cn.id) =
      ((enabledMods g).filter fun m => m.outs.any fun w => w.node == v).map fun m => some m.ctrl.id := by
  have h := ctrl_filter hx fun c => c.outs.any fun e => e.dst == some v
  simp only [Function.comp_def, cview, mview, modOuts, List.any_map, Option.some_beq_some] at h
  exact h

theorem ctrl_find {g : Genome W} {netId : Int} {net : Net W} (hx : Expressed g netId net) (u : Int) :
    (net.ctrl.find? (·.id == u) = none ∧ (enabledMods g).find? (·.ctrl.id == u) = none) ∨
    ∃ cn m, net.ctrl.find? (·.id == u) = some cn ∧ (enabledMods g).find? (·.ctrl.id == u) = some m ∧
      cn.incoming.map (elink net) = modIns m ∧ cn.outgoing.map (elink net) = modOuts m := by
  have h1 : (net.ctrl.map (cview net)).find? (fun c => c.id == u) = (net.ctrl.find? (·.id == u)).map (cview net) := by
    rw [List.find?_map]; rfl
  have h2 : ((enabledMods g).map mview).find? (fun c : CView W => c.id == u) =
      ((enabledMods g).find? (·.ctrl.id == u)).map mview := by
    rw [List.find?_map]; rfl
  rw [ctrl_views hx, h2] at h1
  rcases hc : net.ctrl.find? (·.id == u) with _ | cn
  · rcases hm : (enabledMods g).find? (·.ctrl.id == u) with _ | m
    · exact Or.inl ⟨hc, hm⟩
    · rw [hc, hm] at h1
      cases h1
  · rcases hm : (enabledMods g).find? (·.ctrl.id == u) with _ | m
    · rw [hc, hm] at h1
      cases h1
    · rw [hc, hm] at h1
      have hv : mview m = cview net cn := Option.some.inj h1
      exact Or.inr ⟨cn, m, hc, hm, (congrArg CView.ins hv).symm, (congrArg CView.outs hv).symm⟩

theorem from_spec_mod {g : Genome W} {netId : Int} {net : Net W} (hM : ModsOk (nodeIds' g) (enabledMods g))
    (hx : Expressed g netId net) (u : Int) : fromIds net u = specFrom g u := by
  unfold fromIds nodeWithID allMIMO specFrom
  rw [List.find?_append, ctrl_fed_by hx u]
  cases hu : net.nodes.find? (·.id == u) with
  | some nd =>
    obtain ⟨hMem, hI⟩ := find_node hu
    have hcn : (nodeIds' g).contains u = true := by
      rw [List.contains_iff_mem]; exact mem_ids_of_find hx hu
    have := (hx.links nd hMem).2
    rw [hI] at this
    simp only [Option.some_or, hcn, ↓reduceIte, ← this, List.map_map]
    rfl
  | none =>
    have hua := find_node_none hx hu
    have hcn : (nodeIds' g).contains u = false := by simpa using hua
    have hnil : ((enabledMods g).filter fun m => m.ins.any fun w => w.node == u) = [] := by
      rw [List.filter_eq_nil_iff]
      intro m hm hany
      obtain ⟨w, hw, hwu⟩ := List.any_eq_true.mp hany
      exact hua ((by simpa using hwu : w.node = u) ▸ hM.ins m hm w hw)
    simp only [Option.none_or, hcn, Bool.false_eq_true, ↓reduceIte, hnil, List.map_nil, List.append_nil]
    rcases ctrl_find hx u with ⟨hc, hm⟩ | ⟨cn, m, hc, hm, _, houts⟩
    · rw [hc, hm]
    · have : cn.outgoing.map (fun l => idAt net l.dst) = (cn.outgoing.map (elink net)).map (·.dst) := by
        rw [List.map_map]; rfl
      simp only [hc, hm, this, houts, modOuts, List.map_map]
      rfl

theorem to_spec_mod {g : Genome W} {netId : Int} {net : Net W} (hM : ModsOk (nodeIds' g) (enabledMods g))
    (hx : Expressed g netId net) (v : Int) : toIds net v = specTo g v := by
  unfold toIds nodeWithID allMIMO specTo
  rw [List.find?_append, ctrl_feeding hx v]
  cases hu : net.nodes.find? (·.id == v) with
  | some nd =>
    obtain ⟨hMem, hI⟩ := find_node hu
    have hcn : (nodeIds' g).contains v = true := by
      rw [List.contains_iff_mem]; exact mem_ids_of_find hx hu
    have := (hx.links nd hMem).1
    rw [hI] at this
    simp only [Option.some_or, hcn, ↓reduceIte, ← this, List.map_map]
    rfl
  | none =>
    have hua := find_node_none hx hu
    have hcn : (nodeIds' g).contains v = false := by simpa using hua
    have hnil : ((enabledMods g).filter fun m => m.outs.any fun w => w.node == v) = [] := by
      rw [List.filter_eq_nil_iff]
      intro m hm hany
      obtain ⟨w, hw, hwu⟩ := List.any_eq_true.mp hany
      exact hua ((by simpa using hwu : w.node = v) ▸ hM.outs m hm w hw)
    simp only [Option.none_or, hcn, Bool.false_eq_true, ↓reduceIte, hnil, List.map_nil, List.append_nil]
    rcases ctrl_find hx v with ⟨hc, hm⟩ | ⟨cn, m, hc, hm, hins, _⟩
    · rw [hc, hm]
    · have : cn.incoming.map (fun l => idAt net l.src) = (cn.incoming.map (elink net)).map (·.src) := by
        rw [List.map_map]; rfl
      simp only [hc, hm, this, hins, modIns, List.map_map]
      rfl

theorem specHasEdge_eq (g : Genome W) (a b : Int) : specHasEdge g a b = ((dirEdges g).find? (edgeP a b)).isSome := by
  unfold specHasEdge
  exact List.isSome_find?.symm

theorem edge_spec' {g : Genome W} {netId : Int} {net : Net W} (hok : Ok g) (hx : Expressed g netId net) (u v : Int) :
    (edge? net u v).map (elink net) = specEdge g u v ∧
    weight? net u v = (specEdge g u v).map (·.w) ∧
    hasEdgeFromTo net u v = specHasEdge g u v := by
  have hd : (edgeBetween net u v true).map (elink net) = specEdge g u v := edgeBetween_directed_mod hok hx u v
  refine ⟨hd, ?_, ?_⟩
  · unfold weight?
    rw [← hd]
    cases edgeBetween net u v true <;> rfl
  · unfold hasEdgeFromTo
    rw [specHasEdge_eq, ← edgeBetween_directed_mod hok hx u v]
    cases edgeBetween net u v true <;> rfl

theorem hasEdgeBetween_spec' {g : Genome W} {netId : Int} {net : Net W} (hok : Ok g) (hx : Expressed g netId net)
    (u v : Int) : hasEdgeBetween net u v = (specHasEdge g u v || specHasEdge g v u) := by
  unfold hasEdgeBetween
  rw [specHasEdge_eq, specHasEdge_eq, edgeBetween_undirected_mod hok hx u v]

theorem dirEdges_none_of_absent {g : Genome W} (hok : Ok g) {a b : Int} (h : a ∉ specNodes g ∨ b ∉ specNodes g) :
    (dirEdges g).find? (edgeP a b) = none := by
  have hsub : ∀ x ∈ nodeIds' g, x ∈ specNodes g := fun x hx => List.mem_append_left _ hx
  have hctl : ∀ m ∈ enabledMods g, m.ctrl.id ∈ specNodes g := fun m hm =>
    List.mem_append_right _ (List.mem_map.mpr ⟨m, hm, rfl⟩)
  have hM := modsOk_of_ok hok
  rw [List.find?_eq_none]
  intro e he hp
  simp only [edgeP, Bool.and_eq_true, beq_iff_eq] at hp
  have hends : ∃ x y, e.src = some x ∧ e.dst = some y ∧ x ∈ specNodes g ∧ y ∈ specNodes g := by
    rw [dirEdges_eq] at he
    rcases List.mem_append.mp he with h1 | h1
    · obtain ⟨x, y, hs, hd, hx, hy⟩ := EG_ends_mem hok h1
      exact ⟨x, y, hs, hd, hsub x hx, hsub y hy⟩
    · obtain ⟨m, hm, hem⟩ := List.mem_flatMap.mp h1
      rcases List.mem_append.mp hem with h2 | h2
      · obtain ⟨w, hw, hs, hd⟩ := mem_modIns h2
        exact ⟨_, _, hs, hd, hsub _ (hM.ins m hm w hw), hctl m hm⟩
      · obtain ⟨w, hw, hs, hd⟩ := mem_modOuts h2
        exact ⟨_, _, hs, hd, hctl m hm, hsub _ (hM.outs m hm w hw)⟩
  obtain ⟨x, y, hs, hd, hx, hy⟩ := hends
  rw [hs, hd] at hp
  rcases h with h | h
  · exact h (Option.some.inj hp.1 ▸ hx)
  · exact h (Option.some.inj hp.2 ▸ hy)

theorem absent_id' {g : Genome W} {netId : Int} {net : Net W} (hok : Ok g) (hx : Expressed g netId net) (u : Int)
    (hu : u ∉ specNodes g) :
    node? net u = none ∧ fromIds net u = [] ∧ toIds net u = [] ∧
    ∀ v, edge? net u v = none ∧ edge? net v u = none ∧ weight? net u v = none ∧ weight? net v u = none ∧
      hasEdgeFromTo net u v = false ∧ hasEdgeFromTo net v u = false ∧ hasEdgeBetween net u v = false ∧
      hasEdgeBetween net v u = false := by
  have hu1 : u ∉ nodeIds' g := fun h => hu (List.mem_append_left _ h)
  have hfind : (enabledMods g).find? (fun m => m.ctrl.id == u) = none :=
    find_ctrl_none fun m hm h => hu (List.mem_append_right _ (List.mem_map.mpr ⟨m, hm, h⟩))
  have hno : ∀ a b, (a = u ∨ b = u) → specHasEdge g a b = false := by
    intro a b hab
    rw [specHasEdge_eq, dirEdges_none_of_absent hok (by rcases hab with rfl | rfl; exact Or.inl hu; exact Or.inr hu)]
    rfl
  have hedge : ∀ a b, (a = u ∨ b = u) → edgeBetween net a b true = none := by
    intro a b hab
    have h3 := (edge_spec' hok hx a b).2.2
    rw [hno a b hab] at h3
    simpa [hasEdgeFromTo] using h3
  have hbet : ∀ a b, (a = u ∨ b = u) → hasEdgeBetween net a b = false := by
    intro a b hab
    rw [hasEdgeBetween_spec' hok hx a b, hno a b hab, hno b a hab.symm]
    rfl
  refine ⟨?_, ?_, ?_, ?_⟩
  · rw [node_spec' hx u]
    unfold specNode
    rw [List.find?_eq_none]
    intro t ht hp
    apply hu
    unfold specNodes nodeIds'
    rcases List.mem_append.mp ht with h | h
    · obtain ⟨n, hn, rfl⟩ := List.mem_map.mp h
      exact List.mem_append_left _ (List.mem_map.mpr ⟨n, hn, by simpa using hp⟩)
    · obtain ⟨m, hm, rfl⟩ := List.mem_map.mp h
      exact List.mem_append_right _ (List.mem_map.mpr ⟨m, hm, by simpa using hp⟩)
  · rw [from_spec_mod (modsOk_of_ok hok) hx u]
    unfold specFrom
    simp [hu1, hfind]
  · rw [to_spec_mod (modsOk_of_ok hok) hx u]
    unfold specTo
    simp [hu1, hfind]
  · intro v
    simp [edge?, weight?, hasEdgeFromTo, hedge u v (Or.inl rfl), hedge v u (Or.inr rfl),
      hbet u v (Or.inl rfl), hbet v u (Or.inr rfl)]

end

end GoNeat.Genesis
