/-
  C17 support, part 2: prefix determinism (`Det`: of results and of model errors) of the population level
  (`giveBabiesToTheBest`, `spawn`, reproduction, the epoch turnover) and of the whole run (`evolve`, `evolveTrace`,
  `run`).  A lemma about a model function `f` must be named `<full name of f>_det` (docstring of `pd_step`,
  Proofs/PrefixDet.lean).
-/
import GoNeat.Proofs.PrefixDet
import GoNeat.Model.Evolve

namespace GoNeat
open Scalar
variable {W : Type} [Scalar W]

theorem giveLoop_det (o : EpochOpts W) (blocks : List Int) (l : List (Species W)) (blockIndex : Nat) (stolen : Int) :
    Det (giveLoop o blocks l blockIndex stolen) := by
  induction l generalizing blockIndex stolen with
  | nil => pd_unfold giveLoop; pd_auto
  | cons s ss ih => pd_unfold giveLoop; pd_auto

theorem giveBabiesToTheBest_det (sorted : List (Species W)) (o : EpochOpts W) :
    Det (giveBabiesToTheBest sorted o) := by
  unfold giveBabiesToTheBest
  pd_auto

theorem spawnLoop_det (g : Genome W) (n : Nat) (count : Int) (uid : Nat) : Det (spawnLoop g n count uid) := by
  induction n generalizing count uid with
  | zero => pd_unfold spawnLoop; pd_auto
  | succ n ih => pd_unfold spawnLoop; pd_auto

theorem spawn_det (o : EpochOpts W) (g : Genome W) : Det (spawn o g) := by
  unfold spawn
  pd_auto

theorem mutateBaby_det (o : EpochOpts W) (g : Genome W) (reg : Reg W) : Det (mutateBaby o g reg) := by
  unfold mutateBaby
  pd_auto

theorem pickOtherSpecies_det (s : Species W) (sorted : List (Species W)) (giveup : Nat) (cur : Species W) :
    Det (pickOtherSpecies s sorted giveup cur) := by
  induction giveup generalizing cur with
  | zero => pd_unfold pickOtherSpecies; pd_auto
  | succ n ih => pd_unfold pickOtherSpecies; pd_auto

theorem reproduceOne_det (o : EpochOpts W) (generation : Int) (s : Species W) (sorted : List (Species W))
    (champ : Org W) (count : Int) (st : ReproState W) :
    Det (reproduceOne o generation s sorted champ count st) := by
  unfold reproduceOne
  pd_auto

theorem reproduceLoop_det (o : EpochOpts W) (generation : Int) (s : Species W) (sorted : List (Species W))
    (champ : Org W) (n : Nat) (count : Int) (st : ReproState W) :
    Det (reproduceLoop o generation s sorted champ n count st) := by
  induction n generalizing count st with
  | zero => pd_unfold reproduceLoop; pd_auto
  | succ n ih => pd_unfold reproduceLoop; pd_auto

theorem reproduceSpecies_det (o : EpochOpts W) (generation : Int) (s : Species W) (sorted : List (Species W))
    (reg : Reg W) (nextUid : Nat) :
    Det (reproduceSpecies o generation s sorted reg nextUid) := by
  unfold reproduceSpecies
  pd_auto

theorem reproduceAll_det (o : EpochOpts W) (generation : Int) (sorted : List (Species W)) (l : List (Species W))
    (reg : Reg W) (uid : Nat) (babies : List (Org W)) :
    Det (reproduceAll o generation sorted l reg uid babies) := by
  induction l generalizing reg uid babies with
  | nil => pd_unfold reproduceAll; pd_auto
  | cons s ss ih => pd_unfold reproduceAll; pd_auto

theorem prepareForReproduction_det (o : EpochOpts W) (p : Pop W) : Det (prepareForReproduction o p) := by
  unfold prepareForReproduction
  pd_auto

theorem reproducePhase_det (o : EpochOpts W) (generation : Int) (p : Pop W) (ex : ExecState) :
    Det (reproducePhase o generation p ex) := by
  unfold reproducePhase
  pd_auto

theorem nextEpoch_det (o : EpochOpts W) (generation : Int) (p : Pop W) : Det (nextEpoch o generation p) := by
  unfold nextEpoch
  pd_auto

theorem evolve_det (o : EpochOpts W) (fit : Int → Genome W → W) (k : Nat) (generation : Int) (p : Pop W) :
    Det (evolve o fit k generation p) := by
  induction k generalizing generation p with
  | zero => pd_unfold evolve; pd_auto
  | succ k ih => pd_unfold evolve; pd_auto

theorem evolveTrace_det (o : EpochOpts W) (fit : Int → Genome W → W) (k : Nat) (generation : Int) (p : Pop W) :
    Det (evolveTrace o fit k generation p) := by
  induction k generalizing generation p with
  | zero => pd_unfold evolveTrace; pd_auto
  | succ k ih => pd_unfold evolveTrace; pd_auto

theorem run_det (o : EpochOpts W) (fit : Int → Genome W → W) (g : Genome W) (k : Nat) :
    Det (run o fit g k) := by
  unfold run
  pd_auto

theorem evolveTrace_errPrefixDet (o : EpochOpts W) (fit : Int → Genome W → W) (k : Nat) (generation : Int) (p : Pop W) :
    ErrPrefixDet (evolveTrace o fit k generation p) :=
  (evolveTrace_det o fit k generation p).err

end GoNeat
