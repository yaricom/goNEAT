/-
  C02 "without error": the choice of what the next baby is made from (`planBaby`: which parent or parents, which
  crossover) never returns an implementation error and yields a genome of the common trait shape `S` that fits the pool
  (`safe_planBaby`), given the C01 pool invariant (`PoolOk`), one trait shape for the whole pool, non-empty species and
  the float fact `PickLaw`.  `ReproEnv` bundles these hypotheses (the environment a species reproduces in);
  `PoolEnv`: what holds of registry and pool between two species.
  The making of the baby (`makeBabyP`, at most one program over the registry) and the loops over babies and species are
  Proofs/ParNoErrorSpecies.lean and Proofs/NoErrorSeq.lean.
  Kind A.
-/
import GoNeat.Proofs.NoErrorMate
import GoNeat.Proofs.PrefixDet2
import GoNeat.Props.C01
import GoNeat.Proofs.NoErrorStruct

set_option linter.unusedSectionVars false

namespace GoNeat.NoErr
open GoNeat Scalar GoNeat.C01 GoNeat.C16
variable {W : Type} [Scalar W] {α : Type}

/-- float fact used by the interspecies mate choice: for a draw `f ∈ [0,1)` and `n > 0` species,
    `floor(f/4 * n)` is an index below `n` -/
def PickLaw (W : Type) [Scalar W] : Prop :=
  ∀ (x n : Nat), x < 2 ^ 63 → 0 < n → eq (ofUnit63 x : W) one = false →
    0 ≤ floorInt (mul (div (ofUnit63 x : W) (ofInt 4)) (ofInt (n : Int))) ∧
    (floorInt (mul (div (ofUnit63 x : W) (ofInt 4)) (ofInt (n : Int)))).toNat < n

theorem traitsLen_of_shape {g : Genome W} {S : List Nat} (h : shape g = S) : g.traits.length = S.length := by
  rw [← h]; simp [shape]

theorem basic_of_wf {g : Genome W} (h : WF g) : Basic g := by
  refine ⟨h.hasGene, ?_, ?_⟩
  · obtain ⟨n, hn, _⟩ := h.hasOutput; intro e; rw [e] at hn; cases hn
  · have := h.traits; unfold TraitsConsecutive at this; intro e; rw [e] at this; exact this

theorem safe_pickOtherSpecies (hpick : PickLaw W) (s : Species W) (sorted : List (Species W)) (hne : sorted ≠ [])
    (n : Nat) (cur : Species W) (rs : List Nat) (hv : Valid rs) :
    Safe (fun sp => sp = cur ∨ sp ∈ sorted) (pickOtherSpecies s sorted n cur rs) := by
  -- here and in the stages below the walk proves only what it needs in order not to fail; what the returned value
  -- satisfies comes through `Safe.and_ok` from the function's outcome lemma
  have h0 : Safe (fun _ => True) (pickOtherSpecies s sorted n cur rs) := by
    induction n generalizing cur rs with
    | zero => unfold pickOtherSpecies; trivial
    | succ k ih =>
      unfold pickOtherSpecies
      split
      · have hf := safe_float64 (W := W) rs
        split
        · next e he => exact hf.err he
        · next f rs' he =>
          have hv' := Rand.float64_det.valid hv he
          obtain ⟨x, hxm, rfl, hx⟩ := hf.post he
          obtain ⟨p1, p2⟩ := hpick x sorted.length (hv x hxm) (List.length_pos_iff.mpr hne) hx
          simp only
          rw [if_neg (by omega)]
          split
          · next hn => rw [List.getElem?_eq_none_iff] at hn; omega
          · exact ih _ _ hv'
      · trivial
  exact h0.and_ok (fun a rs' e _ => pickOtherSpecies_mem s sorted n cur a rs rs' e)

theorem _root_.GoNeat.C16.pickDad_det (o : EpochOpts W) (s : Species W) (sorted : List (Species W)) (f2 : W) :
    Det (pickDad o s sorted f2) := by
  unfold pickDad
  pd_auto

theorem safe_dadStage (hpick : PickLaw W) (o : EpochOpts W) (s : Species W) (sorted : List (Species W)) (f2 : W) (rs3 : List Nat)
    (hv : Valid rs3) (hne : s.orgs ≠ []) (hsne : sorted ≠ []) (hspne : ∀ sp ∈ sorted, sp.orgs ≠ []) :
    Safe (fun d => d ∈ s.orgs ∨ ∃ sp ∈ sorted, d ∈ sp.orgs) (pickDad o s sorted f2 rs3) := by
  refine Safe.and_ok (P := fun _ => True) ?_ (fun d rs4 e _ => pickDad_from e)
  unfold pickDad
  split
  · have h1 := safe_intn s.orgs.length (List.length_pos_iff.mpr hne) rs3
    split
    · next e he => exact h1.err he
    · next k rs4 he =>
      have hk : k < s.orgs.length := h1.post he
      split
      · next hn => rw [List.getElem?_eq_none_iff] at hn; omega
      · trivial
  · have h1 := safe_pickOtherSpecies hpick s sorted hsne 5 s rs3 hv
    split
    · next e he => exact h1.err he
    · next sp rs4 he =>
      have hspo : sp.orgs ≠ [] := by rcases (h1.post he : sp = s ∨ sp ∈ sorted) with rfl | h; exact hne; exact hspne sp h
      split
      · next hn => cases hso : sp.orgs with
        | nil => exact absurd hso hspo
        | cons a l => rw [hso] at hn; cases hn
      · trivial

theorem _root_.GoNeat.C16.mateChild_det (o : EpochOpts W) (mom dad : Org W) (count : Int) (f3 : W) :
    Det (mateChild o mom dad count f3) := by
  unfold mateChild
  pd_auto

theorem safe_childStage (o : EpochOpts W) (mom dad : Org W) (count : Int) (f3 : W) (rs5 : List Nat)
    (reg : Reg W) (P : List (Genome W)) (S : List Nat)
    (fm : Fits reg P mom.genome) (fd : Fits reg P dad.genome) (hd : dad.genome ∈ P)
    (hs1 : shape mom.genome = S) (hs2 : shape dad.genome = S) :
    Safe (fun c => shape c = S ∧ Fits reg P c) (mateChild o mom dad count f3 rs5) := by
  have hm : MateOk mom.genome dad.genome :=
    mateOk_of_wf _ _ fm.wft.wf fd.wft.wf fm.nomod fd.nomod (fm.nodes _ hd).2.1 (hs1.trans hs2.symm)
  have key : Safe (fun c => shape c = S) (mateChild o mom dad count f3 rs5) := by
    unfold mateChild
    split
    · exact (safe_mateMultipoint _ _ count _ _ rs5 hm).mono (fun c hp => hp.trans hs1)
    · have f4 := safe_float64 (W := W) rs5
      split
      · next e he => exact f4.err he
      · next f4v rs6 _ =>
        split
        · exact (safe_mateMultipointAvg _ _ count _ _ rs6 hm).mono (fun c hp => hp.trans hs1)
        · exact (safe_mateSinglePoint _ _ count rs6 hm fm.wft.wf.hasGene fd.wft.wf.hasGene).mono (fun c hp => hp.trans hs1)
  exact key.and_ok (fun c rs' e hp => ⟨hp, (mateChild_cases e).elim fun _ h => mate_closed fm fd hd h⟩)

structure PoolEnv (S : List Nat) (reg : Reg W) (P : List (Genome W)) : Prop where
  pool : PoolOk reg P
  recs : RecTraits S.length reg
  shaped : ∀ g ∈ P, shape g = S

/-- `reg`, `P`: those of the start of the reproduction phase wherever a program is meant (a goroutine breeds from the prepared
    population only) -/
structure ReproEnv (S : List Nat) (reg : Reg W) (P : List (Genome W)) (s : Species W) (sorted : List (Species W)) : Prop where
  pool : PoolOk reg P
  shaped : ∀ g ∈ P, shape g = S
  mem : ∀ x ∈ s.orgs, x.genome ∈ P
  ne : s.orgs ≠ []
  smem : ∀ sp ∈ sorted, ∀ x ∈ sp.orgs, x.genome ∈ P
  sne : sorted ≠ []
  sorgs : ∀ sp ∈ sorted, sp.orgs ≠ []

theorem ReproEnv.champ {S : List Nat} {reg : Reg W} {P : List (Genome W)} {s : Species W} {sorted : List (Species W)}
    (h : ReproEnv S reg P s sorted) {champ : Org W} (hc : s.orgs.head? = some champ) : champ.genome ∈ P :=
  h.mem champ (List.mem_of_mem_head? hc)

theorem ReproEnv.of_pop {S : List Nat} {p : Pop W} (henv : PoolEnv S p.reg (genomesOfPop p)) (hne : ∀ s ∈ p.species, s.orgs ≠ [])
    {ids : List Int} (hsne : ids.filterMap (fun i => p.species.find? (·.id == i)) ≠ []) {s : Species W} (hs : s ∈ p.species) :
    ReproEnv S p.reg (genomesOfPop p) s (ids.filterMap (fun i => p.species.find? (·.id == i))) := by
  have hin : ∀ sp ∈ ids.filterMap (fun i => p.species.find? (·.id == i)), sp ∈ p.species := fun sp hsp =>
    have ⟨_, _, hi⟩ := List.mem_filterMap.mp hsp
    List.mem_of_find?_eq_some hi
  exact ⟨henv.pool, henv.shaped, fun x hx => mem_genomesOfPop.mpr ⟨s, hs, x, hx, rfl⟩, hne s hs,
    fun sp hsp x hx => mem_genomesOfPop.mpr ⟨sp, hin sp hsp, x, hx, rfl⟩, hsne, fun sp hsp => hne sp (hin sp hsp)⟩

theorem planBaby_det (o : EpochOpts W) (s : Species W) (sorted : List (Species W)) (champ : Org W) (count : Int)
    (st : ReproState W) : Det (planBaby o s sorted champ count st) := by
  unfold planBaby
  pd_auto

theorem safe_planBaby (hpick : PickLaw W) (o : EpochOpts W) {s : Species W} {sorted : List (Species W)} (champ : Org W)
    (count : Int) (st : ReproState W) (rs : List Nat) (hv : Valid rs) {reg : Reg W} {P : List (Genome W)} {S : List Nat}
    (henv : ReproEnv S reg P s sorted) (hchamp : champ.genome ∈ P) :
    Safe (fun pl => shape pl.genome = S ∧ Fits reg P pl.genome) (planBaby o s sorted champ count st rs) := by
  have hdup : ∀ g ∈ P, g.duplicate count = .ok { g with id := count } := by
    intro g hg
    obtain ⟨d, h1, h2, _⟩ := duplicate_wf g count (henv.pool g hg).wft (henv.pool g hg).nomod
    rw [h1, h2]
  refine Safe.and_ok (P := fun pl => shape pl.genome = S) ?_
    (fun pl rs' e hp => ⟨hp, (planBaby_source e).closed henv.pool hchamp henv.mem henv.smem⟩)
  unfold planBaby
  by_cases h1 : st.superChamp > 0
  · rw [if_pos h1, hdup _ hchamp]
    exact henv.shaped champ.genome hchamp
  rw [if_neg h1]
  by_cases h2 : (!st.champCloneDone && decide (s.expectedOffspring > 5)) = true
  · rw [if_pos h2, hdup _ hchamp]
    exact henv.shaped champ.genome hchamp
  rw [if_neg h2]
  have f1 := safe_float64 (W := W) rs
  rcases hf1 : Rand.float64 (W := W) rs with e | ⟨f, rs1⟩
  · exact f1.err hf1
  dsimp only
  have hv1 := Rand.float64_det.valid hv hf1
  have hi := safe_intn s.orgs.length (List.length_pos_iff.mpr henv.ne) rs1
  rcases hi1 : Rand.intn s.orgs.length rs1 with e | ⟨i, rs2⟩
  · exact hi.err hi1
  dsimp only
  have hv2 := (Rand.intn_det _).valid hv1 hi1
  have hk : i < s.orgs.length := hi.post hi1
  rcases hmom : s.orgs[i]? with _ | mom
  · rw [List.getElem?_eq_none_iff] at hmom
    omega
  dsimp only
  have hm : mom.genome ∈ P := henv.mem mom (List.mem_of_getElem? hmom)
  by_cases h3 : (lt f o.mutateOnlyProb || s.orgs.length == 1) = true
  · rw [if_pos h3, hdup _ hm]
    exact henv.shaped mom.genome hm
  rw [if_neg h3]
  have f2 := safe_float64 (W := W) rs2
  rcases hf2 : Rand.float64 (W := W) rs2 with e | ⟨f2v, rs3⟩
  · exact f2.err hf2
  dsimp only
  have hv3 := Rand.float64_det.valid hv2 hf2
  have hd := safe_dadStage hpick o s sorted f2v rs3 hv3 henv.ne henv.sne henv.sorgs
  rcases hdad : pickDad o s sorted f2v rs3 with e | ⟨dad, rs4⟩
  · exact hd.err hdad
  dsimp only
  have hdP : dad.genome ∈ P := by
    rcases (hd.post hdad : dad ∈ s.orgs ∨ ∃ sp ∈ sorted, dad ∈ sp.orgs) with h | ⟨sp, h1, h2⟩
    · exact henv.mem _ h
    · exact henv.smem sp h1 _ h2
  have f3 := safe_float64 (W := W) rs4
  rcases hf3 : Rand.float64 (W := W) rs4 with e | ⟨f3v, rs5⟩
  · exact f3.err hf3
  dsimp only
  have hc := safe_childStage o mom dad count f3v rs5 reg P S (henv.pool _ hm) (henv.pool _ hdP) hdP (henv.shaped _ hm) (henv.shaped _ hdP)
  rcases hchild : mateChild o mom dad count f3v rs5 with e | ⟨child, rs7⟩
  · exact hc.err hchild
  dsimp only
  have hc' : shape child = S := (hc.post hchild).1
  have f5 := safe_float64 (W := W) rs7
  rcases hf5 : Rand.float64 (W := W) rs7 with e | ⟨f5v, rs8⟩
  · exact f5.err hf5
  dsimp only
  split
  · exact hc'
  · exact hc'

end GoNeat.NoErr
