/-
  C01 helper lemmas for the three crossovers, continued: a walk over a plan (`walkR`) keeps the invariant of the child
  pick by pick; that the genes come out in ascending order, that there is one, and that the parents' shared first gene
  is among them are facts about the plan - the numbers of the appended genes are a sublist of the plan's numbers,
  beginning with the first.  What a successful crossover hands to the closure argument (`MateOut`) follows for all three
  operators from that one lemma.
-/
import GoNeat.Proofs.WFMate
import GoNeat.Proofs.MateLemmas

namespace GoNeat.C01
open GoNeat Scalar C04
variable {W : Type} [Scalar W] {ε : Type}

theorem walkR_inv {p1 p2 : Genome W} {nt : List (Trait W)} {t0 : Option Int} {pick : ε → Rand (Chosen W × Bool)}
    {key : ε → Int} {es : List ε} {acc acc' : MateAcc W} {rs rs' : List Nat}
    (h : walkR pick nt t0 es acc rs = .ok (acc', rs')) (hz : ∀ t' ∈ nt, t'.id ≠ 0)
    (hL : ∀ e ∈ es, ∀ c dis r r', pick e r = .ok ((c, dis), r') → Legit p1 p2 c ∧ c.gene.inn = key e)
    (hs : (es.map key).Pairwise (· < ·)) (hinv : AccInv p1 p2 nt acc) (hsorted : GenesSorted acc.genes)
    (hb : ∀ a ∈ acc.genes, ∀ e ∈ es, a.inn < key e) :
    AccInv p1 p2 nt acc' ∧ GenesSorted acc'.genes ∧ ((acc.genes ≠ [] ∨ es ≠ []) → acc'.genes ≠ []) ∧
    (acc.genes = [] → (acc'.genes.map (·.inn)).head? = (es.map key).head?) := by
  obtain ⟨news, hn, hsub, hhd⟩ := walkR_inns h (fun e he c dis r r' hp => (hL e he c dis r r' hp).2)
  refine ⟨walkR_ind h (S := Legit p1 p2) (fun e he c dis r r' hp => (hL e he c dis r r' hp).1)
    (fun c dis a a' hc hp he => (addChosen_inv p1 p2 nt t0 a a' c dis he hz hp hc).1) hinv, ?_, fun hne he => ?_, fun he => ?_⟩
  · rw [hn]
    refine List.pairwise_append.mpr ⟨hsorted, List.pairwise_map.mp (hs.sublist hsub), fun a ha b hb' => ?_⟩
    obtain ⟨e, he, ek⟩ := List.mem_map.mp (hsub.subset (List.mem_map_of_mem (f := (·.inn)) hb'))
    exact ek ▸ hb a ha e he
  · obtain ⟨ha, rfl⟩ := List.append_eq_nil_iff.mp (hn ▸ he)
    cases hes : es with
    | nil => exact hne.elim (fun h => h ha) (fun h => h hes)
    | cons e _ => have := hhd ha; rw [hes] at this; cases this
  · rw [hn, he]; exact hhd he

theorem plainPair_legit {p1 p2 : Genome W} {x y : Gene W} (hx : x ∈ p1.genes) (hy : y ∈ p2.genes) (heq : x.inn = y.inn)
    (c : Chosen W) (dis : Bool) (r r' : List Nat) (h : plainPair p1 p2 x y r = .ok ((c, dis), r')) :
    Legit p1 p2 c ∧ c.gene.inn = x.inn := by
  rcases (plainPair_exact h).1 with rfl | rfl
  · exact ⟨legit_chooseFrom_left p1 p2 x hx, rfl⟩
  · exact ⟨legit_chooseFrom_right p1 p2 y hy, heq.symm⟩

theorem avgPair_legit {p1 p2 : Genome W} {x y : Gene W} (hx : x ∈ p1.genes) (hy : y ∈ p2.genes) (heq : x.inn = y.inn)
    (c : Chosen W) (dis : Bool) (r r' : List Nat) (h : avgPair p1 p2 x y r = .ok ((c, dis), r')) :
    Legit p1 p2 c ∧ c.gene.inn = x.inn :=
  legit_avgChosen p1 p2 x hx y hy heq c r r' (avgPair_exact h).2

omit [Scalar W] in
theorem slotPick_legit {m : Gene W → Gene W → Rand (Chosen W × Bool)} {p1 p2 : Genome W} {better : Bool} {l1 l2 : List (Gene W)}
    (hm : ∀ x ∈ p1.genes, ∀ y ∈ p2.genes, x.inn = y.inn → ∀ c dis r r', m x y r = .ok ((c, dis), r') →
      Legit p1 p2 c ∧ c.gene.inn = x.inn) (hm1 : ∀ x ∈ l1, x ∈ p1.genes) (hm2 : ∀ y ∈ l2, y ∈ p2.genes) :
    ∀ e ∈ mpPlan better l1 l2, ∀ c dis r r', slotPick m p1 p2 e r = .ok ((c, dis), r') → Legit p1 p2 c ∧ c.gene.inn = e.inn := by
  intro e he c dis r r' hp
  obtain ⟨a, b, k⟩ := mem_align (List.mem_filter.mp he).1
  cases e with
  | both x y => exact hm x (hm1 x (a x rfl)) y (hm2 y (b y rfl)) (k x rfl y rfl) c dis r r' hp
  | left x => cases hp; exact ⟨legit_chooseFrom_left p1 p2 x (hm1 x (a x rfl)), rfl⟩
  | right y => cases hp; exact ⟨legit_chooseFrom_right p1 p2 y (hm2 y (b y rfl)), rfl⟩

theorem mpWalk_inv {m : Gene W → Gene W → Rand (Chosen W × Bool)} {p1 p2 : Genome W} {nt : List (Trait W)} {t0 : Option Int}
    {better : Bool} {l1 l2 : List (Gene W)} {acc acc' : MateAcc W} {rs rs' : List Nat}
    (hm : ∀ x ∈ p1.genes, ∀ y ∈ p2.genes, x.inn = y.inn → ∀ c dis r r', m x y r = .ok ((c, dis), r') →
      Legit p1 p2 c ∧ c.gene.inn = x.inn)
    (hz : ∀ t' ∈ nt, t'.id ≠ 0) (hs1 : GenesSorted l1) (hs2 : GenesSorted l2)
    (hm1 : ∀ x ∈ l1, x ∈ p1.genes) (hm2 : ∀ y ∈ l2, y ∈ p2.genes) (hwi : WalkInv p1 p2 nt acc l1 l2)
    (h : walkR (slotPick m p1 p2) nt t0 (mpPlan better l1 l2) acc rs = .ok (acc', rs')) :
    AccInv p1 p2 nt acc' ∧ GenesSorted acc'.genes ∧
    ((acc.genes ≠ [] ∨ (better = true ∧ l1 ≠ []) ∨ (better = false ∧ l2 ≠ [])) → acc'.genes ≠ []) ∧
    (acc.genes = [] → (acc'.genes.map (·.inn)).head? = ((mpPlan better l1 l2).map Slot.inn).head?) := by
  have hmem : ∀ e ∈ mpPlan better l1 l2, (∃ x ∈ l1, e.inn = x.inn) ∨ ∃ y ∈ l2, e.inn = y.inn := fun e he => by
    obtain ⟨a, b, _⟩ := mem_align (List.mem_filter.mp he).1
    cases e with
    | both x _ => exact Or.inl ⟨x, a x rfl, rfl⟩
    | left x => exact Or.inl ⟨x, a x rfl, rfl⟩
    | right y => exact Or.inr ⟨y, b y rfl, rfl⟩
  obtain ⟨a, b, c, d⟩ := walkR_inv (key := Slot.inn) h hz (slotPick_legit hm hm1 hm2)
    (mpPlan_inns better hs1 hs2) hwi.inv hwi.sorted (fun g hg e he => by
      rcases hmem e he with ⟨x, hx, ek⟩ | ⟨y, hy, ek⟩
      · exact ek ▸ hwi.below1 g hg x hx
      · exact ek ▸ hwi.below2 g hg y hy)
  exact ⟨a, b, fun hp => c (hp.imp id mpPlan_ne_nil), d⟩

theorem multipointWalk_inv (p1 p2 : Genome W) (nt : List (Trait W)) (t0 : Option Int) (better : Bool)
    (l1 l2 : List (Gene W)) (acc : MateAcc W) (rs : List Nat) (acc' : MateAcc W) (rs' : List Nat)
    (hz : ∀ t' ∈ nt, t'.id ≠ 0) (hs1 : GenesSorted l1) (hs2 : GenesSorted l2)
    (hm1 : ∀ x ∈ l1, x ∈ p1.genes) (hm2 : ∀ y ∈ l2, y ∈ p2.genes)
    (hwi : WalkInv p1 p2 nt acc l1 l2)
    (h : multipointWalk p1 p2 nt t0 better l1 l2 acc rs = .ok (acc', rs')) :
    AccInv p1 p2 nt acc' ∧ GenesSorted acc'.genes ∧
    ((acc.genes ≠ [] ∨ (better = true ∧ l1 ≠ []) ∨ (better = false ∧ l2 ≠ [])) → acc'.genes ≠ []) :=
  let ⟨a, b, c, _⟩ := mpWalk_inv (fun _ hx _ hy heq => plainPair_legit hx hy heq) hz hs1 hs2 hm1 hm2 hwi (multipointWalk_eq p1 p2 nt t0 better l1 l2 acc rs ▸ h)
  ⟨a, b, c⟩

theorem multipointAvgWalk_inv (p1 p2 : Genome W) (nt : List (Trait W)) (t0 : Option Int) (better : Bool)
    (l1 l2 : List (Gene W)) (acc : MateAcc W) (rs : List Nat) (acc' : MateAcc W) (rs' : List Nat)
    (hz : ∀ t' ∈ nt, t'.id ≠ 0) (hs1 : GenesSorted l1) (hs2 : GenesSorted l2)
    (hm1 : ∀ x ∈ l1, x ∈ p1.genes) (hm2 : ∀ y ∈ l2, y ∈ p2.genes)
    (hwi : WalkInv p1 p2 nt acc l1 l2)
    (h : multipointAvgWalk p1 p2 nt t0 better l1 l2 acc rs = .ok (acc', rs')) :
    AccInv p1 p2 nt acc' ∧ GenesSorted acc'.genes ∧
    ((acc.genes ≠ [] ∨ (better = true ∧ l1 ≠ []) ∨ (better = false ∧ l2 ≠ [])) → acc'.genes ≠ []) :=
  let ⟨a, b, c, _⟩ := mpWalk_inv (fun _ hx _ hy heq => avgPair_legit hx hy heq) hz hs1 hs2 hm1 hm2 hwi (multipointAvgWalk_eq p1 p2 nt t0 better l1 l2 acc rs ▸ h)
  ⟨a, b, c⟩

theorem spPick_legit {p1 p2 q1 q2 : Genome W} (hq : (q1 = p1 ∧ q2 = p2) ∨ (q1 = p2 ∧ q2 = p1)) {cp gc : Nat} {st : Bool}
    {l1 l2 : List (Gene W)} (hm1 : ∀ x ∈ l1, x ∈ q1.genes) (hm2 : ∀ y ∈ l2, y ∈ q2.genes) :
    ∀ o ∈ spPlan cp l1 l2 gc st, ∀ c dis r r', spPick q1 q2 o r = .ok ((c, dis), r') → Legit p1 p2 c ∧ c.gene.inn = o.inn := by
  intro o ho c dis r r' hp
  have hf := (spPlan_mem _ _ _ _ _ o ho).mono hm1 hm2
  rcases hq with ⟨rfl, rfl⟩ | ⟨rfl, rfl⟩ <;> cases o
  · cases hp; exact ⟨legit_chooseFrom_left _ _ _ hf, rfl⟩
  · exact avgPair_legit hf.1 hf.2.1 hf.2.2 c dis r r' hp
  · cases hp; exact ⟨legit_chooseFrom_right _ _ _ hf, rfl⟩
  · cases hp; exact ⟨legit_chooseFrom_right _ _ _ hf, rfl⟩
  · exact (avgPair_legit hf.1 hf.2.1 hf.2.2 c dis r r' hp).imp Legit.symm fun h => h
  · cases hp; exact ⟨legit_chooseFrom_left _ _ _ hf, rfl⟩

/-- **single-point walk** (`q1` = the parent with fewer genes, in either role): genes are still collected in ascending
    order - before the crossing point from `q1` (and the collected numbers stay below the rest of both lists), after it
    only from `q2` (and they stay below the rest of `q2`'s list).  The child has a gene as soon as the two lists start
    with the same innovation number. -/
theorem singlePointWalk_inv (p1 p2 q1 q2 : Genome W) (hq : (q1 = p1 ∧ q2 = p2) ∨ (q1 = p2 ∧ q2 = p1))
    (nt : List (Trait W)) (t0 : Option Int) (cp : Nat)
    (l1 l2 : List (Gene W)) (gc : Nat) (last : Option (Chosen W)) (acc : MateAcc W) (rs : List Nat)
    (acc' : MateAcc W) (rs' : List Nat)
    (hz : ∀ t' ∈ nt, t'.id ≠ 0) (hs1 : GenesSorted l1) (hs2 : GenesSorted l2)
    (hm1 : ∀ x ∈ l1, x ∈ q1.genes) (hm2 : ∀ y ∈ l2, y ∈ q2.genes)
    (hinv : AccInv p1 p2 nt acc) (hsorted : GenesSorted acc.genes)
    (hb2 : ∀ a ∈ acc.genes, ∀ y ∈ l2, a.inn < y.inn)
    (hb1 : gc < cp → ∀ a ∈ acc.genes, ∀ x ∈ l1, a.inn < x.inn)
    (h : singlePointWalk q1 q2 nt t0 cp l1 l2 gc last acc rs = .ok (acc', rs')) :
    AccInv p1 p2 nt acc' ∧ GenesSorted acc'.genes ∧
    ((acc.genes ≠ [] ∨ ∃ x xs y ys, l1 = x :: xs ∧ l2 = y :: ys ∧ x.inn = y.inn) → acc'.genes ≠ []) := by
  rw [singlePointWalk_eq] at h
  obtain ⟨b, p⟩ := spPlan_inns cp l1 l2 gc last.isSome hs1 hs2
  obtain ⟨a, b', c, _⟩ := walkR_inv (key := Origin.inn) h hz (spPick_legit hq hm1 hm2) p hinv hsorted (fun g hg o ho => by
    rcases b o ho with hm | ⟨hlt, hm⟩ <;> obtain ⟨z, hz, e⟩ := List.mem_map.mp hm
    · exact e ▸ hb2 g hg z hz
    · exact e ▸ hb1 hlt g hg z hz)
  refine ⟨a, b', fun hp => c (hp.imp id fun ⟨x, xs, y, ys, e1, e2, e3⟩ => ?_)⟩
  rw [e1, e2, spPlan, if_pos e3]; exact List.cons_ne_nil _ _

theorem mp_picksLegit {m : Gene W → Gene W → Rand (Chosen W × Bool)} {g og : Genome W} {f1 f2 : W}
    (hm : ∀ x ∈ g.genes, ∀ y ∈ og.genes, x.inn = y.inn → ∀ c dis r r', m x y r = .ok ((c, dis), r') →
      Legit g og c ∧ c.gene.inn = x.inn) :
    ∀ es r r', mpPlanR g og f1 f2 r = .ok (es, r') → ∀ e ∈ es, ∀ c dis r r', slotPick m g og e r = .ok ((c, dis), r') →
      Legit g og c := fun es r r' hpl e he c dis r r' hp => by
  cases hpl; exact (slotPick_legit hm (fun _ h => h) (fun _ h => h) e he c dis r r' hp).1

theorem sp_picksLegit (g og : Genome W) :
    ∀ es r r', spPlanR g og r = .ok (es, r') → ∀ e ∈ es, ∀ c dis r r',
      spPick (shorter g og) (longer g og) e r = .ok ((c, dis), r') → Legit g og c := fun es r r' hpl e he c dis r r' hp => by
  unfold spPlanR at hpl
  split at hpl
  · cases hpl
  · cases hpl; exact (spPick_legit (shorter_longer g og) (fun _ h => h) (fun _ h => h) e he c dis r r' hp).1

/-- the child is the finished accumulator of a walk that kept `AccInv`, collected genes in ascending order, and — when
    the parents share their first gene — collected a gene with that number -/
def MateOut (g og : Genome W) (id : Int) (c : Genome W) (needHead : Bool) : Prop :=
  ∃ (nt : List (Trait W)) (acc : MateAcc W),
    c = { id := id, traits := nt, nodes := acc.nodes, genes := acc.genes } ∧
    nt.map (·.id) = g.traits.map (·.id) ∧ AccInv g og nt acc ∧ GenesSorted acc.genes ∧
    ((needHead = true → SharedHead g og) → acc.genes ≠ []) ∧
    (SharedHead g og → ∃ a ∈ acc.genes, ∀ x ∈ g.genes.take 1, a.inn = x.inn)

omit [Scalar W] in
theorem mateOut_of {g og : Genome W} (id : Int) {nt : List (Trait W)} {acc : MateAcc W} (nh : Bool)
    (hw1 : WFT g) (hids : nt.map (·.id) = g.traits.map (·.id)) (a : AccInv g og nt acc) (b : GenesSorted acc.genes)
    (hne : (nh = true → SharedHead g og) → acc.genes ≠ [])
    (hh : SharedHead g og → (acc.genes.map (·.inn)).head? = g.genes.head?.map (·.inn)) :
    MateOut g og id { id := id, traits := nt, nodes := acc.nodes, genes := acc.genes } nh := by
  refine ⟨nt, acc, rfl, hids, a, b, hne, fun hq => ?_⟩
  have := hh hq
  cases hg : g.genes with
  | nil => exact absurd hg hw1.wf.hasGene
  | cons x _ =>
    rw [hg] at this
    cases ha : acc.genes with
    | nil => rw [ha] at this; cases this
    | cons a _ =>
      rw [ha] at this
      exact ⟨a, List.mem_cons_self, fun z hz => by
        rw [List.take_succ_cons, List.take_zero, List.mem_singleton] at hz
        simpa [hz] using this⟩

theorem mpCrossover_out {m : Gene W → Gene W → Rand (Chosen W × Bool)} {g og : Genome W} {id : Int} {f1 f2 : W}
    {rs rs' : List Nat} {c : Genome W} (hw1 : WFT g) (hw2 : WFT og)
    (hm : ∀ x ∈ g.genes, ∀ y ∈ og.genes, x.inn = y.inn → ∀ c dis r r', m x y r = .ok ((c, dis), r') →
      Legit g og c ∧ c.gene.inn = x.inn)
    (h : crossover g og id (mpPlanR g og f1 f2) (slotPick m g og) rs = .ok (c, rs')) : MateOut g og id c false := by
  obtain ⟨nt, t0, io, acc, hpro, hw, rfl⟩ := mpCrossover_ok h
  obtain ⟨hids, hz, hacc⟩ := matePrologue_spec g og nt t0 io hpro hw1 hw2
  obtain ⟨a, b, c, d⟩ := mpWalk_inv hm hz hw1.wf.genesSorted hw2.wf.genesSorted (fun _ h => h) (fun _ h => h)
    ⟨hacc, List.Pairwise.nil, (fun _ ha => nomatch ha), (fun _ ha => nomatch ha)⟩ hw
  refine mateOut_of id false hw1 hids a b (fun _ => c (Or.inr ?_)) fun hh => (d rfl).trans ?_
  · cases p1Better f1 f2 g.genes.length og.genes.length
    · exact Or.inr ⟨rfl, hw2.wf.hasGene⟩
    · exact Or.inl ⟨rfl, hw1.wf.hasGene⟩
  · obtain ⟨x, xs, y, ys, e1, e2, exy⟩ := heads_of_shared g og hw1 hw2 hh
    rw [e1, e2, mpPlan_cons_eq _ _ _ _ _ exy]; rfl

theorem mateMultipoint_out (g og : Genome W) (id : Int) (f1 f2 : W) (rs rs' : List Nat) (c : Genome W)
    (hw1 : WFT g) (hw2 : WFT og) (h : mateMultipoint g og id f1 f2 rs = .ok (c, rs')) : MateOut g og id c false :=
  mpCrossover_out hw1 hw2 (fun _ hx _ hy heq => plainPair_legit hx hy heq) (mateMultipoint_eq g og id f1 f2 ▸ h)

theorem mateMultipointAvg_out (g og : Genome W) (id : Int) (f1 f2 : W) (rs rs' : List Nat) (c : Genome W)
    (hw1 : WFT g) (hw2 : WFT og) (h : mateMultipointAvg g og id f1 f2 rs = .ok (c, rs')) : MateOut g og id c false :=
  mpCrossover_out hw1 hw2 (fun _ hx _ hy heq => avgPair_legit hx hy heq) (mateMultipointAvg_eq g og id f1 f2 ▸ h)

theorem mateSinglePoint_out (g og : Genome W) (id : Int) (rs rs' : List Nat) (c : Genome W)
    (hw1 : WFT g) (hw2 : WFT og) (h : mateSinglePoint g og id rs = .ok (c, rs')) : MateOut g og id c true := by
  obtain ⟨nt, t0, io, cp, rs1, acc, hpro, _, hw, rfl⟩ := spCrossover_ok (mateSinglePoint_eq g og id ▸ h)
  obtain ⟨hids, hz, hacc⟩ := matePrologue_spec g og nt t0 io hpro hw1 hw2
  -- `q1`, `q2`: the two parents in the order the walk takes them
  have hq := C04.shorter_longer g og
  generalize C04.shorter g og = q1, C04.longer g og = q2 at hw hq
  obtain ⟨wq1, wq2, hsh⟩ : WFT q1 ∧ WFT q2 ∧ (SharedHead g og → SharedHead q1 q2 ∧ SharedHead g q1) := by
    rcases hq with ⟨rfl, rfl⟩ | ⟨rfl, rfl⟩
    · exact ⟨hw1, hw2, fun hh => ⟨hh, rfl⟩⟩
    · exact ⟨hw2, hw1, fun hh => ⟨hh.symm, hh⟩⟩
  -- parents that share their first gene: the plan begins with it
  have hhead : SharedHead g og → ((spPlan cp q1.genes q2.genes 0 false).map Origin.inn).head? = g.genes.head?.map (·.inn) := by
    intro hh
    obtain ⟨hh1, hh2⟩ := hsh hh
    obtain ⟨x, xs, y, ys, e1, e2, exy⟩ := heads_of_shared q1 q2 wq1 wq2 hh1
    rw [hh2, e1, e2, spPlan, if_pos exy]
    exact congrArg some (spPair_inn cp 0 exy)
  obtain ⟨b, p⟩ := spPlan_inns cp q1.genes q2.genes 0 false wq1.wf.genesSorted wq2.wf.genesSorted
  obtain ⟨a, b', _, d⟩ := walkR_inv (key := Origin.inn) hw hz (spPick_legit hq (fun _ h => h) (fun _ h => h)) p hacc
    List.Pairwise.nil (fun _ ha => nomatch ha)
  refine mateOut_of id true hw1 hids a b' (fun hh e => ?_) fun hh => (d rfl).trans (hhead hh)
  have := (d rfl).trans (hhead (hh rfl))
  rw [e] at this
  cases hg : g.genes with
  | nil => exact hw1.wf.hasGene hg
  | cons _ _ => rw [hg] at this; cases this

omit [Scalar W] in
/-- **closure of a crossover inside a population**: parents that are well-formed, of one node lineage and share their
    first gene give a child that is well-formed, retains both parents' input/bias/output nodes, shares the first gene,
    is of the node lineage of everything its parents are, and satisfies every registry invariant both parents satisfy -/
theorem mateOut_closed (g og : Genome W) (id : Int) (c : Genome W) (nh : Bool) (hw1 : WFT g) (hw2 : WFT og)
    (hl : NodeLineage g og) (hh : SharedHead g og) (ho : MateOut g og id c nh) :
    WFT c ∧ Retains og c ∧ Retains g c ∧ c.modules = [] ∧ SharedHead c g ∧ SharedHead c og ∧
    (∀ b : Genome W, NodeLineage g b → NodeLineage og b → NodeLineage c b) ∧
    (∀ reg : Reg W, RegInv reg g → RegInv reg og → RegInv reg c) := by
  obtain ⟨nt, acc, rfl, hids, hacc, hsorted, hne, hhead⟩ := ho
  obtain ⟨w, r1, r2⟩ := child_wft g og nt acc id hacc hsorted (hne (fun _ => hh)) hw1 hw2 hl hids
  obtain ⟨f1, f2, f3⟩ := child_fits g og nt acc id hacc hsorted hw1 hw2 hl hids
  obtain ⟨s1, s2⟩ := f1 hh (hhead hh)
  exact ⟨w, r1, r2, rfl, s1, s2, f2, f3⟩

end GoNeat.C01
