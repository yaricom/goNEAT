/-
  Helper lemmas for C11, expression part.  The three loops of `Genesis.genesis` are characterised once, on a
  successful run: `linkGenes_induct` / `linkGenes_spec` (the links of every node by index, in gene order),
  `wireLinks_ok`, `ctrlNodes_induct`.  From these: `genesis` of a well-formed genome yields a network that `expresses`
  it (`genesis_expressed`, Spec/Genesis.lean); disabled genes contribute nothing; the node and link counts of every
  genome `genesis` accepts; a well-formed genome with a gene and an output is always accepted.  Core Lean only.
-/
import GoNeat.Proofs.GraphView
import GoNeat.Proofs.ListLemmas

set_option linter.unusedSectionVars false

namespace GoNeat.Genesis

variable {W : Type}

def expr (nodes : List Node) (x : Gene W) : Option (NLink W) := if x.en then geneLink nodes x else none

def into (nodes : List Node) (genes : List (Gene W)) (i : Nat) : List (NLink W) :=
  (genes.filterMap (expr nodes)).filter fun l => l.dst == i
def outOf (nodes : List Node) (genes : List (Gene W)) (i : Nat) : List (NLink W) :=
  (genes.filterMap (expr nodes)).filter fun l => l.src == i

def withLinks (ins outs : List (NLink W)) (nd : NNodeS W) : NNodeS W :=
  { nd with incoming := nd.incoming ++ ins, outgoing := nd.outgoing ++ outs }

theorem getElem?_addLink (tbl : List (NNodeS W)) (l : NLink W) (i : Nat) :
    (addLink tbl l)[i]? =
      (tbl[i]?).map (withLinks (if l.dst = i then [l] else []) (if l.src = i then [l] else [])) := by
  unfold addLink
  rw [List.getElem?_modify, List.getElem?_modify]
  cases tbl[i]? with
  | none => rfl
  | some nd =>
    by_cases h1 : l.dst = i <;> by_cases h2 : l.src = i <;> simp [h1, h2, withLinks]

theorem linkGenes_induct {nodes : List Node} {P : List (Gene W) → List (NNodeS W) → List (NNodeS W) → Prop}
    (nil : ∀ tbl, P [] tbl tbl)
    (skip : ∀ x gs tbl tbl', x.en = false → P gs tbl tbl' → P (x :: gs) tbl tbl')
    (link : ∀ x gs l tbl tbl', x.en = true → geneLink nodes x = some l → P gs (addLink tbl l) tbl' →
      P (x :: gs) tbl tbl') :
    ∀ genes tbl tbl', linkGenes nodes genes tbl = .ok tbl' → P genes tbl tbl' := by
  intro genes
  induction genes with
  | nil =>
    intro tbl tbl' h
    cases h
    exact nil tbl
  | cons x gs ih =>
    intro tbl tbl' h
    rw [linkGenes] at h
    cases hen : x.en with
    | false =>
      rw [hen] at h
      exact skip x gs tbl tbl' hen (ih _ _ h)
    | true =>
      rw [hen] at h
      rcases hl : geneLink nodes x with _ | l
      · rw [hl] at h
        cases h
      · rw [hl] at h
        exact link x gs l tbl tbl' hen hl (ih _ _ h)

theorem linkGenes_spec (nodes : List Node) :
    ∀ (genes : List (Gene W)) (tbl tbl' : List (NNodeS W)), linkGenes nodes genes tbl = .ok tbl' →
      ∀ i, tbl'[i]? = (tbl[i]?).map (withLinks (into nodes genes i) (outOf nodes genes i)) := by
  refine linkGenes_induct ?_ ?_ ?_
  · intro tbl i
    cases tbl[i]? <;> simp [into, outOf, withLinks]
  · intro x gs tbl tbl' hen ih i
    have he : expr nodes x = none := by simp [expr, hen]
    rw [ih i]
    simp only [into, outOf, List.filterMap_cons, he]
  · intro x gs l tbl tbl' hen hl ih i
    have he : expr nodes x = some l := by simp [expr, hen, hl]
    rw [ih i, getElem?_addLink]
    cases tbl[i]? with
    | none => rfl
    | some nd =>
      simp only [Option.map_some, Option.some.injEq, withLinks, into, outOf, List.filterMap_cons, he,
        List.filter_cons]
      by_cases h1 : l.dst = i <;> by_cases h2 : l.src = i <;> simp [h1, h2]

theorem length_addLink (tbl : List (NNodeS W)) (l : NLink W) : (addLink tbl l).length = tbl.length := by
  unfold addLink; simp

theorem length_linkGenes (nodes : List Node) :
    ∀ (genes : List (Gene W)) tbl tbl', linkGenes nodes genes tbl = .ok tbl' → tbl'.length = tbl.length := by
  refine linkGenes_induct ?_ ?_ ?_
  · intro tbl
    rfl
  · intro x gs tbl tbl' _ ih
    exact ih
  · intro x gs l tbl tbl' _ _ ih
    rw [ih, length_addLink]

theorem idxOf_some {nodes : List Node} {a : Int} {s : Nat} (h : idxOf nodes a = some s) :
    (nodes[s]?).map (·.id) = some a := by
  unfold idxOf at h
  obtain ⟨hlt, hp, _⟩ := List.findIdx?_eq_some_iff_getElem.mp h
  rw [List.getElem?_eq_getElem hlt]
  simpa using hp

theorem idxOf_lt {nodes : List Node} {a : Int} {s : Nat} (h : idxOf nodes a = some s) : s < nodes.length := by
  have := idxOf_some h
  cases hg : nodes[s]? with
  | none => simp [hg] at this
  | some n => exact (List.getElem?_eq_some_iff.mp hg).1

theorem idxOf_of_mem {nodes : List Node} {a : Int} (h : a ∈ nodes.map (·.id)) : ∃ s, idxOf nodes a = some s := by
  unfold idxOf
  obtain ⟨n, hn, hid⟩ := List.mem_map.mp h
  cases hf : nodes.findIdx? (·.id == a) with
  | some s => exact ⟨s, rfl⟩
  | none =>
    rw [List.findIdx?_eq_none_iff] at hf
    have := hf n hn
    simp [hid] at this

theorem geneLink_some {nodes : List Node} {x : Gene W} {l : NLink W} (h : geneLink nodes x = some l) :
    idxOf nodes x.src = some l.src ∧ idxOf nodes x.dst = some l.dst ∧ l.w = x.w ∧ l.recur = x.recur := by
  unfold geneLink at h
  cases hs : idxOf nodes x.src with
  | none => simp [hs] at h
  | some s =>
    cases hd : idxOf nodes x.dst with
    | none => simp [hs, hd] at h
    | some d =>
      simp only [hs, hd, Option.some.injEq] at h
      subst h
      exact ⟨rfl, rfl, rfl, rfl⟩

theorem geneLink_of_mem {nodes : List Node} {x : Gene W} (hs : x.src ∈ nodes.map (·.id)) (hd : x.dst ∈ nodes.map (·.id)) :
    ∃ l, geneLink nodes x = some l := by
  obtain ⟨s, hs'⟩ := idxOf_of_mem hs
  obtain ⟨d, hd'⟩ := idxOf_of_mem hd
  exact ⟨{ src := s, dst := d, w := x.w, recur := x.recur }, by simp [geneLink, hs', hd']⟩

def Resolves (nodes : List Node) (net : Net W) : Prop := ∀ a k, idxOf nodes a = some k → idAt net k = some a

theorem elink_geneLink {nodes : List Node} {net : Net W} (hr : Resolves nodes net) {x : Gene W} {l : NLink W}
    (h : geneLink nodes x = some l) : elink net l = elinkOfGene x := by
  obtain ⟨h1, h2, h3, h4⟩ := geneLink_some h
  unfold elink elinkOfGene
  rw [hr _ _ h1, hr _ _ h2, h3, h4]

/-- `sel` / `gsel` pick the same end (source or target) of a link and of its gene -/
theorem filterLinks_map {nodes : List Node} {net : Net W} (hr : Resolves nodes net) (hnd : (nodes.map (·.id)).Nodup)
    (sel : NLink W → Nat) (gsel : Gene W → Int)
    (hsel : ∀ x l, geneLink nodes x = some l → idxOf nodes (gsel x) = some (sel l))
    {i : Nat} {a : Int} (hi : (nodes[i]?).map (·.id) = some a) (gs : List (Gene W))
    (hg : ∀ x ∈ gs, x.src ∈ nodes.map (·.id) ∧ x.dst ∈ nodes.map (·.id)) :
    ((gs.filterMap (expr nodes)).filter fun l => sel l == i).map (elink net) =
      ((gs.filter (·.en)).filter (gsel · == a)).map elinkOfGene := by
  induction gs with
  | nil => rfl
  | cons x gs ih =>
    have ih' := ih (fun y hy => hg y (by simp [hy]))
    cases hen : x.en with
    | false =>
      have he : expr nodes x = none := by simp [expr, hen]
      simp only [List.filterMap_cons, he, List.filter_cons, hen, Bool.false_eq_true, ↓reduceIte]
      exact ih'
    | true =>
      obtain ⟨l, hl⟩ := geneLink_of_mem (hg x (by simp)).1 (hg x (by simp)).2
      have he : expr nodes x = some l := by simp [expr, hen, hl]
      have hd := idxOf_some (hsel x l hl)
      have hiff : (sel l == i) = (gsel x == a) := by
        rw [Bool.eq_iff_iff, beq_iff_eq, beq_iff_eq]
        exact ⟨fun hc => Option.some.inj ((hc ▸ hd).symm.trans hi), fun heq => idxOf_unique hnd (heq ▸ hd) hi⟩
      simp only [List.filterMap_cons, he, List.filter_cons, hen, ↓reduceIte, hiff]
      by_cases hc : (gsel x == a) = true
      · simp only [hc, ↓reduceIte, List.map_cons, elink_geneLink hr hl]
        rw [ih']
      · simp only [hc, Bool.false_eq_true, ↓reduceIte]
        exact ih'

/-- `wireLinks` succeeds exactly when every wire resolves, and then with one link per wire -/
theorem wireLinks_ok {nodes : List Node} {c : Nat} {inc : Bool} (ws : List (Wire W)) (ls : List (NLink W)) :
    wireLinks nodes c inc ws = .ok ls ↔
      (∀ w ∈ ws, ∃ k, idxOf nodes w.node = some k) ∧
      ls = ws.map fun w => if inc then { src := (idxOf nodes w.node).getD 0, dst := c, w := w.w, recur := false }
        else { src := c, dst := (idxOf nodes w.node).getD 0, w := w.w, recur := false } := by
  induction ws generalizing ls with
  | nil =>
    exact ⟨fun h => by cases h; exact ⟨fun _ hw => absurd hw List.not_mem_nil, rfl⟩, fun h => h.2 ▸ rfl⟩
  | cons w ws ih =>
    rw [wireLinks, List.forall_mem_cons, List.map_cons]
    rcases hk : idxOf nodes w.node with _ | k
    · exact ⟨nofun, fun h => by obtain ⟨⟨⟨k, hk'⟩, _⟩, _⟩ := h; cases hk'⟩
    · rcases hrec : wireLinks nodes c inc ws with e | ls'
      · refine ⟨nofun, fun h => ?_⟩
        have := (ih _).mpr ⟨h.1.2, rfl⟩
        rw [hrec] at this
        cases this
      · obtain ⟨h1, rfl⟩ := (ih ls').mp hrec
        exact ⟨fun h => by cases h; exact ⟨⟨⟨k, rfl⟩, h1⟩, rfl⟩, fun h => h.2 ▸ rfl⟩

theorem wireLinks_map {nodes : List Node} {net : Net W} (hr : Resolves nodes net) {c : Nat} {cid : Int}
    (hc : idAt net c = some cid) (inc : Bool) (ws : List (Wire W)) :
    ∀ ls, wireLinks nodes c inc ws = .ok ls →
      ls.map (elink net) = ws.map fun w =>
        (if inc then ⟨some w.node, some cid, w.w, false⟩ else ⟨some cid, some w.node, w.w, false⟩ : ELink W) := by
  intro ls h
  obtain ⟨hk, rfl⟩ := (wireLinks_ok ws ls).mp h
  rw [List.map_map]
  refine List.map_congr_left fun w hw => ?_
  obtain ⟨k, hk⟩ := hk w hw
  cases inc <;> simp [elink, hk, hr _ _ hk, hc]

theorem ctrlNodes_induct {nodes : List Node} {P : List (Module W) → Nat → List (NNodeS W) → Prop}
    (nil : ∀ next, P [] next [])
    (skip : ∀ m ms next cs, m.en = false → P ms next cs → P (m :: ms) next cs)
    (ctrl : ∀ m ms next ins outs cs, m.en = true → wireLinks nodes next true m.ins = .ok ins →
      wireLinks nodes next false m.outs = .ok outs → P ms (next + 1) cs →
      P (m :: ms) next
        ({ id := m.ctrl.id, kind := m.ctrl.kind, act := m.ctrl.act, incoming := ins, outgoing := outs } :: cs)) :
    ∀ mods next cs, ctrlNodes nodes mods next = .ok cs → P mods next cs := by
  intro mods
  induction mods with
  | nil =>
    intro next cs h
    cases h
    exact nil next
  | cons m ms ih =>
    intro next cs h
    rw [ctrlNodes] at h
    cases hen : m.en with
    | false =>
      rw [hen] at h
      exact skip m ms next cs hen (ih _ _ h)
    | true =>
      rw [hen] at h
      rcases hin : wireLinks nodes next true m.ins with e | ins
      · rw [hin] at h
        cases h
      · rcases hout : wireLinks nodes next false m.outs with e | outs
        · rw [hin, hout] at h
          cases h
        · rcases hrec : ctrlNodes nodes ms (next + 1) with e | cs'
          · rw [hin, hout, hrec] at h
            cases h
          · rw [hin, hout, hrec] at h
            cases h
            exact ctrl m ms next ins outs cs' hen hin hout (ih _ _ hrec)

theorem ctrlNodes_spec (nodes : List Node) :
    ∀ (mods : List (Module W)) (next : Nat) (cs : List (NNodeS W)), ctrlNodes nodes mods next = .ok cs →
      nodeTriples cs = (mods.filter (·.en)).map (fun m => (m.ctrl.id, m.ctrl.kind, m.ctrl.act)) ∧
      ∀ net : Net W, Resolves nodes net → (∀ j c, cs[j]? = some c → idAt net (next + j) = some c.id) →
        ∀ p ∈ cs.zip (mods.filter (·.en)),
          p.1.incoming.map (elink net) = modIns p.2 ∧ p.1.outgoing.map (elink net) = modOuts p.2 := by
  refine ctrlNodes_induct ?_ ?_ ?_
  · intro next
    exact ⟨rfl, fun _ _ _ p hp => absurd hp List.not_mem_nil⟩
  · intro m ms next cs hen ih
    rw [List.filter_cons, hen]
    exact ih
  · intro m ms next ins outs cs hen hin hout ih
    obtain ⟨ht, hl⟩ := ih
    rw [List.filter_cons, if_pos hen]
    refine ⟨congrArg (_ :: ·) ht, ?_⟩
    intro net hr hpos p hp
    rcases List.mem_cons.mp hp with rfl | hp
    · have hc : idAt net next = some m.ctrl.id := hpos 0 _ rfl
      exact ⟨wireLinks_map hr hc true m.ins ins hin, wireLinks_map hr hc false m.outs outs hout⟩
    · refine hl net hr (fun j c hj => ?_) p hp
      rw [Nat.add_right_comm]
      exact hpos (j + 1) c hj

theorem genesis_ok {g : Genome W} {netId : Int} {net : Net W} (h : genesis g netId = .ok net) :
    ∃ tbl cs, linkGenes g.nodes g.genes (g.nodes.map copyNode) = .ok tbl ∧
      ctrlNodes g.nodes g.modules g.nodes.length = .ok cs ∧
      net = { id := netId, nodes := tbl,
              inputs := positions (fun n => n.kind == Kind.input || n.kind == Kind.bias) g.nodes 0,
              outputs := positions (fun n => n.kind == Kind.output) g.nodes 0, ctrl := cs } ∧
      g.genes.isEmpty = false ∧ (positions (fun n => n.kind == Kind.output) g.nodes 0).isEmpty = false := by
  unfold genesis at h
  cases hge : g.genes.isEmpty with
  | true => simp [hge] at h
  | false =>
    cases hout : (positions (fun n => n.kind == Kind.output) g.nodes 0).isEmpty with
    | true => simp [hge, hout] at h
    | false =>
      simp only [hge, hout, Bool.false_eq_true, ↓reduceIte] at h
      cases hl : linkGenes g.nodes g.genes (g.nodes.map copyNode) with
      | error e => simp [hl] at h
      | ok tbl =>
        cases hc : ctrlNodes g.nodes g.modules g.nodes.length with
        | error e => simp [hl, hc] at h
        | ok cs =>
          simp only [hl, hc, Except.ok.injEq] at h
          exact ⟨tbl, cs, rfl, rfl, h.symm, rfl, rfl⟩

theorem genesis_node {g : Genome W} {tbl : List (NNodeS W)}
    (hl : linkGenes g.nodes g.genes (g.nodes.map copyNode) = .ok tbl) (i : Nat) :
    tbl[i]? = (g.nodes[i]?).map fun n =>
      { id := n.id, kind := n.kind, act := n.act, incoming := into g.nodes g.genes i, outgoing := outOf g.nodes g.genes i } := by
  rw [linkGenes_spec _ _ _ _ hl i, List.getElem?_map]
  cases g.nodes[i]? with
  | none => rfl
  | some n => simp [withLinks, copyNode]

theorem genesis_triples {g : Genome W} {tbl : List (NNodeS W)}
    (hl : linkGenes g.nodes g.genes (g.nodes.map copyNode) = .ok tbl) :
    nodeTriples tbl = g.nodes.map fun n => (n.id, n.kind, n.act) := by
  apply List.ext_getElem?
  intro i
  unfold nodeTriples
  rw [List.getElem?_map, List.getElem?_map, genesis_node hl i]
  cases g.nodes[i]? <;> rfl

section
variable [DecidableEq W]

theorem genesis_expressed {g : Genome W} {netId : Int} {net : Net W} (hok : Ok g) (h : genesis g netId = .ok net) :
    Expressed g netId net := by
  obtain ⟨tbl, cs, hl, hc, hnet, _, _⟩ := genesis_ok h
  have htr := genesis_triples hl
  have hlen : tbl.length = g.nodes.length := by rw [length_linkGenes _ _ _ _ hl, List.length_map]
  have hnd : (g.nodes.map (·.id)).Nodup := hok.nodupNodes
  have hall : allMIMO net = tbl ++ cs := by rw [hnet, allMIMO]
  have hres : Resolves g.nodes net := by
    intro a k hk
    rw [idAt, hall, List.getElem?_append_left (hlen ▸ idxOf_lt hk), genesis_node hl k, Option.map_map]
    exact idxOf_some hk
  have hpos : ∀ j c, cs[j]? = some c → idAt net (g.nodes.length + j) = some c.id := by
    intro j c hj
    rw [idAt, hall, ← hlen, List.getElem?_append_right (Nat.le_add_right _ _), Nat.add_sub_cancel_left, hj]
    rfl
  obtain ⟨hct, hcl⟩ := ctrlNodes_spec g.nodes g.modules g.nodes.length cs hc
  subst hnet
  refine ⟨rfl, htr, rfl, rfl, ?_, hct, hcl _ hres hpos⟩
  intro nd hndm
  obtain ⟨i, hilt, hi⟩ := List.getElem_of_mem hndm
  have hi' : tbl[i]? = some nd := by rw [List.getElem?_eq_getElem hilt, hi]
  rw [genesis_node hl i] at hi'
  cases hg : g.nodes[i]? with
  | none => simp [hg] at hi'
  | some n =>
    simp only [hg, Option.map_some, Option.some.injEq] at hi'
    subst hi'
    have hia : (g.nodes[i]?).map (·.id) = some n.id := by simp [hg]
    have hgenes : ∀ x ∈ g.genes, x.src ∈ g.nodes.map (·.id) ∧ x.dst ∈ g.nodes.map (·.id) := hok.genes
    exact ⟨filterLinks_map hres hnd (·.dst) (·.dst) (fun _ _ h => (geneLink_some h).2.1) hia g.genes hgenes,
      filterLinks_map hres hnd (·.src) (·.src) (fun _ _ h => (geneLink_some h).1) hia g.genes hgenes⟩

end

theorem linkGenes_filter (nodes : List Node) (genes : List (Gene W)) :
    ∀ tbl, linkGenes nodes (genes.filter (·.en)) tbl = linkGenes nodes genes tbl := by
  induction genes with
  | nil => intro tbl; rfl
  | cons x gs ih =>
    intro tbl
    cases hen : x.en with
    | false => simp [hen, linkGenes, ih]
    | true =>
      simp only [List.filter_cons, hen, ↓reduceIte, linkGenes, Bool.not_true, Bool.false_eq_true]
      cases geneLink nodes x with
      | none => rfl
      | some l => exact ih _

theorem sum_incoming_addLink (tbl : List (NNodeS W)) (l : NLink W) (hs : l.src < tbl.length) (hd : l.dst < tbl.length) :
    ((addLink tbl l).map fun nd => nd.incoming.length).sum = (tbl.map fun nd => nd.incoming.length).sum + 1 := by
  unfold addLink
  refine (sum_map_modify _ _ 0 ?_ _ _ ?_).trans (sum_map_modify _ _ 1 ?_ _ _ hd)
  · exact fun _ => rfl
  · rw [List.length_modify]
    exact hs
  · exact fun _ => List.length_append

theorem geneLink_lt {nodes : List Node} {x : Gene W} {l : NLink W} (h : geneLink nodes x = some l) :
    l.src < nodes.length ∧ l.dst < nodes.length :=
  ⟨idxOf_lt (geneLink_some h).1, idxOf_lt (geneLink_some h).2.1⟩

theorem linkGenes_sum (nodes : List Node) :
    ∀ (genes : List (Gene W)) (tbl tbl' : List (NNodeS W)), linkGenes nodes genes tbl = .ok tbl' →
      tbl.length = nodes.length →
      (tbl'.map fun nd => nd.incoming.length).sum =
        (tbl.map fun nd => nd.incoming.length).sum + (genes.filter (·.en)).length := by
  refine linkGenes_induct ?_ ?_ ?_
  · intro tbl _
    rfl
  · intro x gs tbl tbl' hen ih hlen
    rw [List.filter_cons, hen]
    exact ih hlen
  · intro x gs l tbl tbl' hen hl ih hlen
    obtain ⟨hs, hd⟩ := geneLink_lt hl
    rw [ih (by rw [length_addLink, hlen]), sum_incoming_addLink tbl l (hlen ▸ hs) (hlen ▸ hd)]
    simp [hen]
    omega

theorem ctrlNodes_sum (nodes : List Node) :
    ∀ (mods : List (Module W)) (next : Nat) (cs : List (NNodeS W)), ctrlNodes nodes mods next = .ok cs →
      cs.length = (mods.filter (·.en)).length ∧
      (cs.map fun cn => cn.incoming.length + cn.outgoing.length).sum =
        ((mods.filter (·.en)).map fun m => m.ins.length + m.outs.length).sum := by
  refine ctrlNodes_induct ?_ ?_ ?_
  · intro next
    exact ⟨rfl, rfl⟩
  · intro m ms next cs hen ih
    rw [List.filter_cons, hen]
    exact ih
  · intro m ms next ins outs cs hen hin hout ih
    rw [((wireLinks_ok _ _).mp hin).2, ((wireLinks_ok _ _).mp hout).2]
    simp [hen, ih.1, ih.2]

theorem genesis_counts' {g : Genome W} {netId : Int} {net : Net W} (h : genesis g netId = .ok net) :
    nodeCount net = g.nodes.length + (g.modules.filter (·.en)).length ∧
    linkCount net = (g.genes.filter (·.en)).length +
      ((g.modules.filter (·.en)).map fun m => m.ins.length + m.outs.length).sum := by
  obtain ⟨tbl, cs, hl, hc, rfl, _, _⟩ := genesis_ok h
  have h1 : tbl.length = g.nodes.length := by rw [length_linkGenes _ _ _ _ hl, List.length_map]
  have h2 := linkGenes_sum g.nodes g.genes _ tbl hl (by simp)
  obtain ⟨h3, h4⟩ := ctrlNodes_sum g.nodes g.modules _ cs hc
  unfold nodeCount linkCount
  simp only [h1, h3, h2, h4]
  have : ((g.nodes.map (copyNode (W := W))).map fun nd => nd.incoming.length).sum = 0 := by
    induction g.nodes with
    | nil => rfl
    | cons a l ih => simpa [copyNode] using ih
  rw [this]
  simp

theorem linkGenes_total {nodes : List Node} (genes : List (Gene W))
    (hg : ∀ x ∈ genes, x.src ∈ nodes.map (·.id) ∧ x.dst ∈ nodes.map (·.id)) :
    ∀ tbl, ∃ tbl', linkGenes nodes genes tbl = .ok tbl' := by
  induction genes with
  | nil => intro tbl; exact ⟨tbl, rfl⟩
  | cons x gs ih =>
    intro tbl
    have ih' := ih (fun y hy => hg y (by simp [hy]))
    unfold linkGenes
    cases hen : x.en with
    | false => simpa using ih' tbl
    | true =>
      obtain ⟨l, hl⟩ := geneLink_of_mem (hg x (by simp)).1 (hg x (by simp)).2
      simpa [hl] using ih' (addLink tbl l)

theorem wireLinks_total {nodes : List Node} (c : Nat) (inc : Bool) (ws : List (Wire W))
    (hw : ∀ w ∈ ws, w.node ∈ nodes.map (·.id)) : ∃ ls, wireLinks nodes c inc ws = .ok ls :=
  ⟨_, (wireLinks_ok ws _).mpr ⟨fun w h => idxOf_of_mem (hw w h), rfl⟩⟩

theorem ctrlNodes_total {nodes : List Node} (mods : List (Module W))
    (hm : ∀ m ∈ mods, (∀ w ∈ m.ins, w.node ∈ nodes.map (·.id)) ∧ (∀ w ∈ m.outs, w.node ∈ nodes.map (·.id))) :
    ∀ next, ∃ cs, ctrlNodes nodes mods next = .ok cs := by
  induction mods with
  | nil => intro next; exact ⟨[], rfl⟩
  | cons m ms ih =>
    intro next
    have ih' := ih (fun y hy => hm y (by simp [hy]))
    unfold ctrlNodes
    cases hen : m.en with
    | false => simpa using ih' next
    | true =>
      obtain ⟨ins, hin⟩ := wireLinks_total next true m.ins (hm m (by simp)).1
      obtain ⟨outs, hout⟩ := wireLinks_total next false m.outs (hm m (by simp)).2
      obtain ⟨cs, hcs⟩ := ih' (next + 1)
      simp [hin, hout, hcs]

theorem positions_isEmpty (p : Node → Bool) :
    ∀ (l : List Node) (k : Nat), l.any p = true → (positions p l k).isEmpty = false
  | [], _, h => by cases h
  | a :: l, k, h => by
    rw [positions]
    cases ha : p a with
    | true => rfl
    | false =>
      rw [List.any_cons, ha, Bool.false_or] at h
      exact positions_isEmpty p l (k + 1) h

theorem genesis_total {g : Genome W} (hok : Ok g) (netId : Int) (hg : g.genes.isEmpty = false)
    (ho : g.nodes.any (fun n => n.kind == Kind.output) = true) : ∃ net, genesis g netId = .ok net := by
  obtain ⟨tbl, hl⟩ := linkGenes_total g.genes hok.genes (g.nodes.map copyNode)
  obtain ⟨cs, hc⟩ := ctrlNodes_total g.modules hok.wires g.nodes.length
  have hpos := positions_isEmpty (fun n => n.kind == Kind.output) g.nodes 0 ho
  unfold genesis
  simp [hg, hpos, hl, hc]

end GoNeat.Genesis
