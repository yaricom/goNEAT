/-
  C13, standard network solver.  `Equiv`: equal except for the dead field `ActivationSum`.  `CellRel`: the laws of a
  relation on states under which every operation that reads live cells only carries related states to related states;
  the sweeps, `LoadSensors` and the reads of the outputs are done once for such a relation.  Instances: `R` (deadness of
  `ActivationSum`), `R` of the states cut down to `allNodes` (deadness of the control-node state,
  Proofs/SolverModFlush.lean), "the same state with `k` cells" (the operations keep the number of cells).
  Kind A: no arithmetic law is used (only `hz : lt 0 0 = false` for `FlushbackCheck`).
-/
import GoNeat.Proofs.SolverSim
import GoNeat.Proofs.ListLemmas

set_option linter.unusedSectionVars false

namespace GoNeat.Solver

variable {W : Type} [Scalar W]

theorem upd_eq_modify (s : St W) (i : Nat) (f : NState W → NState W) : upd s i f = s.modify i f := by
  induction s generalizing i with
  | nil => simp [upd]
  | cons a l ih =>
    cases i with
    | zero => simp [upd]
    | succ k => simp only [upd, ih, List.modify_succ_cons]

@[simp] theorem length_upd (s : St W) (i : Nat) (f : NState W → NState W) : (upd s i f).length = s.length := by
  rw [upd_eq_modify, List.length_modify]

theorem upd_ge (s : St W) (i : Nat) (f : NState W → NState W) (h : s.length ≤ i) : upd s i f = s := by
  rw [upd_eq_modify, List.modify_eq_self h]

theorem get_upd (s : St W) (i j : Nat) (f : NState W → NState W) :
    get (upd s i f) j = if i = j ∧ j < s.length then f (get s j) else get s j := by
  unfold get
  rw [upd_eq_modify, List.getD_eq_getElem?_getD, List.getD_eq_getElem?_getD, List.getElem?_modify]
  by_cases h : i = j
  · subst h
    by_cases hl : i < s.length
    · simp [hl]
    · simp [hl]
  · simp [h]

theorem get_upd_self (s : St W) (i : Nat) (f : NState W → NState W) (h : i < s.length) :
    get (upd s i f) i = f (get s i) := by
  rw [get_upd, if_pos ⟨rfl, h⟩]

theorem get_upd_ne (s : St W) (i j : Nat) (f : NState W → NState W) (h : j ≠ i) :
    get (upd s i f) j = get s j := by
  rw [get_upd, if_neg (fun hh => h hh.1.symm)]

theorem get_ge (s : St W) (i : Nat) (h : s.length ≤ i) : get s i = NState.fresh := by
  simp [get, List.getD, List.getElem?_eq_none h]

theorem get_upd_at (s : St W) (i : Nat) (f : NState W → NState W) :
    get (upd s i f) i = if i < s.length then f (get s i) else get s i := by
  rw [get_upd]
  simp only [true_and]

def node1 (net : Net W) (s : St W) (p : NNodeS W × Nat) : St W :=
  if p.1.isNeuron then sumNode net p.1 p.2 s else s

def node2 (σ : Nat → W → Option W) (s : St W) (p : NNodeS W × Nat) : St W × Option Err :=
  if p.1.isNeuron && (get s p.2).isActive then
    match σ p.1.act (get s p.2).sum with
    | none => (s, some .unknownAct)
    | some out => (upd s p.2 (setActivation out), none)
  else (s, none)

theorem sweep1Aux_eq (net : Net W) (rest : List (NNodeS W)) (i : Nat) (s : St W) :
    sweep1Aux net rest i s = (rest.zipIdx i).foldl (node1 net) s := by
  induction rest generalizing i s with
  | nil => rfl
  | cons nd rest ih => rw [sweep1Aux, ih, List.zipIdx_cons, List.foldl_cons, node1]

theorem sweep2Aux_eq (σ : Nat → W → Option W) (rest : List (NNodeS W)) (i : Nat) (s : St W) :
    sweep2Aux σ rest i s = foldE (node2 σ) (rest.zipIdx i) s := by
  induction rest generalizing i s with
  | nil => rfl
  | cons nd rest ih =>
    rw [List.zipIdx_cons, foldE, seqE, sweep2Aux, node2]
    dsimp only
    split
    · cases σ nd.act (get s i).sum with
      | none => rfl
      | some out => exact ih _ _
    · exact ih _ _

theorem zipIdx_nodup {α : Type} (l : List α) : (l.zipIdx.map (·.2)).Nodup := by
  rw [List.zipIdx_map_snd]
  exact List.nodup_range' 1

/-- two node states agree on every field except `sum` (`ActivationSum`) -/
structure NEq (a b : NState W) : Prop where
  activation : a.activation = b.activation
  count : a.count = b.count
  last : a.last = b.last
  last2 : a.last2 = b.last2
  isActive : a.isActive = b.isActive
  visited : a.visited = b.visited

theorem NEq.refl (a : NState W) : NEq a a := ⟨rfl, rfl, rfl, rfl, rfl, rfl⟩

/-- states agree up to `sum`; on the cells in `S` the sums agree too.  (`R` for relation, not the result type `GoNeat.R` of
    Model/Rand.lean; `S` is a set of cell indices, not the state type `S` of Proofs/SolverSim.lean.) -/
def R (S : Nat → Prop) (s t : St W) : Prop :=
  s.length = t.length ∧ ∀ j, NEq (get s j) (get t j) ∧ (S j → (get s j).sum = (get t j).sum)

/-- the equivalence of C13: equal except for `ActivationSum` -/
def Equiv (s t : St W) : Prop := R (fun _ => False) s t

theorem R.mono {S S' : Nat → Prop} {s t : St W} (h : R S s t) (hs : ∀ j, S' j → S j) : R S' s t :=
  ⟨h.1, fun j => ⟨(h.2 j).1, fun hj => (h.2 j).2 (hs j hj)⟩⟩

theorem R.refl (S : Nat → Prop) (s : St W) : R S s s := ⟨rfl, fun _ => ⟨NEq.refl _, fun _ => rfl⟩⟩

theorem R_upd {S S' : Nat → Prop} {s t : St W} (h : R S s t) (i : Nat) (f g : NState W → NState W)
    (hS : ∀ j, j ≠ i → S' j → S j)
    (hne : NEq (f (get s i)) (g (get t i)))
    (hsum : S' i → (f (get s i)).sum = (g (get t i)).sum) :
    R S' (upd s i f) (upd t i g) := by
  refine ⟨by simp [h.1], fun j => ?_⟩
  by_cases hj : j = i
  · subst hj
    by_cases hl : j < s.length
    · rw [get_upd_self s j f hl, get_upd_self t j g (h.1 ▸ hl)]
      exact ⟨hne, hsum⟩
    · have hl' : s.length ≤ j := by omega
      rw [upd_ge s j f hl', upd_ge t j g (h.1 ▸ hl'), get_ge s j hl', get_ge t j (h.1 ▸ hl')]
      exact ⟨NEq.refl _, fun _ => rfl⟩
  · rw [get_upd_ne s i j f hj, get_upd_ne t i j g hj]
    exact ⟨(h.2 j).1, fun hs => (h.2 j).2 (hS j hj hs)⟩

theorem activeOut_congr {a b : NState W} (h : NEq a b) : activeOut a = activeOut b := by
  simp [activeOut, h.count, h.activation]

theorem activeOutTd_congr {a b : NState W} (h : NEq a b) : activeOutTd a = activeOutTd b := by
  simp [activeOutTd, h.count, h.last]

def NCong (f : NState W → NState W) : Prop :=
  ∀ a b, (NEq a b → NEq (f a) (f b)) ∧ (a.sum = b.sum → (f a).sum = (f b).sum)

theorem R_upd_same {S : Nat → Prop} {s t : St W} (h : R S s t) (i : Nat) {f : NState W → NState W} (hf : NCong f) :
    R S (upd s i f) (upd t i f) :=
  R_upd h i f f (fun _ _ hs => hs) ((hf _ _).1 (h.2 i).1) (fun hs => (hf _ _).2 ((h.2 i).2 hs))

theorem NCong_sensorLoad (v : W) : NCong (sensorLoad v) :=
  fun _ _ => ⟨fun h => ⟨rfl, by simp [sensorLoad, h.count], h.activation, h.last, h.isActive, h.visited⟩, id⟩

theorem NCong_setActivation (v : W) : NCong (setActivation v) :=
  fun _ _ => ⟨fun h => ⟨rfl, by simp [setActivation, h.count], h.activation, h.last, h.isActive, h.visited⟩, id⟩

theorem NCong_isActive (b : Bool) : NCong (fun x : NState W => { x with isActive := b }) :=
  fun _ _ => ⟨fun h => ⟨h.activation, h.count, h.last, h.last2, rfl, h.visited⟩, id⟩

theorem NCong_addSum (v : W) : NCong (fun x : NState W => { x with sum := Scalar.add x.sum v }) :=
  fun _ _ => ⟨fun h => ⟨h.activation, h.count, h.last, h.last2, h.isActive, h.visited⟩,
    fun h => congrArg (Scalar.add · v) h⟩

def updAll (L : List (Nat × (NState W → NState W))) (s : St W) : St W := L.foldl (fun s p => upd s p.1 p.2) s

@[simp] theorem length_updAll (L : List (Nat × (NState W → NState W))) (s : St W) : (updAll L s).length = s.length := by
  induction L generalizing s with
  | nil => rfl
  | cons p L ih => simp [updAll, List.foldl_cons] at ih ⊢; rw [ih]; simp

/-- `f` puts sensor values in by a list of writes that, like its error, does not depend on the state; without an
    error every sensor among `is` is written -/
def Loads (net : Net W) (is : List Nat) (f : St W → St W × Option Err) : Prop :=
  ∃ (L : List (Nat × W)) (e : Option Err),
    (∀ s, f s = (updAll (L.map fun p => (p.1, sensorLoad p.2)) s, e)) ∧
    (e = none → ∀ i ∈ is, isSensorAt net i = true → i ∈ L.map (·.1))

theorem Loads.nil (net : Net W) (is : List Nat) (e : Option Err) (he : e ≠ none ∨ is = []) :
    Loads net is (fun s => (s, e)) :=
  ⟨[], e, fun _ => rfl, fun h i hi => by
    rcases he with he | he
    · exact absurd h he
    · rw [he] at hi; exact absurd hi List.not_mem_nil⟩

theorem Loads.write {net : Net W} {is : List Nat} {f : St W → St W × Option Err} (h : Loads net is f) (i : Nat) (x : W) :
    Loads net (i :: is) (fun s => f (upd s i (sensorLoad x))) := by
  obtain ⟨L, e, h1, h2⟩ := h
  refine ⟨(i, x) :: L, e, fun s => h1 _, fun he j hj hjs => ?_⟩
  rcases List.mem_cons.mp hj with rfl | hj
  · exact List.mem_cons_self ..
  · exact List.mem_cons_of_mem _ (h2 he j hj hjs)

theorem Loads.skip {net : Net W} {is : List Nat} {f : St W → St W × Option Err} (h : Loads net is f) {i : Nat}
    (hs : ¬ isSensorAt net i = true) : Loads net (i :: is) f := by
  obtain ⟨L, e, h1, h2⟩ := h
  refine ⟨L, e, h1, fun he j hj hjs => ?_⟩
  rcases List.mem_cons.mp hj with rfl | hj
  · exact absurd hjs hs
  · exact h2 he j hj hjs

theorem loadEq_eq (net : Net W) (is : List Nat) (xs : List W) : Loads net is (loadEq net is xs) := by
  induction is generalizing xs with
  | nil => exact Loads.nil net [] none (Or.inr rfl)
  | cons i rest ih =>
    by_cases hs : isSensorAt net i = true
    · cases xs with
      | nil =>
        simp only [loadEq, hs, if_true]
        exact Loads.nil net _ _ (Or.inl (by simp))
      | cons x xs' =>
        simp only [loadEq, hs, if_true]
        exact (ih xs').write i x
    · simp only [loadEq, hs]
      exact (ih xs).skip hs

theorem loadNe_eq (net : Net W) (is : List Nat) (xs : List W) : Loads net is (loadNe net is xs) := by
  induction is generalizing xs with
  | nil => exact Loads.nil net [] none (Or.inr rfl)
  | cons i rest ih =>
    by_cases hk : (kindAt net i == some Kind.input) = true
    · cases xs with
      | nil =>
        simp only [loadNe, hk, if_true]
        exact Loads.nil net _ _ (Or.inl (by simp))
      | cons x xs' =>
        simp only [loadNe, hk, if_true]
        exact (ih xs').write i x
    · by_cases hs : isSensorAt net i = true
      · simp only [loadNe, hk, hs, if_true]
        exact (ih xs).write i Scalar.one
      · simp only [loadNe, hk, hs]
        exact (ih xs).skip hs

theorem loadSensors_eq (net : Net W) (xs : List W) : Loads net net.inputs (loadSensors net xs) := by
  unfold loadSensors
  split
  · exact loadEq_eq net net.inputs xs
  · exact loadNe_eq net net.inputs xs

theorem NCong_loads (L : List (Nat × W)) : ∀ p ∈ L.map fun p => (p.1, sensorLoad p.2), NCong p.2 := by
  intro p hp
  obtain ⟨q, _, rfl⟩ := List.mem_map.mp hp
  exact NCong_sensorLoad q.2

/-- A family `Rel S` of relations on states under which every operation carries related states to related states,
    provided it reads `live` cells only.  The index `S` is the set of cells whose SUMS are known to be related (as in
    `R S`): `Rel S` survives equal writes; resetting the sum of a cell on both sides adds the cell to `S`; related states
    agree, up to `ActivationSum`, on the `live` cells - on `S` in `ActivationSum` too.  A call starts knowing no sum, so
    every call is proved for `Rel (fun _ => False)` (`step_rel`); `S` grows only inside a pass of the sweeps (`sweeps12`). -/
structure CellRel (Rel : (Nat → Prop) → St W → St W → Prop) (live : Nat → Prop) : Prop where
  mono : ∀ {S S' : Nat → Prop} {s t : St W}, Rel S s t → (∀ j, S' j → S j) → Rel S' s t
  write : ∀ {S : Nat → Prop} {s t : St W} (i : Nat) {f : NState W → NState W}, NCong f → Rel S s t →
    Rel S (upd s i f) (upd t i f)
  reset : ∀ {S : Nat → Prop} {s t : St W} (i : Nat), Rel S s t →
    Rel (fun j => S j ∨ j = i) (upd s i fun x => { x with sum := Scalar.zero }) (upd t i fun x => { x with sum := Scalar.zero })
  neq : ∀ {S : Nat → Prop} {s t : St W} {j : Nat}, Rel S s t → live j → NEq (get s j) (get t j)
  sum : ∀ {S : Nat → Prop} {s t : St W} {j : Nat}, Rel S s t → live j → S j → (get s j).sum = (get t j).sum

theorem R_cellRel : CellRel (R (W := W)) (fun _ => True) where
  mono := R.mono
  write := fun i _ hf h => R_upd_same h i hf
  reset := fun i h => R_upd h i _ _ (fun _ hj hs => hs.resolve_right hj)
    ⟨(h.2 i).1.activation, (h.2 i).1.count, (h.2 i).1.last, (h.2 i).1.last2, (h.2 i).1.isActive, (h.2 i).1.visited⟩
    (fun _ => rfl)
  neq := fun h _ => (h.2 _).1
  sum := fun h _ hs => (h.2 _).2 hs

theorem len_cellRel (k : Nat) : CellRel (fun _ (s t : St W) => s = t ∧ s.length = k) (fun _ => True) where
  mono := fun h _ => h
  write := fun i _ _ h => ⟨by rw [h.1], by rw [length_upd, h.2]⟩
  reset := fun i h => ⟨by rw [h.1], by rw [length_upd, h.2]⟩
  neq := fun h _ => h.1 ▸ NEq.refl _
  sum := fun h _ _ => by rw [h.1]

structure Reads (net : Net W) (live : Nat → Prop) : Prop where
  idx : ∀ j, j < net.nodes.length → live j
  nodes : ∀ nd ∈ net.nodes, nd.isNeuron = true → ∀ l ∈ nd.incoming, live l.src
  ctrl : ∀ cn ∈ net.ctrl, ∀ l ∈ cn.incoming, live l.src
  outs : ∀ o ∈ net.outputs, live o

theorem Reads.all (net : Net W) : Reads net (fun _ => True) :=
  ⟨fun _ _ => trivial, fun _ _ _ _ _ => trivial, fun _ _ _ _ => trivial, fun _ _ => trivial⟩

namespace CellRel
variable {Rel : (Nat → Prop) → St W → St W → Prop} {live : Nat → Prop} (L : CellRel Rel live) {S : Nat → Prop} {s t : St W}
include L

theorem linkStep (net : Net W) (i : Nat) (l : NLink W) (hl : live l.src) (h : Rel S s t) :
    Rel S (Solver.linkStep net i s l) (Solver.linkStep net i t l) := by
  have hsrc := L.neq h hl
  unfold Solver.linkStep
  simp only [activeOut_congr hsrc, activeOutTd_congr hsrc, hsrc.isActive]
  split
  · apply L.write i (NCong_addSum _)
    split
    · exact L.write i (NCong_isActive true) h
    · exact h
  · exact L.write i (NCong_addSum _) h

theorem node1 (net : Net W) (p : NNodeS W × Nat) (hp : p.1.isNeuron = true → ∀ l ∈ p.1.incoming, live l.src)
    (h : Rel S s t) :
    Rel (fun j => S j ∨ (p.1.isNeuron = true ∧ j = p.2)) (Solver.node1 net s p) (Solver.node1 net t p) := by
  unfold Solver.node1
  split
  · next hn =>
    refine L.mono ?_ (fun j hj => hj.imp id (fun hh => hh.2))
    unfold sumNode
    exact Sim.foldl (Rel := Rel _) p.1.incoming (fun l hl _ _ => L.linkStep net p.2 l (hp hn l hl)) (L.reset p.2 h)
  · next hn => exact L.mono h (fun j hj => hj.elim id (fun hh => absurd hh.1 hn))

theorem foldl_node1 (net : Net W) (l : List (NNodeS W × Nat))
    (hl : ∀ p ∈ l, p.1.isNeuron = true → ∀ lk ∈ p.1.incoming, live lk.src) (h : Rel S s t) :
    Rel (fun j => S j ∨ ∃ p ∈ l, p.1.isNeuron = true ∧ j = p.2) (l.foldl (Solver.node1 net) s)
      (l.foldl (Solver.node1 net) t) := by
  induction l generalizing S s t with
  | nil => exact L.mono h (fun j hj => hj.elim id (fun ⟨_, hm, _⟩ => absurd hm List.not_mem_nil))
  | cons p l ih =>
    refine L.mono (ih (fun q hq => hl q (List.mem_cons_of_mem _ hq)) (L.node1 net p (hl p (List.mem_cons_self ..)) h)) ?_
    rintro j (hj | ⟨q, hq, hh⟩)
    · exact Or.inl (Or.inl hj)
    · rcases List.mem_cons.mp hq with rfl | hq
      · exact Or.inl (Or.inr hh)
      · exact Or.inr ⟨q, hq, hh⟩

theorem node2 (σ : Nat → W → Option W) (p : NNodeS W × Nat) (hl : live p.2) (hS : p.1.isNeuron = true → S p.2) :
    Respects (Rel S) (fun s => Solver.node2 σ s p) := by
  intro s t h
  show Rel S (Solver.node2 σ s p).1 (Solver.node2 σ t p).1 ∧ (Solver.node2 σ s p).2 = (Solver.node2 σ t p).2
  unfold Solver.node2
  rw [(L.neq h hl).isActive]
  split
  · next hc =>
    have hn : p.1.isNeuron = true := by simp only [Bool.and_eq_true] at hc; exact hc.1
    rw [L.sum h hl (hS hn)]
    cases σ p.1.act (get t p.2).sum with
    | none => exact ⟨h, rfl⟩
    | some out => exact ⟨L.write p.2 (NCong_setActivation out) h, rfl⟩
  · exact ⟨h, rfl⟩

/-- the first two sweeps (link sources looked up in `lk`): after the first the sums of the neurons are related, so the
    second, which reads the sums of neurons only, acts alike on both sides -/
theorem sweeps12 (lk net : Net W) (σ : Nat → W → Option W) (hi : ∀ j, j < net.nodes.length → live j)
    (hn : ∀ nd ∈ net.nodes, nd.isNeuron = true → ∀ l ∈ nd.incoming, live l.src) :
    Respects (Rel fun _ => False) (fun s => sweep2 net σ (sweep1Aux lk net.nodes 0 s)) := by
  intro s t h
  have hmem : ∀ p ∈ net.nodes.zipIdx, net.nodes[p.2]? = some p.1 := fun p hp => List.mem_zipIdx_iff_getElem?.mp hp
  have h1 := L.foldl_node1 lk net.nodes.zipIdx (fun p hp => hn p.1 (List.mem_of_getElem? (hmem p hp))) h
  have := Sim.fold net.nodes.zipIdx (fun p hp => L.node2 σ p (hi p.2 (List.getElem?_eq_some_iff.mp (hmem p hp)).1)
    (fun hn' => Or.inr ⟨p, hp, hn', rfl⟩)) _ _ h1
  simp only [sweep2, sweep1Aux_eq, sweep2Aux_eq]
  exact ⟨L.mono this.1 (fun _ hf => hf.elim), this.2⟩

theorem updAll (K : List (Nat × (NState W → NState W))) (hK : ∀ p ∈ K, NCong p.2) (h : Rel S s t) :
    Rel S (Solver.updAll K s) (Solver.updAll K t) := by
  induction K generalizing s t with
  | nil => exact h
  | cons p K ih =>
    exact ih (fun q hq => hK q (List.mem_cons_of_mem _ hq)) (L.write p.1 (hK p (List.mem_cons_self ..)) h)

theorem loadSensors (net : Net W) (xs : List W) : Respects (Rel S) (Solver.loadSensors net xs) := by
  obtain ⟨K, e, hK, _⟩ := loadSensors_eq net xs
  intro s t h
  rw [hK s, hK t]
  exact ⟨L.updAll _ (NCong_loads K) h, rfl⟩

theorem outputIsOff (net : Net W) (ho : ∀ o ∈ net.outputs, live o) (h : Rel S s t) :
    Solver.outputIsOff net s = Solver.outputIsOff net t :=
  any_congr_mem _ _ _ fun o hm => by rw [(L.neq h (ho o hm)).count]

theorem readOutputs (net : Net W) (ho : ∀ o ∈ net.outputs, live o) (h : Rel S s t) :
    Solver.readOutputs net s = Solver.readOutputs net t :=
  List.map_congr_left fun o hm => by rw [(L.neq h (ho o hm)).activation]

end CellRel

theorem actLoop_eq (net : Net W) (σ : Nat → W → Option W) (n : Int) :
    actLoop net σ n = actLoopG (outputIsOff net) (fun s => sweep2 net σ (sweep1 net s)) n := by
  funext fuel
  induction fuel with
  | zero => rfl
  | succ fuel ih =>
    funext abort one s
    simp only [actLoop, actLoopG, ih]
    rcases sweep2 net σ (sweep1 net s) with ⟨s2, _ | e⟩ <;> rfl

theorem activateSteps_eq (net : Net W) (σ : Nat → W → Option W) :
    activateSteps net σ = activateStepsG (outputIsOff net) (fun s => sweep2 net σ (sweep1 net s)) := by
  funext n s
  simp only [activateSteps, activateStepsG, actLoop_eq]

theorem fwdLoop_eq (net : Net W) (σ : Nat → W → Option W) (n : Int) :
    fwdLoop net σ n = iterE (activateSteps net σ n) (fun _ => false) :=
  iterE_unique (fun _ _ => rfl) fun k res s => by
    rw [fwdLoop]
    rcases activateSteps net σ n s with ⟨s', r, _ | e⟩ <;> rfl

def depthOf (net : Net W) (s : St W) : St W × Int :=
  (setVisited s (maxDepth net (s.map (·.visited))).2, ((maxDepth net (s.map (·.visited))).1 : Int))

theorem step_eq (net : Net W) (σ : Nat → W → Option W) :
    step net σ = stdStep (outputIsOff net) (fun s => sweep2 net σ (sweep1 net s)) (loadSensors net) none (depthOf net) flush := by
  funext s op
  cases op <;> simp only [step, stdStep, depthOf, recursiveSteps, forwardSteps, forwardStepsG, fwdLoop_eq, activateSteps_eq]
  -- what is left is the `RecursiveSteps` case
  rfl

theorem isRun (net : Net W) (σ : Nat → W → Option W) : IsRun (withObs (readOutputs net) (step net σ)) (run net σ) :=
  ⟨fun _ => rfl, fun _ _ _ => rfl⟩

theorem step_rel {Rel : (Nat → Prop) → St W → St W → Prop} {live : Nat → Prop} (L : CellRel Rel live) {net : Net W}
    (hr : Reads net live) (σ : Nat → W → Option W) (hdepth : Respects (Rel fun _ => False) (depthOf net))
    (hflush : Respects (Rel fun _ => False) (flush (W := W))) (op : Op W) :
    Respects (Rel fun _ => False) (fun s => step net σ s op) := by
  rw [step_eq]
  exact Sim.stdStep (fun _ _ h => L.outputIsOff net hr.outs h) (L.sweeps12 net net σ hr.idx hr.nodes) (L.loadSensors net)
    (fun _ => hdepth) hflush op

theorem Equiv_cons {a b : NState W} {s t : St W} : Equiv (a :: s) (b :: t) ↔ NEq a b ∧ Equiv s t :=
  ⟨fun h => ⟨(h.2 0).1, Nat.succ.inj h.1, fun j => h.2 (j + 1)⟩,
   fun h => ⟨congrArg Nat.succ h.2.1, fun j =>
     match j with
     | 0 => ⟨h.1, False.elim⟩
     | k + 1 => h.2.2 k⟩⟩

theorem Equiv_nil_left {t : St W} (h : Equiv ([] : St W) t) : t = [] := by
  have := h.1
  cases t with
  | nil => rfl
  | cons b t => simp at this

namespace Equiv

theorem ind {motive : St W → St W → Prop} (nil : motive [] [])
    (cons : ∀ a b s t, NEq a b → Equiv s t → motive s t → motive (a :: s) (b :: t)) {s t : St W} (h : Equiv s t) :
    motive s t := by
  induction s generalizing t with
  | nil => rw [Equiv_nil_left h]; exact nil
  | cons a s ih =>
    cases t with
    | nil => have := h.1; simp at this
    | cons b t =>
      rw [Equiv_cons] at h
      exact cons a b s t h.1 h.2 (ih h.2)

end Equiv

theorem Equiv_visited {s t : St W} (h : Equiv s t) : s.map (·.visited) = t.map (·.visited) :=
  h.ind (motive := fun s t => s.map (·.visited) = t.map (·.visited)) rfl
    (fun a b s t hab _ ih => by simp only [List.map_cons, hab.visited, ih])

theorem setVisited_congr (v : List Bool) {s t : St W} (h : Equiv s t) : Equiv (setVisited s v) (setVisited t v) := by
  refine Equiv.ind (motive := fun s t => ∀ v, Equiv (setVisited s v) (setVisited t v)) (fun _ => R.refl _ _) ?_ h v
  intro a b s t hab hst ih v
  cases v with
  | nil => exact Equiv_cons.mpr ⟨hab, hst⟩
  | cons c v =>
    exact Equiv_cons.mpr ⟨⟨hab.activation, hab.count, hab.last, hab.last2, hab.isActive, rfl⟩, ih v⟩

theorem Equiv_map {f g : NState W → NState W} (hf : ∀ a b, NEq a b → NEq (f a) (g b)) {s t : St W} (h : Equiv s t) :
    Equiv (s.map f) (t.map g) :=
  h.ind (motive := fun s t => Equiv (s.map f) (t.map g)) (R.refl _ _)
    (fun a b _ _ hab _ ih => Equiv_cons.mpr ⟨hf a b hab, ih⟩)


theorem flushCheckFails_flushback (hz : Scalar.lt (Scalar.zero : W) Scalar.zero = false) (a : NState W) :
    flushCheckFails (flushback a) = false := by
  simp [flushCheckFails, flushback, hz]

theorem flushAux_eq (hz : Scalar.lt (Scalar.zero : W) Scalar.zero = false) (s : St W) :
    flushAux s = (s.map flushback, true, none) := by
  induction s with
  | nil => rfl
  | cons a s ih => simp [flushAux, flushCheckFails_flushback hz, ih]

theorem flushback_fresh (a b : NState W) : NEq (flushback a) (flushback b) ∧ NEq (flushback a) NState.fresh :=
  ⟨⟨rfl, rfl, rfl, rfl, rfl, rfl⟩, ⟨rfl, rfl, rfl, rfl, rfl, rfl⟩⟩

theorem flush_congr (hz : Scalar.lt (Scalar.zero : W) Scalar.zero = false) : Respects Equiv (flush (W := W)) := by
  intro s t h
  unfold flush
  rw [flushAux_eq hz, flushAux_eq hz]
  exact ⟨Equiv_map (fun a b _ => (flushback_fresh a b).1) h, rfl⟩

theorem flush_equiv_fresh (hz : Scalar.lt (Scalar.zero : W) Scalar.zero = false) {α : Type} (l : List α) (s : St W)
    (h : s.length = l.length) :
    (flush s).2 = (true, none) ∧ Equiv (flush s).1 (l.map fun _ => NState.fresh) := by
  unfold flush
  rw [flushAux_eq hz]
  refine ⟨rfl, ?_⟩
  have : (l.map fun _ => (NState.fresh : NState W)) = s.map fun _ => NState.fresh := by
    rw [List.map_const', List.map_const', h]
  rw [this]
  exact Equiv_map (fun a _ _ => (flushback_fresh a a).2) (R.refl _ s)

theorem length_linkStep (net : Net W) (i : Nat) (s : St W) (l : NLink W) :
    (linkStep net i s l).length = s.length :=
  ((len_cellRel s.length).linkStep (S := fun _ => False) net i l trivial ⟨rfl, rfl⟩).2

theorem length_foldl_linkStep (net : Net W) (i : Nat) (ls : List (NLink W)) (s : St W) :
    (ls.foldl (linkStep net i) s).length = s.length := by
  induction ls generalizing s with
  | nil => rfl
  | cons l ls ih => simp only [List.foldl_cons, ih, length_linkStep]

theorem length_setVisited (s : St W) (v : List Bool) : (setVisited s v).length = s.length := by
  induction s generalizing v with
  | nil => rfl
  | cons a s ih => cases v <;> simp [setVisited, ih]

theorem length_flushAux (s : St W) : (flushAux s).1.length = s.length := by
  induction s with
  | nil => rfl
  | cons a s ih =>
    unfold flushAux
    simp only
    split
    · rfl
    · simp [ih]

theorem length_step (net : Net W) (σ : Nat → W → Option W) (s : St W) (op : Op W) :
    (step net σ s op).1.length = s.length :=
  (step_rel (len_cellRel s.length) (Reads.all net) σ (sim_of_pres fun _ h => (length_setVisited ..).trans h)
    (sim_of_pres fun a h => (length_flushAux a).trans h) op s s ⟨rfl, rfl⟩).1.2

theorem readOutputs_congr (net : Net W) {s t : St W} (h : Equiv s t) : readOutputs net s = readOutputs net t :=
  R_cellRel.readOutputs net (fun _ _ => trivial) h

theorem step_congr (hz : Scalar.lt (Scalar.zero : W) Scalar.zero = false) (net : Net W) (σ : Nat → W → Option W)
    (op : Op W) : Respects Equiv (fun s => step net σ s op) :=
  step_rel R_cellRel (Reads.all net) σ (fun s t h => by
    simp only [depthOf, Equiv_visited h]
    exact ⟨setVisited_congr _ h, trivial⟩) (flush_congr hz) op

/-- C13 for the standard solver: `ActivationSum` is dead, histories keep one entry per node, `Flush` of such a state
    is the fresh state up to `ActivationSum` -/
theorem flushFresh (hz : Scalar.lt (Scalar.zero : W) Scalar.zero = false) (net : Net W) (σ : Nat → W → Option W) :
    FlushFresh (withObs (readOutputs net) (step net σ)) (run net σ) flush (init net) Equiv
      (fun s => s.length = net.nodes.length) (true, none) where
  isRun := isRun net σ
  congr := Sim.withObs (step_congr hz net σ) (fun _ _ h => readOutputs_congr net h)
  keeps := fun op s h => (length_step net σ s op).trans h
  fresh := by simp [init]
  flush := fun s h => flush_equiv_fresh hz net.nodes s h

end GoNeat.Solver
