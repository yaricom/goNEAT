/-
  Helper lemmas for property C03: the copy operators (duplicate, the three crossovers) introduce no new binding -
  every gene of the result carries `(inn, src, dst, recur)` of a gene of an input genome, every node `(id, kind)` of
  a node of an input genome.  For the crossovers this is the provenance half of C01's invariant of the child under
  construction (`C01.Prov`, `C01.FromParents`), which `addChosen` of a `C01.Legit` pick keeps whatever the parents look
  like (`C01.addChosen_prov`, Proofs/WFMate); the averaged gene takes each endpoint and the flag from either parent, which are equal because the parents'
  bindings are consistent.  No well-formedness hypothesis.
-/
import GoNeat.Proofs.WFMate2

set_option linter.unusedSectionVars false

namespace GoNeat.C03
open GoNeat Scalar
variable {W : Type} [Scalar W]

theorem dupGenes_binds (traits : List (Trait W)) (nodes : List Node) (l l' : List (Gene W))
    (h : dupGenes traits nodes l = .ok l') : l'.map geneBind = l.map geneBind := by
  obtain ⟨_, rfl⟩ := (C06.dupGenes_ok_iff traits nodes l l').mp h
  rw [List.map_map]; rfl

theorem duplicate_binds (g g' : Genome W) (id : Int) (h : g.duplicate id = .ok g') :
    g'.genes.map geneBind = g.genes.map geneBind ∧ g'.nodes.map nodeRole = g.nodes.map nodeRole := by
  unfold Genome.duplicate at h
  simp only at h
  split at h
  · cases h
  · rename_i genes hg
    split at h
    · cases h
    · simp only [Except.ok.injEq] at h
      subst h
      refine ⟨dupGenes_binds _ _ _ _ hg, ?_⟩
      simp only [List.map_map]
      rfl

end GoNeat.C03

namespace GoNeat.C01
open GoNeat Scalar C04
variable {W : Type} [Scalar W] {ε : Type}

theorem crossover_prov {g og : Genome W} {id : Int} {plan : Rand (List ε)} {pick : ε → Rand (Chosen W × Bool)}
    {rs rs' : List Nat} {c : Genome W} (h : crossover g og id plan pick rs = .ok (c, rs'))
    (hL : ∀ es r r', plan r = .ok (es, r') → ∀ e ∈ es, ∀ c dis r r', pick e r = .ok ((c, dis), r') → Legit g og c) :
    (∀ x ∈ c.genes, Prov g og x) ∧ ∀ m ∈ c.nodes, FromParents g og m := by
  obtain ⟨nt, t0, io, es, rs1, acc, hpro, hpl, hw, rfl⟩ := crossover_ok h
  have h0 : ProvInv g og { nodes := io, genes := [] } := ⟨(fun _ h => nomatch h), fun m hm => by
    rcases (mem_ioNodes (matePrologue_exact g og nt t0 io hpro).2.2.1 m).mp hm with h' | ⟨n, hn, _, rfl⟩
    · cases h'
    · exact ⟨n, Or.inr hn, rfl, rfl⟩⟩
  have := walkR_ind (P := ProvInv g og) (S := Legit g og) hw (hL es rs rs1 hpl)
    (fun c dis a a' hc hp he => addChosen_prov c dis a a' hc hp he) h0
  exact ⟨this.genes, this.nodes⟩

end GoNeat.C01

namespace GoNeat.C03
open GoNeat Scalar C04 C01
variable {W : Type} [Scalar W]

omit [Scalar W] in
theorem prov_bind {P : List Bind} (hP : ConsistentB P) {p1 p2 : Genome W} (hp1 : ∀ b ∈ p1.genes.map geneBind, b ∈ P)
    (hp2 : ∀ b ∈ p2.genes.map geneBind, b ∈ P) {x : Gene W} (h : Prov p1 p2 x) : geneBind x ∈ P := by
  obtain ⟨y1, y2, y3, m1, m2, m3, i1, i2, i3, s, d, r⟩ := h
  have mem : ∀ y : Gene W, (y ∈ p1.genes ∨ y ∈ p2.genes) → geneBind y ∈ P := fun y hy =>
    hy.elim (fun h => hp1 _ (List.mem_map_of_mem h)) (fun h => hp2 _ (List.mem_map_of_mem h))
  have e2 := hP _ (mem y1 m1) _ (mem y2 m2) (i1.trans i2.symm)
  have e3 := hP _ (mem y1 m1) _ (mem y3 m3) (i1.trans i3.symm)
  simp only [geneBind, Prod.mk.injEq] at e2 e3
  have : geneBind x = geneBind y1 := by
    simp only [geneBind, Prod.mk.injEq]
    exact ⟨i1.symm, s, d.trans e2.2.2.1.symm, r.trans e3.2.2.2.symm⟩
  exact this ▸ mem y1 m1

theorem mate_from {P : List Bind} {Q : List Role} (hP : ConsistentB P) (g og : Genome W) (id : Int) (f1 f2 : W)
    (rs rs' : List Nat) (c : Genome W)
    (hp1 : ∀ b ∈ g.genes.map geneBind, b ∈ P) (hq1 : ∀ r ∈ g.nodes.map nodeRole, r ∈ Q)
    (hp2 : ∀ b ∈ og.genes.map geneBind, b ∈ P) (hq2 : ∀ r ∈ og.nodes.map nodeRole, r ∈ Q) :
    (mateMultipoint g og id f1 f2 rs = .ok (c, rs') → (∀ b ∈ c.genes.map geneBind, b ∈ P) ∧ (∀ r ∈ c.nodes.map nodeRole, r ∈ Q)) ∧
    (mateMultipointAvg g og id f1 f2 rs = .ok (c, rs') → (∀ b ∈ c.genes.map geneBind, b ∈ P) ∧ (∀ r ∈ c.nodes.map nodeRole, r ∈ Q)) ∧
    (mateSinglePoint g og id rs = .ok (c, rs') → (∀ b ∈ c.genes.map geneBind, b ∈ P) ∧ (∀ r ∈ c.nodes.map nodeRole, r ∈ Q)) := by
  have fin : ((∀ x ∈ c.genes, Prov g og x) ∧ ∀ m ∈ c.nodes, FromParents g og m) →
      (∀ b ∈ c.genes.map geneBind, b ∈ P) ∧ (∀ r ∈ c.nodes.map nodeRole, r ∈ Q) := fun ⟨hg, hn⟩ =>
    ⟨fun b hb => by obtain ⟨x, hx, rfl⟩ := List.mem_map.mp hb; exact prov_bind hP hp1 hp2 (hg x hx),
     fun r hr => by
      obtain ⟨m, hm, rfl⟩ := List.mem_map.mp hr
      obtain ⟨n, hn', e1, e2⟩ := hn m hm
      have : nodeRole m = nodeRole n := by unfold nodeRole; rw [e1, e2]
      exact this ▸ hn'.elim (fun h => hq1 _ (List.mem_map_of_mem h)) (fun h => hq2 _ (List.mem_map_of_mem h))⟩
  exact ⟨fun h => fin (crossover_prov (mateMultipoint_eq g og id f1 f2 ▸ h) (mp_picksLegit fun _ hx _ hy heq => plainPair_legit hx hy heq)),
    fun h => fin (crossover_prov (mateMultipointAvg_eq g og id f1 f2 ▸ h) (mp_picksLegit fun _ hx _ hy heq => avgPair_legit hx hy heq)),
    fun h => fin (crossover_prov (mateSinglePoint_eq g og id ▸ h) (sp_picksLegit g og))⟩

end GoNeat.C03
