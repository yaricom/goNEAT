/-
  C02 "without error" for the operators of the sequential model that touch the innovation registry: the three structural
  mutators, `mutateBaby`, `reproduceOne`, `reproduceLoop`, `reproduceSpecies`, `reproduceAll`.

  A sequential operator is its program of Model/ParEpoch.lean run back to back on one registry (`mutateAddLinkP_run` …
  `reproduceSpeciesP_run`, Proofs/ParFrameAtomic.lean), that is: the program under the empty interference.  What holds of
  the program under EVERY interference (`PSafe`, Proofs/ParNoError.lean and Proofs/ParNoErrorSpecies.lean) therefore
  holds of the operator: `PSafe.run` reads it off, `OkV.packM/packS/packB` bring it into the operator's result type.

  A goroutine breeds from the prepared population only, never from another baby, so the pool `P0` and its registry `reg0`
  in the `_start` lemmas are those of the START of the reproduction phase and stay fixed while the registry `reg` grows.
  The lemmas after them add the C01 pool invariant of the grown pool (`mutateBaby_closed` … `reproduceAll_closed`).
  Kind A (float facts `UnitMulLe`, `PickLaw` explicit).
-/
import GoNeat.Proofs.ParNoErrorSpecies
import GoNeat.Proofs.ParFrameAtomic

set_option linter.unusedSectionVars false

namespace GoNeat.C16
open GoNeat Scalar GoNeat.NoErr
variable {W : Type} [Scalar W] {V : Prop}

theorem OkV.packM {T : Nat} {Q : Genome W × Bool → Prop} {x : MRes W × Reg W} (h : OkV Q V x.1 ∧ TraitRecs T x.2.records) :
    Safe (fun r => RecTraits T r.2.1 ∧ Q (r.1, r.2.2)) (packM x) := by
  obtain ⟨e | ⟨⟨g', b⟩, rs'⟩, reg'⟩ := x
  · exact h.1.safe_error
  · exact ⟨h.2, h.1.1⟩

/-- `Q` speaks of the babies and counters of the running state, not of its `reg` field, which `packS` fills in -/
theorem OkV.packS {T : Nat} {Q : ReproState W → Prop} (hQ : ∀ st r, Q st → Q { st with reg := r }) {x : SRes W × Reg W}
    (h : OkV Q V x.1 ∧ TraitRecs T x.2.records) : Safe (fun st' => RecTraits T st'.reg ∧ Q st') (packS x) := by
  obtain ⟨e | ⟨st', rs'⟩, reg'⟩ := x
  · exact h.1.safe_error
  · exact ⟨h.2, hQ _ _ h.1.1⟩

theorem OkV.packB {T : Nat} {Q : List (Org W) × Nat → Prop} {x : BRes W × Reg W} (h : OkV Q V x.1 ∧ TraitRecs T x.2.records) :
    Safe (fun r => RecTraits T r.2.1 ∧ Q (r.1, r.2.2)) (packB x) := by
  obtain ⟨e | ⟨⟨bs, uid⟩, rs'⟩, reg'⟩ := x
  · exact h.1.safe_error
  · exact ⟨h.2, h.1.1⟩

end GoNeat.C16

namespace GoNeat.NoErr
open GoNeat Scalar GoNeat.C01 GoNeat.C16
variable {W : Type} [Scalar W]

def StructPost (g : Genome W) (r : Genome W × Reg W × Bool) : Prop :=
  RecTraits g.traits.length r.2.1 ∧ r.1.traits = g.traits

theorem mutateAddLink_traits {g g' : Genome W} {reg reg' : Reg W} {o : MutOpts W} {rs rs' : List Nat} {b : Bool}
    (h : mutateAddLink g reg o rs = .ok ((g', reg', b), rs')) : g'.traits = g.traits := by
  rcases MutateLemmas.mutateAddLink_cases h with ⟨_, rfl, _⟩ | ⟨_, _, _, _, _, _, _, _, ht⟩
  · rfl
  · obtain ⟨x, rfl, _⟩ := ht.gene
    rfl

theorem mutateAddNode_traits {g g' : Genome W} {reg reg' : Reg W} {o : MutOpts W} {rs rs' : List Nat} {b : Bool}
    (h : mutateAddNode g reg o rs = .ok ((g', reg', b), rs')) : g'.traits = g.traits := by
  cases MutateLemmas.mutateAddNode_cases h <;> rfl

theorem mutateConnectSensors_traits {g g' : Genome W} {reg reg' : Reg W} {rs rs' : List Nat} {b : Bool}
    (h : mutateConnectSensors g reg rs = .ok ((g', reg', b), rs')) : g'.traits = g.traits := by
  rcases MutateLemmas.mutateConnectSensors_cases h with ⟨_, rfl, _⟩ | ⟨_, _, _, _, _, h⟩
  · rfl
  · exact (MutateLemmas.connectLoop_spec _ _ _ _ _ _ _ _ _ _ h).traits

theorem safe_mutateConnectSensors (g : Genome W) (reg : Reg W) (rs : List Nat)
    (hg : g.genes ≠ []) (ht : g.traits ≠ []) (hr : RecTraits g.traits.length reg) :
    Safe (StructPost g) (mutateConnectSensors g reg rs) :=
  Safe.and_ok (mutateConnectSensorsP_run g reg rs ▸
      OkV.packM ((mutateConnectSensorsP_safe (V := False) _ g rs False.elim hg ht rfl).run reg hr))
    (fun _ _ e hp => ⟨hp.1, mutateConnectSensors_traits e⟩)

theorem safe_mutateAddLink (g : Genome W) (reg : Reg W) (o : MutOpts W) (rs : List Nat)
    (hg : g.genes ≠ []) (hout : ∃ n ∈ g.nodes, n.kind = Kind.output) (hs : NodesSorted g.nodes)
    (ht : g.traits ≠ []) (hr : RecTraits g.traits.length reg) :
    Safe (StructPost g) (mutateAddLink g reg o rs) :=
  Safe.and_ok (mutateAddLinkP_run g reg o rs ▸
      OkV.packM ((mutateAddLinkP_safe (V := False) _ g o rs False.elim hg hout hs ht rfl).run reg hr))
    (fun _ _ e hp => ⟨hp.1, mutateAddLink_traits e⟩)

theorem safe_mutateAddNode (hlaw : UnitMulLe W) (g : Genome W) (reg : Reg W) (o : MutOpts W) (rs : List Nat) (hv : Valid rs)
    (ha : ActOk o) (ht : g.traits ≠ []) (hr : RecTraits g.traits.length reg) :
    Safe (StructPost g) (mutateAddNode g reg o rs) :=
  Safe.and_ok (mutateAddNodeP_run g reg o rs ▸ OkV.packM ((mutateAddNodeP_safe hlaw _ g o rs hv ha ht).run reg hr))
    (fun _ _ e hp => ⟨hp.1, mutateAddNode_traits e⟩)

theorem safe_mutateBaby_like (hlaw : UnitMulLe W) (o : EpochOpts W) (ha : ActOk o.mopts) (g : Genome W) (reg : Reg W)
    (rs : List Nat) (hv : Valid rs) (hw : WF g) (hr : RecTraits g.traits.length reg) :
    Safe (fun r => RecTraits g.traits.length r.2.1 ∧ Like g r.1) (mutateBaby o g reg rs) :=
  mutateBabyP_run o g reg rs ▸ OkV.packM ((mutateBabyP_safe hlaw o ha g rs hv _ hw rfl).run reg hr)

def BabyPost (S : List Nat) (P : List (Genome W)) (r : Genome W × Reg W × Bool) : Prop :=
  RecTraits S.length r.2.1 ∧ shape r.1 = S ∧ Fits r.2.1 P r.1 ∧ PoolOk r.2.1 P

theorem safe_mutateBaby (hlaw : UnitMulLe W) (o : EpochOpts W) (ha : ActOk o.mopts) (g : Genome W) (reg : Reg W)
    (rs : List Nat) (hv : Valid rs) (S : List Nat) (P : List (Genome W)) (hP : PoolOk reg P) (hf : Fits reg P g) (hsh : shape g = S)
    (hr : RecTraits S.length reg) : Safe (BabyPost S P) (mutateBaby o g reg rs) := by
  have hT := traitsLen_of_shape hsh
  refine (safe_mutateBaby_like hlaw o ha g reg rs hv hf.wft.wf (hT ▸ hr)).and_ok (fun a rs' e hp => ?_)
  obtain ⟨g', reg', b⟩ := a
  exact ⟨hT ▸ hp.1, hp.2.shape.trans hsh, mutateBaby_closed o rs rs' b hP hf e⟩

theorem safe_reproduceOne_start (hlaw : UnitMulLe W) (hpick : PickLaw W) (o : EpochOpts W) (ha : ActOk o.mopts) (generation : Int)
    {s : Species W} {sorted : List (Species W)} (champ : Org W) (count : Int) (st : ReproState W) (rs : List Nat) (hv : Valid rs)
    {reg0 : Reg W} {P0 : List (Genome W)} {S : List Nat} (henv : ReproEnv S reg0 P0 s sorted) (hchamp : champ.genome ∈ P0)
    (hr : RecTraits S.length st.reg) :
    Safe (fun st' => RecTraits S.length st'.reg ∧ OneMore S st st') (reproduceOne o generation s sorted champ count st rs) :=
  reproduceOneP_run o generation s sorted champ count st st.reg rs ▸ OkV.packS (fun _ _ h => h)
    ((reproduceOneP_safe hlaw hpick o ha generation champ count st rs hv henv hchamp).run st.reg hr)

theorem safe_reproduceLoop_start (hlaw : UnitMulLe W) (hpick : PickLaw W) (o : EpochOpts W) (ha : ActOk o.mopts) (generation : Int)
    {s : Species W} {sorted : List (Species W)} (champ : Org W) {reg0 : Reg W} {P0 : List (Genome W)} {S : List Nat}
    (henv : ReproEnv S reg0 P0 s sorted) (hchamp : champ.genome ∈ P0) (n : Nat) (count : Int) (st : ReproState W) (rs : List Nat)
    (hv : Valid rs) (hr : RecTraits S.length st.reg) :
    Safe (fun st' => RecTraits S.length st'.reg ∧ NMore S n st st') (reproduceLoop o generation s sorted champ n count st rs) :=
  reproduceLoopP_run o generation s sorted champ n count st st.reg rs ▸ OkV.packS (fun _ _ h => h)
    ((reproduceLoopP_safe hlaw hpick o ha generation champ henv hchamp n count st rs hv).run st.reg hr)

theorem safe_reproduceSpecies_start (hlaw : UnitMulLe W) (hpick : PickLaw W) (o : EpochOpts W) (ha : ActOk o.mopts)
    (generation : Int) {s : Species W} {sorted : List (Species W)} (reg : Reg W) (uid : Nat) (rs : List Nat) (hv : Valid rs)
    {reg0 : Reg W} {P0 : List (Genome W)} {S : List Nat} (henv : ReproEnv S reg0 P0 s sorted) (hr : RecTraits S.length reg) :
    Safe (fun r => RecTraits S.length r.2.1 ∧ Delivers S s.expectedOffspring.toNat (r.1, r.2.2))
      (reproduceSpecies o generation s sorted reg uid rs) :=
  reproduceSpeciesP_run o generation s sorted reg uid rs ▸ OkV.packB
    ((reproduceSpeciesP_safe hlaw hpick o ha generation reg uid rs hv henv).run reg hr)

theorem safe_reproduceAll_start (hlaw : UnitMulLe W) (hpick : PickLaw W) (o : EpochOpts W) (ha : ActOk o.mopts) (generation : Int)
    {sorted : List (Species W)} {reg0 : Reg W} {P0 : List (Genome W)} {S : List Nat} (ss : List (Species W))
    (henv : ∀ s ∈ ss, ReproEnv S reg0 P0 s sorted) (reg : Reg W) (uid : Nat) (babies : List (Org W)) (rs : List Nat) (hv : Valid rs)
    (hr : RecTraits S.length reg) (hb : ∀ b ∈ babies, shape b.genome = S) :
    Safe (fun r => RecTraits S.length r.2.1 ∧ ∀ b ∈ r.1, shape b.genome = S)
      (reproduceAll o generation sorted ss reg uid babies rs) := by
  induction ss generalizing reg uid babies rs with
  | nil => exact ⟨hr, hb⟩
  | cons s t ih =>
    unfold reproduceAll
    have h1 := safe_reproduceSpecies_start hlaw hpick o ha generation reg uid rs hv (henv s List.mem_cons_self) hr
    split
    · next e he => exact h1.err he
    · next bs reg' uid' rs' he =>
      obtain ⟨hr', _, hbs⟩ := h1.post he
      exact ih (fun s' hs' => henv s' (List.mem_cons_of_mem _ hs')) reg' uid' (babies ++ bs) rs'
        ((reproduceSpecies_det _ _ _ _ _ _).valid hv he) hr' (fun b hb' => (List.mem_append.mp hb').elim (hb b) (hbs b))

theorem ReproEnv.grown {S : List Nat} {reg : Reg W} {P0 X : List (Genome W)} {s : Species W} {sorted : List (Species W)}
    (hs : ∀ x ∈ s.orgs, x.genome ∈ P0) (hsorted : ∀ sp ∈ sorted, ∀ x ∈ sp.orgs, x.genome ∈ P0) (hne : s.orgs ≠ [])
    (hsne : sorted ≠ []) (hspne : ∀ sp ∈ sorted, sp.orgs ≠ []) (hP : PoolOk reg (P0 ++ X)) (hsh : ∀ g ∈ P0 ++ X, shape g = S) :
    ReproEnv S reg (P0 ++ X) s sorted :=
  ⟨hP, hsh, fun x hx => List.mem_append_left _ (hs x hx), hne, fun sp hsp x hx => List.mem_append_left _ (hsorted sp hsp x hx),
   hsne, hspne⟩

def ReproPost (S : List Nat) (P0 : List (Genome W)) (st : ReproState W) : Prop :=
  RecTraits S.length st.reg ∧ ∀ g ∈ poolOf P0 st, shape g = S

theorem safe_reproduceOne (hlaw : UnitMulLe W) (hpick : PickLaw W) (o : EpochOpts W) (ha : ActOk o.mopts) (generation : Int)
    (s : Species W) (sorted : List (Species W)) (champ : Org W) (count : Int) (st : ReproState W) (rs : List Nat) (hv : Valid rs)
    (P0 : List (Genome W)) (S : List Nat)
    (hchamp : champ.genome ∈ P0) (hs : ∀ x ∈ s.orgs, x.genome ∈ P0)
    (hsorted : ∀ sp ∈ sorted, ∀ x ∈ sp.orgs, x.genome ∈ P0)
    (hne : s.orgs ≠ []) (hsne : sorted ≠ []) (hspne : ∀ sp ∈ sorted, sp.orgs ≠ [])
    (hP : PoolOk st.reg (poolOf P0 st)) (hr : RecTraits S.length st.reg) (hsh : ∀ g ∈ poolOf P0 st, shape g = S) :
    Safe (ReproPost S P0) (reproduceOne o generation s sorted champ count st rs) := by
  refine (safe_reproduceOne_start hlaw hpick o ha generation champ count st rs hv (.grown hs hsorted hne hsne hspne hP hsh)
    (List.mem_append_left _ hchamp) hr).mono ?_
  rintro st' ⟨hr', b, hb, hbs⟩
  refine ⟨hr', ?_⟩
  unfold poolOf at hsh ⊢
  rw [hb, List.map_append, ← List.append_assoc]
  exact List.forall_mem_append.mpr ⟨hsh, fun g hg => List.mem_singleton.mp hg ▸ hbs⟩

theorem safe_reproduceLoop (hlaw : UnitMulLe W) (hpick : PickLaw W) (o : EpochOpts W) (ha : ActOk o.mopts) (generation : Int)
    (s : Species W) (sorted : List (Species W)) (champ : Org W) (P0 : List (Genome W)) (S : List Nat)
    (hchamp : champ.genome ∈ P0) (hs : ∀ x ∈ s.orgs, x.genome ∈ P0)
    (hsorted : ∀ sp ∈ sorted, ∀ x ∈ sp.orgs, x.genome ∈ P0)
    (hne : s.orgs ≠ []) (hsne : sorted ≠ []) (hspne : ∀ sp ∈ sorted, sp.orgs ≠ [])
    (n : Nat) (count : Int) (st : ReproState W) (rs : List Nat) (hv : Valid rs)
    (hP : PoolOk st.reg (poolOf P0 st)) (hr : RecTraits S.length st.reg) (hsh : ∀ g ∈ poolOf P0 st, shape g = S) :
    Safe (fun st' => ReproPost S P0 st' ∧ PoolOk st'.reg (poolOf P0 st'))
      (reproduceLoop o generation s sorted champ n count st rs) := by
  refine (safe_reproduceLoop_start hlaw hpick o ha generation champ (.grown hs hsorted hne hsne hspne hP hsh)
    (List.mem_append_left _ hchamp) n count st rs hv hr).and_ok (fun st' rs' e hp => ⟨⟨hp.1, ?_⟩, ?_⟩)
  · have hsh' := List.forall_mem_append.mp hsh
    exact List.forall_mem_append.mpr ⟨hsh'.1, List.forall_mem_map.mpr (hp.2.2 (List.forall_mem_map.mp hsh'.2))⟩
  · exact reproduceLoop_induct (I := fun _ st => PoolOk st.reg (poolOf P0 st))
      (fun _ count st rs st' rs' hI h1 => reproduceOne_closed o generation s sorted champ count st st' rs rs' P0 hchamp hs hsorted hI h1)
      e hP

theorem safe_reproduceSpecies (hlaw : UnitMulLe W) (hpick : PickLaw W) (o : EpochOpts W) (ha : ActOk o.mopts) (generation : Int)
    (s : Species W) (sorted : List (Species W)) (reg : Reg W) (uid : Nat) (rs : List Nat) (hv : Valid rs) (P0 : List (Genome W)) (S : List Nat)
    (hs : ∀ x ∈ s.orgs, x.genome ∈ P0) (hsorted : ∀ sp ∈ sorted, ∀ x ∈ sp.orgs, x.genome ∈ P0)
    (hne : s.orgs ≠ []) (hsne : sorted ≠ []) (hspne : ∀ sp ∈ sorted, sp.orgs ≠ [])
    (henv : PoolEnv S reg P0) :
    Safe (fun r => PoolEnv S r.2.1 (P0 ++ r.1.map (·.genome))) (reproduceSpecies o generation s sorted reg uid rs) := by
  refine (safe_reproduceSpecies_start hlaw hpick o ha generation reg uid rs hv
    ⟨henv.pool, henv.shaped, hs, hne, hsorted, hsne, hspne⟩ henv.recs).and_ok (fun a rs' e hp => ?_)
  obtain ⟨bs, reg', uid'⟩ := a
  exact ⟨reproduceSpecies_closed o generation s sorted reg reg' uid uid' rs rs' bs P0 hs hsorted henv.pool e, hp.1,
    List.forall_mem_append.mpr ⟨henv.shaped, List.forall_mem_map.mpr hp.2.2⟩⟩

theorem safe_reproduceAll (hlaw : UnitMulLe W) (hpick : PickLaw W) (o : EpochOpts W) (ha : ActOk o.mopts) (generation : Int)
    (sorted : List (Species W)) (P0 : List (Genome W)) (S : List Nat)
    (hsorted : ∀ sp ∈ sorted, ∀ x ∈ sp.orgs, x.genome ∈ P0) (hsne : sorted ≠ []) (hspne : ∀ sp ∈ sorted, sp.orgs ≠ [])
    (ss : List (Species W)) (hss : ∀ s ∈ ss, ∀ x ∈ s.orgs, x.genome ∈ P0) (hssne : ∀ s ∈ ss, s.orgs ≠ [])
    (reg : Reg W) (uid : Nat) (babies : List (Org W)) (rs : List Nat) (hv : Valid rs)
    (henv : PoolEnv S reg (P0 ++ babies.map (·.genome))) :
    Safe (fun r => PoolEnv S r.2.1 (P0 ++ r.1.map (·.genome))) (reproduceAll o generation sorted ss reg uid babies rs) := by
  refine (safe_reproduceAll_start hlaw hpick o ha generation ss
    (fun s hs => .grown (hss s hs) hsorted (hssne s hs) hsne hspne henv.pool henv.shaped) reg uid babies rs hv henv.recs
    (fun b hb => henv.shaped _ (List.mem_append_right _ (List.mem_map_of_mem hb)))).and_ok (fun a rs' e hp => ?_)
  obtain ⟨bs, reg', uid'⟩ := a
  exact ⟨reproduceAll_closed o generation sorted ss reg reg' uid uid' babies bs rs rs' P0 hss hsorted henv.pool e, hp.1,
    List.forall_mem_append.mpr ⟨(List.forall_mem_append.mp henv.shaped).1, List.forall_mem_map.mpr hp.2⟩⟩

end GoNeat.NoErr
