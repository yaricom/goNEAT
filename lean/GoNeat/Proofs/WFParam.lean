/-
  What C01 needs of the parametric mutators - the skeleton stays (`SameSkel`) and every trait reference still resolves - read
  off their one relation `ParamRel` (Props/C05More.lean, where it is proved per mutator): `ParamRel.skel`.
-/
import GoNeat.Proofs.WFLemmas
import GoNeat.Props.C05More

namespace GoNeat.C01
open GoNeat Scalar
variable {W : Type} [Scalar W]

omit [Scalar W] in
theorem traitRefsOwned_of (g g' : Genome W) (ht : traitIds g' = traitIds g)
    (hg : ∀ x ∈ g'.genes, TraitRefOk g x.trait) (hn : ∀ n ∈ g'.nodes, TraitRefOk g n.trait) : TraitRefsOwned g' :=
  ⟨fun x hx => traitRefOk_congr g g' ht _ (hg x hx), fun n hn' => traitRefOk_congr g g' ht _ (hn n hn')⟩

omit [Scalar W] in
theorem traitAt_ok (g : Genome W) (i : Int) (tr : Option Int) (h : traitAt g i = .ok tr) (hz : TraitIdsNonzero g) :
    TraitRefOk g tr := by
  obtain ⟨t, ht, rfl⟩ := MutateLemmas.traitAt_ok g i tr h
  exact ⟨hz t ht, List.mem_map_of_mem ht⟩

omit [Scalar W] in
theorem ParamRel.skel {g g' : Genome W} (h : ParamRel g g') (hz : TraitIdsNonzero g) (hr : TraitRefsOwned g) :
    SameSkel g g' ∧ TraitRefsOwned g' := by
  have hsh : g'.nodes.map Node.shape = g.nodes.map Node.shape := by
    have := congrArg (List.map (fun c : Int × Kind × Nat => (c.1, c.2.1))) h.only.nodes
    simp only [List.map_map, Function.comp_def] at this
    exact this
  have ok : ∀ {old : List (Option Int)} {t}, (∀ u ∈ old, TraitRefOk g u) → RefFrom g old t → TraitRefOk g t := by
    intro old t ho ht
    rcases ht with ht | ⟨tr, htr, rfl⟩
    · exact ho t ht
    · exact ⟨hz tr htr, List.mem_map_of_mem htr⟩
  exact ⟨⟨h.only.genes, hsh, h.only.traits, h.only.modules⟩, traitRefsOwned_of g g' h.only.traits
    (fun x hx => ok (List.forall_mem_map.mpr hr.1) (h.genes x hx)) (fun n hn => ok (List.forall_mem_map.mpr hr.2) (h.nodes n hn))⟩

end GoNeat.C01
