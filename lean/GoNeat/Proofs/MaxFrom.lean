/-
  The running maximum of the repaired counter accessors (`getLastNodeId`, `getNextGeneInnovNum`, fix 48b1f99):
  the result is at least the start value and at least every listed key - no ordering of the list is needed.
-/
import GoNeat.Model.Genome
import GoNeat.Proofs.RunningBest

namespace GoNeat
variable {W : Type}

theorem maxFrom_ge_init (keys : List Int) (init : Int) : init ≤ maxFrom keys init :=
  (foldl_max_int keys init).1

theorem maxFrom_ge_mem (keys : List Int) (init : Int) : ∀ k ∈ keys, k ≤ maxFrom keys init :=
  (foldl_max_int keys init).2.1

theorem Genome.lastNodeId_ge (g : Genome W) (ln : Int) (h : g.lastNodeId = .ok ln) : ∀ n ∈ g.nodes, n.id ≤ ln := by
  unfold Genome.lastNodeId at h
  split at h
  · cases h
  · simp only [Except.ok.injEq] at h
    subst h
    intro n hn
    exact Int.le_trans (maxFrom_ge_mem _ _ n.id (List.mem_map_of_mem hn)) (maxFrom_ge_init _ _)

theorem Genome.nextGeneInnov_gt (g : Genome W) (ni : Int) (h : g.nextGeneInnov = .ok ni) : ∀ x ∈ g.genes, x.inn ≤ ni - 1 := by
  unfold Genome.nextGeneInnov at h
  split at h
  · cases h
  · rename_i last _
    simp only [Except.ok.injEq] at h
    subst h
    intro x hx
    have h1 := maxFrom_ge_mem (g.genes.map (·.inn)) last.inn x.inn (List.mem_map_of_mem hx)
    have h2 := maxFrom_ge_init (g.modules.map (·.inn)) (maxFrom (g.genes.map (·.inn)) last.inn)
    omega

theorem Genome.lastNodeId_ok (g : Genome W) (h : g.nodes ≠ []) : ∃ ln, g.lastNodeId = .ok ln := by
  unfold Genome.lastNodeId
  cases hl : g.nodes.getLast? with
  | none => exact absurd (List.getLast?_eq_none_iff.mp hl) h
  | some n => exact ⟨_, rfl⟩

theorem Genome.nextGeneInnov_ok (g : Genome W) (h : g.genes ≠ []) : ∃ ni, g.nextGeneInnov = .ok ni := by
  unfold Genome.nextGeneInnov
  cases hl : g.genes.getLast? with
  | none => exact absurd (List.getLast?_eq_none_iff.mp hl) h
  | some n => exact ⟨_, rfl⟩

end GoNeat
