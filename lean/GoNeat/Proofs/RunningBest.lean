/-
  The loop `for _, x := range xs { if best < x { best = x } }` in general: a left-to-right scan that keeps a state and
  replaces it by the next item when that is strictly better.  The library has this loop in the champion queries,
  `ComputeMaxAndAvgFitness`, `floats.Max`/`floats.Min`, the latest evaluation time, the counter accessors of the genome,
  `BestOrganism` and the champion selection of `FillPopulationStatistics`.  `R s t` reads "`t` is strictly better than
  `s`"; the items enter the state type through `inj` (the state may carry more than the item, e.g. fitness and organism).
    `keepBest_spec`    (irreflexive, transitive `R`)  the result is the start or an item, nothing is better than it that
                       was not better than the start, and no item is better;
    `keepBest_first`   (transitive, negatively transitive `R`)  moreover it is the FIRST item that nothing exceeds:
                       every earlier item is strictly worse.
  CORE LEAN ONLY.
-/
namespace GoNeat

variable {σ α : Type} (R : σ → σ → Prop) [DecidableRel R] (inj : α → σ)

def keepBest (s : σ) (xs : List α) : σ := xs.foldl (fun s x => if R s (inj x) then inj x else s) s

theorem keepBest_cons (s : σ) (x : α) (xs : List α) :
    keepBest R inj s (x :: xs) = keepBest R inj (if R s (inj x) then inj x else s) xs := rfl

variable {R inj}

theorem keepBest_of_none_better (s : σ) (xs : List α) (h : ∀ x ∈ xs, ¬ R s (inj x)) : keepBest R inj s xs = s := by
  induction xs with
  | nil => rfl
  | cons x xs ih =>
    rw [keepBest_cons, if_neg (h x List.mem_cons_self)]
    exact ih fun y hy => h y (List.mem_cons_of_mem _ hy)

theorem keepBest_spec (irrefl : ∀ a, ¬ R a a) (trans : ∀ a b c, R a b → R b c → R a c) (s : σ) (xs : List α) :
    (keepBest R inj s xs = s ∨ ∃ y ∈ xs, keepBest R inj s xs = inj y) ∧
    (∀ t, ¬ R s t → ¬ R (keepBest R inj s xs) t) ∧
    ∀ x ∈ xs, ¬ R (keepBest R inj s xs) (inj x) := by
  induction xs generalizing s with
  | nil => exact ⟨.inl rfl, fun _ h => h, fun _ h => absurd h List.not_mem_nil⟩
  | cons x xs ih =>
    rw [keepBest_cons]
    by_cases h : R s (inj x)
    · obtain ⟨i1, i2, i3⟩ := ih (inj x)
      rw [if_pos h]
      -- what is not better than `s` is not better than the better `x`
      have up : ∀ t, ¬ R s t → ¬ R (inj x) t := fun t ht hxt => ht (trans _ _ _ h hxt)
      refine ⟨.inr ?_, fun t ht => i2 t (up t ht), ?_⟩
      · rcases i1 with i1 | ⟨y, hy, i1⟩
        · exact ⟨x, List.mem_cons_self, i1⟩
        · exact ⟨y, List.mem_cons_of_mem _ hy, i1⟩
      · intro y hy
        rcases List.mem_cons.mp hy with rfl | hy
        · exact i2 _ (irrefl _)
        · exact i3 y hy
    · obtain ⟨i1, i2, i3⟩ := ih s
      rw [if_neg h]
      refine ⟨i1.imp_right fun ⟨y, hy, e⟩ => ⟨y, List.mem_cons_of_mem _ hy, e⟩, i2, ?_⟩
      intro y hy
      rcases List.mem_cons.mp hy with rfl | hy
      · exact i2 _ h
      · exact i3 y hy

theorem keepBest_id_spec {R : α → α → Prop} [DecidableRel R] (irrefl : ∀ a, ¬ R a a)
    (trans : ∀ a b c, R a b → R b c → R a c) (s : α) (xs : List α) :
    keepBest R id s xs ∈ s :: xs ∧ ∀ x ∈ s :: xs, ¬ R (keepBest R id s xs) x := by
  obtain ⟨i1, i2, i3⟩ := keepBest_spec (inj := id) irrefl trans s xs
  refine ⟨?_, ?_⟩
  · rcases i1 with i1 | ⟨y, hy, i1⟩
    · rw [i1]; exact List.mem_cons_self
    · rw [i1]; exact List.mem_cons_of_mem _ hy
  · intro x hx
    rcases List.mem_cons.mp hx with rfl | hx
    · exact i2 _ (irrefl _)
    · exact i3 x hx

theorem keepBest_first (trans : ∀ a b c, R a b → R b c → R a c) (weak : ∀ a b c, R a b → R a c ∨ R c b)
    (s : σ) (xs : List α) :
    (keepBest R inj s xs = s ∧ ∀ x ∈ xs, ¬ R s (inj x)) ∨
    ∃ pre y post, xs = pre ++ y :: post ∧ keepBest R inj s xs = inj y ∧ R s (inj y) ∧
      (∀ x ∈ pre, R (inj x) (inj y)) ∧ ∀ x ∈ post, ¬ R (inj y) (inj x) := by
  induction xs generalizing s with
  | nil => exact .inl ⟨rfl, fun _ h => absurd h List.not_mem_nil⟩
  | cons x xs ih =>
    rw [keepBest_cons]
    by_cases h : R s (inj x)
    · rw [if_pos h]
      right
      rcases ih (inj x) with ⟨hr, hall⟩ | ⟨pre, y, post, hl, hr, hxy, hpre, hpost⟩
      · exact ⟨[], x, xs, rfl, hr, h, fun _ h => absurd h List.not_mem_nil, hall⟩
      · refine ⟨x :: pre, y, post, by rw [hl]; rfl, hr, trans _ _ _ h hxy, ?_, hpost⟩
        intro z hz
        rcases List.mem_cons.mp hz with rfl | hz
        · exact hxy
        · exact hpre z hz
    · rw [if_neg h]
      rcases ih s with ⟨hr, hall⟩ | ⟨pre, y, post, hl, hr, hsy, hpre, hpost⟩
      · left
        refine ⟨hr, ?_⟩
        intro z hz
        rcases List.mem_cons.mp hz with rfl | hz
        · exact h
        · exact hall z hz
      · refine .inr ⟨x :: pre, y, post, by rw [hl]; rfl, hr, hsy, ?_, hpost⟩
        intro z hz
        rcases List.mem_cons.mp hz with rfl | hz
        · exact (weak _ _ (inj z) hsy).resolve_left h
        · exact hpre z hz

theorem foldl_max_int (ts : List Int) (u : Int) :
    u ≤ ts.foldl (fun m x => if m < x then x else m) u ∧
    (∀ x ∈ ts, x ≤ ts.foldl (fun m x => if m < x then x else m) u) ∧
    (ts.foldl (fun m x => if m < x then x else m) u = u ∨ ts.foldl (fun m x => if m < x then x else m) u ∈ ts) := by
  obtain ⟨h1, h2⟩ := keepBest_id_spec (R := (· < ·)) Int.lt_irrefl (fun _ _ _ => Int.lt_trans) u ts
  exact ⟨Int.not_lt.mp (h2 u List.mem_cons_self), fun x hx => Int.not_lt.mp (h2 x (List.mem_cons_of_mem _ hx)),
    List.mem_cons.mp h1⟩

end GoNeat
