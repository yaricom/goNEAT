/-
  C17 support: *prefix determinism* of every random computation of the model.

  The result of a `Rand` computation depends only on the prefix of the raw stream that it reports as
  consumed (`PrefixDet`), and so does a model error (`ErrPrefixDet`); `Det` is the pair.  Closure lemmas, a small
  tactic (`pd_auto`) that decomposes the state-passing shape
  `fun rs => match m rs with | .error e => .error e | .ok (a, rs1) => …` mechanically, all primitives of
  `Model/Rand.lean` and the mutation and crossover operators.  Whoever adds a `Rand`-valued model function: see the
  docstring of `pd_step` for the lemma name the tactic looks up.

  Core Lean only (`import Lean` for the tactic).
-/
import Lean
import GoNeat.Model.Mutate
import GoNeat.Proofs.MateWalk

namespace GoNeat
open Scalar

/-- the result depends only on the consumed prefix: the consumed part is a prefix of the input, the rest is
    returned untouched, and on ANY stream that starts with the same consumed prefix the computation returns the
    same value and exactly the new remainder -/
def PrefixDet {α : Type} (m : Rand α) : Prop :=
  ∀ rs a rest, m rs = .ok (a, rest) → ∃ used, rs = used ++ rest ∧ ∀ rs', m (used ++ rs') = .ok (a, rs')

def PrefixDet1 {α : Type} (m : Rand α) : Prop :=
  ∀ rs a rest, m rs = .ok (a, rest) →
    ∃ used, used ≠ [] ∧ rs = used ++ rest ∧ ∀ rs', m (used ++ rs') = .ok (a, rs')

theorem PrefixDet1.toPrefixDet {α} {m : Rand α} (h : PrefixDet1 m) : PrefixDet m := by
  intro rs a rest e
  obtain ⟨u, _, h1, h2⟩ := h rs a rest e
  exact ⟨u, h1, h2⟩

def ErrPrefixDet {α : Type} (m : Rand α) : Prop :=
  ∀ rs e, m rs = .error (.error e) →
    ∃ used tail, rs = used ++ tail ∧ ∀ rs', m (used ++ rs') = .error (.error e)

def NoErr {α : Type} (m : Rand α) : Prop := ∀ rs e, m rs ≠ .error (.error e)

theorem NoErr.toErrPrefixDet {α} {m : Rand α} (h : NoErr m) : ErrPrefixDet m :=
  fun rs e he => absurd he (h rs e)

/-- both a result and a model error (a Go panic or an error return — NOT the exhaustion of the supplied raw
    stream) are determined by a prefix of the stream -/
structure Det {α : Type} (m : Rand α) : Prop where
  ok : PrefixDet m
  err : ErrPrefixDet m

theorem PrefixDet.pure' {α} (a : α) : PrefixDet (Rand.pure' a) := by
  intro rs b rest h
  simp only [Rand.pure', Except.ok.injEq, Prod.mk.injEq] at h
  obtain ⟨rfl, rfl⟩ := h
  exact ⟨[], rfl, fun _ => rfl⟩

theorem PrefixDet.error_fun {α} (e : Stop) : PrefixDet (fun _ => (Except.error e : R α)) := by
  intro rs b rest h
  cases h

theorem PrefixDet.fail {α} (e : String) : PrefixDet (Rand.fail (α := α) e) :=
  PrefixDet.error_fun _

theorem PrefixDet.of_cont {α β} (m : Rand α) (K : R α → R β)
    (hm : PrefixDet m)
    (herr : ∀ e b, K (.error e) ≠ .ok b)
    (hok : ∀ a, PrefixDet (fun rs => K (.ok (a, rs)))) :
    PrefixDet (fun rs => K (m rs)) := by
  intro rs b rest h
  replace h : K (m rs) = .ok (b, rest) := h
  cases hm' : m rs with
  | error e => rw [hm'] at h; exact absurd h (herr e _)
  | ok p =>
    obtain ⟨a, rs1⟩ := p
    rw [hm'] at h
    obtain ⟨u1, rfl, rep1⟩ := hm _ _ _ hm'
    obtain ⟨u2, rfl, rep2⟩ := hok a rs1 b rest h
    refine ⟨u1 ++ u2, by simp, fun rs' => ?_⟩
    show K (m ((u1 ++ u2) ++ rs')) = _
    rw [List.append_assoc, rep1]
    exact rep2 rs'

theorem PrefixDet.bind' {α β} {m : Rand α} {f : α → Rand β} (hm : PrefixDet m) (hf : ∀ a, PrefixDet (f a)) :
    PrefixDet (Rand.bind' m f) :=
  PrefixDet.of_cont m (fun r => match r with | .error e => .error e | .ok (a, rs') => f a rs') hm
    (by intro e b h; cases h) (fun a => hf a)

theorem PrefixDet.of_match {α β} {m : Rand α} {k : α → Rand β} (hm : PrefixDet m) (hk : ∀ a, PrefixDet (k a)) :
    PrefixDet (fun rs => match m rs with | .error e => .error e | .ok (a, rs1) => k a rs1) :=
  PrefixDet.bind' hm hk

theorem PrefixDet.ite {α} (c : Prop) [Decidable c] {m₁ m₂ : Rand α} (h₁ : PrefixDet m₁) (h₂ : PrefixDet m₂) :
    PrefixDet (if c then m₁ else m₂) := by
  by_cases hc : c
  · simpa [hc] using h₁
  · simpa [hc] using h₂

def Rand.liftExcept {α} (x : Except Stop α) : Rand α := fun rs =>
  match x with
  | .error e => .error e
  | .ok a => .ok (a, rs)

theorem PrefixDet.liftExcept {α} (x : Except Stop α) : PrefixDet (Rand.liftExcept x) := by
  cases x with
  | error e => exact PrefixDet.error_fun e
  | ok a => exact PrefixDet.pure' a

theorem PrefixDet.of_except {α β} (x : Except Stop β) {k : β → Rand α} (hk : ∀ b, PrefixDet (k b)) :
    PrefixDet (fun rs => match x with | .error e => .error e | .ok b => k b rs) := by
  cases x with
  | error e => exact PrefixDet.error_fun e
  | ok b => exact hk b

theorem prefixDet_agree {α} {m : Rand α} (hm : PrefixDet m) {rs₁ rs₂ rest₁ rest₂ : List Nat} {a : α}
    (h : m rs₁ = .ok (a, rest₁)) (hpre : ∃ used, rs₁ = used ++ rest₁ ∧ rs₂ = used ++ rest₂) :
    m rs₂ = .ok (a, rest₂) := by
  obtain ⟨u, rfl, rep⟩ := hm _ _ _ h
  obtain ⟨u', h1, rfl⟩ := hpre
  have : u = u' := List.append_cancel_right h1
  subst this
  exact rep _

theorem ErrPrefixDet.pure' {α} (a : α) : ErrPrefixDet (Rand.pure' a) := by
  intro rs e h; cases h

theorem ErrPrefixDet.error_fun {α} (x : Stop) : ErrPrefixDet (fun _ => (Except.error x : R α)) := by
  intro rs e h
  exact ⟨[], rs, rfl, fun _ => h⟩

theorem ErrPrefixDet.fail {α} (e : String) : ErrPrefixDet (Rand.fail (α := α) e) :=
  ErrPrefixDet.error_fun _

/-- an error of the continuation after a success of `m` replays only because `m` is prefix-deterministic: hence `hm` -/
theorem ErrPrefixDet.of_cont {α β} (m : Rand α) (K : R α → R β)
    (hm : PrefixDet m) (hme : ErrPrefixDet m)
    (herr : ∀ x, K (.error x) = .error x)
    (hok : ∀ a, ErrPrefixDet (fun rs => K (.ok (a, rs)))) :
    ErrPrefixDet (fun rs => K (m rs)) := by
  intro rs e h
  replace h : K (m rs) = .error (.error e) := h
  cases hm' : m rs with
  | error x =>
    rw [hm', herr] at h
    cases h
    obtain ⟨u, t, rfl, rep⟩ := hme _ _ hm'
    refine ⟨u, t, rfl, fun rs' => ?_⟩
    show K (m (u ++ rs')) = _
    rw [rep, herr]
  | ok p =>
    obtain ⟨a, rs1⟩ := p
    rw [hm'] at h
    obtain ⟨u1, rfl, rep1⟩ := hm _ _ _ hm'
    obtain ⟨u2, t, rfl, rep2⟩ := hok a rs1 e h
    refine ⟨u1 ++ u2, t, by simp, fun rs' => ?_⟩
    show K (m ((u1 ++ u2) ++ rs')) = _
    rw [List.append_assoc, rep1]
    exact rep2 rs'

theorem ErrPrefixDet.bind' {α β} {m : Rand α} {f : α → Rand β} (hm : PrefixDet m) (hme : ErrPrefixDet m)
    (hf : ∀ a, ErrPrefixDet (f a)) : ErrPrefixDet (Rand.bind' m f) :=
  ErrPrefixDet.of_cont m (fun r => match r with | .error e => .error e | .ok (a, rs') => f a rs') hm hme
    (fun _ => rfl) (fun a => hf a)

theorem ErrPrefixDet.liftExcept {α} (x : Except Stop α) : ErrPrefixDet (Rand.liftExcept x) := by
  cases x with
  | error e => exact ErrPrefixDet.error_fun e
  | ok a => exact ErrPrefixDet.pure' a

theorem errPrefixDet_agree {α} {m : Rand α} (hm : ErrPrefixDet m) {rs : List Nat} {e : String}
    (h : m rs = .error (.error e)) :
    ∃ used tail, rs = used ++ tail ∧ ∀ rs', m (used ++ rs') = .error (.error e) := hm rs e h

/-! The four shapes a model function is built from, as the tactic below meets them: a returned value (`ok_fun`), an error
    (`error_fun`), an `if` (`ite_fun`), a `match` on the result of an earlier computation (`of_cont`).  After them
    `Det.eta`, which presents a partially applied function to the tactic, and `Det.of_strict`, which turns what `rejLoop`
    proves of a primitive into `Det`. -/

theorem Det.ok_fun {α} (v : α) : Det (fun rs => (Except.ok (v, rs) : R α)) :=
  ⟨PrefixDet.pure' v, ErrPrefixDet.pure' v⟩

theorem Det.error_fun {α} (x : Stop) : Det (fun _ => (Except.error x : R α)) :=
  ⟨PrefixDet.error_fun x, ErrPrefixDet.error_fun x⟩

theorem Det.ite_fun {α} (c : Prop) [Decidable c] {m₁ m₂ : Rand α} (h₁ : Det m₁) (h₂ : Det m₂) :
    Det (fun rs => if c then m₁ rs else m₂ rs) := by
  by_cases hc : c
  · simpa [hc] using h₁
  · simpa [hc] using h₂

theorem Det.of_cont {α β} (m : Rand α) (K : R α → R β) (hm : Det m) (herr : ∀ x, K (.error x) = .error x)
    (hok : ∀ a, Det (fun rs => K (.ok (a, rs)))) : Det (fun rs => K (m rs)) :=
  ⟨PrefixDet.of_cont m K hm.ok (fun e b h => by rw [herr] at h; cases h) (fun a => (hok a).ok),
   ErrPrefixDet.of_cont m K hm.ok hm.err herr (fun a => (hok a).err)⟩

theorem Det.eta {α} {m : Rand α} (h : Det (fun rs => m rs)) : Det m := h

theorem Det.of_strict {α} {m : Rand α} (h : PrefixDet1 m ∧ NoErr m) : Det m :=
  ⟨h.1.toPrefixDet, h.2.toErrPrefixDet⟩

section Tactic
open Lean Meta Elab Tactic

/-- repeatedly case-split the components of the freshly introduced result value until the matcher applied to
    `.ok (a, rs)` reduces to one of its alternatives -/
partial def destructLoop (g : MVarId) (fvs : List FVarId) : MetaM (List MVarId) := g.withContext do
  let tgt ← instantiateMVars (← g.getType)
  let f := tgt.appArg!
  let reduced ← lambdaBoundedTelescope f 1 fun xs body => do
    match ← reduceMatcher? body.headBeta with
    | .reduced b => return some (← mkLambdaFVars xs b.headBeta)
    | .notMatcher => return some f
    | _ => return none
  if let some f' := reduced then return [← g.replaceTargetDefEq (mkApp tgt.appFn! f')]
  let rec pick : List FVarId → List FVarId → MetaM (Option (FVarId × List FVarId))
    | _, [] => return none
    | pre, fv :: rest => do
      let ty ← whnfD (← fv.getType)
      if ty.isAppOf ``Prod || ty.isAppOf ``Option || ty.isConstOf ``Bool then
        return some (fv, pre.reverse ++ rest)
      else pick (fv :: pre) rest
  match ← pick [] fvs with
  | none => return [g]
  | some (fv, others) =>
    let subgoals ← g.cases fv
    let mut res := []
    for s in subgoals do
      let newFvs := s.fields.toList.filterMap fun e => if e.isFVar then some e.fvarId! else none
      let others' := others.filterMap fun o =>
        match s.subst.get o with
        | .fvar o' => some o'
        | _ => none
      res := res ++ (← destructLoop s.mvarId (newFvs ++ others'))
    return res

/-- `Det (fun rs => match d[rs] with alts)`  ⟶  `Det (fun rs => d[rs])` and one goal per success alternative, by
    `Det.of_cont`; that the match passes errors on unchanged holds by `rfl` -/
def bindStep (g : MVarId) (f : Expr) : MetaM (List MVarId) := g.withContext do
  let (m, K) ← lambdaBoundedTelescope f 1 fun xs body => do
    let rs := xs[0]!.fvarId!
    let some app ← matchMatcherApp? body | throwError "pd_step: not a match"
    let some d := app.discrs.find? (·.containsFVar rs) | throwError "pd_step: no discriminant mentions the stream"
    let bodyAbs ← kabstract body d
    if bodyAbs.containsFVar rs then throwError "pd_step: the stream is used outside the discriminant"
    return (← mkLambdaFVars xs d, Lean.mkLambda `r .default (← inferType d) bodyAbs)
  let [gm, gerr, gok] ← g.apply (← mkAppM ``Det.of_cont #[m, K]) | throwError "pd_step: unexpected number of goals"
  (← gerr.intro1).2.refl
  let (a, gok) ← gok.intro1
  return gm :: (← destructLoop gok [a])

/-- one structural decomposition step, chosen by the syntactic shape of the goal.  A call `f x₁ … xₙ rs` of another
    model function is closed by the lemma whose name is the full name of `f` followed by `_det` (`GoNeat.Rand.intn_det`
    for `GoNeat.Rand.intn`): a `Rand`-valued model function needs a lemma of exactly that name, or `pd_auto` stops at
    the call.  Where there is none (a recursive call, or a computation that is not of this form) the call is closed by
    a hypothesis, which the caller of the tactic puts into the context. -/
elab "pd_step" : tactic => withMainContext do
  let g ← getMainGoal
  let tgt := (← instantiateMVars (← g.getType)).consumeMData
  if tgt.isForall then
    replaceMainGoal [(← g.intro1).2]
    return
  unless tgt.isAppOfArity ``Det 2 do throwError "pd_step: goal is not Det"
  let f := tgt.appArg!
  -- `.inl f'`: the same computation presented as `f'`;  `.inr k`: the shape of the body
  let shape : Expr ⊕ Nat ←
    if f.isHeadBetaTarget then pure (.inl f.headBeta)
    else if !f.isLambda then pure (.inr 0)
    else lambdaBoundedTelescope f 1 fun xs body => do
      let rs := xs[0]!
      let body := body.consumeMData
      if body.isLet then return .inl (← mkLambdaFVars xs (body.letBody!.instantiate1 body.letValue!))
      if body.isHeadBetaTarget then return .inl (← mkLambdaFVars xs body.headBeta)
      if body.isAppOf ``Except.ok then return .inr 1
      if body.isAppOf ``Except.error then return .inr 2
      if body.isAppOf ``ite then return .inr 3
      if let some app ← matchMatcherApp? body then
        return .inr (if app.discrs.any (·.containsFVar rs.fvarId!) then 4 else 5)
      if body.isApp && body.appArg! == rs && !body.appFn!.containsFVar rs.fvarId! then return .inl body.appFn!
      return .inr 0
  match shape with
  | .inl f' => replaceMainGoal [← g.replaceTargetDefEq (mkApp tgt.appFn! f')]
  | .inr 4 => replaceMainGoal (← bindStep g f)
  | .inr 5 => evalTactic (← `(tactic| split))
  | .inr k =>
    let env ← getEnv
    let byName : Option Name :=
      if k == 1 then some ``Det.ok_fun
      else if k == 2 then some ``Det.error_fun
      else if k == 3 then some ``Det.ite_fun
      else match f.getAppFn with
        | .const c _ => if env.contains (c.appendAfter "_det") then some (c.appendAfter "_det") else none
        | _ => none
    match byName with
    | some n => replaceMainGoal (← g.apply (← mkConstWithFreshMVarLevels n))
    | none => evalTactic (← `(tactic| with_reducible apply_assumption))

end Tactic

macro "pd_auto" : tactic => `(tactic| repeat' pd_step)

/-- present a partially applied recursive function as `fun rs => f … rs` and unfold one step -/
macro "pd_unfold " f:ident : tactic => `(tactic| (refine Det.eta ?_; unfold $f:ident))

theorem rejLoop {α} {f : Rand α} (rej : Nat → Prop) [DecidablePred rej] (val : Nat → α)
    (h0 : f [] = .error .outOfRandom)
    (hc : ∀ x rs, f (x :: rs) = if rej x then f rs else .ok (val x, rs)) : PrefixDet1 f ∧ NoErr f := by
  constructor
  · intro rs
    induction rs with
    | nil => intro a rest h; rw [h0] at h; cases h
    | cons x rs ih =>
      intro a rest h
      rw [hc] at h
      by_cases hr : rej x
      · rw [if_pos hr] at h
        obtain ⟨u, _, rfl, rep⟩ := ih a rest h
        refine ⟨x :: u, by simp, rfl, fun rs' => ?_⟩
        rw [List.cons_append, hc, if_pos hr]
        exact rep rs'
      · rw [if_neg hr] at h
        cases h
        refine ⟨[x], by simp, rfl, fun rs' => ?_⟩
        rw [List.singleton_append, hc, if_neg hr]
  · intro rs
    induction rs with
    | nil => intro e h; rw [h0] at h; cases h
    | cons x rs ih =>
      intro e h
      rw [hc] at h
      by_cases hr : rej x
      · rw [if_pos hr] at h
        exact ih e h
      · rw [if_neg hr] at h
        cases h

namespace Rand

theorem int63_det : Det int63 :=
  .of_strict (rejLoop (fun _ => False) id rfl fun _ _ => rfl)

theorem float64_det {W} [Scalar W] : Det (float64 (W := W)) :=
  .of_strict (rejLoop _ _ rfl fun _ _ => rfl)

theorem float32Ge03_det (W) [Scalar W] : Det (float32Ge03 W) := by
  refine .of_strict (rejLoop (fun x => Scalar.eq (Scalar.ofUnit63 x : W) Scalar.one = true ∨
    Scalar.f32IsOne (Scalar.ofUnit63 x : W) = true) (fun x => Scalar.f32Ge03 (Scalar.ofUnit63 x : W)) rfl ?_)
  intro x rs
  rw [float32Ge03]
  by_cases h1 : Scalar.eq (Scalar.ofUnit63 x : W) Scalar.one = true
  · simp [h1]
  · by_cases h2 : Scalar.f32IsOne (Scalar.ofUnit63 x : W) = true
    · simp [h1, h2]
    · simp [h1, h2]

theorem int31nLoop_strict (n max : Nat) : PrefixDet1 (int31nLoop n max) ∧ NoErr (int31nLoop n max) :=
  rejLoop _ _ rfl fun _ _ => rfl

theorem int31nLoop_det (n max : Nat) : Det (int31nLoop n max) := .of_strict (int31nLoop_strict n max)

/-- `intn` fails exactly for `n = 0`, whatever the stream; a power of two is masked out of a single draw -/
theorem intn_strict (n : Nat) : PrefixDet1 (intn n) ∧ ErrPrefixDet (intn n) := by
  by_cases h0 : n = 0
  · subst h0
    exact ⟨fun _ _ _ h => (nomatch h), ErrPrefixDet.fail _⟩
  · by_cases hp : n &&& (n - 1) = 0
    · have h := rejLoop (f := intn n) (fun _ => False) (fun x => int31OfRaw x &&& (n - 1))
        (by simp [intn, h0, hp]) (by simp [intn, h0, hp])
      exact ⟨h.1, h.2.toErrPrefixDet⟩
    · have e : intn n = int31nLoop n (2147483647 - 2147483648 % n) := by
        funext rs
        simp only [intn, if_neg h0, if_neg hp]
      rw [e]
      exact ⟨(int31nLoop_strict _ _).1, (int31nLoop_strict _ _).2.toErrPrefixDet⟩

theorem intn_det (n : Nat) : Det (intn n) := ⟨(intn_strict n).1.toPrefixDet, (intn_strict n).2⟩

theorem randSign_det : Det randSign :=
  .of_strict (rejLoop (fun _ => False) (fun x => if x % 2 = 0 then -1 else 1) rfl fun _ _ => rfl)

theorem int63_errPrefixDet : ErrPrefixDet int63 := int63_det.err
theorem int31nLoop_errPrefixDet (n max : Nat) : ErrPrefixDet (int31nLoop n max) := (int31nLoop_det n max).err
theorem intn_prefixDet (n : Nat) : PrefixDet (intn n) := (intn_det n).ok

end Rand

/-- non-vacuity: `Rand.intn 3` runs the rejection loop (the first raw draw `2147483647 <<< 32` is rejected, the second,
    `5 <<< 32`, is accepted); two streams that share the consumed two draws and differ afterwards give the same
    value and their own remainders -/
example : Rand.intn 3 [9223372032559808512, 21474836480, 7, 8] = .ok (2, [7, 8]) := by rfl

example : Rand.intn 3 [9223372032559808512, 21474836480, 100] = .ok (2, [100]) :=
  prefixDet_agree (Rand.intn_prefixDet 3) (rs₁ := [9223372032559808512, 21474836480, 7, 8]) (rest₁ := [7, 8])
    (by rfl) ⟨[9223372032559808512, 21474836480], rfl, rfl⟩

variable {W : Type} [Scalar W]

theorem Rand.signedUnit_det : Det (Rand.signedUnit (W := W)) := by
  unfold Rand.signedUnit
  pd_auto

theorem newLinkWeight_det : Det (newLinkWeight (W := W)) := by
  unfold newLinkWeight
  pd_auto

theorem singleRouletteThrow_det (probs : List W) : Det (singleRouletteThrow probs) := by
  unfold singleRouletteThrow
  pd_auto

theorem randomNodeActivationType_det (o : MutOpts W) : Det (randomNodeActivationType o) := by
  unfold randomNodeActivationType
  pd_auto

theorem linkWeightsLoop_det (power rate : W) (mt : WeightMutator) (severe : Bool) (genesCount endPart : W)
    (l : List (Gene W)) (num : W) :
    Det (linkWeightsLoop power rate mt severe genesCount endPart l num) := by
  induction l generalizing num with
  | nil => pd_unfold linkWeightsLoop; pd_auto
  | cons x xs ih => pd_unfold linkWeightsLoop; pd_auto

theorem mutateLinkWeights_det (g : Genome W) (power rate : W) (mt : WeightMutator) :
    Det (mutateLinkWeights g power rate mt) := by
  unfold mutateLinkWeights
  pd_auto

theorem traitMutateParams_det (power prob : W) (l : List W) : Det (traitMutateParams power prob l) := by
  induction l with
  | nil => pd_unfold traitMutateParams; pd_auto
  | cons x xs ih => pd_unfold traitMutateParams; pd_auto

theorem mutateRandomTrait_det (g : Genome W) (o : MutOpts W) : Det (mutateRandomTrait g o) := by
  unfold mutateRandomTrait
  pd_auto

omit [Scalar W] in
theorem mutateLinkTrait_det (g : Genome W) (n : Nat) : Det (mutateLinkTrait g n) := by
  induction n generalizing g with
  | zero => pd_unfold mutateLinkTrait; pd_auto
  | succ n ih => pd_unfold mutateLinkTrait; pd_auto

omit [Scalar W] in
theorem mutateNodeTrait_det (g : Genome W) (n : Nat) : Det (mutateNodeTrait g n) := by
  induction n generalizing g with
  | zero => pd_unfold mutateNodeTrait; pd_auto
  | succ n ih => pd_unfold mutateNodeTrait; pd_auto

omit [Scalar W] in
theorem mutateToggleEnable_det (g : Genome W) (n : Nat) : Det (mutateToggleEnable g n) := by
  induction n generalizing g with
  | zero => pd_unfold mutateToggleEnable; pd_auto
  | succ n ih => pd_unfold mutateToggleEnable; pd_auto

theorem mutateAllNonstructural_det (g : Genome W) (o : MutOpts W) : Det (mutateAllNonstructural g o) := by
  unfold mutateAllNonstructural
  pd_auto

theorem pickDistinct_det (nodesLen fns fuel : Nat) : Det (pickDistinct nodesLen fns fuel) := by
  induction fuel with
  | zero => pd_unfold pickDistinct; pd_auto
  | succ n ih => pd_unfold pickDistinct; pd_auto

theorem pickDistinct_prefixDet (nodesLen fns fuel : Nat) : PrefixDet (pickDistinct nodesLen fns fuel) :=
  (pickDistinct_det nodesLen fns fuel).ok

theorem pickDistinct_errPrefixDet (nodesLen fns fuel : Nat) : ErrPrefixDet (pickDistinct nodesLen fns fuel) :=
  (pickDistinct_det nodesLen fns fuel).err

/-- the second alternative: fuel that covers the whole stream is enough, because each round consumes at least two draws -/
theorem pickDistinct_fuel (nodesLen fns : Nat) : ∀ fuel fuel' rs, fuel ≤ fuel' →
    (pickDistinct nodesLen fns fuel rs ≠ .error .outOfRandom ∨ (rs.length ≤ fuel ∧ 1 ≤ fuel)) →
    pickDistinct nodesLen fns fuel' rs = pickDistinct nodesLen fns fuel rs := by
  intro fuel
  induction fuel with
  | zero =>
    intro fuel' rs _ h
    rcases h with h | h
    · exact absurd rfl h
    · omega
  | succ fuel ih =>
    intro fuel' rs hle h
    obtain ⟨f', rfl⟩ : ∃ f', fuel' = f' + 1 := ⟨fuel' - 1, by omega⟩
    rcases h1 : Rand.intn nodesLen rs with e | ⟨n1, rs1⟩
    · simp only [pickDistinct, h1]
    · rcases h2 : Rand.intn (nodesLen - fns) rs1 with e | ⟨k, rs2⟩
      · simp only [pickDistinct, h1, h2]
      · simp only [pickDistinct, h1, h2] at h ⊢
        split
        · next hc =>
          rw [if_pos hc] at h
          refine ih _ _ (by omega) (h.imp_right fun h => ?_)
          obtain ⟨u1, hu1, rfl, -⟩ := (Rand.intn_strict _).1 _ _ _ h1
          obtain ⟨u2, hu2, rfl, -⟩ := (Rand.intn_strict _).1 _ _ _ h2
          have := List.length_pos_iff.mpr hu1
          have := List.length_pos_iff.mpr hu2
          simp only [List.length_append] at h
          omega
        · rfl

theorem pickDistinct_nil (nodesLen fns fuel : Nat) (a : Nat × Nat) (rest : List Nat) :
    pickDistinct nodesLen fns fuel [] ≠ .ok (a, rest) := by
  intro h
  cases fuel with
  | zero => cases h
  | succ fuel =>
    simp only [pickDistinct] at h
    split at h
    · cases h
    · next h1 =>
      obtain ⟨u, hu, he, -⟩ := (Rand.intn_strict _).1 _ _ _ h1
      simp [hu] at he

theorem pickDistinct_len (nodesLen fns : Nat) {n : Nat} {rs : List Nat} (hrs : rs ≠ [])
    (h : pickDistinct nodesLen fns n rs ≠ .error .outOfRandom) :
    pickDistinct nodesLen fns rs.length rs = pickDistinct nodesLen fns n rs := by
  have := List.length_pos_iff.mpr hrs
  by_cases hl : n ≤ rs.length
  · exact pickDistinct_fuel _ _ _ _ _ hl (.inl h)
  · exact (pickDistinct_fuel _ _ _ _ _ (by omega) (.inr ⟨Nat.le_refl _, this⟩)).symm

/-- `pickDistinct` fuelled by the length of the stream (as `pickPair` calls it) -/
theorem pickDistinct_len_det (nodesLen fns : Nat) :
    Det (fun rs => pickDistinct nodesLen fns rs.length rs) := by
  constructor
  · intro rs a rest h
    replace h : pickDistinct nodesLen fns rs.length rs = .ok (a, rest) := h
    obtain ⟨u, rfl, rep⟩ := (pickDistinct_det _ _ _).ok _ _ _ h
    have hu : u ≠ [] := by
      rintro rfl
      exact pickDistinct_nil _ _ _ _ _ (rep [])
    refine ⟨u, rfl, fun rs' => ?_⟩
    show pickDistinct nodesLen fns (u ++ rs').length (u ++ rs') = _
    rw [pickDistinct_len _ _ (n := (u ++ rest).length) (by simp [hu]) (by rw [rep]; simp), rep]
  · intro rs e h
    replace h : pickDistinct nodesLen fns rs.length rs = .error (.error e) := h
    have hrs : rs ≠ [] := by
      rintro rfl
      cases h
    obtain ⟨u, t, rfl, rep⟩ := (pickDistinct_det _ _ _).err _ _ h
    -- the determining prefix may be taken non-empty
    obtain ⟨u', t', hu', he, rep'⟩ : ∃ u' t', u' ≠ [] ∧ u ++ t = u' ++ t' ∧
        ∀ rs', pickDistinct nodesLen fns (u ++ t).length (u' ++ rs') = .error (.error e) := by
      cases u with
      | cons x u => exact ⟨_, t, by simp, rfl, rep⟩
      | nil =>
        cases t with
        | nil => exact absurd rfl hrs
        | cons y t => exact ⟨[y], t, by simp, rfl, fun rs' => rep (y :: rs')⟩
    refine ⟨u', t', he, fun rs' => ?_⟩
    show pickDistinct nodesLen fns (u' ++ rs').length (u' ++ rs') = _
    rw [pickDistinct_len _ _ (n := (u ++ t).length) (by simp [hu']) (by rw [rep']; simp), rep']

theorem pickPair_det (nodesLen fns : Nat) (doRecur : Bool) : Det (pickPair (W := W) nodesLen fns doRecur) := by
  have := pickDistinct_len_det nodesLen fns
  unfold pickPair
  pd_auto

theorem findOpenLink_det (g : Genome W) (fns : Nat) (doRecur : Bool) (tries : Nat) (last : Option (Node × Node)) :
    Det (findOpenLink g fns doRecur tries last) := by
  induction tries generalizing last with
  | zero => pd_unfold findOpenLink; pd_auto
  | succ n ih => pd_unfold findOpenLink; pd_auto

theorem mutateAddLink_det (g : Genome W) (reg : Reg W) (o : MutOpts W) : Det (mutateAddLink g reg o) := by
  unfold mutateAddLink
  pd_auto

theorem pickSplitSmall_det (g : Genome W) (l : List (Gene W)) (i : Nat) : Det (pickSplitSmall g l i) := by
  induction l generalizing i with
  | nil => pd_unfold pickSplitSmall; pd_auto
  | cons x xs ih => pd_unfold pickSplitSmall; pd_auto

omit [Scalar W] in
theorem pickSplitLarge_det (g : Genome W) (tries : Nat) : Det (pickSplitLarge g tries) := by
  induction tries with
  | zero => pd_unfold pickSplitLarge; pd_auto
  | succ n ih => pd_unfold pickSplitLarge; pd_auto

theorem mutateAddNode_det (g : Genome W) (reg : Reg W) (o : MutOpts W) : Det (mutateAddNode g reg o) := by
  unfold mutateAddNode
  pd_auto

theorem connectOne_det (sensor output : Node) (g : Genome W) (reg : Reg W) (linkAdded : Bool) :
    Det (connectOne sensor output g reg linkAdded) := by
  unfold connectOne
  pd_auto

theorem connectLoop_det (sensor : Node) (l : List Node) (g : Genome W) (reg : Reg W) (added : Bool) :
    Det (connectLoop sensor l g reg added) := by
  induction l generalizing g reg added with
  | nil => pd_unfold connectLoop; pd_auto
  | cons x xs ih => pd_unfold connectLoop; pd_auto

theorem mutateConnectSensors_det (g : Genome W) (reg : Reg W) : Det (mutateConnectSensors g reg) := by
  unfold mutateConnectSensors
  pd_auto

theorem disableDraw_det (e1 e2 : Bool) : Det (disableDraw (W := W) e1 e2) := by
  unfold disableDraw
  pd_auto

theorem avgChosen_det (p1 p2 : Genome W) (x y : Gene W) : Det (avgChosen p1 p2 x y) := by
  unfold avgChosen
  pd_auto

/-! The walks and operators are `walkR` resp. `crossover` of a plan and a pick (Proofs/MateWalk.lean): a walk reads a
    prefix of the stream if every pick does. -/

namespace C04
variable {ε : Type}

theorem walkR_det {pick : ε → Rand (Chosen W × Bool)} (hp : ∀ e, Det (pick e)) (nt : List (Trait W)) (t0 : Option Int)
    (es : List ε) (acc : MateAcc W) : Det (walkR pick nt t0 es acc) := by
  induction es generalizing acc with
  | nil => pd_unfold walkR; pd_auto
  | cons e es ih => pd_unfold walkR; pd_auto

theorem plainPair_det (p1 p2 : Genome W) (x y : Gene W) : Det (plainPair p1 p2 x y) := by
  unfold plainPair
  pd_auto

theorem avgPair_det (p1 p2 : Genome W) (x y : Gene W) : Det (avgPair p1 p2 x y) := by
  unfold avgPair
  pd_auto

theorem slotPick_det {m : Gene W → Gene W → Rand (Chosen W × Bool)} (hm : ∀ x y, Det (m x y)) (p1 p2 : Genome W)
    (s : Slot W) : Det (slotPick m p1 p2 s) := by
  cases s <;> (simp only [slotPick]; pd_auto)

theorem spPick_det (q1 q2 : Genome W) (o : Origin W) : Det (spPick q1 q2 o) := by
  cases o <;> (simp only [spPick]; pd_auto)

theorem crossover_det {plan : Rand (List ε)} {pick : ε → Rand (Chosen W × Bool)} (hpl : Det plan) (hp : ∀ e, Det (pick e))
    (g og : Genome W) (id : Int) : Det (crossover g og id plan pick) := by
  have := walkR_det hp
  unfold crossover
  pd_auto

end C04

theorem multipointWalk_det (p1 p2 : Genome W) (newTraits : List (Trait W)) (t0 : Option Int) (better : Bool)
    (l1 l2 : List (Gene W)) (acc : MateAcc W) :
    Det (multipointWalk p1 p2 newTraits t0 better l1 l2 acc) := by
  rw [funext (C04.multipointWalk_eq p1 p2 newTraits t0 better l1 l2 acc)]
  exact C04.walkR_det (C04.slotPick_det (C04.plainPair_det p1 p2) p1 p2) ..

theorem multipointAvgWalk_det (p1 p2 : Genome W) (newTraits : List (Trait W)) (t0 : Option Int) (better : Bool)
    (l1 l2 : List (Gene W)) (acc : MateAcc W) :
    Det (multipointAvgWalk p1 p2 newTraits t0 better l1 l2 acc) := by
  rw [funext (C04.multipointAvgWalk_eq p1 p2 newTraits t0 better l1 l2 acc)]
  exact C04.walkR_det (C04.slotPick_det (C04.avgPair_det p1 p2) p1 p2) ..

theorem singlePointWalk_det (q1 q2 : Genome W) (newTraits : List (Trait W)) (t0 : Option Int) (crossPoint : Nat)
    (l1 l2 : List (Gene W)) (gc : Nat) (last : Option (Chosen W)) (acc : MateAcc W) :
    Det (singlePointWalk q1 q2 newTraits t0 crossPoint l1 l2 gc last acc) := by
  rw [funext (C04.singlePointWalk_eq q1 q2 newTraits t0 crossPoint l1 l2 gc last acc)]
  exact C04.walkR_det (C04.spPick_det q1 q2) ..

theorem mateMultipoint_det (g og : Genome W) (genomeId : Int) (f1 f2 : W) :
    Det (mateMultipoint g og genomeId f1 f2) := by
  rw [C04.mateMultipoint_eq]
  exact C04.crossover_det (by unfold C04.mpPlanR; pd_auto) (C04.slotPick_det (C04.plainPair_det g og) g og) ..

theorem mateMultipointAvg_det (g og : Genome W) (genomeId : Int) (f1 f2 : W) :
    Det (mateMultipointAvg g og genomeId f1 f2) := by
  rw [C04.mateMultipointAvg_eq]
  exact C04.crossover_det (by unfold C04.mpPlanR; pd_auto) (C04.slotPick_det (C04.avgPair_det g og) g og) ..

theorem mateSinglePoint_det (g og : Genome W) (genomeId : Int) : Det (mateSinglePoint g og genomeId) := by
  rw [C04.mateSinglePoint_eq]
  exact C04.crossover_det (by unfold C04.spPlanR; pd_auto) (C04.spPick_det _ _) ..

end GoNeat
