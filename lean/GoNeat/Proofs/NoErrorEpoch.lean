/-
  C02 "without error": the reproduction phase and the whole epoch.  Composition of NoErrorPrepare / NoErrorSeq (`safe_reproduceAll_start`) with
  the C02 / C09 / C01 theorems (`prepare_parents`, `prepare_quota_total`, `prepare_genomes`,
  `prepare_uidInv`, `speciate_orgs`), plus what the next epoch needs again: the organisms of the new generation are
  the babies (unmarked, of the common trait shape).
  Kind A.
-/
import GoNeat.Proofs.NoErrorPrepare
import GoNeat.Proofs.NoErrorSeq
import GoNeat.Props.C09ParentsEpoch

set_option linter.unusedSectionVars false

namespace GoNeat.NoErr
open GoNeat Scalar GoNeat.C01 GoNeat.C02 GoNeat.C09
variable {W : Type} [Scalar W]

theorem reproduceAll_unmarked (o : EpochOpts W) (gen : Int) (sorted ss : List (Species W)) (reg reg' : Reg W) (uid uid' : Nat)
    (babies babies' : List (Org W)) (rs rs' : List Nat)
    (h : reproduceAll o gen sorted ss reg uid babies rs = .ok ((babies', reg', uid'), rs'))
    (hb : ∀ b ∈ babies, b.toEliminate = false) : ∀ b ∈ babies', b.toEliminate = false :=
  reproduceAll_babies (fun _ _ _ _ _ _ => rfl) h hb

def Newborn (S : List Nat) (x : Org W) : Prop := shape x.genome = S ∧ x.toEliminate = false

theorem speciate_newborn {S : List Nat} {o : EpochOpts W} {p p' : Pop W} {orgs : List (Org W)}
    (h : speciate o p orgs = .ok p') (hb : ∀ b ∈ orgs, Newborn S b) :
    (∀ x ∈ allOrgs p', x ∈ allOrgs p ∨ Newborn S x) ∧ p'.organisms = p.organisms :=
  ⟨fun x hx => ((speciate_orgs o p p' orgs h).1 x hx).imp_right (hb x),
    (C02.speciateLoop_uids o p p' orgs (speciate_ok h).2).2.1⟩

/-- `hprog`: the progeny-size check of the phase passes (`safe_nextEpoch_core` gets it from `C02.progeny_size_exact`) -/
theorem safe_reproducePhase (hlaw : UnitMulLe W) (hpick : PickLaw W) (o : EpochOpts W) (ha : ActOk o.mopts)
    (hct : eq o.compatThreshold zero = false) (hpop : 1 ≤ o.popSize) (gen : Int) (p1 : Pop W) (ex : ExecState) (rs : List Nat) (hv : Valid rs)
    (S : List Nat)
    (hne1 : ∀ s ∈ p1.species, s.orgs ≠ [])
    (hsne : (ex.sortedIds.filterMap (fun i => p1.species.find? (·.id == i))) ≠ [])
    (henv : PoolEnv S p1.reg (genomesOfPop p1))
    (hprog : ∀ sorted reg' uid' babies rs2, reproduceAll o gen sorted p1.species p1.reg p1.nextUid [] rs = .ok ((babies, reg', uid'), rs2) →
      babies.length = o.popSize) :
    Safe (fun p2 => (∀ x ∈ allOrgs p2, x ∈ allOrgs p1 ∨ Newborn S x) ∧ p2.organisms = p1.organisms)
      (reproducePhase o gen p1 ex rs) := by
  unfold reproducePhase
  simp only
  have hall := safe_reproduceAll_start hlaw hpick o ha gen p1.species (fun _ hs => ReproEnv.of_pop henv hne1 hsne hs)
    p1.reg p1.nextUid [] rs hv henv.recs (fun _ hb => nomatch hb)
  split
  · next e he => exact hall.err he
  · next babies reg uid rs' he =>
    have hshape := (hall.post he).2
    have hlen := hprog _ _ _ _ _ he
    rw [if_neg (by simpa using hlen)]
    have hbne : babies ≠ [] := by intro e; rw [e] at hlen; simp at hlen; omega
    have hs := safe_speciate o { p1 with reg := reg, nextUid := uid } babies hbne hct
    split
    · next e he2 => exact hs.err he2
    · next p' he2 =>
      have hun := reproduceAll_unmarked o gen _ _ _ _ _ _ _ _ _ _ he (by intro b hb; cases hb)
      have hpost := speciate_newborn he2 (fun b hb => ⟨hshape b hb, hun b hb⟩)
      exact hpost

structure OptsOk (o : EpochOpts W) : Prop where
  popSize : 1 ≤ o.popSize
  stolen : 0 ≤ o.babiesStolen
  compat : eq o.compatThreshold zero = false
  acts : ActOk o.mopts
  parents : ∀ n, n ≤ o.popSize → 1 ≤ numParents o n

structure PopOk (S : List Nat) (o : EpochOpts W) (p : Pop W) : Prop where
  uid : UidInv p
  spid : SpIdInv p
  size : p.organisms.length = o.popSize
  perm : (orgUids p.species).Perm p.organisms
  nodup : p.organisms.Nodup
  nonempty : ∀ s ∈ p.species, s.orgs ≠ []
  unmarked : ∀ x ∈ allOrgs p, x.toEliminate = false
  pool : PoolOk p.reg (genomesOfPop p)
  recs : RecTraits S.length p.reg
  shaped : ∀ g ∈ genomesOfPop p, shape g = S

structure Hyp (S : List Nat) (o : EpochOpts W) (p : Pop W) : Prop where
  opts : OptsOk o
  pop : PopOk S o p
  quota : QuotaOk o p

theorem orgs_le_uids (ss : List (Species W)) (s : Species W) (hs : s ∈ ss) : s.orgs.length ≤ (orgUids ss).length := by
  induction ss with
  | nil => cases hs
  | cons a t ih =>
    simp only [orgUids, List.flatMap_cons, List.length_append, List.length_map]
    rcases List.mem_cons.mp hs with rfl | h
    · omega
    · have := ih h; simp only [orgUids] at this; omega

theorem rawAssign_ne (p' : Pop W) (hsp : p'.species ≠ []) : (rawAssign p').1 ≠ [] := by
  unfold rawAssign
  simp only
  exact list_ne_of_map_eq (assignQuotas_noQuota _ _ _) (by simpa using hsp)

theorem Hyp.species_ne {S : List Nat} {o : EpochOpts W} {p : Pop W} (h : Hyp S o p) : p.species ≠ [] := by
  intro e
  have h1 := h.pop.size
  have h3 := h.pop.perm.length_eq
  rw [e] at h3
  have h2 := h.opts.popSize
  simp [orgUids] at h3
  omega

theorem prepared_facts (S : List Nat) (o : EpochOpts W) (p : Pop W) (h : Hyp S o p) (rs rs1 : List Nat) (p1 : Pop W)
    (ex : ExecState) (he : prepareForReproduction o p rs = .ok ((p1, ex), rs1)) :
    (∀ s ∈ p1.species, s.orgs ≠ []) ∧ PoolEnv S p1.reg (genomesOfPop p1) ∧
    quotaSum p1.species = o.popSize ∧ (∀ s ∈ p1.species, 0 ≤ s.expectedOffspring) ∧ UidInv p1 := by
  have hspne := h.species_ne
  obtain ⟨ho, hp, hq⟩ := h
  have hundup : (orgUids p.species).Nodup := hp.perm.nodup_iff.mpr hp.nodup
  have hpar := prepare_parents o p p1 ex rs rs1 hp.spid.nodup hp.uid hundup
    (fun s hs x hx => hp.unmarked x (mem_allOrgs.mpr ⟨s, hs, hx⟩)) he
  have hne1 : ∀ s ∈ p1.species, s.orgs ≠ [] := by
    intro s1 hs1 e
    obtain ⟨s0, hs0, _, huids⟩ := hpar s1 hs1
    rw [e] at huids
    have htake : (sortedAdjusted o s0).take (numParents o s0.orgs.length).toNat = [] := by
      simpa using huids.symm
    have hlen : s0.orgs.length ≤ o.popSize := by
      have := orgs_le_uids p.species s0 hs0
      rw [hp.perm.length_eq, hp.size] at this; exact this
    have hnp := ho.parents _ hlen
    rcases List.take_eq_nil_iff.mp htake with h0 | h0
    · omega
    · have hperm := (goSort_perm (fun a b => orgLess b a)
        (s0.orgs.map (fun x => { x with originalFitness := x.fitness, fitness := adjustedFitness o s0 x.fitness }))).length_eq
      unfold sortedAdjusted sortOrgsDesc at h0
      rw [h0] at hperm
      simp only [List.length_nil, List.length_map] at hperm
      exact hp.nonempty s0 hs0 (List.length_eq_zero_iff.mp hperm.symm)
  obtain ⟨hsub, hreg⟩ := prepare_genomes o p p1 ex rs rs1 he
  have hsubg := genomesOfPop_sub hsub
  have henv1 : PoolEnv S p1.reg (genomesOfPop p1) :=
    ⟨by rw [hreg]; exact hp.pool.subset hsubg, by rw [hreg]; exact hp.recs, fun g hg => hp.shaped g (hsubg g hg)⟩
  obtain ⟨species1, hadj, _⟩ := (safe_adjustAll o p.species hp.nonempty).ok
  obtain ⟨hnn, hle⟩ := hq species1 hadj
  have hsp1 : species1 ≠ [] := list_ne_of_map_eq (adjustAll_keys o _ _ hadj) hspne
  obtain ⟨ht, hn⟩ := prepare_quota_total o p p1 ex rs rs1 species1 hp.size hp.spid.nodup ho.stolen hadj hnn hle
    (rawAssign_ne _ hsp1) he
  obtain ⟨hu1, _⟩ := prepare_uidInv o p p1 ex rs rs1 hp.spid.nodup hp.uid he
  exact ⟨hne1, henv1, ht, hn, hu1⟩

/-- finalisation leaves the newborn: an organism of the old generation is listed, hence purged -/
theorem finalize_newborn {S : List Nat} {p1 p2 : Pop W} (hu1 : UidInv p1)
    (horgs : ∀ x ∈ allOrgs p2, x ∈ allOrgs p1 ∨ Newborn S x) (horg2 : p2.organisms = p1.organisms) :
    ∀ x ∈ allOrgs (finalizeReproduction p2), Newborn S x := by
  intro x hx
  obtain ⟨y, hy, hyu, hxy⟩ := finalize_allOrgs p2 x hx
  rcases horgs y hy with hold | hnew
  · exfalso
    apply hyu
    rw [horg2]
    apply hu1.listed
    obtain ⟨s, hs, hys⟩ := mem_allOrgs.mp hold
    simp only [orgUids, List.mem_flatMap, List.mem_map]
    exact ⟨s, hs, y, hys, rfl⟩
  · rw [hxy]; exact hnew

theorem safe_nextEpoch_core (hlaw : UnitMulLe W) (hpick : PickLaw W) (S : List Nat) (o : EpochOpts W) (p : Pop W)
    (h : Hyp S o p) (gen : Int) (rs : List Nat) (hv : Valid rs) :
    Safe (fun p' => ∀ x ∈ allOrgs p', Newborn S x) (nextEpoch o gen p rs) := by
  have hprep := safe_prepare o p rs h.pop.nonempty h.species_ne h.pop.size h.opts.popSize h.quota
  unfold nextEpoch
  rcases he : prepareForReproduction o p rs with e | ⟨⟨p1, ex⟩, rs1⟩
  · exact hprep.err he
  · dsimp only
    obtain ⟨hne1, henv1, ht, hn, hu1⟩ := prepared_facts S o p h rs rs1 p1 ex he
    -- the progeny-size check cannot fire: the quotas total the population size
    have hrep := safe_reproducePhase hlaw hpick o h.opts.acts h.opts.compat h.opts.popSize gen p1 ex rs1
      ((prepareForReproduction_det o p).valid hv he) S hne1 (hprep.post he) henv1
      (fun sorted reg' uid' babies rs2 hall =>
        C02.progeny_size_exact o gen p1 sorted p1.reg reg' p1.nextUid uid' babies rs1 rs2 hn ht hall)
    rcases he2 : reproducePhase o gen p1 ex rs1 with e | ⟨p2, rs2⟩
    · exact hrep.err he2
    · obtain ⟨horgs, horg2⟩ := hrep.post he2
      exact finalize_newborn hu1 horgs horg2

end GoNeat.NoErr
