/-
  C15, helper lemmas for the plain format (`Model/PlainIO.lean`): tokens parse back; the genome reader on the written
  lines (one line, the three blocks, the whole genome); the population reader on the lines of one genome.  The two
  hypotheses about the codec, `FloatsRoundTrip` and `ActsRoundTrip`, are defined here.  Core Lean only.
-/
import GoNeat.Model.PlainIO

namespace GoNeat.PlainIO
variable {F : Type}

theorem parseNatChars_toDigits (n : Nat) : parseNatChars (Nat.toDigits 10 n) = some n := by
  unfold parseNatChars
  have hne : (Nat.toDigits 10 n).isEmpty = false := by
    cases h : Nat.toDigits 10 n with
    | nil => exact absurd h Nat.toDigits_ne_nil
    | cons => rfl
  have hall : (Nat.toDigits 10 n).all Char.isDigit = true := by
    rw [List.all_eq_true]
    intro c hc
    exact Nat.isDigit_of_mem_toDigits (by decide) (by decide) hc
  simp [hne, hall]

theorem parseInt_fmtNat (n : Nat) : parseInt (fmtNat n) = some (n : Int) := by
  unfold parseInt fmtNat
  rw [String.toList_ofList]
  have hd : ∀ c ∈ Nat.toDigits 10 n, c.isDigit = true := fun c hc =>
    Nat.isDigit_of_mem_toDigits (by decide) (by decide) hc
  split
  · rename_i cs h
    have := hd '-' (by rw [h]; exact List.mem_cons_self)
    exact absurd this (by decide)
  · rename_i cs h
    have := hd '+' (by rw [h]; exact List.mem_cons_self)
    exact absurd this (by decide)
  · simp [parseNatChars_toDigits]

theorem parseInt_fmtInt (i : Int) : parseInt (fmtInt i) = some i := by
  cases i with
  | ofNat n => exact parseInt_fmtNat n
  | negSucc n =>
    unfold parseInt fmtInt
    rw [String.toList_ofList]
    simp only [parseNatChars_toDigits]
    rfl

theorem parseBool_fmtBool (b : Bool) : parseBool (fmtBool b) = some b := by
  cases b <;> simp [parseBool, fmtBool]

theorem parseIntBits_fmtInt {bits : Nat} {i : Int} (h : fits bits i = true) :
    parseIntBits bits (fmtInt i) = .ok i := by
  unfold parseIntBits
  rw [parseInt_fmtInt]
  simp only [fits, Bool.and_eq_true, decide_eq_true_eq] at h
  simp [h.1, h.2]

theorem kindOfInt_natCast (k : Nat) : kindOfInt (k : Int) = k := by
  unfold kindOfInt
  have : ¬ ((k : Int) < 0) := by omega
  simp [this]

theorem traitRef_of_refOK {traits : List (Trait F)} {r : Option Int} (h : refOK traits r = true) :
    traitRef traits (traitIdOf r) = r := by
  cases r with
  | none => simp [traitRef, traitIdOf, traitWithId]
  | some id =>
    simp only [refOK, Bool.and_eq_true, bne_iff_ne, ne_eq, List.any_eq_true, beq_iff_eq] at h
    obtain ⟨hne, t, ht, hid⟩ := h
    simp only [traitRef, traitIdOf, traitWithId, hne, if_false]
    have hsome : (traits.find? (·.id == id)).isSome = true := by
      rw [List.find?_isSome]; exact ⟨t, ht, by simp [hid]⟩
    cases hf : traits.find? (·.id == id) with
    | none => simp [hf] at hsome
    | some t' =>
      have := List.find?_some hf
      simp only [beq_iff_eq] at this
      simp [this]

theorem key_not_mem_of_nodup {α β : Type} {f : α → β} {acc xs : List α} {x : α}
    (h : ((acc ++ x :: xs).map f).Nodup) : f x ∉ acc.map f := by
  simp only [List.map_append, List.map_cons, List.nodup_append] at h
  exact fun hmem => h.2.2 _ hmem _ List.mem_cons_self rfl

/-- `rd` is a variable with its one-step equation `hstep` as hypothesis: a combinator would need an agreement induction per reader. -/
theorem accum_enc {α β κ ρ : Type} (key : β → κ) (enc : β → α) (ok : β → Prop) (rd : List β → List α → ρ)
    (hstep : ∀ acc x rest, ok x → key x ∉ acc.map key → rd acc (enc x :: rest) = rd (acc ++ [x]) rest)
    (xs acc : List β) (rest : List α) (hok : ∀ x ∈ xs, ok x) (hnd : ((acc ++ xs).map key).Nodup) :
    rd acc (xs.map enc ++ rest) = rd (acc ++ xs) rest := by
  induction xs generalizing acc with
  | nil => simp
  | cons x xs ih =>
    rw [List.map_cons, List.cons_append, hstep acc x _ (hok x List.mem_cons_self) (key_not_mem_of_nodup hnd),
      ih (acc ++ [x]) (fun y hy => hok y (List.mem_cons_of_mem _ hy)) (by simpa using hnd), List.append_assoc,
      List.singleton_append]

theorem traitWithId_none_of_not_mem {traits : List (Trait F)} {id : Int}
    (h : id ∉ traits.map (·.id)) : traitWithId id traits = none := by
  unfold traitWithId
  split
  · rfl
  · rw [List.find?_eq_none]
    intro t ht hb
    simp only [beq_iff_eq] at hb
    exact h (List.mem_map.mpr ⟨t, ht, hb⟩)

theorem any_id_false_of_not_mem {nodes : List Node} {id : Int}
    (h : id ∉ nodes.map (·.id)) : nodes.any (·.id == id) = false := by
  rw [Bool.eq_false_iff]
  intro hc
  rw [List.any_eq_true] at hc
  obtain ⟨n, hn, hb⟩ := hc
  simp only [beq_iff_eq] at hb
  exact h (List.mem_map.mpr ⟨n, hn, hb⟩)

/-- the explicit hypothesis about the float spelling: what is printed parses back to the same value -/
def FloatsRoundTrip (C : Codec F) : Prop := ∀ x : F, C.parseF (C.fmtF x) = some x

def ActsRoundTrip (C : Codec F) : Prop := ∀ (a : Nat) (nm : String), C.actName a = some nm → C.actOfName nm = some a

theorem readFloats_map (C : Codec F) (hF : FloatsRoundTrip C) (xs : List F) (extra : Line) :
    readFloats C xs.length (xs.map C.fmtF ++ extra) = .ok xs := by
  induction xs with
  | nil => simp [readFloats]
  | cons x xs ih => simp [readFloats, hF x, ih]

theorem step_startLine (C : Codec F) (st : St F) (id : Int) : step C st (startLine id) = .ok st := by
  simp [step, stepKw, startLine]

theorem step_endLine (C : Codec F) (st : St F) (id : Int) :
    step C st (endLine id) = .ok { st with id := id } := by
  simp [step, stepKw, endLine, parseInt_fmtInt]

theorem step_traitLine (C : Codec F) (hF : FloatsRoundTrip C) (st : St F) (t : Trait F)
    (hlen : t.params.length = numTraitParams) (hnew : t.id ∉ st.traits.map (·.id)) :
    step C st (traitLine C t) = .ok { st with traits := st.traits ++ [t] } := by
  have hne : t.params.isEmpty = false := by
    cases hp : t.params with
    | nil => rw [hp] at hlen; simp [numTraitParams] at hlen
    | cons => rfl
  have hrf : readFloats C numTraitParams (t.params.map C.fmtF) = .ok t.params := by
    have := readFloats_map C hF t.params []
    rw [hlen, List.append_nil] at this
    exact this
  simp [step, stepKw, traitLine, hne, readTrait, parseInt_fmtInt, hrf, traitWithId_none_of_not_mem hnew]

theorem step_nodeLine (C : Codec F) (hA : ActsRoundTrip C) (st : St F) (n : Node)
    (hok : nodeOK C st.traits n = true) (hnew : n.id ∉ st.nodes.map (·.id)) :
    step C st (nodeLine C n) = .ok { st with nodes := st.nodes ++ [n] } := by
  simp only [nodeOK, Bool.and_eq_true, decide_eq_true_eq] at hok
  obtain ⟨⟨⟨⟨hid, htid⟩, hk⟩, href⟩, hact⟩ := hok
  cases hnm : C.actName n.act with
  | none => simp [hnm] at hact
  | some nm =>
    have hback : C.actOfName nm = some n.act := hA _ _ hnm
    have hkind : parseIntBits 8 (fmtNat n.kind) = .ok (n.kind : Int) := by
      have : fmtNat n.kind = fmtInt (n.kind : Int) := rfl
      rw [this]
      apply parseIntBits_fmtInt
      simp only [fits, Bool.and_eq_true, decide_eq_true_eq]
      have h128 : (2 : Int) ^ (8 - 1) = 128 := by decide
      rw [h128]
      have hk' : ((n.kind : Nat) : Int) < 128 := Int.ofNat_lt.mpr hk
      have h0 : (0 : Int) ≤ ((n.kind : Nat) : Int) := Int.natCast_nonneg _
      exact ⟨Int.le_trans (by decide) h0, hk'⟩
    simp [step, stepKw, nodeLine, readNode, parseIntBits_fmtInt hid, parseIntBits_fmtInt htid, hkind, hnm, hback,
      kindOfInt_natCast, traitRef_of_refOK href, any_id_false_of_not_mem hnew]

theorem step_geneLine (C : Codec F) (hF : FloatsRoundTrip C) (st : St F) (g : Gene F)
    (hok : geneOK st.traits st.nodes g = true) :
    step C st (geneLine C g) = .ok { st with genes := st.genes ++ [g] } := by
  simp only [geneOK, Bool.and_eq_true] at hok
  obtain ⟨⟨href, hsrc⟩, hdst⟩ := hok
  simp [step, stepKw, geneLine, readGene, parseInt_fmtInt, parseBool_fmtBool, hF g.w, hF g.mnum, hsrc, hdst,
    traitRef_of_refOK href]

theorem parseLines_traits (C : Codec F) (hF : FloatsRoundTrip C) (ts : List (Trait F)) (st : St F) (rest : List Line)
    (hlen : ∀ t ∈ ts, t.params.length = numTraitParams)
    (hnd : ((st.traits ++ ts).map (·.id)).Nodup) :
    parseLines C st (ts.map (traitLine C) ++ rest) = parseLines C { st with traits := st.traits ++ ts } rest :=
  accum_enc (·.id) (traitLine C) _ (fun acc => parseLines C { st with traits := acc })
    (fun acc t _ hl hn => by simp only [parseLines, step_traitLine C hF { st with traits := acc } t hl hn])
    ts st.traits rest hlen hnd

theorem parseLines_nodes (C : Codec F) (hA : ActsRoundTrip C) (ns : List Node) (st : St F) (rest : List Line)
    (hok : ∀ n ∈ ns, nodeOK C st.traits n = true)
    (hnd : ((st.nodes ++ ns).map (·.id)).Nodup) :
    parseLines C st (ns.map (nodeLine C) ++ rest) = parseLines C { st with nodes := st.nodes ++ ns } rest :=
  accum_enc (·.id) (nodeLine C) _ (fun acc => parseLines C { st with nodes := acc })
    (fun acc n _ hn hnew => by simp only [parseLines, step_nodeLine C hA { st with nodes := acc } n hn hnew])
    ns st.nodes rest hok hnd

theorem any_append_left {α} (p : α → Bool) (l r : List α) (h : l.any p = true) : (l ++ r).any p = true := by
  simp [List.any_append, h]

theorem parseLines_genes (C : Codec F) (hF : FloatsRoundTrip C) (gs : List (Gene F)) (st : St F) (rest : List Line)
    (hok : ∀ g ∈ gs, geneOK st.traits st.nodes g = true) :
    parseLines C st (gs.map (geneLine C) ++ rest) = parseLines C { st with genes := st.genes ++ gs } rest := by
  induction gs generalizing st with
  | nil => simp
  | cons g gs ih =>
    simp only [List.map_cons, List.cons_append, parseLines, step_geneLine C hF st g (hok g List.mem_cons_self)]
    rw [ih { st with genes := st.genes ++ [g] } (fun g' hg' => hok g' (List.mem_cons_of_mem _ hg'))]
    simp [List.append_assoc]

/-- a line the population reader appends to the current genome buffer: at least two tokens, keyword none of
    `genomestart`, `genomeend`, `/*` -/
def bodyLine (ln : Line) : Bool :=
  match ln with
  | kw :: _ :: _ => kw != "genomestart" && kw != "genomeend" && kw != "/*"
  | _ => false

theorem popLines_body (C : Codec F) (ls rest : List Line) (st : PSt F) (b : List Line) (hb : st.buf = some b)
    (h : ∀ l ∈ ls, bodyLine l = true) :
    popLines C st (ls ++ rest) = popLines C { st with buf := some (b ++ ls) } rest := by
  induction ls generalizing st b with
  | nil => cases st; simp_all
  | cons l ls ih =>
    have hl := h l List.mem_cons_self
    match l, hl with
    | kw :: t :: ts, hl =>
      simp only [bodyLine, Bool.and_eq_true, bne_iff_ne, ne_eq] at hl
      simp only [List.cons_append, popLines, popStep, popStepKw, hl.1.1, hl.1.2, hl.2, if_false, hb]
      rw [ih { st with buf := some (b ++ [kw :: t :: ts]) } (b ++ [kw :: t :: ts]) rfl
        (fun l' hl' => h l' (List.mem_cons_of_mem _ hl'))]
      simp [List.append_assoc]

theorem popLines_comments (C : Codec F) (cs : List (List String)) (ls : List Line) (st : PSt F)
    (hne : ∀ c ∈ cs, c ≠ []) :
    popLines C st (cs.map commentLine ++ ls) = popLines C st ls := by
  induction cs with
  | nil => simp
  | cons c cs ih =>
    match c, hne c List.mem_cons_self with
    | t :: ts, _ =>
      simp only [List.map_cons, List.cons_append, popLines, commentLine, popStep, popStepKw]
      simp only [show ¬ ("/*" = "genomestart") by decide, show ¬ ("/*" = "genomeend") by decide, if_false, if_true]
      exact ih (fun c' hc' => hne c' (List.mem_cons_of_mem _ hc'))

theorem parse_render_aux (C : Codec F) (hF : FloatsRoundTrip C) (hA : ActsRoundTrip C) (g : Genome F)
    (h : WFio C g = true) : parse C (render C g) = .ok g := by
  simp only [WFio, Bool.and_eq_true, decide_eq_true_eq, List.all_eq_true, beq_iff_eq, bne_iff_ne, ne_eq,
    List.isEmpty_iff] at h
  obtain ⟨⟨⟨⟨⟨htr, hndT⟩, hndN⟩, hnodes⟩, hgenes⟩, hmods⟩ := h
  unfold parse render
  simp only [parseLines, step_startLine]
  rw [parseLines_traits C hF g.traits {} _ (fun t ht => (htr t ht).1) (by simpa using hndT),
    parseLines_nodes C hA g.nodes _ _ (by simpa using hnodes) (by simpa using hndN),
    parseLines_genes C hF g.genes _ _ (by simpa using hgenes)]
  simp only [List.nil_append, parseLines, step_endLine, St.toGenome]
  cases g
  simp_all

theorem readGenome_render_aux (C : Codec F) (hF : FloatsRoundTrip C) (hA : ActsRoundTrip C) (g : Genome F)
    (h : WFio C g = true) : readGenome C (render C g) g.id = .ok g := by
  simp [readGenome, parse_render_aux C hF hA g h]

end GoNeat.PlainIO
