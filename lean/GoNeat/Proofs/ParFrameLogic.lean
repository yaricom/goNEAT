/-
  C16(b), the rely/guarantee LOGIC for threads (`Prog`) that share the registry, for EVERY scheduler (its soundness:
  Proofs/ParFrameSound.lean; the obligations of the programs: Proofs/ParFrameMut.lean, Proofs/ParFrameSpecies.lean).

  * `PValid bi Post L p`   the thread-local proof obligation of program `p` from view `L`: one rule per registry operation.
              What a thread may ASSUME after an operation is only what survives every interference of the others
              (`SnapOk`: a snapshot's records agree with the thread's own bindings; `FreshI`/`FreshN`: a drawn number is
              new to the thread); what it must GUARANTEE when it stores (`StoreOk`): the record consists of numbers it
              drew itself (never "the next consecutive one"), a split record names a gene it holds.  New bindings enter a
              thread's genomes only as dictated by a record it knows (`JustB`/`JustR`, ghost rules).
  * `bi`      the base number of the parallel phase, a parameter of everything here: every genome's FIRST gene carries a
              number of at most `bi` (`HeadLe bi`, Proofs/ParFrameMut.lean), every number recorded or drawn during the
              phase is above it (`SnapOk.above`, `FreshI`).  So a gene inserted by a structural mutation never comes to
              stand before the first gene (`LStep.head`), which C01's pool invariant needs (`SharedHead`).  At the start of
              an epoch the records are empty and the innovation counter is such a number (`startOk_of_empty`, Props/C16Par.lean).

  The same protocol (snapshot · fetch-add · store, pending numbers owned by the thread that drew them) is proved consistent a
  second time over the small abstract model of Model/RegistryPar.lean (`RegPar.interleaved_consistent`, Proofs/RegistryPar.lean):
  requests instead of programs, natural numbers, a ghost log instead of genomes.  What that says of its registry, `GInv`
  and `par_mutation_consistent` say of the real one; it is kept as the model one can read in one sitting.  The guarantees of the executor
  rest on the development here, and this is the one to extend.
-/
import GoNeat.Spec.Registry
import GoNeat.Model.ParEpoch

set_option linter.unusedSectionVars false

namespace GoNeat.C16
open GoNeat GoNeat.C03
variable {W : Type}

/-- ghost view of one thread: the bindings `B` (innovation number ↦ link) and roles `R` (node id ↦ kind) of the genomes it
    holds; the innovation numbers `pendI` and node ids `pendN` it has drawn from the counters and not yet stored in a record
    (it owns them); the records `known` it has seen in a snapshot or stored itself -/
structure Local (W : Type) where
  B : List Bind
  R : List Role
  pendI : List Int
  pendN : List Int
  known : List (Innov W)

structure SnapOk (bi : Int) (L : Local W) (recs : List (Innov W)) : Prop where
  link : ∀ i ∈ recs, i.typ = 2 → ∀ b ∈ L.B, b.1 = i.inn → b = (i.inn, i.inId, i.outId, i.recur)
  node1 : ∀ i ∈ recs, i.typ = 1 → ∀ b ∈ L.B, b.1 = i.inn → b.2.1 = i.inId ∧ b.2.2.1 = i.newNode
  node2 : ∀ i ∈ recs, i.typ = 1 → ∀ b ∈ L.B, b.1 = i.inn2 → b = (i.inn2, i.newNode, i.outId, false)
  nodeR : ∀ i ∈ recs, i.typ = 1 → ∀ p ∈ L.R, p.1 = i.newNode → p.2 = Kind.hidden
  ne12 : ∀ i ∈ recs, i.typ = 1 → i.inn ≠ i.inn2
  above : ∀ i ∈ recs, ∀ k ∈ recInns i, bi < k

def FreshI (bi : Int) (L : Local W) (n : Int) : Prop := (∀ b ∈ L.B, b.1 < n) ∧ n ∉ L.pendI ∧ bi < n
def FreshN (L : Local W) (n : Int) : Prop := (∀ p ∈ L.R, p.1 ≠ n) ∧ n ∉ L.pendN

def StoreOk (L : Local W) (i : Innov W) : Prop :=
  (i.typ = 2 ∧ i.inn ∈ L.pendI) ∨
  (i.typ = 1 ∧ i.inn ∈ L.pendI ∧ i.inn2 ∈ L.pendI ∧ i.inn ≠ i.inn2 ∧ i.newNode ∈ L.pendN ∧
    ∃ y ∈ L.B, y.1 = i.oldInn ∧ y.2.1 = i.inId ∧ y.2.2.1 = i.outId)

def Local.afterStore (L : Local W) (i : Innov W) : Local W :=
  { L with pendI := L.pendI.filter (fun n => decide (n ∉ recInns i)),
           pendN := L.pendN.filter (fun n => decide (¬ (i.typ = 1 ∧ n = i.newNode))),
           known := i :: L.known }

def JustB (L : Local W) (b : Bind) : Prop :=
  (∃ i ∈ L.known, i.typ = 2 ∧ b = (i.inn, i.inId, i.outId, i.recur)) ∨
  (∃ i ∈ L.known, i.typ = 1 ∧ ∃ y ∈ L.B, y.1 = i.oldInn ∧ b = (i.inn, i.inId, i.newNode, y.2.2.2)) ∨
  (∃ i ∈ L.known, i.typ = 1 ∧ b = (i.inn2, i.newNode, i.outId, false))

def JustR (L : Local W) (p : Role) : Prop := ∃ i ∈ L.known, i.typ = 1 ∧ p = (i.newNode, Kind.hidden)

inductive PValid {α : Type} (bi : Int) (Post : Local W → α → Prop) : Local W → Prog W α → Prop
  | done {L a} : Post L a → PValid bi Post L (.done a)
  | snap {L k} : (∀ recs, SnapOk bi L recs → PValid bi Post { L with known := recs ++ L.known } (k recs)) → PValid bi Post L (.snap k)
  | nextInn {L k} : (∀ n, FreshI bi L n → PValid bi Post { L with pendI := n :: L.pendI } (k n)) → PValid bi Post L (.nextInn k)
  | nextNode {L k} : (∀ n, FreshN L n → PValid bi Post { L with pendN := n :: L.pendN } (k n)) → PValid bi Post L (.nextNode k)
  | store {L i k} : StoreOk L i → PValid bi Post (L.afterStore i) k → PValid bi Post L (.store i k)
  | ghostB {L b p} : JustB L b → PValid bi Post { L with B := b :: L.B } p → PValid bi Post L p
  | ghostR {L r p} : JustR L r → PValid bi Post { L with R := r :: L.R } p → PValid bi Post L p

theorem PValid.bind {α β : Type} {bi : Int} {Post1 : Local W → α → Prop} {Post2 : Local W → β → Prop} {L : Local W} {p : Prog W α}
    {f : α → Prog W β} (h : PValid bi Post1 L p) (hf : ∀ L' a, Post1 L' a → PValid bi Post2 L' (f a)) :
    PValid bi Post2 L (p.bind f) := by
  induction h with
  | done hp => exact hf _ _ hp
  | snap _ ih => exact .snap (fun recs hs => ih recs hs)
  | nextInn _ ih => exact .nextInn (fun n hn => ih n hn)
  | nextNode _ ih => exact .nextNode (fun n hn => ih n hn)
  | store hs _ ih => exact .store hs ih
  | ghostB hj _ ih => exact .ghostB hj ih
  | ghostR hj _ ih => exact .ghostR hj ih

theorem PValid.mono {α : Type} {bi : Int} {Post1 Post2 : Local W → α → Prop} {L : Local W} {p : Prog W α}
    (h : PValid bi Post1 L p) (hm : ∀ L' a, Post1 L' a → Post2 L' a) : PValid bi Post2 L p := by
  induction h with
  | done hp => exact .done (hm _ _ hp)
  | snap _ ih => exact .snap (fun recs hs => ih recs hs)
  | nextInn _ ih => exact .nextInn (fun n hn => ih n hn)
  | nextNode _ ih => exact .nextNode (fun n hn => ih n hn)
  | store hs _ ih => exact .store hs ih
  | ghostB hj _ ih => exact .ghostB hj ih
  | ghostR hj _ ih => exact .ghostR hj ih

end GoNeat.C16
