-- all property modules (built by setup.sh)
import GoNeat.Props.C04
import GoNeat.Props.C05
import GoNeat.Props.C06
import GoNeat.Props.C07
import GoNeat.Props.C07Exact
import GoNeat.Props.C08
import GoNeat.Props.C12
import GoNeat.Props.C13
import GoNeat.Props.C18Registry
import GoNeat.Props.C18
import GoNeat.Props.C18Mod
import GoNeat.Props.C09
import GoNeat.Props.C09Exact
import GoNeat.Props.C10
import GoNeat.Props.C02
import GoNeat.Props.C02Ids
import GoNeat.Props.C02Epoch
import GoNeat.Props.C08Batch
import GoNeat.Props.C08Epoch
import GoNeat.Props.C10Sort
import GoNeat.Props.C07Fast
import GoNeat.Props.C07FastExact
import GoNeat.Props.C20
import GoNeat.Props.C19
import GoNeat.Props.C19Exact
import GoNeat.Props.C19Gen
import GoNeat.Props.C14
import GoNeat.Props.C11
import GoNeat.Props.C11Mod
import GoNeat.Props.C16
import GoNeat.Props.C16Par
import GoNeat.Props.C16NoError
import GoNeat.Props.C17
import GoNeat.Props.C15
import GoNeat.Props.C15Tables
import GoNeat.Props.C03
import GoNeat.Props.C09Parents
import GoNeat.Props.C09ParentsExact
import GoNeat.Props.C01
import GoNeat.Props.C05More
import GoNeat.Props.C06Spawn
import GoNeat.Props.C12Fast
import GoNeat.Proofs.DepthUnify
import GoNeat.Props.C10Exact
import GoNeat.Props.C09Prepare
import GoNeat.Props.C04More
import GoNeat.Props.C04Check
import GoNeat.Props.C09ParentsEpoch
import GoNeat.Props.C09Expected
import GoNeat.Props.C05Check
import GoNeat.Props.C02NoError
import GoNeat.Props.C02NoErrorExact
import GoNeat.Props.C13Mod
import GoNeat.Props.C13Depth
import GoNeat.Props.C10Epoch
import GoNeat.Props.C01GenRand
import GoNeat.Props.C03GenRand
import GoNeat.Props.C20Epoch
import GoNeat.Props.C02Perm
import GoNeat.Props.C10Perm
import GoNeat.Props.C10Champion
import GoNeat.Props.C10ChampionExact
import GoNeat.Props.C10ChampionCheck
import GoNeat.Props.C10SpeciesMax
import GoNeat.Props.C19Time
import GoNeat.Props.C19TimeCheck
import GoNeat.Props.C09QuotaExact
import GoNeat.Props.C20EpochFill
import GoNeat.Props.C20FillExact
