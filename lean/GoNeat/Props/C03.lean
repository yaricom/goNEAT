/-
  Property C03 - an innovation number denotes one connection for the life of a population.  Kind A: every theorem
  holds for every scalar type `W` with `[Scalar W]`, for genomes / registries / pools of every size, for every
  random stream and every option setting.

  `Inv reg gs` (Spec/Registry.lean) = ConsistentGenes ∧ ConsistentRoles ∧ RegCompat ∧ CounterAbove for the
  registry `reg` and the pool `gs` (every genome that ever lived).
-/
import GoNeat.Proofs.EpochRegistry
import GoNeat.Proofs.ScalarInt
import GoNeat.Model.LegacyGenome

set_option linter.unusedSectionVars false

namespace GoNeat.C03
open GoNeat Scalar
variable {W : Type} [Scalar W]

/-- **C03 (add-link).** If the invariant holds for the registry and the whole pool (which contains `g`), it holds for
    the new registry and the pool with the mutated genome added - whatever the mutator returns (success or not): the
    new gene binds a fresh number (taken from the counter, hence above everything held) or the number of a record
    whose link equals the requested one. -/
theorem addLink_consistent (g g' : Genome W) (reg reg' : Reg W) (o : MutOpts W) (rs rs' : List Nat) (res : Bool)
    (gs : List (Genome W)) (hinv : Inv reg gs) (hg : g ∈ gs)
    (h : mutateAddLink g reg o rs = .ok ((g', reg', res), rs')) : Inv reg' (g' :: gs) :=
  (mutateAddLink_keeps h).inv hinv (binds_of_mem hg) (roles_of_mem hg)

/-- **C03 (connect-sensors).** Same for the mutator that links a disconnected sensor to every non-sensor node (one
    resolve step per new gene). -/
theorem connectSensors_consistent (g g' : Genome W) (reg reg' : Reg W) (rs rs' : List Nat) (res : Bool)
    (gs : List (Genome W)) (hinv : Inv reg gs) (hg : g ∈ gs)
    (h : mutateConnectSensors g reg rs = .ok ((g', reg', res), rs')) : Inv reg' (g' :: gs) :=
  (mutateConnectSensors_keeps h).inv hinv (binds_of_mem hg) (roles_of_mem hg)

/-- **C03 (add-node).** Same for the split of a gene: the new node id and the two new numbers are fresh or those of
    the record of the same split `(in, out, old number)`; this includes the exits on which the mutator reports
    `false` after having disabled the chosen gene. -/
theorem addNode_consistent (g g' : Genome W) (reg reg' : Reg W) (o : MutOpts W) (rs rs' : List Nat) (res : Bool)
    (gs : List (Genome W)) (hinv : Inv reg gs) (hg : g ∈ gs)
    (h : mutateAddNode g reg o rs = .ok ((g', reg', res), rs')) : Inv reg' (g' :: gs) :=
  (mutateAddNode_keeps h).inv hinv (binds_of_mem hg) (roles_of_mem hg)

/-- **C03 (issued numbers are fresh; counters are monotone).** Within a generation whose counters started at
    `(bi, bn)` (`GenInv`: holds at the start of every generation for the current counters, see `GenInv.start`), each
    structural mutation leaves the counters monotone, keeps all records, and every gene / node it adds carries a number /
    id strictly above `(bi, bn)` - hence, by `CounterAbove` at the start of the generation, larger than any number or
    node id the population held before (`issued_above_pool`). -/
theorem issued_fresh (bi bn : Int) (g g' : Genome W) (reg reg' : Reg W) (o : MutOpts W) (rs rs' : List Nat) (res : Bool)
    (hg : GenInv bi bn reg) :
    (mutateAddLink g reg o rs = .ok ((g', reg', res), rs') → Issued bi bn g reg g' reg') ∧
    (mutateAddNode g reg o rs = .ok ((g', reg', res), rs') → Issued bi bn g reg g' reg') ∧
    (mutateConnectSensors g reg rs = .ok ((g', reg', res), rs') → Issued bi bn g reg g' reg') :=
  ⟨fun h => (mutateAddLink_steps _ _ _ _ _ _ _ _ h).issued hg, fun h => (mutateAddNode_steps _ _ _ _ _ _ _ _ h).issued hg,
   fun h => (mutateConnectSensors_steps _ _ _ _ _ _ _ h).issued hg⟩

theorem issued_above_pool {bi bn : Int} {g g' : Genome W} (h : IssuedAbove bi bn g g') (B : List Bind) (R : List Role)
    (hB : ∀ b ∈ B, b.1 ≤ bi) (hR : ∀ p ∈ R, p.1 ≤ bn) :
    (∀ x ∈ g'.genes, geneBind x ∉ gb g → ∀ b ∈ B, b.1 < x.inn) ∧ (∀ n ∈ g'.nodes, nodeRole n ∉ gr g → ∀ p ∈ R, p.1 < n.id) := by
  refine ⟨fun x hx hnot b hb => ?_, fun n hn hnot p hp => ?_⟩
  · rcases h.1 x hx with h1 | h1
    · exact absurd h1 hnot
    · have := hB b hb; omega
  · rcases h.2 n hn with h1 | h1
    · exact absurd h1 hnot
    · have := hR p hp; omega

/-- **C03 (same request, same numbers).** Sequential executor, one generation (records are only appended, `RegExtends`):
    a new-link request `(s,d,r)` resolved after an identical request - with any number of other structural mutations in
    between - receives the identical innovation number and changes nothing in the registry; a split request
    `(s, d, old number)` (the same split of the same gene) receives the identical node id and both identical numbers. -/
theorem same_request_same_numbers (reg reg1 reg2 reg3 : Reg W) (s d : Int) (hext : RegExtends reg1 reg2) :
    (∀ (r : Bool) (w w' : W) (tn tn' k k' : Int),
        resolveLink reg s d r w tn = (k, reg1) → resolveLink reg2 s d r w' tn' = (k', reg3) → k' = k ∧ reg3 = reg2) ∧
    (∀ (o n k1 k2 n' k1' k2' : Int),
        resolveNode reg s d o = ((n, k1, k2), reg1) → resolveNode reg2 s d o = ((n', k1', k2'), reg3) →
        n' = n ∧ k1' = k1 ∧ k2' = k2 ∧ reg3 = reg2) := by
  constructor
  · intro r w w' tn tn' k k' h1 h2
    obtain ⟨i, hf, rfl⟩ := resolveLink_finds s d r w tn k h1
    rw [resolveLink_of_found (find?_extends hext _ i hf)] at h2
    obtain ⟨rfl, rfl⟩ := Prod.mk.inj h2
    exact ⟨rfl, rfl⟩
  · intro o n k1 k2 n' k1' k2' h1 h2
    obtain ⟨i, hf, rfl, rfl, rfl⟩ := resolveNode_finds s d o n k1 k2 h1
    rw [resolveNode_of_found (find?_extends hext _ i hf)] at h2
    obtain ⟨hnums, rfl⟩ := Prod.mk.inj h2
    obtain ⟨rfl, hk⟩ := Prod.mk.inj hnums
    obtain ⟨rfl, rfl⟩ := Prod.mk.inj hk
    exact ⟨rfl, rfl, rfl, rfl⟩

/-- **C03 (duplicate and the parametric mutators preserve the invariant).** -/
theorem copy_consistent (reg : Reg W) (gs : List (Genome W)) (hinv : Inv reg gs) (g g' : Genome W) (hg : g ∈ gs)
    (o : MutOpts W) (id : Int) (rs rs' : List Nat) :
    (g.duplicate id = .ok g' → Inv reg (g' :: gs)) ∧
    (mutateAllNonstructural g o rs = .ok (g', rs') → Inv reg (g' :: gs)) ∧
    (∀ power rate mt, mutateLinkWeights g power rate mt rs = .ok (g', rs') → Inv reg (g' :: gs)) :=
  ⟨fun h => hinv.add_same hg (by obtain ⟨a, b⟩ := duplicate_binds g g' id h; exact ⟨a, b⟩),
   fun h => hinv.add_same hg (mutateAllNonstructural_sameBinds g g' o rs rs' h),
   fun power rate mt h => hinv.add_same hg ((parametric_sameBinds g g' o power rate mt 0 rs rs').1 h)⟩

/-- **C03 (crossover).** A child of any of the three crossovers of two pool members carries only bindings of its
    parents - the averaging operators pick each endpoint and the flag of a matched gene from either parent, which are
    equal because the pool is consistent - hence the invariant is preserved.  No well-formedness hypothesis. -/
theorem mate_consistent (reg : Reg W) (gs : List (Genome W)) (hinv : Inv reg gs) (p1 p2 c : Genome W) (h1 : p1 ∈ gs) (h2 : p2 ∈ gs)
    (id : Int) (f1 f2 : W) (rs rs' : List Nat) :
    (mateMultipoint p1 p2 id f1 f2 rs = .ok (c, rs') → Inv reg (c :: gs)) ∧
    (mateMultipointAvg p1 p2 id f1 f2 rs = .ok (c, rs') → Inv reg (c :: gs)) ∧
    (mateSinglePoint p1 p2 id rs = .ok (c, rs') → Inv reg (c :: gs)) := by
  obtain ⟨m1, m2, m3⟩ := mate_from hinv.genes p1 p2 id f1 f2 rs rs' c (binds_of_mem h1) (roles_of_mem h1) (binds_of_mem h2)
    (roles_of_mem h2)
  exact ⟨fun h => hinv.add_copy c (m1 h).1 (m1 h).2, fun h => hinv.add_copy c (m2 h).1 (m2 h).2,
         fun h => hinv.add_copy c (m3 h).1 (m3 h).2⟩

/-- **C03 (spawn).** `NewPopulation`/`spawn` from ANY start genome that is consistent in itself (no number bound to two links,
    no node id with two roles - necessary: otherwise the property is false before anything runs), with its genes and nodes
    listed in any order, yields a population in the C03 state `PopC03 [g] p`: `Inv` for its registry (`nextInn` = the
    LARGEST innovation number of the genome, `nextNode` = largest node id + 1, no records) and the history `[g]`, and every
    member's bindings are the start genome's.  (Before fix 48b1f99 the counters came from the last listed gene / node and
    this needed the genome to be in ascending order: `C03_counterexample`.) -/
theorem spawn_inv (o : EpochOpts W) (g : Genome W) (rs rs' : List Nat) (p : Pop W) (h : spawn o g rs = .ok (p, rs'))
    (hc : ConsistentGenes [g]) (hr : ConsistentRoles [g]) : PopC03 [g] p := by
  obtain ⟨_, orgs, ln, ni, hloop, hln, hni, _, hsp⟩ := spawn_ok h
  have hsame := spawnLoop_same g _ _ _ _ _ _ hloop
  have hin : ∀ x ∈ orgs, AllB (· ∈ binds [g]) (· ∈ roles [g]) x.genome := fun x hx =>
    AllB.same (GenomeIn.of_mem (H := [g]) List.mem_cons_self) (hsame x hx)
  obtain ⟨c1, r1⟩ := speciateLoop_all o _ p orgs hsp (fun s hs => by cases hs) hin
  simp only at r1
  have hinv : Inv ({ records := [], nextInn := ni - 1, nextNode := ln + 1 } : Reg W) [g] :=
    inv_of_counters [g] _ _ hc hr
      (fun g' hg' x hx => by simp only [List.mem_singleton] at hg'; subst hg'; exact Genome.nextGeneInnov_gt _ _ hni x hx)
      (fun g' hg' n hn => by
        simp only [List.mem_singleton] at hg'; subst hg'
        have := Genome.lastNodeId_ge _ _ hln n hn; omega)
  exact ⟨r1 ▸ hinv, c1, by rw [r1]⟩

/-- **C03 (ReadPopulation counters).** Reading consistent genomes (each with a node and a gene - else the real reader
    fails -, listed in any order) leaves the counters `(nextNodeId, nextInnovNum) = readCounters gs (0,0)` with the invariant for the genomes read. -/
theorem read_counters_inv (gs : List (Genome W)) (hok : ∀ g ∈ gs, g.nodes ≠ [] ∧ g.genes ≠ [])
    (hc : ConsistentGenes gs) (hr : ConsistentRoles gs) :
    Inv ({ records := [], nextInn := (readCounters gs (0, 0)).2, nextNode := (readCounters gs (0, 0)).1 } : Reg W) gs :=
  inv_of_counters gs _ _ hc hr (fun g hg => (readCounters_above gs (0, 0) hok g hg).2)
    (fun g hg => (readCounters_above gs (0, 0) hok g hg).1)

/-- **C03 (NewPopulationRandom counters).** For genomes within the numbering scheme of `newGenomeRand` (`RandShape`: gene
    `row→col` numbered `(col-1)·total+(row-1)`, node ids `1..total`) the counters `randomCounters` give the invariant. -/
theorem random_counters_inv (nIn nOut mH : Int) (gs : List (Genome W)) (hs : ∀ g ∈ gs, RandShape nIn nOut mH g)
    (hc : ConsistentGenes gs) (hr : ConsistentRoles gs) :
    Inv ({ records := [], nextInn := (randomCounters nIn nOut mH).2, nextNode := (randomCounters nIn nOut mH).1 } : Reg W) gs :=
  inv_of_counters gs _ _ hc hr (fun g hg => (randomCounters_above nIn nOut mH g (hs g hg)).2)
    (fun g hg => (randomCounters_above nIn nOut mH g (hs g hg)).1)

/-- **C03 (records cleared).** Whatever the population, the result of `nextEpoch` has an empty record list. -/
theorem records_cleared (o : EpochOpts W) (gen : Int) (p p' : Pop W) (rs rs' : List Nat)
    (h : nextEpoch o gen p rs = .ok (p', rs')) : p'.reg.records = [] :=
  nextEpoch_records o gen p p' rs rs' h

/-- **C03 (one epoch).** From a population in the C03 state for a history `H` (`PopC03`: `Inv` for its registry and `H`,
    every organism's bindings in `H`, no records) an epoch of the sequential executor leads to a population in the C03
    state for a history `H'` that extends `H` (it additionally holds every genome made during reproduction); the counters are
    kept or grow (never reset), and every binding of every new organism was already in `H` or carries a number / node id
    strictly above the counters the generation started with - hence above everything the population held before. -/
theorem epoch_inv (o : EpochOpts W) (gen : Int) (p p' : Pop W) (rs rs' : List Nat) (H : List (Genome W))
    (hp : PopC03 H p) (h : nextEpoch o gen p rs = .ok (p', rs')) :
    ∃ H', Ext H H' ∧ PopC03 H' p' ∧ AllFresh p.reg.nextInn p.reg.nextNode H p'.species ∧ CtrLe p.reg p'.reg := by
  obtain ⟨p1, ex, rs1, babies, reg, uid, p2, hprep, t⟩ := nextEpoch_renewal h
  obtain ⟨hfrom, hreg⟩ := prepare_from o p p1 ex rs rs1 hprep
  have hcov : Covered H p1.species := AllOrgs.from hp.cov hfrom
  obtain ⟨H1, hr, he, hc⟩ := reproduceAll_rinv o gen _ p1.species p1.reg reg p1.nextUid uid [] babies rs1 rs' hcov
    (fun sp hsp => hcov sp (C08.sortedOf_sub ex p1 sp hsp)) ⟨.refl _, hreg ▸ hp.inv, .start _ (hreg ▸ hp.norec), (fun _ h => nomatch h), (fun _ h => nomatch h)⟩ t.repro
  -- every organism of the new generation is a baby or an unlisted member of `p1`, under a new genome id
  have hall : ∀ {φ : Bind → Prop} {ψ : Role → Prop}, (∀ b ∈ babies, AllB φ ψ b.genome) → AllOrgs φ ψ p1.species →
      AllOrgs φ ψ p'.species := by
    intro φ ψ hb ho s' hs' x hx
    obtain ⟨y, hy, e⟩ := t.orgs_from x (mem_orgsOf.mpr ⟨s', hs', hx⟩)
    have hyg : AllB φ ψ y.genome := by
      rcases hy with hy | ⟨hy, _⟩
      · exact hb y hy
      · obtain ⟨s, hs, hys⟩ := mem_orgsOf.mp hy
        exact ho s hs y hys
    exact hyg.same (congrArg Org.genome e ▸ ⟨rfl, rfl⟩)
  rw [← hreg]
  refine ⟨H1, he, ⟨t.fields.1 ▸ hr.inv.clear, hall hr.babiesIn (hcov.mono he), by rw [t.fields.1]⟩,
    hall hr.babiesFresh (hcov.allFresh _ _), t.fields.1 ▸ hc⟩

/-- **C03 (any number of epochs).** The C03 state is kept by every finite run. -/
theorem epochs_inv (o : EpochOpts W) (n : Nat) (gen : Int) (p p' : Pop W) (rs rs' : List Nat) (H : List (Genome W))
    (hp : PopC03 H p) (h : runEpochs o n gen p rs = .ok (p', rs')) : ∃ H', Ext H H' ∧ PopC03 H' p' ∧ CtrLe p.reg p'.reg := by
  induction n generalizing gen p rs H with
  | zero =>
    simp only [runEpochs, Except.ok.injEq, Prod.mk.injEq] at h
    obtain ⟨rfl, _⟩ := h
    exact ⟨H, .refl _, hp, .refl _⟩
  | succ n ih =>
    unfold runEpochs at h
    split at h
    · cases h
    · rename_i p1 rs1 h1
      obtain ⟨H1, he1, hp1, _, hc1⟩ := epoch_inv o gen p p1 rs rs1 H hp h1
      obtain ⟨H2, he2, hp2, hc2⟩ := ih _ _ _ _ hp1 h
      exact ⟨H2, he1.trans he2, hp2, hc1.trans hc2⟩

/-- **C03 in the words of the property.** Take organisms of any two generations of one run: `a` lived when the history was
    `H`, `b` lives in a later population `p'` whose history `H'` extends `H`.  Any gene of `a` and any gene of `b` with the
    same innovation number join the same source and target node ids with the same recurrence flag, and any two of their
    nodes with the same id have the same role. -/
theorem same_number_same_link (H H' : List (Genome W)) (p' : Pop W) (hext : Ext H H') (hp : PopC03 H' p')
    (a b : Genome W) (ha : GenomeIn H a) (hb : ∃ s ∈ p'.species, ∃ org ∈ s.orgs, org.genome = b) :
    (∀ x ∈ a.genes, ∀ y ∈ b.genes, x.inn = y.inn → x.src = y.src ∧ x.dst = y.dst ∧ x.recur = y.recur) ∧
    (∀ n ∈ a.nodes, ∀ m ∈ b.nodes, n.id = m.id → n.kind = m.kind) := by
  obtain ⟨s, hs, org, horg, rfl⟩ := hb
  have ha' := ha.mono hext
  have hb' := hp.cov s hs org horg
  refine ⟨fun x hx y hy e => ?_, fun n hn m hm e => ?_⟩
  · have := hp.inv.genes _ (ha'.1 _ (List.mem_map_of_mem hx)) _ (hb'.1 _ (List.mem_map_of_mem hy)) e
    simp only [geneBind, Prod.mk.injEq] at this
    exact ⟨this.2.1, this.2.2.1, this.2.2.2⟩
  · exact hp.inv.roles _ (ha'.2 _ (List.mem_map_of_mem hn)) _ (hb'.2 _ (List.mem_map_of_mem hm)) e

/-! ### non-vacuity: concrete inputs satisfy the hypotheses and take the interesting branches -/

section Examples
open GoNeat.ExactInt

/-- 1 sensor, 1 output, 1 hidden node; two genes -/
def tiny : Genome Int :=
  { id := 1, traits := [⟨1, []⟩],
    nodes := [⟨1, Kind.input, 4, none⟩, ⟨2, Kind.output, 4, none⟩, ⟨3, Kind.hidden, 4, none⟩],
    genes := [⟨1, 1, 2, false, 0, 0, true, none⟩, ⟨2, 1, 3, false, 0, 0, true, none⟩] }
def reg0 : Reg Int := { records := [], nextInn := 2, nextNode := 3 }
def mo : MutOpts Int := ⟨0, 5, [4], [1], 0, 0, 0, 0, 0, 0, 0, 0, 0⟩

/-- a genome of 15 genes (the uniform choice of the gene to split is used from 15 genes on) -/
def big : Genome Int :=
  { id := 1, traits := [⟨1, []⟩],
    nodes := ⟨1, Kind.input, 4, none⟩ :: (List.range 15).map (fun (i : Nat) => ⟨(i : Int) + 2, Kind.output, 4, none⟩),
    genes := (List.range 15).map (fun (i : Nat) => ⟨(i : Int) + 1, 1, (i : Int) + 2, false, 0, 0, true, none⟩) }
def regB : Reg Int := { records := [], nextInn := 15, nextNode := 16 }

example : Inv reg0 [tiny] ∧ Ascending tiny ∧ ConsistentGenes [tiny] ∧ ConsistentRoles [tiny] := by decide
example : Inv regB [big] ∧ GenInv regB.nextInn regB.nextNode regB := ⟨by decide +kernel, GenInv.start _ rfl⟩

/-- add-link succeeds on `tiny` (new link 3→2 gets the fresh number 3, one record is stored) and the invariant holds after -/
example : (match mutateAddLink tiny reg0 mo [0, 2 * 2 ^ 32, 0, 0, 0, 0, 0] with
  | .ok ((g', reg', true), _) =>
    decide (Inv reg' [g', tiny]) && decide (reg'.nextInn = 3) && decide (reg'.records.length = 1) &&
    decide (g'.genes.map geneBind = [(1, 1, 2, false), (2, 1, 3, false), (3, 3, 2, false)])
  | _ => false) = true := by decide +kernel

/-- add-node succeeds on `big` (gene 4 : 1→5 is split by the fresh node 17 with the fresh numbers 16, 17); the identical
    request resolved afterwards against the new registry (the same gene of an unmutated twin) finds the record and receives
    the identical node id and numbers without touching the counters; the invariant holds for the whole pool -/
example : (match mutateAddNode big regB mo [3 * 2 ^ 32, 0, 0, 0] with
  | .ok ((g', reg', true), _) =>
    decide (Inv reg' [g', big]) && decide (reg'.nextInn = 17) && decide (reg'.nextNode = 17) &&
    (match mutateAddNode big reg' mo [3 * 2 ^ 32, 0, 0, 0] with
     | .ok ((g'', reg'', true), _) =>
       decide (Inv reg'' [g'', g', big]) && decide (g''.genes.map geneBind = g'.genes.map geneBind) &&
       decide (g''.nodes.map nodeRole = g'.nodes.map nodeRole) && decide (reg''.nextInn = 17) && decide (reg''.records.length = 1)
     | _ => false)
  | _ => false) = true := by decide +kernel

/-- the resolve steps on their own: a request, another request, then the first request again -/
example : (resolveNode (resolveLink (resolveNode regB 1 5 4).2 1 5 true (0 : Int) 0).2 1 5 4).1 = (resolveNode regB 1 5 4).1 := by decide
example : (resolveNode regB 1 5 4).1 = (17, 16, 17) ∧ (resolveLink (resolveNode regB 1 5 4).2 1 5 true (0 : Int) 0).1 = 18 := by decide

/-- a population in the C03 state (hypothesis of `epoch_inv` / `epochs_inv`): two organisms in one species -/
def pop0 : Pop Int :=
  { species := [{ id := 1, age := 1, maxFitnessEver := 0, expectedOffspring := 0, isNovel := false, ageOfLastImprovement := 0,
                  orgs := [{ uid := 0, fitness := 1, genome := tiny, expectedOffspring := 0, generation := 1, originalFitness := 0,
                             highestFitness := 0 },
                           { uid := 1, fitness := 2, genome := { tiny with id := 2 }, expectedOffspring := 0, generation := 1,
                             originalFitness := 0, highestFitness := 0 }] }],
    organisms := [0, 1], lastSpecies := 1, highestFitness := 0, epochsHighestLastChanged := 0, reg := reg0, nextUid := 2 }

example : PopC03 [tiny] pop0 := by
  refine ⟨by decide, ?_, rfl⟩
  intro s hs o ho
  simp only [pop0, List.mem_singleton] at hs; subst hs
  simp only [List.mem_cons, List.not_mem_nil, or_false] at ho
  rcases ho with rfl | rfl
  · exact GenomeIn.of_mem List.mem_cons_self
  · exact AllB.same (GenomeIn.of_mem (H := [tiny]) List.mem_cons_self) ⟨rfl, rfl⟩

/-! ### the repaired defect (fix 48b1f99): the pre-fix accessors looked at the LAST listed gene / node only -/

/-- xorstartgenes with the gene numbered 3 listed first (accepted by the plain reader and by `Genome.verify`) -/
def unsortedStart : Genome Int :=
  { id := 1, traits := [⟨1, []⟩],
    nodes := [⟨1, Kind.bias, 4, none⟩, ⟨2, Kind.input, 4, none⟩, ⟨3, Kind.input, 4, none⟩, ⟨4, Kind.output, 4, none⟩],
    genes := [⟨3, 3, 4, false, 0, 0, true, none⟩, ⟨1, 1, 4, false, 0, 0, true, none⟩, ⟨2, 2, 4, false, 0, 0, true, none⟩] }

/-- **counterexample against the pre-fix code.** For the out-of-order start genome the old `getNextGeneInnovNum` returned 3,
    so `spawn` set `nextInnovNum` to 2 although the genome holds innovation number 3: `CounterAbove` fails and the next
    number issued (3) is bound to a second link (replayed on the real code: after one epoch number 3 denoted 3→4 and 4→4).
    The repaired accessor returns 4 and the invariant holds. -/
theorem C03_counterexample :
    Legacy.nextGeneInnov unsortedStart = .ok 3 ∧
    ¬ CounterAbove ({ records := [], nextInn := 3 - 1, nextNode := 4 + 1 } : Reg Int) [unsortedStart] ∧
    unsortedStart.nextGeneInnov = .ok 4 ∧ unsortedStart.lastNodeId = .ok 4 ∧
    Inv ({ records := [], nextInn := 4 - 1, nextNode := 4 + 1 } : Reg Int) [unsortedStart] ∧
    ConsistentGenes [unsortedStart] ∧ ConsistentRoles [unsortedStart] ∧ ¬ Ascending unsortedStart :=
  ⟨rfl, by decide, rfl, rfl, by decide, by decide, by decide, by decide⟩

/-- the same for node ids: a node list with the largest id not last -/
theorem C03_counterexample_nodes :
    Legacy.lastNodeId ({ unsortedStart with nodes := unsortedStart.nodes.reverse } : Genome Int) = .ok 1 ∧
    ({ unsortedStart with nodes := unsortedStart.nodes.reverse } : Genome Int).lastNodeId = .ok 4 := ⟨rfl, rfl⟩

/-- the counter initialisations on concrete genomes (in any order) -/
example : readCounters [unsortedStart, tiny] (0, 0) = (5, 4) := by decide

example : readCounters [tiny, big] (0, 0) = (17, 16) ∧ randomCounters 3 1 2 = (7, 37) := by decide
example : RandShape 3 1 2 tiny := by decide

end Examples

end GoNeat.C03
