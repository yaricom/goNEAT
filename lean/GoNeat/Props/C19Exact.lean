/-
  Property C19, Kind B: the statistics model evaluated in exact ordered-field arithmetic (`exactScalar`).
  Mean = Σx/n; Variance = Σ(x-mean)²/(n-1) (gonum's compensation term vanishes exactly); Min/Max are the least /
  greatest element; the model's sort returns the sorted permutation; the empirical quantile is the first element of
  the sorted data whose rank reaches p·n; none of the quantile accessors fails on a non-empty series; every statistic
  is invariant under permutation of the series.  float64 rounding of the same computations is outside these theorems
  (trusted base; checked by the correspondence).
-/
import GoNeat.Props.C19
import GoNeat.Proofs.Exact
import Mathlib.Data.List.Sort
import Mathlib.Algebra.BigOperators.Group.List.Basic
import Mathlib.Tactic.NormNum

namespace GoNeat.C19
open GoNeat GoNeat.Stats
variable {K : Type} [Field K] [LinearOrder K] [IsStrictOrderedRing K] [FloorRing K]

/-- **C19 (sum).** `Sum` = Σ x (0 for the empty series). -/
theorem sum_eq (xs : List K) : fSum xs = xs.sum := List.sum_eq_foldl.symm

theorem gonumMean_eq (xs : List K) : gonumMean xs = xs.sum / (xs.length : K) := by
  unfold gonumMean
  rw [← fSum, sum_eq, Exact.div_eq, Exact.ofInt_eq, Int.cast_natCast]

/-- **C19 (mean).** `Mean` of a non-empty series = Σ x / n. -/
theorem mean_eq (xs : List K) (h : xs ≠ []) : fMean xs = some (xs.sum / (xs.length : K)) := by
  cases xs with
  | nil => exact absurd rfl h
  | cons x xs => exact congrArg some (gonumMean_eq _)

theorem ssComp_fold (m : K) (xs : List K) (a b : K) :
    xs.foldl (fun (acc : K × K) v => let d := Scalar.sub v m; (Scalar.add acc.1 (Scalar.mul d d), Scalar.add acc.2 d)) (a, b) =
    (a + (xs.map fun x => (x - m) * (x - m)).sum, b + (xs.map fun x => x - m).sum) := by
  induction xs generalizing a b with
  | nil => simp
  | cons x xs ih =>
    rw [List.foldl_cons, ih]
    simp only [Exact.sub_eq, Exact.add_eq, Exact.mul_eq, List.map_cons, List.sum_cons, add_assoc]

theorem ssComp_eq (m : K) (xs : List K) :
    ssComp m xs = ((xs.map fun x => (x - m) * (x - m)).sum, (xs.map fun x => x - m).sum) := by
  unfold ssComp
  rw [ssComp_fold, Exact.zero_eq, zero_add, zero_add]

theorem sum_map_sub (m : K) (xs : List K) : (xs.map fun x => x - m).sum = xs.sum - (xs.length : K) * m := by
  induction xs with
  | nil => simp
  | cons x xs ih => simp only [List.map_cons, List.sum_cons, ih, List.length_cons]; push_cast; ring

/-- **C19 (mean and variance).** For a non-empty series `MeanVariance` returns μ = Σx/n and the unbiased sample
    variance Σ(x-μ)²/(n-1): the compensation term of the corrected two-pass algorithm is exactly 0.
    (For n = 1 the quotient is 0/0: NaN in float64.) -/
theorem meanVariance_eq (xs : List K) (h : xs ≠ []) :
    fMeanVariance xs = some (xs.sum / (xs.length : K),
      (xs.map fun x => (x - xs.sum / (xs.length : K)) ^ 2).sum / ((xs.length : K) - 1)) := by
  cases xs with
  | nil => exact absurd rfl h
  | cons x xs =>
    have hn : ((x :: xs).length : K) ≠ 0 := Nat.cast_ne_zero.mpr (List.length_pos_of_ne_nil h).ne'
    -- the compensation term: Σ(x - μ) = Σx - n·(Σx/n) = 0
    have hz : ((x :: xs).map fun v => v - (x :: xs).sum / ((x :: xs).length : K)).sum = 0 := by
      rw [sum_map_sub, mul_div_cancel₀ _ hn, sub_self]
    simp only [fMeanVariance, gonumMeanVariance, ssComp_eq, gonumMean_eq, hz, Exact.div_eq, Exact.sub_eq,
      Exact.mul_eq, Exact.one_eq, Exact.ofInt_eq, Int.cast_natCast, mul_zero, zero_div, sub_zero, pow_two]

/-- **C19 (variance).** `Variance` of a series of n ≥ 2 values = Σ(x-μ)²/(n-1), the textbook unbiased estimator. -/
theorem variance_eq (xs : List K) (h : 2 ≤ xs.length) :
    fVariance xs = some ((xs.map fun x => (x - xs.sum / (xs.length : K)) ^ 2).sum / ((xs.length : K) - 1)) := by
  have hne : xs ≠ [] := by intro h0; subst h0; simp at h
  simp [fVariance, meanVariance_eq xs hne]

/-- **C19 (minimum).** `Min` of a non-empty series is an element of it and `≤` every element. -/
theorem fMin_spec (xs : List K) (m : K) (h : fMin xs = some m) : m ∈ xs ∧ ∀ x ∈ xs, m ≤ x := by
  cases xs with
  | nil => cases h
  | cons x xs =>
    obtain ⟨h1, h2⟩ := keepBest_id_spec (R := fun m v : K => decide (v < m) = true) (fun a h => lt_irrefl a (of_decide_eq_true h))
      (fun a b c hab hbc => decide_eq_true (lt_trans (of_decide_eq_true hbc) (of_decide_eq_true hab))) x xs
    exact Option.some.inj h ▸ ⟨h1, fun y hy => not_lt.mp fun hlt => h2 y hy (decide_eq_true hlt)⟩

/-- **C19 (maximum).** `Max` of a non-empty series is an element of it and `≥` every element. -/
theorem fMax_spec (xs : List K) (m : K) (h : fMax xs = some m) : m ∈ xs ∧ ∀ x ∈ xs, x ≤ m := by
  cases xs with
  | nil => cases h
  | cons x xs =>
    obtain ⟨h1, h2⟩ := keepBest_id_spec (R := fun m v : K => decide (m < v) = true) (fun a h => lt_irrefl a (of_decide_eq_true h))
      (fun a b c hab hbc => decide_eq_true (lt_trans (of_decide_eq_true hab) (of_decide_eq_true hbc))) x xs
    exact Option.some.inj h ▸ ⟨h1, fun y hy => not_lt.mp fun hlt => h2 y hy (decide_eq_true hlt)⟩

theorem insertAsc_perm (x : K) (ys : List K) : (insertAsc x ys).Perm (x :: ys) := by
  induction ys with
  | nil => simp [insertAsc]
  | cons y ys ih =>
    unfold insertAsc
    split
    · exact List.Perm.refl _
    · exact (List.Perm.cons y ih).trans (List.Perm.swap x y ys)

theorem insertAsc_sorted (x : K) (ys : List K) (h : ys.Pairwise (· ≤ ·)) : (insertAsc x ys).Pairwise (· ≤ ·) := by
  induction ys with
  | nil => simp [insertAsc]
  | cons y ys ih =>
    unfold insertAsc
    have hy := List.pairwise_cons.mp h
    by_cases hxy : x < y
    · simp only [Exact.lt_eq, hxy, decide_true, ↓reduceIte]
      exact List.pairwise_cons.mpr ⟨List.forall_mem_cons.mpr ⟨hxy.le, fun z hm => hxy.le.trans (hy.1 z hm)⟩, h⟩
    · simp only [Exact.lt_eq, hxy, decide_false, Bool.false_eq_true, ↓reduceIte]
      exact List.pairwise_cons.mpr
        ⟨fun z hz => List.forall_mem_cons.mpr ⟨not_lt.mp hxy, hy.1⟩ z ((insertAsc_perm x ys).subset hz), ih hy.2⟩

theorem foldl_insert (xs acc : List K) (h : acc.Pairwise (· ≤ ·)) :
    (xs.foldl (fun acc x => insertAsc x acc) acc).Perm (acc ++ xs) ∧
    (xs.foldl (fun acc x => insertAsc x acc) acc).Pairwise (· ≤ ·) := by
  induction xs generalizing acc with
  | nil => simpa using h
  | cons x xs ih =>
    obtain ⟨p, s⟩ := ih (insertAsc x acc) (insertAsc_sorted x acc h)
    exact ⟨p.trans (((insertAsc_perm x acc).append_right xs).trans List.perm_middle.symm), s⟩

/-- **C19 (sorted copy).** The model's sort returns a permutation of the series that is ascending. -/
theorem sortAsc_spec (xs : List K) : (sortAsc xs).Perm xs ∧ (sortAsc xs).Pairwise (· ≤ ·) := by
  have := foldl_insert xs [] List.Pairwise.nil
  simpa [sortAsc] using this

/-- any two orders of the same values have the same sorted copy - for EVERY sorting routine that returns a sorted
    permutation (the model's insertion sort, Go's pdqsort, ...) -/
theorem sorted_copy_unique (sort : List K → List K)
    (hsort : ∀ xs, (sort xs).Perm xs ∧ (sort xs).Pairwise (· ≤ ·)) (xs ys : List K) (h : xs.Perm ys) :
    sort xs = sort ys :=
  List.Perm.eq_of_pairwise' (hsort xs).2 (hsort ys).2 (((hsort xs).1.trans h).trans (hsort ys).1.symm)

theorem isSorted_of_pairwise (ys : List K) (h : ys.Pairwise (· ≤ ·)) : isSorted ys = true := by
  induction ys with
  | nil => rfl
  | cons y ys ih =>
    cases ys with
    | nil => rfl
    | cons z zs =>
      have hy := List.pairwise_cons.mp h
      have hyz : y ≤ z := hy.1 z (by simp)
      simp only [isSorted, Exact.lt_eq, Bool.and_eq_true, Bool.not_eq_true', decide_eq_false_iff_not, not_lt]
      exact ⟨hyz, ih hy.2⟩

theorem add_cast_succ (c : K) (n : ℕ) : c + ((n + 1 + 1 : ℕ) : K) = c + 1 + ((n + 1 : ℕ) : K) := by
  push_cast; ring

theorem empiricalLoop_rank (fidx : K) (ys : List K) (c : K) (h : ∃ j, j < ys.length ∧ fidx ≤ c + ((j + 1 : ℕ) : K)) :
    ∃ k, ∃ hk : k < ys.length, empiricalLoop fidx ys c = some ys[k] ∧ fidx ≤ c + ((k + 1 : ℕ) : K) ∧
      ∀ j, j < k → c + ((j + 1 : ℕ) : K) < fidx := by
  induction ys generalizing c with
  | nil => obtain ⟨j, hj, _⟩ := h; exact absurd hj (Nat.not_lt_zero _)
  | cons y ys ih =>
    unfold empiricalLoop
    simp only [Exact.add_eq, Exact.one_eq, Exact.ge_eq]
    by_cases hge : fidx ≤ c + 1
    · refine ⟨0, Nat.zero_lt_succ _, by simp only [hge, decide_true, ↓reduceIte]; rfl,
        by rw [Nat.zero_add, Nat.cast_one]; exact hge, ?_⟩
      intro j hj; exact absurd hj (Nat.not_lt_zero j)
    · simp only [hge, decide_false, Bool.false_eq_true, ↓reduceIte]
      obtain ⟨j, hj, hle⟩ := h
      cases j with
      | zero => rw [Nat.zero_add, Nat.cast_one] at hle; exact absurd hle hge
      | succ j =>
        rw [add_cast_succ] at hle
        obtain ⟨k, hk, e1, e2, e3⟩ := ih (c + 1) ⟨j, Nat.lt_of_succ_lt_succ hj, hle⟩
        refine ⟨k + 1, Nat.succ_lt_succ hk, e1, by rw [add_cast_succ]; exact e2, ?_⟩
        intro i hi
        cases i with
        | zero => rw [Nat.zero_add, Nat.cast_one]; exact lt_of_not_ge hge
        | succ i => rw [add_cast_succ]; exact e3 i (Nat.lt_of_succ_lt_succ hi)

/-- **C19 (empirical quantile).** For every sorting routine returning a sorted permutation, every `0 ≤ p ≤ 1` and
    every non-empty series (in any order): the quantile accessor does not fail, and its value is the element at
    position `k` of the sorted series where `k+1` is the FIRST rank with `p·n ≤ k+1`. -/
theorem quantile_rank (sort : List K → List K) (hsort : ∀ xs, (sort xs).Perm xs ∧ (sort xs).Pairwise (· ≤ ·))
    (p : K) (hp1 : p ≤ 1) (xs : List K) (hne : xs ≠ []) :
    ∃ k, ∃ hk : k < (sort xs).length, fQuantileWith sort p xs = .ok (some (sort xs)[k]) ∧
      p * (xs.length : K) ≤ (k : K) + 1 ∧ ∀ j, j < k → (j : K) + 1 < p * (xs.length : K) := by
  obtain ⟨hperm, hsorted⟩ := hsort xs
  have hpos : 0 < (sort xs).length := hperm.length_eq ▸ List.length_pos_of_ne_nil hne
  -- the last rank `n` reaches `p·n` because `p ≤ 1`
  obtain ⟨k, hk, e1, e2, e3⟩ := empiricalLoop_rank (p * ((sort xs).length : K)) (sort xs) 0
    ⟨(sort xs).length - 1, Nat.sub_lt hpos Nat.one_pos, by
      rw [Nat.sub_add_cancel hpos, zero_add]; exact mul_le_of_le_one_left (Nat.cast_nonneg _) hp1⟩
  rw [hperm.length_eq] at e2 e3
  simp only [zero_add, Nat.cast_succ] at e2 e3
  refine ⟨k, hk, ?_, e2, e3⟩
  rw [fQuantileWith_of_ne_nil sort p hne, gonumQuantile, isSorted_of_pairwise _ hsorted]
  simp only [Bool.not_true, Bool.false_eq_true, ↓reduceIte, Exact.mul_eq, Exact.ofInt_eq, Int.cast_natCast, Exact.zero_eq, e1]
  rfl

/-- **C19 (never an error).** `Median`, `Q25`, `Q75` of the model (which sorts a copy) never fail, whatever the order
    of the series; on a non-empty series they return a value. -/
theorem quantiles_never_fail (xs : List K) :
    (∃ r, fMedian xs = .ok r ∧ (xs ≠ [] → r.isSome)) ∧ (∃ r, fQ25 xs = .ok r ∧ (xs ≠ [] → r.isSome)) ∧
    (∃ r, fQ75 xs = .ok r ∧ (xs ≠ [] → r.isSome)) := by
  by_cases hne : xs = []
  · subst hne; exact ⟨⟨none, rfl, by simp⟩, ⟨none, rfl, by simp⟩, ⟨none, rfl, by simp⟩⟩
  · obtain ⟨k1, _, h1, _⟩ := quantile_rank sortAsc sortAsc_spec (pMedian : K) (by rw [pMedian, Exact.ofDec_eq]; norm_num) xs hne
    obtain ⟨k2, _, h2, _⟩ := quantile_rank sortAsc sortAsc_spec (pQ25 : K) (by rw [pQ25, Exact.ofDec_eq]; norm_num) xs hne
    obtain ⟨k3, _, h3, _⟩ := quantile_rank sortAsc sortAsc_spec (pQ75 : K) (by rw [pQ75, Exact.ofDec_eq]; norm_num) xs hne
    exact ⟨⟨_, h1, fun _ => rfl⟩, ⟨_, h2, fun _ => rfl⟩, ⟨_, h3, fun _ => rfl⟩⟩

omit [Field K] [LinearOrder K] [IsStrictOrderedRing K] [FloorRing K] in
/-- a statistic that is defined on non-empty series and returns an element singled out by an order-free predicate
    does not depend on the order of the series -/
theorem stat_perm {α : Type} {f : List α → Option α} {P : List α → α → Prop} (hsome : ∀ x xs, (f (x :: xs)).isSome)
    (spec : ∀ xs m, f xs = some m → m ∈ xs ∧ P xs m)
    (uniq : ∀ xs ys m m', xs.Perm ys → m ∈ xs → P xs m → m' ∈ ys → P ys m' → m = m')
    {xs ys : List α} (h : xs.Perm ys) : f xs = f ys := by
  have one : ∀ {xs ys : List α} (m : α), xs.Perm ys → f xs = some m → f ys = some m := by
    intro xs ys m h hx
    obtain ⟨hm, hP⟩ := spec xs m hx
    cases ys with
    | nil => rw [h.eq_nil] at hm; cases hm
    | cons y ys =>
      obtain ⟨m', hy⟩ := Option.isSome_iff_exists.mp (hsome y ys)
      obtain ⟨hm', hP'⟩ := spec _ m' hy
      rw [hy, uniq _ _ m m' h hm hP hm' hP']
  exact Option.ext fun m => ⟨one m h, one m h.symm⟩

/-- **C19 (permutation invariance).** Reordering the series changes none of the statistics: Min, Max, Sum, Mean,
    MeanVariance, Variance, and - for every sorting routine that returns a sorted permutation - every quantile. -/
theorem perm_invariant (xs ys : List K) (h : xs.Perm ys) :
    fMin xs = fMin ys ∧ fMax xs = fMax ys ∧ fSum xs = fSum ys ∧ fMean xs = fMean ys ∧
    fMeanVariance xs = fMeanVariance ys ∧ fVariance xs = fVariance ys ∧
    ∀ (sort : List K → List K), (∀ zs, (sort zs).Perm zs ∧ (sort zs).Pairwise (· ≤ ·)) →
      ∀ p : K, fQuantileWith sort p xs = fQuantileWith sort p ys := by
  have hnil : xs = [] ↔ ys = [] := ⟨fun h0 => (h0 ▸ h).symm.eq_nil, fun h0 => (h0 ▸ h).eq_nil⟩
  have hmv : fMeanVariance xs = fMeanVariance ys := by
    by_cases hne : xs = []
    · rw [hne, hnil.mp hne]
    · rw [meanVariance_eq xs hne, meanVariance_eq ys (fun h0 => hne (hnil.mpr h0)), h.sum_eq, h.length_eq,
        (h.map _).sum_eq]
  refine ⟨?_, ?_, ?_, ?_, hmv, ?_, ?_⟩
  · exact stat_perm (fun _ _ => rfl) fMin_spec
      (fun _ _ m m' h hm hP hm' hP' => le_antisymm (hP m' (h.symm.subset hm')) (hP' m (h.subset hm))) h
  · exact stat_perm (fun _ _ => rfl) fMax_spec
      (fun _ _ m m' h hm hP hm' hP' => le_antisymm (hP' m (h.subset hm)) (hP m' (h.symm.subset hm'))) h
  · rw [sum_eq, sum_eq, h.sum_eq]
  · rw [← meanVariance_fst xs, ← meanVariance_fst ys, hmv]
  · rw [fVariance, fVariance, hmv]
  · intro sort hsort p
    exact quantile_depends_on_sorted sort p xs ys (sorted_copy_unique sort hsort xs ys h) hnil

example : ∀ zs : List K, (sortAsc zs).Perm zs ∧ (sortAsc zs).Pairwise (· ≤ ·) := sortAsc_spec
example (a b c : K) : fMedian [c, a, b] = fMedian [a, b, c] :=
  (perm_invariant [c, a, b] [a, b, c] (by simpa using (List.perm_append_comm (l₁ := [c]) (l₂ := [a, b])))).2.2.2.2.2.2
    sortAsc sortAsc_spec pMedian

theorem countLe_sorted (ys : List K) (hs : ys.Pairwise (· ≤ ·)) (k : ℕ) (hk : k < ys.length) :
    k + 1 ≤ countLe ys ys[k] := by
  induction ys generalizing k with
  | nil => exact absurd hk (Nat.not_lt_zero _)
  | cons y ys ih =>
    have hy := List.pairwise_cons.mp hs
    rw [countLe, List.countP_cons]
    cases k with
    | zero => simp
    | succ k =>
      have hk' : k < ys.length := Nat.lt_of_succ_lt_succ hk
      have hle : y ≤ ys[k] := hy.1 _ (List.getElem_mem hk')
      rw [List.getElem_cons_succ, Exact.le_eq, decide_eq_true hle, if_pos rfl]
      exact Nat.succ_le_succ (ih hy.2 k hk')

theorem countLt_sorted (ys : List K) (hs : ys.Pairwise (· ≤ ·)) (k : ℕ) (hk : k < ys.length) :
    countLt ys ys[k] ≤ k := by
  induction ys generalizing k with
  | nil => exact absurd hk (Nat.not_lt_zero _)
  | cons y ys ih =>
    have hy := List.pairwise_cons.mp hs
    cases k with
    | zero =>
      rw [countLt, List.getElem_cons_zero, List.countP_eq_zero.mpr]
      intro z hz
      rcases List.mem_cons.mp hz with rfl | hz
      · simp
      · simpa using hy.1 z hz
    | succ k =>
      have hk' : k < ys.length := Nat.lt_of_succ_lt_succ hk
      rw [countLt, List.countP_cons, List.getElem_cons_succ]
      exact Nat.add_le_add (ih hy.2 k hk') (by split <;> omega)

/-- **C19 (order-free form of the quantile).** For `0 < p ≤ 1`, any sorting routine that returns a sorted permutation
    and any non-empty series in any order, the value returned by the quantile accessor satisfies the order-free
    predicate `IsQuantileOf` (the one the driver evaluates on the implementation's results): it is an element of the
    series, at least `p·n` elements are `≤` it and fewer than `p·n` elements are `<` it. -/
theorem quantile_isQuantileOf (sort : List K → List K) (hsort : ∀ xs, (sort xs).Perm xs ∧ (sort xs).Pairwise (· ≤ ·))
    (p : K) (hp0 : 0 < p) (hp1 : p ≤ 1) (xs : List K) (hne : xs ≠ []) :
    ∃ v, fQuantileWith sort p xs = .ok (some v) ∧ IsQuantileOf p xs v = true := by
  obtain ⟨k, hk, hq, h1, h2⟩ := quantile_rank sort hsort p hp1 xs hne
  obtain ⟨hperm, hsorted⟩ := hsort xs
  refine ⟨_, hq, ?_⟩
  have hmem : (sort xs)[k] ∈ xs := hperm.subset (List.getElem_mem hk)
  have hle : k + 1 ≤ countLe xs (sort xs)[k] := by
    rw [countLe, ← hperm.countP_eq]; exact countLe_sorted (sort xs) hsorted k hk
  have hlt : countLt xs (sort xs)[k] ≤ k := by
    rw [countLt, ← hperm.countP_eq]; exact countLt_sorted (sort xs) hsorted k hk
  simp only [IsQuantileOf, Bool.and_eq_true, List.any_eq_true, Exact.eq_eq, decide_eq_true_eq, Exact.ge_eq, Exact.lt_eq,
    Exact.mul_eq, Exact.ofInt_eq, Int.cast_natCast]
  refine ⟨⟨⟨_, hmem, rfl⟩, ?_⟩, ?_⟩
  · exact le_trans h1 (by rw [← Nat.cast_succ]; exact Nat.cast_le.mpr hle)
  · cases k with
    | zero =>
      rw [Nat.le_zero.mp hlt, Nat.cast_zero]
      exact mul_pos hp0 (Nat.cast_pos.mpr (List.length_pos_of_ne_nil hne))
    | succ k =>
      exact lt_of_le_of_lt (by rw [← Nat.cast_succ]; exact Nat.cast_le.mpr hlt) (h2 k (Nat.lt_succ_self k))

end GoNeat.C19
