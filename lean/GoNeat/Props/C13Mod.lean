/-
  C13 for MODULAR networks - after a flush a network WITH MIMO control nodes / a fast solver WITH modules behaves
  exactly like a freshly built instance, for EVERY wiring - and the refinement that ties the modular models to the
  models of Props/C12*.lean and Props/C13.lean.

  Models: Model/SolverMod.lean (standard solver: third sweep of `ActivateSteps`, `ActivateModule`, `Flush` over
  `allNodesMIMO`, `RecursiveSteps` refused), Model/FastSolverMod.lean (fast solver: module loop of `forwardStep`,
  module guard of `RecursiveSteps`, translation of control nodes; `Flush` = `Fast.flush`).  Kind A: every scalar type,
  every activation table `σ`, EVERY module activation table `μ` (any number of returned values, failing ones included);
  the only law used is `hz : lt 0 0 = false`.

  REFINEMENT (`std_refines`, `std_step_refines`, `fast_refines`, `fast_step_refines`, `fast_of_network_refines`):
  for `net.ctrl = []` / `modules = []` the modular models ARE the plain models, call by call and from every state, so
  every theorem of C12 / C13 about `Solver.run`, `Fast.run`, `Fast.ofNet` is a theorem about the modular models.

  THE TWO REPAIRED DEFECTS (the models follow the repaired code, the old loops are frozen in
  Model/LegacySolverMod.lean and refuted here):
  * F15 (repair 842abdd) `Network.Flush` iterated `allNodes`, so control nodes kept `isActive` (and whatever a module
    wrote to them); harmless iff nothing reads a control node (`std_mod_dead_state`, true for every Genesis phenotype:
    `Genesis.genesis_ctrlUnread`), observable when a neuron is linked FROM a control node with `ConnectFrom`:
    `std_flush_legacy_counterexample`.
  * F16 (repair 1a387d5) `FastModularNetworkSolver.Flush` left `neuronSignalsBeingProcessed` of the bias neurons; a
    module can write and read such a cell: `fast_flush_legacy_counterexample`.
  Both replayed on the real code by notes/replay_C13_modular_test.go (fails before the repairs, passes after them).
-/
import GoNeat.Proofs.SolverModFlush
import GoNeat.Proofs.FastModFlush
import GoNeat.Proofs.GenesisUnread
import GoNeat.Proofs.ScalarInt
import GoNeat.Model.LegacySolverMod

namespace GoNeat.C13Mod

variable {W : Type} [Scalar W]

section Std
open GoNeat.Solver

/-- REFINEMENT, one call from ANY state: on a network without control nodes the modular model is Model/Solver.lean -/
theorem std_step_refines (net : Net W) (σ : Nat → W → Option W) (μ : Nat → List W → Option (List W))
    (h : net.ctrl = []) (s : St W) (op : Op W) :
    SolverMod.step net σ μ s op = Solver.step net σ s op :=
  SolverMod.step_refine net σ μ h s op

/-- REFINEMENT, whole runs: same final state, same observations (from any state, and the fresh states coincide) -/
theorem std_refines (net : Net W) (σ : Nat → W → Option W) (μ : Nat → List W → Option (List W))
    (h : net.ctrl = []) (ops : List (Op W)) :
    (∀ s, SolverMod.run net σ μ ops s = Solver.run net σ ops s) ∧
      SolverMod.run net σ μ ops (SolverMod.init net) = Solver.run net σ ops (Solver.init net) := by
  refine ⟨SolverMod.run_refine net σ μ h ops, ?_⟩
  rw [SolverMod.init_refine net h]
  exact SolverMod.run_refine net σ μ h ops _

/-- `Flush` after ANY history, on ANY modular network, succeeds and yields a state equal to the freshly built one in
    every field of every node (control nodes included) but `ActivationSum` -/
theorem std_mod_flush_equiv_fresh (hz : Scalar.lt (Scalar.zero : W) Scalar.zero = false) (net : Net W)
    (σ : Nat → W → Option W) (μ : Nat → List W → Option (List W)) (hist : List (Op W)) :
    (SolverMod.flush net (SolverMod.run net σ μ hist (SolverMod.init net)).1).2 = (true, none) ∧
      Equiv (SolverMod.flush net (SolverMod.run net σ μ hist (SolverMod.init net)).1).1 (SolverMod.init net) :=
  (SolverMod.flushFresh hz net σ μ).flushed hist

/-- `ActivationSum` is dead in modular networks too: two states that differ only there (at any node, control nodes
    included) are indistinguishable by any call sequence and stay so -/
theorem std_mod_sum_dead (hz : Scalar.lt (Scalar.zero : W) Scalar.zero = false) (net : Net W)
    (σ : Nat → W → Option W) (μ : Nat → List W → Option (List W)) (ops : List (Op W)) {s t : St W} (h : Equiv s t) :
    (SolverMod.run net σ μ ops s).2 = (SolverMod.run net σ μ ops t).2 ∧
      Equiv (SolverMod.run net σ μ ops s).1 (SolverMod.run net σ μ ops t).1 :=
  ((SolverMod.flushFresh hz net σ μ).dead ops s t h).symm

/-- C13 for modular networks (standard solver), EVERY wiring: any number of control nodes, links of neurons from
    control nodes, modules reading / writing control nodes, any module activation table (failing ones included), any
    history of LoadSensors / ActivateSteps / ForwardSteps / RecursiveSteps / Relax / Flush calls, any later call
    sequence: after `Flush` the results, errors and outputs are those of a new instance -/
theorem std_mod_flush_like_fresh (hz : Scalar.lt (Scalar.zero : W) Scalar.zero = false) (net : Net W)
    (σ : Nat → W → Option W) (μ : Nat → List W → Option (List W)) (hist ops : List (Op W)) :
    (SolverMod.run net σ μ ops (SolverMod.flush net (SolverMod.run net σ μ hist (SolverMod.init net)).1).1).2 =
      (SolverMod.run net σ μ ops (SolverMod.init net)).2 :=
  (SolverMod.flushFresh hz net σ μ).like_fresh hist ops

theorem std_mod_repeat_identical (hz : Scalar.lt (Scalar.zero : W) Scalar.zero = false) (net : Net W)
    (σ : Nat → W → Option W) (μ : Nat → List W → Option (List W)) (ops : List (Op W)) :
    (SolverMod.run net σ μ ops (SolverMod.flush net (SolverMod.run net σ μ ops (SolverMod.init net)).1).1).2 =
      (SolverMod.run net σ μ ops (SolverMod.init net)).2 :=
  std_mod_flush_like_fresh hz net σ μ ops ops

/-- equality of the ORDINARY nodes up to `ActivationSum`; the whole state of the control nodes is ignored -/
def EquivM (net : Net W) (s t : St W) : Prop :=
  Equiv (s.take net.nodes.length) (t.take net.nodes.length)

/-- DEADNESS of the control-node state: if nothing reads a control node (`ctrlUnread`: every Genesis phenotype),
    two states that agree on the ordinary nodes up to `ActivationSum` are indistinguishable by any call sequence, and
    stay so.  (This is why the old `Flush`, which skipped the control nodes, was harmless on phenotypes.) -/
theorem std_mod_dead_state (hz : Scalar.lt (Scalar.zero : W) Scalar.zero = false) (net : Net W)
    (σ : Nat → W → Option W) (μ : Nat → List W → Option (List W)) (hu : SolverMod.ctrlUnread net = true)
    (ops : List (Op W)) {s t : St W} (hs : s.length = net.nodes.length + net.ctrl.length)
    (ht : t.length = net.nodes.length + net.ctrl.length) (h : EquivM net s t) :
    (SolverMod.run net σ μ ops s).2 = (SolverMod.run net σ μ ops t).2 ∧
      EquivM net (SolverMod.run net σ μ ops s).1 (SolverMod.run net σ μ ops t).1 := by
  by_cases hc : net.ctrl = []
  · have hs' : s.length ≤ net.nodes.length := by simp [hs, hc]
    have ht' : t.length ≤ net.nodes.length := by simp [ht, hc]
    unfold EquivM at h ⊢
    rw [List.take_of_length_le hs', List.take_of_length_le ht'] at h
    have := (std_mod_sum_dead hz net σ μ ops h).symm
    rw [List.take_of_length_le (by rw [SolverMod.length_run]; exact hs'),
        List.take_of_length_le (by rw [SolverMod.length_run]; exact ht')]
    exact ⟨this.2, this.1⟩
  · exact (SolverMod.run_cut hz net σ μ (SolverMod.unread_of_bool net hu) hc ops s t h).symm

/-- ... in particular in every phenotype: a network expressed by `Genome.Genesis` never reads its control nodes -/
theorem genesis_ctrl_state_dead (hz : Scalar.lt (Scalar.zero : W) Scalar.zero = false) (g : Genome W)
    (netId : Int) (net : Net W) (hg : Genesis.genesis g netId = .ok net)
    (σ : Nat → W → Option W) (μ : Nat → List W → Option (List W)) (ops : List (Op W)) {s t : St W}
    (hs : s.length = net.nodes.length + net.ctrl.length) (ht : t.length = net.nodes.length + net.ctrl.length)
    (h : EquivM net s t) :
    (SolverMod.run net σ μ ops s).2 = (SolverMod.run net σ μ ops t).2 :=
  (std_mod_dead_state hz net σ μ (Genesis.genesis_ctrlUnread hg) ops hs ht h).1

theorem activeOut_setIsActive (s : St W) (i j : Nat) (b : Bool) :
    activeOut (get (upd s i (fun x => { x with isActive := b })) j) = activeOut (get s j) := by
  rw [get_upd]
  split <;> rfl

theorem setOuts_get_other (ls : List (NLink W)) (vs : List W) (s : St W) (j : Nat) (h : ∀ l ∈ ls, l.dst ≠ j) :
    get (SolverMod.setOuts ls vs s) j = get s j := by
  induction ls generalizing vs s with
  | nil => simp [SolverMod.setOuts]
  | cons l ls ih =>
    cases vs with
    | nil => simp [SolverMod.setOuts]
    | cons v vs =>
      unfold SolverMod.setOuts
      rw [ih _ _ (fun l' hl' => h l' (by simp [hl'])), get_upd_ne _ _ _ _ (fun e => h l (by simp) e.symm)]

theorem setOuts_get_hit (ls : List (NLink W)) (vs : List W) (s : St W) (hnd : (ls.map (·.dst)).Nodup)
    (k : Nat) (hk : k < ls.length) (hv : k < vs.length) (hd : ls[k].dst < s.length) :
    get (SolverMod.setOuts ls vs s) ls[k].dst = { setActivation vs[k] (get s ls[k].dst) with isActive := true } := by
  induction ls generalizing vs s k with
  | nil => simp at hk
  | cons l ls ih =>
    cases vs with
    | nil => simp at hv
    | cons v vs =>
      simp only [List.map_cons, List.nodup_cons, List.mem_map, not_exists, not_and] at hnd
      unfold SolverMod.setOuts
      cases k with
      | zero =>
        simp only [List.getElem_cons_zero]
        rw [setOuts_get_other _ _ _ _ (fun l' hl' e => hnd.1 l' hl' e), get_upd_self _ _ _ (by simpa using hd)]
      | succ k =>
        have hk' : k < ls.length := by simpa using hk
        simp only [List.getElem_cons_succ]
        have hne : ls[k].dst ≠ l.dst := fun e => hnd.1 ls[k] (List.getElem_mem _) e
        rw [ih vs _ hnd.2 k (by simpa using hk) (by simpa using hv) (by simpa using hd), get_upd_ne _ _ _ _ hne]

/-- ONE iteration of the `ActivateSteps` loop on a network with one control node `cn`: when the two neuron sweeps
    succeed with state `s2` and the module activator returns as many values as `cn` has output neurons, the step
    succeeds, every output neuron `d` of the module (distinct targets, not the control node itself) holds
    `setActivation(activator(GetActiveOut of the inputs, read AFTER the neuron sweeps)[k])` and is active, and every
    other ordinary node is exactly what the neuron sweeps left -/
theorem std_module_step (net : Net W) (σ : Nat → W → Option W) (μ : Nat → List W → Option (List W))
    (cn : NNodeS W) (hc : net.ctrl = [cn]) (s s2 : St W) (outs : List W)
    (h2 : sweep2 net σ (SolverMod.sweep1 net s) = (s2, none))
    (hμ : μ cn.act (SolverMod.moduleInputs cn s2) = some outs) (hlen : outs.length = cn.outgoing.length) :
    (SolverMod.sweeps net σ μ s).2 = none ∧
    (∀ (k : Nat) (hk : k < cn.outgoing.length), (cn.outgoing.map (·.dst)).Nodup → cn.outgoing[k].dst < s2.length →
        cn.outgoing[k].dst ≠ net.nodes.length →
        get (SolverMod.sweeps net σ μ s).1 cn.outgoing[k].dst =
          { setActivation (outs[k]'(by omega)) (get s2 cn.outgoing[k].dst) with isActive := true }) ∧
    (∀ j, j ≠ net.nodes.length → (∀ l ∈ cn.outgoing, l.dst ≠ j) → get (SolverMod.sweeps net σ μ s).1 j = get s2 j) := by
  have hin := SolverMod.moduleInputs_congr cn (upd s2 net.nodes.length (fun x => { x with isActive := false })) s2
    fun l _ => activeOut_setIsActive s2 _ _ false
  have hsw : SolverMod.sweeps net σ μ s =
      (upd (SolverMod.setOuts cn.outgoing outs (upd s2 net.nodes.length (fun x => { x with isActive := false })))
        net.nodes.length (fun x => { x with isActive := true }), none) := by
    unfold SolverMod.sweeps
    rw [h2]
    simp only [SolverMod.sweep3, hc, SolverMod.sweep3Aux, SolverMod.activateModule_ok μ cn _ outs (hin ▸ hμ) hlen]
  rw [hsw]
  refine ⟨rfl, fun k hk hnd hd hnn => ?_, fun j hj hall => ?_⟩
  · simp only
    rw [get_upd_ne _ _ _ _ hnn,
        setOuts_get_hit cn.outgoing outs _ hnd k hk (by omega) (by simpa using hd),
        get_upd_ne _ _ _ _ hnn]
  · simp only
    rw [get_upd_ne _ _ _ _ hj, setOuts_get_other _ _ _ _ hall, get_upd_ne _ _ _ _ hj]

end Std

section FastS
open GoNeat.Fast GoNeat.FastMod

/-- REFINEMENT, one call from ANY state: a solver without modules is Model/FastSolver.lean -/
theorem fast_step_refines (fm : FastModNet W) (σ : Nat → W → Option W) (μ : Nat → List W → Option (List W))
    (h : fm.modules = []) (s : FState W) (op : Fast.Op W) :
    FastMod.step fm σ μ s op = Fast.step fm.base σ s op :=
  FastMod.step_refine fm σ μ h s op

/-- REFINEMENT, whole runs from ANY state -/
theorem fast_refines (fm : FastModNet W) (σ : Nat → W → Option W) (μ : Nat → List W → Option (List W))
    (h : fm.modules = []) (ops : List (Fast.Op W)) (s : FState W) :
    FastMod.run fm σ μ ops s = Fast.run fm.base σ ops s :=
  FastMod.run_refine fm σ μ h ops s

/-- REFINEMENT of the translation: a network without control nodes is translated as by `Fast.ofNet`, no modules -/
theorem fast_of_network_refines (net : Net W) (h : net.ctrl = []) :
    FastMod.ofNet net = (Fast.ofNet net).map fun fn => { base := fn, modules := [] } := by
  have hf := SolverMod.flat_eq net h
  unfold FastMod.ofNet Fast.ofNet
  simp only [hf, h, ctrlMods]
  split
  · rfl
  · split
    · rfl
    · rcases procIncoming net _ (idxOfKind net Kind.input) _ [] with e | ⟨b1, c1⟩
      · rfl
      · simp only
        rcases procIncoming net _ (idxOfKind net Kind.hidden) b1 c1 with e | ⟨b2, c2⟩
        · rfl
        · simp only
          rcases procIncoming net _ net.outputs b2 c2 with e | ⟨b3, c3⟩ <;> rfl

/-- equality up to dead state: without modules the relation of C13 (`Fast.FE`), with modules equality of both
    signal arrays (`activated`, `inActivation`, `lastActivation` are never touched: `RecursiveSteps` is refused) -/
def FEM (fm : FastModNet W) (s t : FState W) : Prop :=
  (fm.modules = [] → FE fm.base s t) ∧ (fm.modules ≠ [] → SP s t)

/-- `Flush` after any history, for EVERY module wiring, succeeds and yields a state equal to the fresh one up to
    dead state -/
theorem fast_mod_flush_equiv_fresh (fm : FastModNet W) (σ : Nat → W → Option W) (μ : Nat → List W → Option (List W))
    (hist : List (Fast.Op W)) :
    (Fast.flush fm.base (FastMod.run fm σ μ hist (FastMod.init fm)).1).2 = (true, none) ∧
      FEM fm (Fast.flush fm.base (FastMod.run fm σ μ hist (FastMod.init fm)).1).1 (FastMod.init fm) := by
  refine ⟨rfl, fun hm => ?_, fun hm => ?_⟩
  · rw [FastMod.run_refine fm σ μ hm]
    exact ((Fast.flushFresh fm.base σ).flushed hist).2
  · exact ((FastMod.flushFresh fm σ μ hm).flushed hist).2

/-- the ignored arrays are dead: equivalent states are indistinguishable by any call sequence and stay equivalent -/
theorem fast_mod_dead_state (fm : FastModNet W) (σ : Nat → W → Option W) (μ : Nat → List W → Option (List W))
    (ops : List (Fast.Op W)) {s t : FState W} (h : FEM fm s t) :
    (FastMod.run fm σ μ ops s).2 = (FastMod.run fm σ μ ops t).2 ∧
      FEM fm (FastMod.run fm σ μ ops s).1 (FastMod.run fm σ μ ops t).1 := by
  by_cases hm : fm.modules = []
  · rw [FastMod.run_refine fm σ μ hm, FastMod.run_refine fm σ μ hm]
    have := (Fast.flushFresh fm.base σ).dead ops s t (h.1 hm)
    exact ⟨this.2, fun _ => this.1, fun hne => absurd hm hne⟩
  · have := (FastMod.flushFresh fm σ μ hm).dead ops s t (h.2 hm)
    exact ⟨this.2, fun he => absurd he hm, fun _ => this.1⟩

/-- C13 for the fast solver with modules, EVERY wiring: any modules (any input / output indexes, bias cells
    included, any activation table, failing ones and ones that make the solver panic included), any history, any
    later call sequence -/
theorem fast_mod_flush_like_fresh (fm : FastModNet W) (σ : Nat → W → Option W) (μ : Nat → List W → Option (List W))
    (hist ops : List (Fast.Op W)) :
    (FastMod.run fm σ μ ops (Fast.flush fm.base (FastMod.run fm σ μ hist (FastMod.init fm)).1).1).2 =
      (FastMod.run fm σ μ ops (FastMod.init fm)).2 :=
  (fast_mod_dead_state fm σ μ ops (fast_mod_flush_equiv_fresh fm σ μ hist).2).1

theorem fast_mod_repeat_identical (fm : FastModNet W) (σ : Nat → W → Option W) (μ : Nat → List W → Option (List W))
    (ops : List (Fast.Op W)) :
    (FastMod.run fm σ μ ops (Fast.flush fm.base (FastMod.run fm σ μ ops (FastMod.init fm)).1).1).2 =
      (FastMod.run fm σ μ ops (FastMod.init fm)).2 :=
  fast_mod_flush_like_fresh fm σ μ ops ops

/-- the same for whatever `Network.FastNetworkSolver()` returns for a modular network (`_h` only says where `fm` comes from;
    it is not used) -/
theorem fast_mod_of_network_flush_like_fresh (net : Net W) (fm : FastModNet W) (_h : FastMod.ofNet net = .ok fm)
    (σ : Nat → W → Option W) (μ : Nat → List W → Option (List W)) (hist ops : List (Fast.Op W)) :
    (FastMod.run fm σ μ ops (Fast.flush fm.base (FastMod.run fm σ μ hist (FastMod.init fm)).1).1).2 =
      (FastMod.run fm σ μ ops (FastMod.init fm)).2 :=
  fast_mod_flush_like_fresh fm σ μ hist ops

/-- decision logic of the module loop for a one-output module: the output cell receives the activator's value of
    the input cells as they are after the activation loop, nothing else changes -/
theorem fast_module_loop_single (μ : Nat → List W → Option (List W)) (a : Nat) (ins : List Nat) (o : Nat) (p : List W)
    (v : W) (hμ : μ a (ins.map (getW p)) = some [v]) :
    modLoop μ [{ act := a, ins := ins, outs := [o] }] p = (p.set o v, none) := by
  simp [modLoop, modOuts, hμ]

end FastS

/-! ## non-vacuity and counterexamples over the exact `Int` scalar -/
section Examples
open GoNeat.ExactInt

/-- toy module activator table: 21 = multiply (one value), 22 = returns TWO values, everything else unregistered -/
def muInt (a : Nat) (xs : List Int) : Option (List Int) :=
  match a with
  | 21 => some [xs.foldl (· * ·) 1]
  | 22 => some [0, 0]
  | _ => none

example : Scalar.lt (Scalar.zero : Int) Scalar.zero = false := by decide +kernel

/-- the shape of the repository's own modular test network: inputs 0,1; hidden 2 ← 0, hidden 3 ← 1 (linear);
    module (multiply) reads 2,3 and writes hidden 4 (null activation); output 5 ← 4 -/
def modNet : Net Int :=
  { id := 1
    nodes := [ { id := 1, kind := Kind.input, act := 17, incoming := [], outgoing := [] },
               { id := 2, kind := Kind.input, act := 17, incoming := [], outgoing := [] },
               { id := 3, kind := Kind.hidden, act := 14, incoming := [ { src := 0, dst := 2, w := 3, recur := false } ], outgoing := [] },
               { id := 4, kind := Kind.hidden, act := 14, incoming := [ { src := 1, dst := 3, w := 5, recur := false } ], outgoing := [] },
               { id := 5, kind := Kind.hidden, act := 17, incoming := [], outgoing := [] },
               { id := 6, kind := Kind.output, act := 14, incoming := [ { src := 4, dst := 5, w := 2, recur := false } ], outgoing := [] } ]
    inputs := [0, 1], outputs := [5]
    ctrl := [ { id := 7, kind := Kind.hidden, act := 21,
                incoming := [ { src := 2, dst := 6, w := 1, recur := false }, { src := 3, dst := 6, w := 1, recur := false } ],
                outgoing := [ { src := 6, dst := 4, w := 1, recur := false } ] } ] }

def script : List (Solver.Op Int) := [.load [1, 2], .activate 5, .activate 1]

/-- it satisfies the Genesis wiring `ctrlUnread` (not needed for flush = fresh) -/
example : SolverMod.ctrlUnread modNet = true := by decide +kernel

/-- the module multiplies: (3*1)*(5*2) = 30, times the output weight 2 -/
example : ((SolverMod.run modNet sigmaInt muInt script (SolverMod.init modNet)).2.map (·.outs)) = [[0], [60], [60]] := by
  decide +kernel
/-- without a flush a second evaluation differs, with the flush it is the fresh result again -/
example : ((SolverMod.run modNet sigmaInt muInt script
    (SolverMod.run modNet sigmaInt muInt script (SolverMod.init modNet)).1).2.map (·.outs)) = [[60], [60], [60]] := by decide +kernel
example : ((SolverMod.run modNet sigmaInt muInt script
    (SolverMod.flush modNet (SolverMod.run modNet sigmaInt muInt script (SolverMod.init modNet)).1).1).2.map (·.outs))
    = [[0], [60], [60]] := by decide +kernel
/-- the run sets the control node's flag, `Flush` resets it (the old loop left it: last entry `true`) -/
example : ((SolverMod.run modNet sigmaInt muInt script (SolverMod.init modNet)).1.map (·.isActive))
    = [false, false, true, true, true, true, true] := by decide +kernel
example : ((SolverMod.flush modNet (SolverMod.run modNet sigmaInt muInt script (SolverMod.init modNet)).1).1.map (·.isActive))
    = [false, false, false, false, false, false, false] := by decide +kernel
example : ((SolverMod.Legacy.flush modNet (SolverMod.run modNet sigmaInt muInt script (SolverMod.init modNet)).1).1.map (·.isActive))
    = [false, false, false, false, false, false, true] := by decide +kernel
/-- a module activator returning two values for one output neuron: `ActivateModule`'s length error -/
example : ((SolverMod.run { modNet with ctrl := modNet.ctrl.map fun c => { c with act := 22 } } sigmaInt muInt script
    (SolverMod.init modNet)).2.map (·.err)) = [none, some .moduleOutLen, some .moduleOutLen] := by decide +kernel
/-- `RecursiveSteps` is refused -/
example : ((SolverMod.run modNet sigmaInt muInt [.recursive] (SolverMod.init modNet)).2.map (·.err)) = [some .modular] := by
  decide +kernel

/-- wiring outside `ctrlUnread`: input 0 → module → hidden 1 linked with `ConnectFrom`, i.e. the hidden neuron also
    lists the control node (index 3) in its `Incoming`; output 2 ← 1 -/
def chainNet : Net Int :=
  { id := 2
    nodes := [ { id := 1, kind := Kind.input, act := 17, incoming := [], outgoing := [] },
               { id := 2, kind := Kind.hidden, act := 14, incoming := [ { src := 3, dst := 1, w := 1, recur := false } ], outgoing := [] },
               { id := 3, kind := Kind.output, act := 14, incoming := [ { src := 1, dst := 2, w := 1, recur := false } ], outgoing := [] } ]
    inputs := [0], outputs := [2]
    ctrl := [ { id := 4, kind := Kind.hidden, act := 21,
                incoming := [ { src := 0, dst := 3, w := 1, recur := false } ],
                outgoing := [ { src := 3, dst := 1, w := 1, recur := false } ] } ] }

def chainScript : List (Solver.Op Int) := [.load [2], .activate 5]

/-- COUNTEREXAMPLE against the `Flush` loop before repair 842abdd (defect F15): after the OLD flush the same
    evaluation returns 0 instead of 2 - the control node's `isActive`, which the old loop did not reset, activates
    the hidden neuron (and through it the output) one sweep early; with the repaired `Flush` it is 2 again.
    Replay on the real code: notes/replay_C13_modular_test.go (`TestControlNodeStateSurvivesFlush`). -/
theorem std_flush_legacy_counterexample :
    SolverMod.ctrlUnread chainNet = false ∧
    ((SolverMod.run chainNet sigmaInt muInt chainScript (SolverMod.init chainNet)).2.map (·.outs)) = [[0], [2]] ∧
    ((SolverMod.run chainNet sigmaInt muInt chainScript
      (SolverMod.Legacy.flush chainNet (SolverMod.run chainNet sigmaInt muInt chainScript (SolverMod.init chainNet)).1).1).2.map
        (·.outs)) = [[0], [0]] ∧
    ((SolverMod.run chainNet sigmaInt muInt chainScript
      (SolverMod.flush chainNet (SolverMod.run chainNet sigmaInt muInt chainScript (SolverMod.init chainNet)).1).1).2.map
        (·.outs)) = [[0], [2]] := by
  decide +kernel

/-- fast solver of `modNet`: indices input 0,1, output 2, hidden 3,4,5 (order bias, input, output, hidden) -/
example : (match FastMod.ofNet modNet with
    | .ok fm => (fm.modules, fm.base.conns.map fun c => (c.src, c.dst, c.w))
    | .error _ => ([], [])) = ([{ act := 21, ins := [3, 4], outs := [5] }], [(0, 3, 3), (1, 4, 5), (5, 2, 2)]) := by
  decide +kernel

def modFast : FastMod.FastModNet Int :=
  { base := { nBias := 0, nInput := 2, nOutput := 1, nTotal := 6, acts := [17, 17, 14, 14, 14, 17],
              biasList := [0, 0, 0, 0, 0, 0],
              conns := [ { src := 0, dst := 3, w := 3 }, { src := 1, dst := 4, w := 5 }, { src := 5, dst := 2, w := 2 } ] }
    modules := [ { act := 21, ins := [3, 4], outs := [5] } ] }

def fscript : List (Fast.Op Int) := [.load [1, 2], .forward 2, .recursive]

example : ((FastMod.run modFast sigmaInt muInt fscript (FastMod.init modFast)).2.map fun o => (o.outs, o.err))
    = [([0], none), ([60], none), ([60], some .recModules)] := by decide +kernel
example : ((FastMod.run modFast sigmaInt muInt fscript
    (Fast.flush modFast.base (FastMod.run modFast sigmaInt muInt fscript (FastMod.init modFast)).1).1).2.map (·.outs))
    = [[0], [60], [60]] := by decide +kernel
/-- two output indexes for a one-valued activator: the run-time panic of the module loop, first value stored -/
example : ((FastMod.run { modFast with modules := [ { act := 21, ins := [3, 4], outs := [5, 2] } ] } sigmaInt muInt
    [.load [1, 2], .forward 1] (FastMod.init modFast)).2.map (·.err)) = [none, some .panic] := by decide +kernel

/-- bias 0, input 1, output 2, hidden 3 ← input; module A (first) reads the BIAS cell 0 and writes the output cell 2,
    module B writes the hidden value into the bias cell 0 -/
def relayFast : FastMod.FastModNet Int :=
  { base := { nBias := 1, nInput := 1, nOutput := 1, nTotal := 4, acts := [17, 17, 14, 14], biasList := [0, 0, 0, 0],
              conns := [ { src := 1, dst := 3, w := 1 } ] }
    modules := [ { act := 21, ins := [0], outs := [2] }, { act := 21, ins := [3], outs := [0] } ] }

def relayScript : List (Fast.Op Int) := [.load [7], .forward 1, .forward 1]

/-- COUNTEREXAMPLE against the `Flush` loop before repair 1a387d5 (defect F16): after the OLD flush the first forward
    step returns the stale 7 instead of 0 - `neuronSignalsBeingProcessed[0]` (a bias neuron's cell) was not reset;
    with the repaired `Flush` it is the fresh result.  Replay on the real code: notes/replay_C13_modular_test.go
    (`TestFastBiasCellSurvivesFlush`). -/
theorem fast_flush_legacy_counterexample :
    ((FastMod.run relayFast sigmaInt muInt relayScript (FastMod.init relayFast)).2.map (·.outs)) = [[0], [0], [7]] ∧
    ((FastMod.run relayFast sigmaInt muInt relayScript
      (FastMod.Legacy.flush relayFast.base (FastMod.run relayFast sigmaInt muInt relayScript (FastMod.init relayFast)).1).1).2.map
        (·.outs)) = [[0], [7], [7]] ∧
    ((FastMod.run relayFast sigmaInt muInt relayScript
      (Fast.flush relayFast.base (FastMod.run relayFast sigmaInt muInt relayScript (FastMod.init relayFast)).1).1).2.map
        (·.outs)) = [[0], [0], [7]] := by
  decide +kernel

end Examples

end GoNeat.C13Mod
