/-
  C18 §5 - the activator registry regenerated from neat/math/activations.go (`Gen/Registry.lean`) against the documented
  table (`Spec/Activations.lean: documented`).

  The facts read off the generated table stand in ONE statement, `registry_table`: the kernel shares the evaluation of the
  regenerated table (the factory built from it, every name it compares) only inside one declaration.  The named theorems
  below it are its parts; everything after them is argued from those parts and evaluates nothing.
  Core Lean only: Props/C15.lean rests on `registered_code_of_name` (from `registered_names_are_constants`) for the round trip of the registry names.
-/
import GoNeat.Spec.Activations
import GoNeat.Gen.Registry
import GoNeat.Proofs.ListLemmas

namespace GoNeat.Spec.Act
open GoNeat.Act

theorem run_miss (l : Lookup) (f : Factory) (k : Val) (hm : l.missErr = true) (h : ∀ p ∈ f.get l.map, p.1 ≠ k) :
    l.run f k = .err := by
  unfold Lookup.run
  rw [List.lookup_eq_none_iff.mpr fun p hp => bne_iff_ne.mpr (h p hp).symm]
  simp [hm]

end GoNeat.Spec.Act

namespace GoNeat.C18
open GoNeat.Spec.Act GoNeat.Act
open GoNeat.Gen

/-- the registry description regenerated from the Go source -/
def reg : Desc :=
  { regWrites := Registry.registerWrites, modWrites := Registry.registerModuleWrites,
    lookups := Registry.lookups, registered := Registry.registered }

theorem translation_complete : Registry.untranslated = [] := rfl

def codeKeyDocumented : Val → Bool
  | .code n => (docOfCode n).isSome
  | _ => false

def nameKeyDocumented : Val → Bool
  | .str s => documented.any (fun d => d.2.1 == s)
  | _ => false

/-- the regenerated registry against the documented table: the const block, the four lookups on every documented type,
    the keys of the four maps, the shape of the four lookup methods, the closure each type code selects -/
theorem registry_table :
    (∀ r ∈ Registry.registered, r.name = r.const ∧ Registry.consts.lookup r.const = some r.code) ∧
    (∀ d ∈ documented,
      reg.nameOfCode d.1 = some d.2.1 ∧ reg.codeOfName d.2.1 = some d.1 ∧
      (reg.scalarOfCode d.1).isSome = (d.2.2 == Kind.scalar) ∧ (reg.moduleOfCode d.1).isSome = (d.2.2 == Kind.module)) ∧
    ((reg.factory.get "forward").all (fun p => codeKeyDocumented p.1) = true ∧
     (reg.factory.get "activators").all (fun p => codeKeyDocumented p.1) = true ∧
     (reg.factory.get "moduleActivators").all (fun p => codeKeyDocumented p.1) = true ∧
     (reg.factory.get "inverse").all (fun p => nameKeyDocumented p.1) = true) ∧
    (findLookup reg.lookups "ActivationNameFromType" = { fn := "ActivationNameFromType", map := "forward", key := "aType", hitErrNil := true, missErr := true, missValue := "\"\"" } ∧
     (findLookup reg.lookups "ActivationTypeFromName").map = "inverse" ∧ (findLookup reg.lookups "ActivationTypeFromName").missErr = true ∧
     (findLookup reg.lookups "ActivateByType").map = "activators" ∧ (findLookup reg.lookups "ActivateByType").missErr = true ∧
     (findLookup reg.lookups "ActivateModuleByType").map = "moduleActivators" ∧ (findLookup reg.lookups "ActivateModuleByType").missErr = true) ∧
    ((List.range 24).map reg.scalarOfCode =
      [none, some "plainSigmoid", some "reducedSigmoid", some "bipolarSigmoid", some "steepenedSigmoid",
       some "approximationSigmoid", some "approximationSteepenedSigmoid", some "inverseAbsoluteSigmoid",
       some "leftShiftedSigmoid", some "leftShiftedSteepenedSigmoid", some "rightShiftedSteepenedSigmoid",
       some "hyperbolicTangent", some "bipolarGaussian", some "gaussian", some "linear", some "absoluteLinear",
       some "clippedLinear", some "nullFunctor", some "signFunction", some "sineFunction", some "stepFunction",
       none, none, none]) ∧
    (reg.moduleOfCode 21 = some "multiplyModule" ∧ reg.moduleOfCode 22 = some "maxModule" ∧
      reg.moduleOfCode 23 = some "minModule") := by
  decide +kernel

/-- every registration uses the identifier of its type constant as the name -/
theorem registered_names_are_constants :
    ∀ r ∈ Registry.registered, r.name = r.const ∧ Registry.consts.lookup r.const = some r.code :=
  registry_table.1

theorem documented_lookups : ∀ d ∈ documented,
    reg.nameOfCode d.1 = some d.2.1 ∧ reg.codeOfName d.2.1 = some d.1 ∧
    (reg.scalarOfCode d.1).isSome = (d.2.2 == Kind.scalar) ∧ (reg.moduleOfCode d.1).isSome = (d.2.2 == Kind.module) :=
  registry_table.2.1

theorem keys_documented :
    (reg.factory.get "forward").all (fun p => codeKeyDocumented p.1) = true ∧
    (reg.factory.get "activators").all (fun p => codeKeyDocumented p.1) = true ∧
    (reg.factory.get "moduleActivators").all (fun p => codeKeyDocumented p.1) = true ∧
    (reg.factory.get "inverse").all (fun p => nameKeyDocumented p.1) = true :=
  registry_table.2.2.1

theorem lookups_shape :
    findLookup reg.lookups "ActivationNameFromType" = { fn := "ActivationNameFromType", map := "forward", key := "aType", hitErrNil := true, missErr := true, missValue := "\"\"" } ∧
    (findLookup reg.lookups "ActivationTypeFromName").map = "inverse" ∧ (findLookup reg.lookups "ActivationTypeFromName").missErr = true ∧
    (findLookup reg.lookups "ActivateByType").map = "activators" ∧ (findLookup reg.lookups "ActivateByType").missErr = true ∧
    (findLookup reg.lookups "ActivateModuleByType").map = "moduleActivators" ∧ (findLookup reg.lookups "ActivateModuleByType").missErr = true :=
  registry_table.2.2.2.1

theorem scalarOfCode_table :
    (List.range 24).map reg.scalarOfCode =
      [none, some "plainSigmoid", some "reducedSigmoid", some "bipolarSigmoid", some "steepenedSigmoid",
       some "approximationSigmoid", some "approximationSteepenedSigmoid", some "inverseAbsoluteSigmoid",
       some "leftShiftedSigmoid", some "leftShiftedSteepenedSigmoid", some "rightShiftedSteepenedSigmoid",
       some "hyperbolicTangent", some "bipolarGaussian", some "gaussian", some "linear", some "absoluteLinear",
       some "clippedLinear", some "nullFunctor", some "signFunction", some "sineFunction", some "stepFunction",
       none, none, none] :=
  registry_table.2.2.2.2.1

theorem activateModuleByType_closures :
    reg.moduleOfCode 21 = some "multiplyModule" ∧ reg.moduleOfCode 22 = some "maxModule" ∧
    reg.moduleOfCode 23 = some "minModule" :=
  registry_table.2.2.2.2.2

/-- two registrations under the same name have the same type code: the name is the identifier of a constant, and the
    const block gives an identifier one value -/
theorem registered_code_of_name {r r' : Reg} (hr : r ∈ Registry.registered) (hr' : r' ∈ Registry.registered)
    (h : r'.name = r.name) : r'.code = r.code := by
  obtain ⟨h1, h2⟩ := registered_names_are_constants r' hr'
  obtain ⟨h3, h4⟩ := registered_names_are_constants r hr
  rw [← h1, h, h3, h4] at h2
  exact (Option.some.inj h2).symm

theorem unknown_code_error (c : Nat) (h : docOfCode c = none) :
    reg.nameOfCode c = none ∧ reg.scalarOfCode c = none ∧ reg.moduleOfCode c = none := by
  obtain ⟨k1, k2, k3, _⟩ := keys_documented
  obtain ⟨s1, _, _, s4, s5, s6, s7⟩ := lookups_shape
  have key : ∀ (m : GoMap), m.all (fun p => codeKeyDocumented p.1) = true → ∀ p ∈ m, p.1 ≠ Val.code c := by
    intro m hm p hp e
    have := List.all_eq_true.mp hm p hp
    simp only [e, codeKeyDocumented, h, Option.isSome_none] at this
    exact absurd this (by decide)
  refine ⟨?_, ?_, ?_⟩
  · unfold Desc.nameOfCode
    rw [run_miss _ _ _ (by rw [s1]) (by rw [s1]; exact key _ k1)]
  · unfold Desc.scalarOfCode
    rw [run_miss _ _ _ s5 (by rw [s4]; exact key _ k2)]
  · unfold Desc.moduleOfCode
    rw [run_miss _ _ _ s7 (by rw [s6]; exact key _ k3)]

theorem unknown_name_error (n : String) (h : ∀ d ∈ documented, d.2.1 ≠ n) : reg.codeOfName n = none := by
  obtain ⟨_, _, _, k4⟩ := keys_documented
  obtain ⟨_, s2, s3, _⟩ := lookups_shape
  unfold Desc.codeOfName
  rw [run_miss _ _ _ s3]
  rw [s2]
  intro p hp e
  have := List.all_eq_true.mp k4 p hp
  simp only [e, nameKeyDocumented, List.any_eq_true, beq_iff_eq] at this
  obtain ⟨d, hd, hdn⟩ := this
  exact h d hd hdn

theorem nameOfCode_documented (c : Nat) (n : String) (h : reg.nameOfCode c = some n) :
    ∃ k, (c, n, k) ∈ documented := by
  rcases hd : docOfCode c with _ | ⟨n', k⟩
  · rw [(unknown_code_error c hd).1] at h; exact absurd h (by simp)
  · have hmem : (c, n', k) ∈ documented := mem_of_lookup _ _ _ hd
    have h1 := (documented_lookups _ hmem).1
    rw [h] at h1
    exact ⟨k, by rw [Option.some.inj h1]; exact hmem⟩

theorem codeOfName_documented (n : String) (c : Nat) (h : reg.codeOfName n = some c) :
    ∃ k, (c, n, k) ∈ documented := by
  by_cases hn : ∃ d ∈ documented, d.2.1 = n
  · obtain ⟨⟨c', n', k⟩, hmem, rfl⟩ := hn
    have h1 := (documented_lookups _ hmem).2.1
    simp only at h1 h
    rw [h] at h1
    exact ⟨k, by rw [Option.some.inj h1]; exact hmem⟩
  · have hn' : ∀ d ∈ documented, d.2.1 ≠ n := fun d hd e => hn ⟨d, hd, e⟩
    rw [unknown_name_error n hn'] at h; exact absurd h (by simp)

theorem code_name_roundtrip (c : Nat) (n : String) (h : reg.nameOfCode c = some n) : reg.codeOfName n = some c := by
  obtain ⟨k, hmem⟩ := nameOfCode_documented c n h
  exact (documented_lookups _ hmem).2.1

theorem name_code_roundtrip (n : String) (c : Nat) (h : reg.codeOfName n = some c) : reg.nameOfCode c = some n := by
  obtain ⟨k, hmem⟩ := codeOfName_documented n c h
  exact (documented_lookups _ hmem).1

theorem nameOfCode_injective (c₁ c₂ : Nat) (n : String) (h₁ : reg.nameOfCode c₁ = some n) (h₂ : reg.nameOfCode c₂ = some n) :
    c₁ = c₂ := by
  have a := code_name_roundtrip c₁ n h₁
  have b := code_name_roundtrip c₂ n h₂
  rw [a] at b; exact Option.some.inj b

theorem codeOfName_injective (n₁ n₂ : String) (c : Nat) (h₁ : reg.codeOfName n₁ = some c) (h₂ : reg.codeOfName n₂ = some c) :
    n₁ = n₂ := by
  have a := name_code_roundtrip n₁ c h₁
  have b := name_code_roundtrip n₂ c h₂
  rw [a] at b; exact Option.some.inj b

end GoNeat.C18
