/-
  Properties C19 / C20: time and duration aggregates of the result records and the orders they are sorted by
  (Model/ExperimentTime.lean).  All statements are about unbounded integers (nanoseconds), no scalar type involved.

    `latest_spec`                the loop `if u.Before(x) { u = x }` from the zero time: an upper bound of every
                                 recorded instant, not before the zero time, and either the zero time or a recorded instant;
    `trialRecent_spec`, `expMostRecent_spec`   `Trial.RecentEpochEvalTime` / `Experiment.MostRecentTrialEvalTime` are the
                                 latest instant over the trial's / ALL the experiment's generations (zero time if none later);
    `avgOf_empty`, `avgOf_decompose`, `avgOf_floor`   the duration means: `EmptyDuration` for no records, otherwise
                                 total = n * avg + remainder (truncation towards zero), for non-negative durations the floor of the mean;
    `trialAvg_spec`, `expAvgTrial_spec`, `expAvgEpoch_spec`
    `lessBy_laws`                the three `Less` methods are strict weak orders (what `sort.Sort` needs);
    `sortGens_chronological`, `sortTrials_chronological`, `sortExps_chronological`
                                 sorting yields a permutation in which instants never decrease and equal instants are
                                 ordered by id - for every input, ties and pre-zero instants included.
-/
import GoNeat.Model.ExperimentTime
import GoNeat.Proofs.SortLemmas
import GoNeat.Proofs.RunningBest

namespace GoNeat.C19
open GoNeat GoNeat.ExpTime

def latestFrom (u : Int) (ts : List Int) : Int := ts.foldl (fun u x => if u < x then x else u) u

theorem latestFrom_spec (ts : List Int) (u : Int) :
    u ≤ latestFrom u ts ∧ (∀ x ∈ ts, x ≤ latestFrom u ts) ∧ (latestFrom u ts = u ∨ latestFrom u ts ∈ ts) :=
  foldl_max_int ts u

theorem latest_spec (ts : List Int) :
    zeroTime ≤ latest ts ∧ (∀ x ∈ ts, x ≤ latest ts) ∧ (latest ts = zeroTime ∨ latest ts ∈ ts) :=
  latestFrom_spec ts zeroTime

theorem trialRecent_spec (t : TTrial) :
    zeroTime ≤ trialRecentEpochEvalTime t ∧ (∀ g ∈ t.gens, g.executed ≤ trialRecentEpochEvalTime t) ∧
    (trialRecentEpochEvalTime t = zeroTime ∨ ∃ g ∈ t.gens, g.executed = trialRecentEpochEvalTime t) := by
  obtain ⟨h1, h2, h3⟩ := latest_spec (t.gens.map (·.executed))
  exact ⟨h1, fun g hg => h2 _ (List.mem_map_of_mem hg), h3.imp id List.mem_map.mp⟩

/-- `Experiment.MostRecentTrialEvalTime` is the latest instant over ALL generations of ALL trials -/
theorem expMostRecent_spec (e : TExp) :
    zeroTime ≤ expMostRecentTrialEvalTime e ∧
    (∀ t ∈ e.trials, ∀ g ∈ t.gens, g.executed ≤ expMostRecentTrialEvalTime e) ∧
    (expMostRecentTrialEvalTime e = zeroTime ∨ ∃ t ∈ e.trials, ∃ g ∈ t.gens, g.executed = expMostRecentTrialEvalTime e) := by
  obtain ⟨h1, h2, h3⟩ := latest_spec (e.trials.map trialRecentEpochEvalTime)
  refine ⟨h1, fun t ht g hg => ?_, ?_⟩
  · exact Int.le_trans ((trialRecent_spec t).2.1 g hg) (h2 _ (List.mem_map_of_mem ht))
  · rcases h3 with h3 | h3
    · exact .inl h3
    · obtain ⟨t, ht, he⟩ := List.mem_map.mp h3
      rcases (trialRecent_spec t).2.2 with hz | ⟨g, hg, hge⟩
      · exact .inl (he.symm.trans hz)
      · exact .inr ⟨t, ht, g, hg, hge.trans he⟩

def total (ds : List Int) : Int := ds.foldl (· + ·) 0

theorem avgOf_empty : avgOf [] = emptyDuration := rfl

theorem avgOf_of_ne_nil (ds : List Int) (hne : ds ≠ []) : avgOf ds = (total ds).tdiv ds.length :=
  if_pos (List.length_pos_iff.mpr hne)

/-- truncated division: the total is `n * avg` plus a remainder of the total's sign and smaller than `n` -/
theorem avgOf_decompose (ds : List Int) (hne : ds ≠ []) :
    total ds = (ds.length : Int) * avgOf ds + (total ds).tmod ds.length := by
  rw [avgOf_of_ne_nil ds hne]
  exact (Int.mul_tdiv_add_tmod _ _).symm

/-- what "truncated towards zero" says of the remainder `total - n * avg`: it has the total's sign and is smaller than `n` -/
theorem avgOf_rem (ds : List Int) (hne : ds ≠ []) :
    (0 ≤ total ds → 0 ≤ total ds - ds.length * avgOf ds ∧ total ds - ds.length * avgOf ds < ds.length) ∧
    (total ds < 0 → total ds - ds.length * avgOf ds ≤ 0 ∧ -(total ds - ds.length * avgOf ds) < ds.length) := by
  have hn : (0 : Int) < ds.length := by have := List.length_pos_iff.mpr hne; omega
  have hr : total ds - ds.length * avgOf ds = (total ds).tmod ds.length := by have := avgOf_decompose ds hne; omega
  rw [hr]
  refine ⟨fun ht => ⟨Int.tmod_nonneg _ ht, Int.tmod_lt_of_pos _ hn⟩, fun ht => ⟨?_, ?_⟩⟩
  · have := Int.tmod_nonneg (a := -total ds) (ds.length : Int) (by omega)
    rw [Int.neg_tmod] at this
    omega
  · have := Int.lt_tmod_of_pos (total ds) hn
    omega

theorem foldl_add_nonneg (ds : List Int) (a : Int) (ha : 0 ≤ a) (h : ∀ d ∈ ds, 0 ≤ d) : 0 ≤ ds.foldl (· + ·) a := by
  induction ds generalizing a with
  | nil => simpa
  | cons d ds ih =>
    simp only [List.foldl_cons]
    exact ih _ (by have := h d List.mem_cons_self; omega) (fun x hx => h x (List.mem_cons_of_mem _ hx))

/-- non-negative durations: the answer is the floor of the mean -/
theorem avgOf_floor (ds : List Int) (hne : ds ≠ []) (hnn : ∀ d ∈ ds, 0 ≤ d) :
    (ds.length : Int) * avgOf ds ≤ total ds ∧ total ds < (ds.length : Int) * (avgOf ds + 1) ∧ 0 ≤ avgOf ds := by
  have ht : 0 ≤ total ds := foldl_add_nonneg ds 0 (Int.le_refl 0) hnn
  obtain ⟨h1, h2⟩ := (avgOf_rem ds hne).1 ht
  refine ⟨by omega, by rw [Int.mul_add, Int.mul_one]; omega, ?_⟩
  rw [avgOf_of_ne_nil ds hne]
  exact Int.tdiv_nonneg ht (Int.natCast_nonneg _)

theorem avgOf_map_spec {α : Type} (f : α → Int) (l : List α) :
    (l = [] → avgOf (l.map f) = emptyDuration) ∧
    (l ≠ [] → (∀ a ∈ l, 0 ≤ f a) →
      (l.length : Int) * avgOf (l.map f) ≤ total (l.map f) ∧ total (l.map f) < (l.length : Int) * (avgOf (l.map f) + 1)) := by
  constructor
  · intro h; rw [h]; rfl
  · intro hne hnn
    have := avgOf_floor (l.map f) (by simpa using hne) (List.forall_mem_map.mpr hnn)
    rw [List.length_map] at this
    exact ⟨this.1, this.2.1⟩

theorem trialAvg_spec (t : TTrial) :
    (t.gens = [] → trialAvgEpochDuration t = emptyDuration) ∧
    (t.gens ≠ [] → (∀ g ∈ t.gens, 0 ≤ g.duration) →
      (t.gens.length : Int) * trialAvgEpochDuration t ≤ total (t.gens.map (·.duration)) ∧
      total (t.gens.map (·.duration)) < (t.gens.length : Int) * (trialAvgEpochDuration t + 1)) :=
  avgOf_map_spec TGen.duration t.gens

theorem expAvgTrial_spec (e : TExp) :
    (e.trials = [] → expAvgTrialDuration e = emptyDuration) ∧
    (e.trials ≠ [] → (∀ t ∈ e.trials, 0 ≤ t.duration) →
      (e.trials.length : Int) * expAvgTrialDuration e ≤ total (e.trials.map (·.duration)) ∧
      total (e.trials.map (·.duration)) < (e.trials.length : Int) * (expAvgTrialDuration e + 1)) :=
  avgOf_map_spec TTrial.duration e.trials

/-- `Experiment.AvgEpochDuration` is the (truncated) mean of the trials' own (truncated) means - NOT the mean over all
    generations; a trial without generations contributes `EmptyDuration` = -1 ns (OBSERVATION) -/
theorem expAvgEpoch_spec (e : TExp) :
    expAvgEpochDuration e = avgOf (e.trials.map trialAvgEpochDuration) ∧
    (e.trials = [] → expAvgEpochDuration e = emptyDuration) ∧
    (∀ t ∈ e.trials, t.gens = [] → trialAvgEpochDuration t = -1) := by
  refine ⟨rfl, ?_, ?_⟩
  · intro h; unfold expAvgEpochDuration; rw [h]; rfl
  · intro t _ h; unfold trialAvgEpochDuration; rw [h]; rfl

theorem lessBy_eq (ta ia tb ib : Int) : lessBy ta ia tb ib = decide (ta < tb ∨ (ta = tb ∧ ia < ib)) := by
  unfold lessBy
  by_cases h : ta = tb
  · subst h; simp
  · rw [if_neg h]; exact decide_eq_decide.mpr (by omega)

theorem lessBy_laws {α : Type} (tm idn : α → Int) :
    LessLaws (fun a b : α => lessBy (tm a) (idn a) (tm b) (idn b)) := by
  constructor
  · intro a b h
    rw [lessBy_eq, decide_eq_true_eq] at h
    rw [lessBy_eq, decide_eq_false_iff_not]
    omega
  · intro a b c h1 h2
    rw [lessBy_eq, decide_eq_false_iff_not] at h1 h2 ⊢
    omega

theorem genLess_laws : LessLaws genLess := lessBy_laws TGen.executed TGen.id
theorem trialLess_laws : LessLaws trialLess := lessBy_laws trialRecentEpochEvalTime TTrial.id
theorem expLess_laws : LessLaws expLess := lessBy_laws expMostRecentTrialEvalTime TExp.id

/-- chronological: instants never decrease along the list, equal instants are ordered by id -/
def Chrono {α : Type} (tm idn : α → Int) (l : List α) : Prop :=
  l.Pairwise (fun a b => tm a < tm b ∨ (tm a = tm b ∧ idn a ≤ idn b))

theorem sortedBy_chrono {α : Type} (tm idn : α → Int) (l : List α)
    (h : SortedBy (fun a b : α => lessBy (tm a) (idn a) (tm b) (idn b)) l) : Chrono tm idn l := by
  unfold Chrono
  unfold SortedBy at h
  refine h.imp ?_
  intro a b hab
  have := (lessBy_eq ..).symm.trans hab
  rw [decide_eq_false_iff_not] at this
  omega

theorem sortGens_chronological (l : List TGen) :
    (sortGens l).Perm l ∧ Chrono TGen.executed TGen.id (sortGens l) :=
  ⟨goSort_perm _ l, sortedBy_chrono _ _ _ (goSort_sorted genLess genLess_laws l)⟩

theorem sortTrials_chronological (l : List TTrial) :
    (sortTrials l).Perm l ∧ Chrono trialRecentEpochEvalTime TTrial.id (sortTrials l) :=
  ⟨goSort_perm _ l, sortedBy_chrono _ _ _ (goSort_sorted trialLess trialLess_laws l)⟩

theorem sortExps_chronological (l : List TExp) :
    (sortExps l).Perm l ∧ Chrono expMostRecentTrialEvalTime TExp.id (sortExps l) :=
  ⟨goSort_perm _ l, sortedBy_chrono _ _ _ (goSort_sorted expLess expLess_laws l)⟩

/-! non-vacuity: a trial with a tie in time, a record before the zero time and one without generations -/
section NonVacuity
private def gA : TGen := { id := 2, executed := 50, duration := 7 }
private def gB : TGen := { id := 1, executed := 50, duration := 4 }
private def gC : TGen := { id := 0, executed := -3, duration := 0 }
private def tr : TTrial := { id := 0, gens := [gA, gB, gC], duration := 30 }
example : (sortGens tr.gens).map (·.id) = [0, 1, 2] := by decide
example : trialRecentEpochEvalTime tr = 50 ∧ trialAvgEpochDuration tr = 3 := by decide
example : expAvgEpochDuration { id := 1, trials := [tr, { id := 1, gens := [], duration := 0 }] } = 1 := by decide
example : trialRecentEpochEvalTime { id := 1, gens := [gC], duration := 0 } = zeroTime := by decide
end NonVacuity

end GoNeat.C19
