/-
  C15 — obligations over the table REGENERATED from /repo by harness/cmd/gntranslate/codec.go
  (Gen/Codec.lean), re-proved on every run: Encode vs Decode, MarshalBinary vs UnmarshalBinary, YAML writer keys vs
  reader keys, JSON tags, plain print vs scan calls.  Kept in a module of its own so that a change of the Go code
  that breaks one of them does not hide the model theorems of Props/C15.lean.
-/
import GoNeat.Model.Codec
import GoNeat.Gen.Codec

namespace GoNeat.C15
open GoNeat.Codec GoNeat.CodecTables GoNeat.Gen.Codec

/-- guards dropped: the steps an encoder performs when every guarded pointer is non-nil -/
def stripGuards (l : List Step) : List Step :=
  l.filter fun s => match s with
    | .guardBegin _ => false
    | .guardEnd => false
    | _ => true

def guardsOf (l : List Step) : List String :=
  l.filterMap fun s => match s with
    | .guardBegin c => some c
    | _ => none

def noUnknown (l : List Step) : Bool :=
  l.all fun s => match s with
    | .unknown _ => false
    | _ => true

/-- the translator recognised every statement of the ten functions and every construct elsewhere -/
theorem codec_fully_translated :
    untranslated = [] ∧
    ([experimentEncode, experimentDecode, trialEncode, trialDecode, generationEncode, generationDecode,
      organismEncode, organismDecode, marshalBinary, unmarshalBinary].all noUnknown) = true := ⟨rfl, rfl⟩

/-- **gob: `Experiment.Encode` and `Experiment.Decode`** handle the same fields, in the same order, with the same types
    (and it is the sequence the model implements) -/
theorem gob_experiment_fields : experimentEncode = experimentDecode ∧ experimentDecode = experimentShape := ⟨rfl, rfl⟩

/-- **gob: `Trial.Encode` / `Trial.Decode`** -/
theorem gob_trial_fields : trialEncode = trialDecode ∧ trialDecode = trialShape := ⟨rfl, rfl⟩

/-- **gob: `Generation.Encode` / `Generation.Decode`**: same fields, order and types once the only guard
    (`Champion != nil`, the known limit) is taken -/
theorem gob_generation_fields :
    stripGuards generationEncode = generationDecode ∧ guardsOf generationEncode = ["Champion != nil"] ∧
    generationDecode = generationShape := ⟨rfl, rfl, rfl⟩

/-- **gob: `encodeOrganism` / `decodeOrganism`**: same fields, order and types once the only guard
    (`Genotype != nil`) is taken -/
theorem gob_organism_fields :
    stripGuards organismEncode = organismDecode ∧ guardsOf organismEncode = ["Genotype != nil"] ∧
    organismDecode = organismShape := ⟨rfl, rfl, rfl⟩

/-- **`Organism.MarshalBinary` / `UnmarshalBinary`**: same fields, order and types (and the model's header line) -/
theorem wire_organism_fields : marshalBinary = unmarshalBinary ∧ unmarshalBinary = wireShape := ⟨rfl, rfl⟩

/-- reader group (function/map variable) ↦ writer function producing that map -/
def yamlPairs : List (String × String) :=
  [("Read/m", "WriteGenome"), ("Read/gm", "WriteGenome"), ("readTrait/conf", "encodeGenomeTrait"),
   ("readNNode/conf", "encodeNetworkNode"), ("readGene/conf", "encodeConnectionGene"),
   ("readMIMOControlGene/conf", "encodeControlGene"), ("readMIMOControlGene/n", "encodeModuleLink")]

/-- writer value types that are slices of maps built by one of the element encoders -/
def yamlListTypes : List String :=
  ["list:encodeGenomeTrait", "list:encodeNetworkNode", "list:encodeConnectionGene", "list:encodeControlGene",
   "list:encodeModuleLink"]

/-- the reader's conversion accepts every value of the writer's type as yaml.v3 decodes it (an integral float64
    comes back as `int`: only the `cast` conversions accept both) -/
def yamlCompat (wty conv : String) : Bool :=
  (wty == "int" && (conv == "assert:int" || conv == "cast.ToIntE" || conv == "cast.ToInt64E")) ||
  (wty == "int64" && (conv == "cast.ToInt64E")) ||
  (wty == "float64" && conv == "cast.ToFloat64E") ||
  (wty == "bool" && (conv == "cast.ToBoolE" || conv == "assert:bool")) ||
  ((wty == "neuronTypeName" || wty == "activationName") && conv == "assert:string") ||
  (wty == "[]float64" && conv == "cast.ToSlice") ||
  (yamlListTypes.contains wty && (conv == "assert:[]interface{}" || conv == "cast.ToSliceE" || conv == "optional")) ||
  (wty == "map:gMap" && conv == "assert:map[string]interface{}")

def yamlKeyOK (r : YKey) : Bool :=
  match yamlPairs.lookup r.fn with
  | none => false
  | some wfn => yamlWriterKeys.any fun w => w.fn == wfn && w.key == r.key && yamlCompat w.ty r.ty && w.optional == r.optional

def yamlUnread : List (String × String) :=
  (yamlWriterKeys.filter fun w => !(yamlReaderKeys.any fun r => yamlPairs.lookup r.fn == some w.fn && r.key == w.key)).map
    fun w => (w.fn, w.key)

/-- **YAML writer keys vs reader keys.** Every key the reader takes out of a map is put there by the paired writer
    function, with a value type its conversion accepts and the same optionality; the only key written and never
    read is the module link `order`. -/
theorem yaml_keys_aligned :
    yamlReaderKeys.all yamlKeyOK = true ∧ yamlUnread = [("encodeModuleLink", "order")] := by decide +kernel

def jsonStruct (s : String) : List JField := jsonFields.filter (·.struct == s)

/-- **JSON model tags.** The three tagged structs have pairwise different non-empty tags on exported fields (so
    `encoding/json` writes and reads every field under its own key); the data holder's constructor sets every
    field of the holder; `ReadFMNSModel` uses every field except the sensor count (which the solver constructor
    recomputes as bias + input). -/
theorem json_model_fields :
    (["fastModularNetworkSolverData", "fastControlNodeData", "FastNetworkLink"].all fun s =>
        (jsonStruct s).all (fun f => f.exported && f.tag != "") &&
        decide ((jsonStruct s).map (·.tag)).Nodup) = true ∧
    jsonHolderSets.map (·.1) = (jsonStruct "fastModularNetworkSolverData").map (·.field) ∧
    ((jsonStruct "fastModularNetworkSolverData").map (·.field)).filter (fun f => !jsonReaderUses.contains f) =
      ["SensorNeuronCount"] := by decide +kernel

def verbsOf (tbl : List PCall) (fn kind : String) : List (List String) :=
  (tbl.filter fun c => c.fn == fn && c.kind == kind).map (·.verbs)

/-- the shape of the plain writer that `PlainIO.render` implements, line by line
    (`traitLine`, `nodeLine`, `geneLine`, `startLine`, `endLine`) -/
def plainWriterShape : List PCall := [
  { fn := "WriteGenome", kind := "Fprintf", format := "genomestart %d\n", verbs := ["genomestart", "%d"], args := ["g.Id"] },
  { fn := "WriteGenome", kind := "range", format := "g.Traits", verbs := [], args := [] },
  { fn := "WriteGenome", kind := "Fprint", format := "", verbs := [], args := ["\"trait \""] },
  { fn := "WriteGenome", kind := "call", format := "writeTrait", verbs := [], args := [] },
  { fn := "WriteGenome", kind := "Fprintln", format := "", verbs := [], args := ["\"\""] },
  { fn := "WriteGenome", kind := "range", format := "g.Nodes", verbs := [], args := [] },
  { fn := "WriteGenome", kind := "Fprint", format := "", verbs := [], args := ["\"node \""] },
  { fn := "WriteGenome", kind := "call", format := "writeNetworkNode", verbs := [], args := [] },
  { fn := "WriteGenome", kind := "Fprintln", format := "", verbs := [], args := ["\"\""] },
  { fn := "WriteGenome", kind := "range", format := "g.Genes", verbs := [], args := [] },
  { fn := "WriteGenome", kind := "Fprint", format := "", verbs := [], args := ["\"gene \""] },
  { fn := "WriteGenome", kind := "call", format := "writeConnectionGene", verbs := [], args := [] },
  { fn := "WriteGenome", kind := "Fprintln", format := "", verbs := [], args := ["\"\""] },
  { fn := "WriteGenome", kind := "Fprintf", format := "genomeend %d\n", verbs := ["genomeend", "%d"], args := ["g.Id"] },
  { fn := "writeTrait", kind := "Fprintf", format := "%d ", verbs := ["%d"], args := ["t.Id"] },
  { fn := "writeTrait", kind := "range", format := "t.Params", verbs := [], args := [] },
  { fn := "writeTrait", kind := "Fprintf", format := "%g ", verbs := ["%g"], args := ["p"] },
  { fn := "writeTrait", kind := "Fprintf", format := "%g", verbs := ["%g"], args := ["p"] },
  { fn := "writeNetworkNode", kind := "Fprintf", format := "%d %d %d %d %s", verbs := ["%d", "%d", "%d", "%d", "%s"], args := ["n.Id", "(n.Trait != nil ? n.Trait.Id : 0)", "n.NodeType()", "n.NeuronType", "actStr"] },
  { fn := "writeConnectionGene", kind := "Fprintf", format := "%d %d %d %g %t %d %g %t", verbs := ["%d", "%d", "%d", "%g", "%t", "%d", "%g", "%t"], args := ["(g.Link.Trait != nil ? g.Link.Trait.Id : 0)", "g.Link.InNode.Id", "g.Link.OutNode.Id", "g.Link.ConnectionWeight", "g.Link.IsRecurrent", "g.InnovationNum", "g.MutationNum", "g.IsEnabled"] }]

/-- the shape of the plain reader that `PlainIO.step`/`readTrait`/`readNode`/`readGene` implement -/
def plainReaderShape : List PCall := [
  { fn := "Read", kind := "for", format := "scanner.Scan()", verbs := [], args := [] },
  { fn := "Read", kind := "SplitN", format := "\" \"/2", verbs := [], args := ["line"] },
  { fn := "Read", kind := "call", format := "readPlainTrait", verbs := [], args := [] },
  { fn := "Read", kind := "TraitWithId", format := "", verbs := [], args := ["newTrait.Id", "gnome.Traits"] },
  { fn := "Read", kind := "call", format := "readPlainNetworkNode", verbs := [], args := [] },
  { fn := "Read", kind := "call", format := "readPlainConnectionGene", verbs := [], args := [] },
  { fn := "Read", kind := "Fscanf", format := "%d", verbs := ["%d"], args := ["gId"] },
  { fn := "readPlainTrait", kind := "Fscanf", format := "%d ", verbs := ["%d"], args := ["nt.Id"] },
  { fn := "readPlainTrait", kind := "for", format := "i < neat.NumTraitParams", verbs := [], args := [] },
  { fn := "readPlainTrait", kind := "Fscanf", format := "%g ", verbs := ["%g"], args := ["nt.Params[i]"] },
  { fn := "readPlainNetworkNode", kind := "Split", format := "\" \"", verbs := [], args := ["string(line)"] },
  { fn := "readPlainNetworkNode", kind := "ParseInt", format := "10/32", verbs := [], args := ["parts[0]"] },
  { fn := "readPlainNetworkNode", kind := "ParseInt", format := "10/32", verbs := [], args := ["parts[1]"] },
  { fn := "readPlainNetworkNode", kind := "TraitWithId", format := "", verbs := [], args := ["int(traitId)", "traits"] },
  { fn := "readPlainNetworkNode", kind := "ParseInt", format := "10/8", verbs := [], args := ["parts[3]"] },
  { fn := "readPlainNetworkNode", kind := "ActivationTypeFromName", format := "", verbs := [], args := ["parts[4]"] },
  { fn := "readPlainConnectionGene", kind := "Fscanf", format := "%d %d %d %g %t %d %g %t ", verbs := ["%d", "%d", "%d", "%g", "%t", "%d", "%g", "%t"], args := ["traitId", "inNodeId", "outNodeId", "weight", "recurrent", "innovationNum", "mutNum", "enabled"] },
  { fn := "readPlainConnectionGene", kind := "TraitWithId", format := "", verbs := [], args := ["traitId", "traits"] },
  { fn := "readPlainConnectionGene", kind := "range", format := "nodes", verbs := [], args := [] },
  { fn := "readPlainConnectionGene", kind := "NewConnectionGene", format := "", verbs := [], args := ["network.NewLinkWithTrait(trait, weight, inNode, outNode, recurrent)", "innovationNum", "mutNum", "enabled"] },
  { fn := "readPlainConnectionGene", kind := "NewLinkWithTrait", format := "", verbs := [], args := ["TraitWithId(traitId, traits)", "weight", "inNode", "outNode", "recurrent"] },
  { fn := "readPlainConnectionGene", kind := "NewConnectionGene", format := "", verbs := [], args := ["network.NewLink(weight, inNode, outNode, recurrent)", "innovationNum", "mutNum", "enabled"] },
  { fn := "readPlainConnectionGene", kind := "NewLink", format := "", verbs := [], args := ["weight", "inNode", "outNode", "recurrent"] }]

/-- **Plain format: print and scan calls aligned.** The gene and trait lines are scanned with exactly the verbs
    they are printed with; every verb the writer uses is one of `%d %g %t %s` without width or precision (`%g` is
    Go's shortest round-trip spelling: no `%f`, no `%.6g`); and the extracted calls of writer and reader are the
    ones `Model/PlainIO.lean` implements (argument order included). -/
theorem plain_formats_aligned :
    verbsOf plainWriter "writeConnectionGene" "Fprintf" = verbsOf plainReader "readPlainConnectionGene" "Fscanf" ∧
    (verbsOf plainWriter "writeTrait" "Fprintf").eraseDups = verbsOf plainReader "readPlainTrait" "Fscanf" ∧
    ((plainWriter.filter (·.kind == "Fprintf")).all fun c =>
      c.verbs.all fun v => ["%d", "%g", "%t", "%s", "genomestart", "genomeend"].contains v) = true ∧
    plainWriter = plainWriterShape ∧ plainReader = plainReaderShape :=
  ⟨by decide +kernel, by decide +kernel, by decide +kernel, rfl, rfl⟩

/-- `ReadPopulation` starts the per-genome buffer with the complete LINE `genomestart <id>` (newline included:
    the repair of the defect that `readPopulation_legacy_counterexample` exhibits), finishes it with
    `genomeend <id>` and appends every other line with `Fprintln` - the shape `PlainIO.popStep` implements -/
theorem population_reader_shape :
    populationReader.map (fun c => (c.kind, c.format)) =
      [("for", "scanner.Scan()"), ("SplitN", "\" \"/2"), ("Sprintf", "genomestart %s\n"), ("Fprintf", "genomeend %d"),
       ("Fprintln", "")] := rfl

end GoNeat.C15
