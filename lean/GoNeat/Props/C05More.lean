/-
  Property C05, second part (the single mutators are in Props/C05.lean):
  connect-sensors, the composition `mutateAllNonstructural`, and the `false` results of add-link / add-node.
  Kind A: every theorem holds for every scalar type `W`, every random stream, every registry and all options.
-/
import GoNeat.Props.C05
import GoNeat.Proofs.MutateLemmas
import GoNeat.Proofs.ScalarInt

namespace GoNeat.C05
open GoNeat Scalar MutateLemmas
variable {W : Type} [Scalar W]

/-- "unconnected" exactly as `mutateConnectSensors` tests it: NO gene of the genome — enabled or disabled,
    recurrent or not — has the sensor's id as its source (`gene.Link.InNode.Id == sensor.Id` never holds) -/
def Unconnected (g : Genome W) (s : Node) : Prop := ∀ x ∈ g.genes, x.src ≠ s.id
instance (g : Genome W) (s : Node) : Decidable (Unconnected g s) := by unfold Unconnected; infer_instance

/-- the non-sensor nodes (hidden and output), in node order: the targets of connect-sensors -/
def nonSensors (g : Genome W) : List Node := g.nodes.filter (fun n => !n.isSensor)

structure ConnectSensorsRel (g g' : Genome W) : Prop where
  id : g'.id = g.id
  nodes : g'.nodes = g.nodes
  traits : g'.traits = g.traits
  modules : g'.modules = g.modules
  /-- one sensor (input or bias node) of the genome that no gene left; `new` = the inserted genes -/
  witness : ∃ sensor ∈ g.nodes, sensor.isSensor = true ∧ Unconnected g sensor ∧
    ∃ new : List (Gene W), new ≠ [] ∧
      -- only adds genes: each one put in by the ordered insertion, old genes all kept, in their order, untouched
      g'.genes = new.foldl geneInsert g.genes ∧ g.genes.Sublist g'.genes ∧ g'.genes.Perm (g.genes ++ new) ∧
      -- all from that one sensor, enabled, non-recurrent, trait = one of the genome's traits
      (∀ x ∈ new, x.src = sensor.id ∧ x.recur = false ∧ x.en = true ∧ ∃ t ∈ g.traits, x.trait = some t.id) ∧
      -- one to every non-sensor node: no two new genes share a target, every non-sensor node id is a target,
      -- every target is a non-sensor node
      (new.map (·.dst)).Nodup ∧
      (∀ o ∈ nonSensors g, o.id ∈ new.map (·.dst)) ∧
      (∀ x ∈ new, ∃ o ∈ nonSensors g, o.id = x.dst) ∧
      -- with unique node ids (C01): exactly one new gene per non-sensor node
      ((g.nodes.map (·.id)).Nodup → (new.map (·.dst)).Perm ((nonSensors g).map (·.id)))

/-- **C05 (connect-sensors).** For every stream and every registry: a successful `mutateConnectSensors` only
    adds genes, all from ONE sensor that previously had no outgoing gene at all (`Unconnected`), one to every
    non-sensor node; node list, traits, modules and all existing genes are untouched.  The code's test "skip a
    target already linked from the sensor" can only fire for a second node carrying the id of an earlier target
    (the sensor had no gene), which is why no two new genes share a target; its "innovation already in this
    genome" exit is dead (see `connectOne_spec`).  Result `false` ⇒ genome and registry unchanged. -/
theorem mutateConnectSensors_spec (g g' : Genome W) (reg reg' : Reg W) (res : Bool) (rs rs' : List Nat)
    (h : mutateConnectSensors g reg rs = .ok ((g', reg', res), rs')) :
    (res = true → ConnectSensorsRel g g') ∧ (res = false → g' = g ∧ reg' = reg) := by
  rcases mutateConnectSensors_cases h with ⟨rfl, rfl, rfl⟩ | ⟨sensor, hsn, hsens, hun, rs1, h⟩
  · exact ⟨fun h => (by cases h), fun _ => ⟨rfl, rfl⟩⟩
  · obtain ⟨i1, i2, i3, i4, new, n1, n2, n3, n4, n5, n6⟩ := connectLoop_spec _ _ _ _ _ _ _ _ _ _ h
    simp only [Bool.false_or] at n5
    have hcover : ∀ o ∈ nonSensors g, o.id ∈ new.map (·.dst) := by
      intro o ho
      rcases n4 o ho with ⟨y, hy, hys, _⟩ | hin
      · exact absurd hys (hun y hy)
      · exact hin
    have htargets : ∀ x ∈ new, ∃ o ∈ nonSensors g, o.id = x.dst := fun x hx => (n2 x hx).2.2.2.2.1
    refine ⟨?_, ?_⟩
    · intro hres
      subst hres
      have hne : new ≠ [] := by
        intro he; subst he; simp at n5
      refine ⟨i1, i2, i3, i4, sensor, hsn, hsens, hun, new, hne, n1, ?_, ?_, ?_, n3, hcover, htargets, ?_⟩
      · rw [n1]; exact foldl_geneInsert_sublist _ _
      · rw [n1]; exact foldl_geneInsert_perm _ _
      · intro x hx
        obtain ⟨a, b, c, d, _⟩ := n2 x hx
        exact ⟨a, b, c, d⟩
      · intro hnd
        have hnd2 : ((nonSensors g).map (·.id)).Nodup :=
          (List.filter_sublist.map _).nodup hnd
        rw [List.perm_ext_iff_of_nodup n3 hnd2]
        intro d
        constructor
        · intro hd
          obtain ⟨x, hx, rfl⟩ := List.mem_map.mp hd
          obtain ⟨o, ho, hod⟩ := htargets x hx
          exact List.mem_map.mpr ⟨o, ho, hod⟩
        · intro hd
          obtain ⟨o, ho, rfl⟩ := List.mem_map.mp hd
          exact hcover o ho
    · intro hres
      subst hres
      have he : new = [] := by
        cases new with
        | nil => rfl
        | cons a as => simp at n5
      exact n6 he

/-- **C05 (add-link, no-op paths).** When `mutateAddLink` reports `false` — no open node pair found within
    `NewLinkTries`, or the registry's innovation for the pair is already a gene of this genome — genome and
    registry are returned unchanged. -/
theorem mutateAddLink_false (g g' : Genome W) (reg reg' : Reg W) (o : MutOpts W) (rs rs' : List Nat)
    (h : mutateAddLink g reg o rs = .ok ((g', reg', false), rs')) : g' = g ∧ reg' = reg := by
  rcases mutateAddLink_cases h with ⟨_, hg, hr⟩ | ⟨hres, _⟩
  · exact ⟨hg, hr⟩
  · cases hres

/-- **C05 (add-node, no-op paths — documented observation).** When `mutateAddNode` reports `false`, registry,
    node list, traits and modules are unchanged, and the gene list is either unchanged (no gene / no splittable
    gene picked) or — on the "innovation already in this genome" exit — differs in exactly one thing: the chosen,
    previously enabled gene `old` is now DISABLED.  That exit is taken only when the registry holds a new-node
    record for `old` whose node id already is a node of the genome.  (The property statement constrains only
    successful add-node; this theorem records what the code does, it does not call it a violation.) -/
theorem mutateAddNode_false (g g' : Genome W) (reg reg' : Reg W) (o : MutOpts W) (rs rs' : List Nat)
    (h : mutateAddNode g reg o rs = .ok ((g', reg', false), rs')) :
    reg' = reg ∧ g'.id = g.id ∧ g'.nodes = g.nodes ∧ g'.traits = g.traits ∧ g'.modules = g.modules ∧
    (g' = g ∨ ∃ (k : Nat) (old : Gene W) (inn : Innov W),
        g.genes[k]? = some old ∧ old.en = true ∧ g'.genes = setEnabledAt g.genes k false ∧
        inn ∈ reg.records ∧ inn.typ = 1 ∧ inn.inId = old.src ∧ inn.outId = old.dst ∧ inn.oldInn = old.inn ∧
        g.hasNode inn.newNode = true) := by
  cases mutateAddNode_cases h with
  | noop => exact ⟨rfl, rfl, rfl, rfl, rfl, .inl rfl⟩
  | @known k old i hk hsp hf hn =>
    obtain ⟨t1, hin, hout, hinn⟩ := (C03.nodeMatch_iff _ _ _ i).mp (List.find?_some hf)
    exact ⟨rfl, rfl, rfl, rfl, rfl, .inr ⟨k, old, i, hk, ((splittable_iff g old).mp hsp).1, rfl,
      List.mem_of_find?_eq_some hf, t1, hin, hout, hinn, hn⟩⟩

def stage (prob : W) (f : Genome W → Rand (Genome W)) (g : Genome W) : Rand (Genome W) := fun rs =>
  match Rand.float64 (W := W) rs with
  | .error e => .error e
  | .ok (x, rs') => if lt x prob then f g rs' else .ok (g, rs')

theorem stage_cases (prob : W) (f : Genome W → Rand (Genome W)) (g g' : Genome W) (rs rs' : List Nat)
    (h : stage prob f g rs = .ok (g', rs')) : g' = g ∨ ∃ rs0, f g rs0 = .ok (g', rs') := by
  unfold stage at h
  split at h
  · cases h
  · split at h
    · exact .inr ⟨_, h⟩
    · cases h; exact .inl rfl

/-- a gated stage followed by `K`: the stage's genome is the input or an `ok` result of `f`, and `K` ran on it -/
theorem stage_bind {prob : W} {f : Genome W → Rand (Genome W)} {g : Genome W} {rs : List Nat}
    {K : Genome W → List Nat → Except Stop (Genome W × List Nat)} {r : Genome W × List Nat}
    (h : (match stage prob f g rs with
          | .error e => Except.error e
          | .ok (g1, rs1) => K g1 rs1) = .ok r) :
    ∃ g1 rs1, (g1 = g ∨ ∃ a b, f g a = .ok (g1, b)) ∧ K g1 rs1 = .ok r := by
  split at h
  · cases h
  · rename_i g1 rs1 h1
    exact ⟨g1, rs1, (stage_cases _ _ _ _ _ _ h1).imp id (fun ⟨a, ha⟩ => ⟨a, _, ha⟩), h⟩

theorem mutateAllNonstructural_eq (g : Genome W) (o : MutOpts W) (rs : List Nat) :
    mutateAllNonstructural g o rs =
      match stage o.mutateRandomTraitProb (fun g => mutateRandomTrait g o) g rs with
      | .error e => .error e
      | .ok (g1, rs1) =>
        match stage o.mutateLinkTraitProb (fun g => mutateLinkTrait g 1) g1 rs1 with
        | .error e => .error e
        | .ok (g2, rs2) =>
          match stage o.mutateNodeTraitProb (fun g => mutateNodeTrait g 1) g2 rs2 with
          | .error e => .error e
          | .ok (g3, rs3) =>
            match stage o.mutateLinkWeightsProb (fun g => mutateLinkWeights g o.weightMutPower one .gaussian) g3 rs3 with
            | .error e => .error e
            | .ok (g4, rs4) =>
              match stage o.mutateToggleEnableProb (fun g => mutateToggleEnable g 1) g4 rs4 with
              | .error e => .error e
              | .ok (g5, rs5) =>
                stage o.mutateGeneReenableProb (fun g => fun rs => match mutateGeneReEnable g with
                                                                  | .error e => .error e
                                                                  | .ok g' => .ok (g', rs)) g5 rs5 := rfl

/-- **C05 (composition).** A run of `mutateAllNonstructural` is six gated stages in this order, each either
    skipped (genome passed on unchanged) or one `ok` run of: random-trait, link-trait (1 round), node-trait
    (1 round), link-weights (gaussian, rate 1, power `WeightMutPower`), toggle-enable (1 round), re-enable. -/
theorem mutateAllNonstructural_stages (g g' : Genome W) (o : MutOpts W) (rs rs' : List Nat)
    (h : mutateAllNonstructural g o rs = .ok (g', rs')) :
    ∃ g1 g2 g3 g4 g5 : Genome W,
      (g1 = g ∨ ∃ a b, mutateRandomTrait g o a = .ok (g1, b)) ∧
      (g2 = g1 ∨ ∃ a b, mutateLinkTrait g1 1 a = .ok (g2, b)) ∧
      (g3 = g2 ∨ ∃ a b, mutateNodeTrait g2 1 a = .ok (g3, b)) ∧
      (g4 = g3 ∨ ∃ a b, mutateLinkWeights g3 o.weightMutPower one .gaussian a = .ok (g4, b)) ∧
      (g5 = g4 ∨ ∃ a b, mutateToggleEnable g4 1 a = .ok (g5, b)) ∧
      (g' = g5 ∨ mutateGeneReEnable g5 = .ok g') := by
  rw [mutateAllNonstructural_eq] at h
  obtain ⟨g1, rs1, s1, h⟩ := stage_bind h
  obtain ⟨g2, rs2, s2, h⟩ := stage_bind h
  obtain ⟨g3, rs3, s3, h⟩ := stage_bind h
  obtain ⟨g4, rs4, s4, h⟩ := stage_bind h
  obtain ⟨g5, rs5, s5, h⟩ := stage_bind h
  refine ⟨g1, g2, g3, g4, g5, s1, s2, s3, s4, s5, (stage_cases _ _ _ _ _ _ h).imp id fun ⟨a, h6⟩ => ?_⟩
  split at h6
  · cases h6
  · rename_i gr hr
    simp only [Except.ok.injEq, Prod.mk.injEq] at h6
    rw [hr, h6.1]

theorem mutateAllNonstructural_ind (R : Genome W → Genome W → Prop) (refl : ∀ g, R g g)
    (trans : ∀ {a b c : Genome W}, R a b → R b c → R a c) (o : MutOpts W)
    (h1 : ∀ g g' a b, mutateRandomTrait g o a = .ok (g', b) → R g g')
    (h2 : ∀ g g' a b, mutateLinkTrait g 1 a = .ok (g', b) → R g g')
    (h3 : ∀ g g' a b, mutateNodeTrait g 1 a = .ok (g', b) → R g g')
    (h4 : ∀ g g' a b, mutateLinkWeights g o.weightMutPower one .gaussian a = .ok (g', b) → R g g')
    (h5 : ∀ g g' a b, mutateToggleEnable g 1 a = .ok (g', b) → R g g')
    (h6 : ∀ g g', mutateGeneReEnable g = .ok g' → R g g')
    {g g' : Genome W} {rs rs' : List Nat} (h : mutateAllNonstructural g o rs = .ok (g', rs')) : R g g' := by
  obtain ⟨g1, g2, g3, g4, g5, s1, s2, s3, s4, s5, s6⟩ := mutateAllNonstructural_stages g g' o rs rs' h
  have of_or : ∀ {a b : Genome W} {P : Prop}, b = a ∨ P → (P → R a b) → R a b := by
    intro a b P hor hp
    rcases hor with rfl | hP
    · exact refl _
    · exact hp hP
  exact trans (of_or s1 fun ⟨a, b, e⟩ => h1 _ _ a b e) (trans (of_or s2 fun ⟨a, b, e⟩ => h2 _ _ a b e)
    (trans (of_or s3 fun ⟨a, b, e⟩ => h3 _ _ a b e) (trans (of_or s4 fun ⟨a, b, e⟩ => h4 _ _ a b e)
      (trans (of_or s5 fun ⟨a, b, e⟩ => h5 _ _ a b e) (of_or s6 (h6 _ _))))))

/-- what no parametric mutation may touch: node set (ids, roles, activation types), gene skeleton (innovation
    numbers, endpoints, recurrence flags, order and number of genes), trait ids, modules -/
structure ParamOnly (g g' : Genome W) : Prop where
  nodes : g'.nodes.map (fun n => (n.id, n.kind, n.act)) = g.nodes.map (fun n => (n.id, n.kind, n.act))
  genes : g'.genes.map Gene.skel = g.genes.map Gene.skel
  traits : g'.traits.map (·.id) = g.traits.map (·.id)
  modules : g'.modules = g.modules

omit [Scalar W] in
theorem ParamOnly.rfl' (g : Genome W) : ParamOnly g g := ⟨rfl, rfl, rfl, rfl⟩
omit [Scalar W] in
theorem ParamOnly.trans {a b c : Genome W} (h1 : ParamOnly a b) (h2 : ParamOnly b c) : ParamOnly a c :=
  ⟨h2.1.trans h1.1, h2.2.trans h1.2, h2.3.trans h1.3, h2.4.trans h1.4⟩
omit [Scalar W] in
theorem core_to_skel (a b : List (Gene W)) (h : b.map Gene.core = a.map Gene.core) :
    b.map Gene.skel = a.map Gene.skel ∧ b.map (·.en) = a.map (·.en) := by
  have h1 := congrArg (List.map (fun c : Int × Int × Int × Bool × Bool × Option Int => (c.1, c.2.1, c.2.2.1, c.2.2.2.1))) h
  have h2 := congrArg (List.map (fun c : Int × Int × Int × Bool × Bool × Option Int => c.2.2.2.2.1)) h
  simp only [List.map_map] at h1 h2
  exact ⟨h1, h2⟩

end GoNeat.C05

namespace GoNeat.C01
open GoNeat Scalar
variable {W : Type} [Scalar W]

/-! `ParamRel g g'`: nothing but weights, enabled flags, trait parameters and trait references has changed (`C05.ParamOnly`),
and every trait reference of `g'` is one `g` had, at the same kind of place, or the id of a trait of `g`. -/

/-- a trait reference `t` was held by `g` at the places `old`, or names a trait of `g` -/
def RefFrom (g : Genome W) (old : List (Option Int)) (t : Option Int) : Prop := t ∈ old ∨ ∃ tr ∈ g.traits, t = some tr.id

structure ParamRel (g g' : Genome W) : Prop where
  only : C05.ParamOnly g g'
  genes : ∀ x ∈ g'.genes, RefFrom g (g.genes.map (·.trait)) x.trait
  nodes : ∀ n ∈ g'.nodes, RefFrom g (g.nodes.map (·.trait)) n.trait

omit [Scalar W] in
theorem ParamRel.refl (g : Genome W) : ParamRel g g :=
  ⟨.rfl' g, fun _ hx => .inl (List.mem_map_of_mem hx), fun _ hn => .inl (List.mem_map_of_mem hn)⟩

omit [Scalar W] in
theorem RefFrom.trans {a b : Genome W} {olda oldb : List (Option Int)} {t : Option Int} (hab : C05.ParamOnly a b)
    (hold : ∀ u ∈ oldb, RefFrom a olda u) (h : RefFrom b oldb t) : RefFrom a olda t := by
  rcases h with h | ⟨tr, htr, rfl⟩
  · exact hold t h
  · have : tr.id ∈ a.traits.map (·.id) := hab.traits ▸ List.mem_map_of_mem htr
    obtain ⟨tr', htr', e⟩ := List.mem_map.mp this
    exact .inr ⟨tr', htr', by rw [e]⟩

omit [Scalar W] in
theorem ParamRel.trans {a b c : Genome W} (h1 : ParamRel a b) (h2 : ParamRel b c) : ParamRel a c :=
  ⟨h1.only.trans h2.only,
   fun x hx => (h2.genes x hx).trans h1.only (fun _ hu => by obtain ⟨y, hy, rfl⟩ := List.mem_map.mp hu; exact h1.genes y hy),
   fun n hn => (h2.nodes n hn).trans h1.only (fun _ hu => by obtain ⟨m, hm, rfl⟩ := List.mem_map.mp hu; exact h1.nodes m hm)⟩

omit [Scalar W] in
theorem ParamRel.modifyGene (g : Genome W) (k : Nat) (f : Gene W → Gene W) (hk : ∀ x, C05.Gene.skel (f x) = C05.Gene.skel x)
    (hr : ∀ x ∈ g.genes, RefFrom g (g.genes.map (·.trait)) (f x).trait) : ParamRel g { g with genes := g.genes.modify k f } :=
  ⟨⟨rfl, modify_map_of_eq _ _ _ _ hk, rfl, rfl⟩, fun x hx => by
    rcases mem_modify _ _ _ _ hx with hx | ⟨y, hy, rfl⟩
    · exact .inl (List.mem_map_of_mem hx)
    · exact hr y hy, fun _ hn => .inl (List.mem_map_of_mem hn)⟩

omit [Scalar W] in
theorem ParamRel.modifyNode (g : Genome W) (k : Nat) (tr : Option Int) (hr : RefFrom g (g.nodes.map (·.trait)) tr) :
    ParamRel g { g with nodes := g.nodes.modify k (fun n => { n with trait := tr }) } :=
  ⟨⟨modify_map_of_eq _ _ _ _ (fun _ => rfl), rfl, rfl, rfl⟩, fun _ hx => .inl (List.mem_map_of_mem hx), fun n hn => by
    rcases mem_modify _ _ _ _ hn with hn | ⟨m, _, rfl⟩
    · exact .inl (List.mem_map_of_mem hn)
    · exact hr⟩

theorem ParamRel.linkWeights {g g' : Genome W} {power rate : W} {mt : WeightMutator} {rs rs' : List Nat}
    (h : mutateLinkWeights g power rate mt rs = .ok (g', rs')) : ParamRel g g' := by
  obtain ⟨_, hn, ht, hm, hc, _⟩ := C05.mutateLinkWeights_paramOnly g g' power rate mt rs rs' h
  refine ⟨⟨by rw [hn], (C05.core_to_skel _ _ hc).1, by rw [ht], hm⟩, fun x hx => .inl ?_,
    fun n hn' => .inl (List.mem_map_of_mem (hn ▸ hn'))⟩
  obtain ⟨y, hy, e⟩ := exists_of_map_eq C05.Gene.core hc hx
  have : y.trait = x.trait := congrArg (·.2.2.2.2.2) e
  exact this ▸ List.mem_map_of_mem hy

theorem ParamRel.randomTrait {g g' : Genome W} {o : MutOpts W} {rs rs' : List Nat}
    (h : mutateRandomTrait g o rs = .ok (g', rs')) : ParamRel g g' := by
  obtain ⟨hn, hg, hm, ht⟩ := C05.mutateRandomTrait_paramOnly g g' o rs rs' h
  exact ⟨⟨by rw [hn], by rw [hg], ht, hm⟩, fun x hx => .inl (List.mem_map_of_mem (hg ▸ hx)), fun n hn' => .inl (List.mem_map_of_mem (hn ▸ hn'))⟩

theorem ParamRel.linkTrait {times : Nat} {g g' : Genome W} {rs rs' : List Nat}
    (h : mutateLinkTrait g times rs = .ok (g', rs')) : ParamRel g g' :=
  C05.mutateLinkTrait_ind ParamRel .refl .trans
    (fun g t k tr htr => .modifyGene g k _ (fun _ => rfl) (fun _ _ => .inr (MutateLemmas.traitAt_ok g t tr htr))) h

theorem ParamRel.nodeTrait {times : Nat} {g g' : Genome W} {rs rs' : List Nat}
    (h : mutateNodeTrait g times rs = .ok (g', rs')) : ParamRel g g' :=
  C05.mutateNodeTrait_ind ParamRel .refl .trans
    (fun g t k tr htr => .modifyNode g k tr (.inr (MutateLemmas.traitAt_ok g t tr htr))) h

theorem ParamRel.toggleEnable {times : Nat} {g g' : Genome W} {rs rs' : List Nat}
    (h : mutateToggleEnable g times rs = .ok (g', rs')) : ParamRel g g' :=
  C05.mutateToggleEnable_ind ParamRel .refl .trans
    (fun g k _ _ _ _ => .modifyGene g k _ (fun _ => rfl) (fun x hx => .inl (List.mem_map.mpr ⟨x, hx, rfl⟩))) h

theorem ParamRel.reEnable {g g' : Genome W} (h : mutateGeneReEnable g = .ok g') : ParamRel g g' :=
  C05.mutateGeneReEnable_ok h ▸ .modifyGene g _ _ (fun _ => rfl) (fun x hx => .inl (List.mem_map.mpr ⟨x, hx, rfl⟩))

theorem ParamRel.all {g g' : Genome W} {o : MutOpts W} {rs rs' : List Nat}
    (h : mutateAllNonstructural g o rs = .ok (g', rs')) : ParamRel g g' :=
  C05.mutateAllNonstructural_ind ParamRel .refl .trans o (fun _ _ _ _ => .randomTrait) (fun _ _ _ _ => .linkTrait)
    (fun _ _ _ _ => .nodeTrait) (fun _ _ _ _ => .linkWeights) (fun _ _ _ _ => .toggleEnable) (fun _ _ => .reEnable) h

end GoNeat.C01

namespace GoNeat.C05
open GoNeat Scalar MutateLemmas
variable {W : Type} [Scalar W]

/-- **C05 (composition, what is untouched).** `mutateAllNonstructural` never changes the node set, gene
    endpoints, recurrence flags, innovation numbers, the number or order of genes, the trait ids or the
    modules — for every option setting (all six gate probabilities) and every stream.  What it can change is
    the complement: trait parameters, trait references of nodes and genes, weights and mutation numbers,
    enabled flags. -/
theorem mutateAllNonstructural_paramOnly (g g' : Genome W) (o : MutOpts W) (rs rs' : List Nat)
    (h : mutateAllNonstructural g o rs = .ok (g', rs')) : ParamOnly g g' :=
  (C01.ParamRel.all h).only

omit [Scalar W] in
theorem hasOutlet_of_maps (a b : List (Gene W)) (hs : b.map Gene.skel = a.map Gene.skel)
    (he : b.map (·.en) = a.map (·.en)) (s : Int) (h : HasOutlet a s) : HasOutlet b s := by
  obtain ⟨x, hx, hsrc, hen⟩ := h
  obtain ⟨i, hi⟩ := List.getElem?_of_mem hx
  have h1 := congrArg (·[i]?) hs
  have h2 := congrArg (·[i]?) he
  simp only [List.getElem?_map, hi, Option.map_some] at h1 h2
  cases hb : b[i]? with
  | none => simp [hb] at h1
  | some y =>
    simp only [hb, Option.map_some, Option.some.injEq] at h1 h2
    have hsrc' : y.src = x.src := by
      have := congrArg (fun c : Int × Int × Int × Bool => c.2.1) h1
      simpa [Gene.skel] using this
    exact ⟨y, List.mem_of_getElem? hb, by rw [hsrc', hsrc], by rw [h2, hen]⟩

theorem reenableFirst_outlets (genes : List (Gene W)) (s : Int) (h : HasOutlet genes s) :
    HasOutlet (reenableFirst genes) s := by
  obtain ⟨x, hx, hsrc, hen⟩ := h
  rw [reenableFirst_eq]
  rcases mem_modify_of_mem genes _ (fun x => { x with en := true }) x hx with h | h
  · exact ⟨x, h, hsrc, hen⟩
  · exact ⟨_, h, hsrc, rfl⟩

/-- **C05 (composition, enabled flags).** Under `mutateAllNonstructural` the enabled flags change only by the
    two rules already proved: up to and including the weight stage no flag moves (`gw`); the toggle stage (`gt`)
    keeps an enabled outgoing gene for every node that had one; the final stage is the identity or enables exactly
    the first disabled gene.  Consequently no node that had an enabled outgoing gene ends without one. -/
theorem mutateAllNonstructural_enabled (g g' : Genome W) (o : MutOpts W) (rs rs' : List Nat)
    (h : mutateAllNonstructural g o rs = .ok (g', rs')) :
    (∃ gw gt : Genome W,
      gw.genes.map Gene.skel = g.genes.map Gene.skel ∧ gw.genes.map (·.en) = g.genes.map (·.en) ∧
      (gt = gw ∨ ∃ a b, mutateToggleEnable gw 1 a = .ok (gt, b)) ∧
      (∀ s, HasOutlet gw.genes s → HasOutlet gt.genes s) ∧
      (g'.genes = gt.genes ∨ g'.genes = reenableFirst gt.genes)) ∧
    ∀ s, HasOutlet g.genes s → HasOutlet g'.genes s := by
  obtain ⟨g1, g2, g3, g4, g5, s1, s2, s3, s4, s5, s6⟩ := mutateAllNonstructural_stages g g' o rs rs' h
  have e1 : g1.genes.map Gene.skel = g.genes.map Gene.skel ∧ g1.genes.map (·.en) = g.genes.map (·.en) := by
    rcases s1 with rfl | ⟨a, b, e⟩
    · exact ⟨rfl, rfl⟩
    · rw [(mutateRandomTrait_paramOnly _ _ _ _ _ e).2.1]; exact ⟨rfl, rfl⟩
  have e2 : g2.genes.map Gene.skel = g1.genes.map Gene.skel ∧ g2.genes.map (·.en) = g1.genes.map (·.en) := by
    rcases s2 with rfl | ⟨a, b, e⟩
    · exact ⟨rfl, rfl⟩
    · obtain ⟨_, _, _, x4, x5, _⟩ := mutateLinkTrait_paramOnly _ _ _ _ _ e
      exact ⟨x4, x5⟩
  have e3 : g3.genes.map Gene.skel = g2.genes.map Gene.skel ∧ g3.genes.map (·.en) = g2.genes.map (·.en) := by
    rcases s3 with rfl | ⟨a, b, e⟩
    · exact ⟨rfl, rfl⟩
    · rw [(mutateNodeTrait_paramOnly _ _ _ _ _ e).1]; exact ⟨rfl, rfl⟩
  have e4 : g4.genes.map Gene.skel = g3.genes.map Gene.skel ∧ g4.genes.map (·.en) = g3.genes.map (·.en) := by
    rcases s4 with rfl | ⟨a, b, e⟩
    · exact ⟨rfl, rfl⟩
    · exact core_to_skel _ _ (mutateLinkWeights_paramOnly _ _ _ _ _ _ _ e).2.2.2.2.1
  have hw : g4.genes.map Gene.skel = g.genes.map Gene.skel ∧ g4.genes.map (·.en) = g.genes.map (·.en) :=
    ⟨e4.1.trans (e3.1.trans (e2.1.trans e1.1)), e4.2.trans (e3.2.trans (e2.2.trans e1.2))⟩
  have ht : ∀ s, HasOutlet g4.genes s → HasOutlet g5.genes s := by
    rcases s5 with rfl | ⟨a, b, e⟩
    · exact fun _ h => h
    · exact (mutateToggleEnable_spec _ _ _ _ _ e).2.2.2.2
  have h6 : g'.genes = g5.genes ∨ g'.genes = reenableFirst g5.genes := by
    rcases s6 with rfl | e
    · exact .inl rfl
    · exact .inr (mutateGeneReEnable_spec _ _ e).2.2.2
  refine ⟨⟨g4, g5, hw.1, hw.2, s5, ht, h6⟩, ?_⟩
  intro s hs
  have h5 := ht s (hasOutlet_of_maps _ _ hw.1 hw.2 s hs)
  rcases h6 with e | e <;> rw [e]
  · exact h5
  · exact reenableFirst_outlets _ s h5

/-! ### non-vacuity: concrete inputs on which the hypotheses hold (scalar = `Int`, raw draws used as values) -/
section NonVacuity

/-- exact `Int` scalar whose `rand.Float64` value is the raw draw itself -/
@[instance_reducible] def rawScalar : Scalar Int := { ExactInt.intScalar with ofUnit63 := fun x => (x : Int) }
attribute [local instance] rawScalar

/-- bias node 1 is cut off; input 2 feeds output 3 and hidden 4 -/
def cutOff : Genome Int :=
  { id := 1, traits := [⟨1, []⟩],
    nodes := [⟨1, Kind.bias, 4, none⟩, ⟨2, Kind.input, 4, none⟩, ⟨3, Kind.output, 4, none⟩, ⟨4, Kind.hidden, 4, none⟩],
    genes := [⟨1, 2, 3, false, 0, 0, true, none⟩, ⟨2, 2, 4, false, 0, 0, false, none⟩] }

def emptyReg : Reg Int := { records := [], nextInn := 2, nextNode := 4 }

/-- connect-sensors succeeds on `cutOff` and adds the two genes 1→3, 1→4 -/
example : (match mutateConnectSensors cutOff emptyReg [0, 0, 1, 7, 0, 2, 5] with
           | .ok ((g', _, res), _) => res && g'.genes.map (fun x => (x.inn, x.src, x.dst)) == [(1, 2, 3), (2, 2, 4), (3, 1, 3), (4, 1, 4)]
           | .error _ => false) = true := by decide +kernel

example : Unconnected cutOff ⟨1, Kind.bias, 4, none⟩ := by decide

def someOpts : MutOpts Int :=
  { recurOnlyProb := 0, newLinkTries := 3, activators := [4], activatorProbs := [1], traitMutationPower := 1,
    traitParamMutProb := 0, weightMutPower := 1, mutateRandomTraitProb := 9, mutateLinkTraitProb := 9,
    mutateNodeTraitProb := 9, mutateLinkWeightsProb := 9, mutateToggleEnableProb := 9, mutateGeneReenableProb := 9 }

/-- the registry already knows the split of gene 1 (2→3) with new node 4, which `cutOff` already owns:
    add-node returns `false` and leaves gene 1 disabled (the documented observation is reachable) -/
example : (match mutateAddNode cutOff { emptyReg with records := [⟨1, 2, 3, 7, 8, 0, 0, 4, 1, false⟩] } someOpts [5] with
           | .ok ((g', _, res), _) => !res && g'.genes.map (·.en) == [false, false]
           | .error _ => false) = true := by decide +kernel

/-- add-link gives up (`false`) when no try is allowed -/
example : (match mutateAddLink cutOff emptyReg { someOpts with newLinkTries := 0 } [5] with
           | .ok ((_, _, res), _) => !res
           | .error _ => false) = true := by decide +kernel

/-- `mutateAllNonstructural` runs through all six stages on `cutOff` -/
example : (match mutateAllNonstructural cutOff someOpts (List.replicate 40 2) with
           | .ok _ => true
           | .error _ => false) = true := by decide +kernel

end NonVacuity

end GoNeat.C05
