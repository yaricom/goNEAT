/-
  Property C04, closing the loop: the child the MODEL produces satisfies the executable predicate
  `CrossoverSpec.check` that the driver evaluates on the children the IMPLEMENTATION produced.  So what the check
  decides on Go's output is a consequence of the theorems of `Props/C04.lean` and `Props/C04More.lean`
  (the heap clauses "parents unmodified / nothing shared" are not part of `check`; they are decided on the dump).

  Hypotheses beyond well-formed parents of one lineage (all decidable / laws of the equality test the driver passes):
  * `weq` reflexive (the driver passes bit equality);
  * `FitOrdered f1 f2`: the two fitness values are comparable (`<`, `>` or `==`; false only for NaN) - the predicate
    spells the fitter-parent rule with `<`/`>` and "otherwise", the code with `>` and `==`;
  * single point only: `weq (avg a b) (avg b a)`, because the code averages "shorter parent first" while the predicate
    averages "first parent first" (IEEE addition commutes; an abstract scalar need not).
-/
import GoNeat.Props.C04More
import GoNeat.Spec.Crossover
import GoNeat.Props.C01

namespace GoNeat.C04
open GoNeat Scalar CrossoverSpec
variable {W : Type} [Scalar W]

omit [Scalar W] in
theorem mem_carriers {g og : Genome W} {i : Int} {z : Gene W} :
    z ∈ carriers g og i ↔ (z ∈ g.genes ∨ z ∈ og.genes) ∧ z.inn = i := by
  unfold carriers
  constructor
  · intro h
    rcases List.mem_append.mp h with h | h
    · have := List.mem_filter.mp h; exact ⟨Or.inl this.1, by simpa using this.2⟩
    · have := List.mem_filter.mp h; exact ⟨Or.inr this.1, by simpa using this.2⟩
  · rintro ⟨h | h, e⟩
    · exact List.mem_append.mpr (Or.inl (List.mem_filter.mpr ⟨h, by simpa using e⟩))
    · exact List.mem_append.mpr (Or.inr (List.mem_filter.mpr ⟨h, by simpa using e⟩))

omit [Scalar W] in
theorem carriers_two {g og : Genome W} {i : Int} {x y : Gene W} (hx : x ∈ g.genes) (hy : y ∈ og.genes)
    (ex : x.inn = i) (ey : y.inn = i) : 2 ≤ (carriers g og i).length := by
  unfold carriers
  rw [List.length_append]
  have h1 : 0 < (g.genes.filter (·.inn == i)).length :=
    List.length_pos_of_mem (List.mem_filter.mpr ⟨hx, by simpa using ex⟩)
  have h2 : 0 < (og.genes.filter (·.inn == i)).length :=
    List.length_pos_of_mem (List.mem_filter.mpr ⟨hy, by simpa using ey⟩)
  omega

omit [Scalar W] in
theorem find_sorted (l : List (Gene W)) (hs : GenesSorted l) (a : Gene W) (ha : a ∈ l) :
    l.find? (·.inn == a.inn) = some a :=
  find_unique l _ a ha (by simp) (fun z hz hp => nodup_map_inj (·.inn) (C01.sorted_inns_nodup l hs) hz ha (by simpa using hp))

/-- what the three gene clauses of `check` ask of one child gene -/
structure GeneClause (weq : W → W → Bool) (m : Method) (g og : Genome W) (cg : Gene W) : Prop where
  carrier : ∃ z ∈ carriers g og cg.inn, z.link = cg.link
  weight : (∃ z ∈ carriers g og cg.inn, weq z.w cg.w = true) ∨
    (m ≠ .multipoint ∧ ∃ a b, g.genes.find? (·.inn == cg.inn) = some a ∧ og.genes.find? (·.inn == cg.inn) = some b ∧
      weq (avg a.w b.w) cg.w = true)
  enAll : (∀ z ∈ carriers g og cg.inn, z.en = true) → cg.en = true
  enOne : (carriers g og cg.inn).length = 1 → (∀ z ∈ carriers g og cg.inn, z.en = false) → cg.en = false

theorem geneClauses_check (weq : W → W → Bool) (m : Method) (g og c : Genome W)
    (hall : ∀ cg ∈ c.genes, GeneClause weq m g og cg) (hnd : (c.genes.map (·.inn)).Nodup) :
    structureOk g og c = true ∧ weightsOk weq m g og c = true ∧ enabledOk g og c = true := by
  refine ⟨?_, ?_, ?_⟩
  · unfold structureOk
    rw [Bool.and_eq_true]
    refine ⟨List.all_eq_true.mpr (fun x hx => ?_), by simpa using hnd⟩
    obtain ⟨z, hz, hl⟩ := (hall x hx).carrier
    unfold Gene.link at hl
    simp only [Prod.mk.injEq] at hl
    rw [Bool.or_eq_true]
    left
    exact List.any_eq_true.mpr ⟨z, hz, by simp [hl.1, hl.2.1, hl.2.2]⟩
  · unfold weightsOk
    refine List.all_eq_true.mpr (fun x hx => ?_)
    dsimp only
    rw [Bool.or_eq_true]
    rcases (hall x hx).weight with ⟨z, hz, hw⟩ | ⟨hm, a, b, ha, hb, hw⟩
    · left; exact List.any_eq_true.mpr ⟨z, hz, hw⟩
    · right
      rw [Bool.and_eq_true]
      refine ⟨by simpa using hm, ?_⟩
      simp only [ha, hb]; exact hw
  · unfold enabledOk
    refine List.all_eq_true.mpr (fun x hx => ?_)
    dsimp only
    rw [Bool.and_eq_true]
    constructor
    · cases hA : (carriers g og x.inn).all (·.en)
      · simp
      · have := (hall x hx).enAll (fun z hz => List.all_eq_true.mp hA z hz)
        simp [this]
    · cases hA : ((carriers g og x.inn).length == 1 && (carriers g og x.inn).all (fun y => !y.en))
      · simp
      · rw [Bool.and_eq_true] at hA
        have := (hall x hx).enOne (by simpa using hA.1)
          (fun z hz => by have := List.all_eq_true.mp hA.2 z hz; simpa using this)
        simp [this]

theorem geneClause_copy (weq : W → W → Bool) (hrefl : ∀ a, weq a a = true) (m : Method) {g og : Genome W}
    {nt : List (Trait W)} {t0 : Option Int} {cg z : Gene W} (hz : z ∈ g.genes ∨ z ∈ og.genes) (h : CopyOf nt t0 cg z) :
    GeneClause weq m g og cg := by
  obtain ⟨tr, _, rfl⟩ := h
  have hzc : z ∈ carriers g og z.inn := mem_carriers.mpr ⟨hz, rfl⟩
  exact ⟨⟨z, hzc, rfl⟩, Or.inl ⟨z, hzc, hrefl _⟩, fun h => h z hzc, fun _ h => h z hzc⟩

theorem geneClause_avg (weq : W → W → Bool) (m : Method) (hm : m ≠ .multipoint) (g og : Genome W) (cg a b : Gene W)
    (hs1 : GenesSorted g.genes) (hs2 : GenesSorted og.genes)
    (ha : a ∈ g.genes) (hb : b ∈ og.genes) (hab : a.inn = b.inn) (hi : cg.inn = a.inn) (hl : cg.link = a.link)
    (hw : weq (avg a.w b.w) cg.w = true) (he : a.en = true → b.en = true → cg.en = true) :
    GeneClause weq m g og cg := by
  have hac : a ∈ carriers g og cg.inn := mem_carriers.mpr ⟨Or.inl ha, hi.symm⟩
  have hbc : b ∈ carriers g og cg.inn := mem_carriers.mpr ⟨Or.inr hb, by rw [hi, hab]⟩
  refine ⟨⟨a, hac, hl.symm⟩, Or.inr ⟨hm, a, b, ?_, ?_, hw⟩, fun h => he (h a hac) (h b hbc), fun h1 _ => ?_⟩
  · rw [hi]; exact find_sorted _ hs1 a ha
  · rw [hi, hab]; exact find_sorted _ hs2 b hb
  · have := carriers_two (i := cg.inn) ha hb hi.symm (by rw [hi, hab]); omega

theorem AvgOf.link_eq {nt : List (Trait W)} {t0 : Option Int} {x y c : Gene W} (h : AvgOf nt t0 x y c)
    (hxy : x.link = y.link) : c.link = x.link := by
  unfold Gene.link at hxy ⊢
  simp only [Prod.mk.injEq] at hxy ⊢
  obtain ⟨h1, h2, h3⟩ := hxy
  refine ⟨?_, ?_, ?_⟩
  · rcases h.src with e | e <;> simp [e, h1]
  · rcases h.dst with e | e <;> simp [e, h2]
  · rcases h.recur with e | e <;> simp [e, h3]

/-- the two fitness values are comparable (false only for NaN) -/
def FitOrdered (f1 f2 : W) : Prop :=
  (gt f1 f2 = false → gt f2 f1 = false → Scalar.eq f1 f2 = true) ∧
  (gt f1 f2 = false → gt f2 f1 = true → Scalar.eq f1 f2 = false)
instance (f1 f2 : W) : Decidable (FitOrdered f1 f2) := by unfold FitOrdered; infer_instance

theorem alignment_of_inns (m : Method) (g og c : Genome W) (f1 f2 : W) (hf : FitOrdered f1 f2)
    (h : c.genes.map (·.inn) = (fitter g og f1 f2).genes.map (·.inn)) : alignmentOk m g og c f1 f2 = true := by
  have key : ∀ l, c.genes.map (·.inn) = l → (c.genes.map (·.inn) == l) = true := fun l e => by rw [e]; exact beq_self_eq_true _
  unfold alignmentOk
  by_cases hm : (m == .singlePoint) = true
  · rw [if_pos hm]
  · rw [if_neg hm]
    unfold fitter p1Better at h
    dsimp only
    by_cases h1 : gt f1 f2 = true
    · rw [if_pos h1]
      rw [h1, Bool.true_or, if_pos rfl] at h
      exact key _ h
    · rw [if_neg h1]
      have h1' : gt f1 f2 = false := Bool.eq_false_iff.mpr h1
      rw [h1', Bool.false_or] at h
      by_cases h2 : gt f2 f1 = true
      · rw [if_pos h2]
        rw [hf.2 h1' h2, Bool.false_and, if_neg Bool.false_ne_true] at h
        exact key _ h
      · rw [if_neg h2]
        rw [hf.1 h1' (Bool.eq_false_iff.mpr h2), Bool.true_and] at h
        by_cases h3 : g.genes.length < og.genes.length
        · rw [if_pos h3]
          rw [decide_eq_true h3, if_pos rfl] at h
          exact key _ h
        · rw [if_neg h3]
          rw [decide_eq_false h3, if_neg Bool.false_ne_true] at h
          by_cases h4 : og.genes.length < g.genes.length
          · rw [if_pos h4]
            exact key _ h
          · rw [if_neg h4, Bool.or_eq_true]
            exact Or.inr (key _ h)

omit [Scalar W] in
theorem nodesOk_of (g og c : Genome W) (hl : C01.NodeLineage g og) (hn : NodeClause g og c) : nodesOk g og c = true := by
  obtain ⟨n1, n2, n3, n4, n5⟩ := hn
  have nfirst := nodeClause_first g og c hl ⟨n1, n2, n3, n4, n5⟩
  unfold nodesOk
  simp only [Bool.and_eq_true, List.all_eq_true, List.any_eq_true, decide_eq_true_eq, List.mem_filter, List.mem_append,
    bne_iff_ne, ne_eq, beq_iff_eq, Bool.or_eq_true, List.contains_iff_mem, List.mem_flatMap, List.mem_cons,
    List.not_mem_nil, or_false]
  refine ⟨⟨⟨?_, ?_⟩, ?_⟩, ?_⟩
  · rintro n ⟨hn | hn, hk⟩
    · obtain ⟨m, hm, e1, e2⟩ := nfirst n hn hk; exact ⟨m, hm, e1, e2⟩
    · obtain ⟨m, hm, e1, e2, _⟩ := n2 n hn hk; exact ⟨m, hm, e1, e2⟩
  · rintro i ⟨x, hx, hi⟩
    have := n3 x hx
    rcases hi with rfl | rfl
    · obtain ⟨m, hm, e⟩ := List.mem_map.mp this.1; exact ⟨m, hm, e⟩
    · obtain ⟨m, hm, e⟩ := List.mem_map.mp this.2; exact ⟨m, hm, e⟩
  · exact (n1.imp (fun h => by omega) : (c.nodes).Pairwise (fun a b => a.id ≠ b.id)) |> fun h => by
      rw [List.Nodup, List.pairwise_map]; exact h
  · intro m hm
    refine ⟨?_, ?_⟩
    · rcases n4 m hm with ⟨n, hn, hk, e⟩ | ⟨x, hx, e⟩
      · exact Or.inl ⟨n, ⟨Or.inr hn, hk⟩, e⟩
      · exact Or.inr ⟨x, hx, e⟩
    · obtain ⟨n, hn, e1, e2, e3⟩ := n5 m hm
      exact ⟨n, hn, ⟨e1, e2⟩, e3⟩

omit [Scalar W] in
theorem listEqBy_refl (weq : W → W → Bool) (hrefl : ∀ a, weq a a = true) (l : List W) : listEqBy weq l l = true := by
  induction l with
  | nil => rfl
  | cons a t ih => simp [listEqBy, hrefl, ih]

theorem traitsOk_of (weq : W → W → Bool) (hrefl : ∀ a, weq a a = true) (g og c : Genome W) (ht : TraitClause g og c) :
    traitsOk weq g og c = true := by
  obtain ⟨t1, _, t3, _⟩ := ht
  unfold traitsOk
  rw [Bool.and_eq_true]
  refine ⟨by simpa using t1, ?_⟩
  rw [t3]
  generalize g.traits = as
  generalize og.traits = bs
  induction as generalizing bs with
  | nil => simp
  | cons a as ih =>
    cases bs with
    | nil => simp
    | cons b bs =>
      simp only [List.zipWith_cons_cons, List.zip_cons_cons, List.all_cons, Bool.and_eq_true]
      exact ⟨⟨by simp [avgTrait], listEqBy_refl weq hrefl _⟩, ih bs⟩

/-- a child with the gene clause for every gene and the alignment, node and trait clauses passes `check` -/
theorem check_of_clauses (weq : W → W → Bool) (hrefl : ∀ a, weq a a = true) (m : Method) {g og c : Genome W} (f1 f2 : W)
    {id : Int} {b : Bool} (hl : SameLineage g og) (ho : C01.MateOut g og id c b) (hn : NodeClause g og c) (ht : TraitClause g og c)
    (ha : alignmentOk m g og c f1 f2 = true) (hg : ∀ cg ∈ c.genes, GeneClause weq m g og cg) :
    check weq m g og c f1 f2 = none := by
  obtain ⟨h1, h2, h3⟩ := geneClauses_check weq m g og c hg (C01.sorted_inns_nodup _ (mateOut_shape ho).1)
  unfold check
  simp [h1, h2, h3, ha, nodesOk_of g og c (C01.nodeLineage_of_sameLineage hl) hn, traitsOk_of weq hrefl g og c ht]

/-- the heir of a slot of the alignment, for any rule `A` for a matching pair whose outcome satisfies the gene clause -/
theorem geneClause_heir (weq : W → W → Bool) (hrefl : ∀ a, weq a a = true) (m : Method) {g og : Genome W}
    {nt : List (Trait W)} {t0 : Option Int} {A : Gene W → Gene W → Gene W → Prop} {cg : Gene W} {e : Slot W}
    (hA : ∀ x ∈ g.genes, ∀ y ∈ og.genes, x.inn = y.inn → A x y cg → GeneClause weq m g og cg)
    (he : e ∈ align g.genes og.genes) (h : Heir nt t0 A cg e) : GeneClause weq m g og cg := by
  obtain ⟨a, b, k⟩ := mem_align he
  cases e with
  | left x => exact geneClause_copy weq hrefl m (Or.inl (a x rfl)) h
  | right y => exact geneClause_copy weq hrefl m (Or.inr (b y rfl)) h
  | both x y => exact hA x (a x rfl) y (b y rfl) (k x rfl y rfl) h

theorem mateMultipoint_check (weq : W → W → Bool) (hrefl : ∀ a, weq a a = true)
    (g og : Genome W) (id : Int) (f1 f2 : W) (rs rs' : List Nat) (c : Genome W)
    (hw1 : C01.WFT g) (hw2 : C01.WFT og) (hl : SameLineage g og) (hf : FitOrdered f1 f2)
    (h : mateMultipoint g og id f1 f2 rs = .ok (c, rs')) :
    check weq .multipoint g og c f1 f2 = none := by
  have hd1 := hw1.wf.linksDistinct
  have hd2 := hw2.wf.linksDistinct
  refine check_of_clauses weq hrefl _ f1 f2 hl (C01.mateMultipoint_out g og id f1 f2 rs rs' c hw1 hw2 h)
    (mateMultipoint_nodes g og id f1 f2 rs rs' c hw1 hw2 h) (mateMultipoint_traits g og id f1 f2 rs rs' c h)
    (alignment_of_inns _ g og c f1 f2 hf (mateMultipoint_inns g og id f1 f2 rs rs' c h hd1 hd2 hl.1)) fun cg hcg => ?_
  obtain ⟨e, he, hg⟩ := mpCrossover_heirs plainPair_heir hd1 hd2 hl.1 (mateMultipoint_eq g og id f1 f2 ▸ h) cg hcg
  refine geneClause_heir weq hrefl _ (fun x hx y hy exy ⟨z, hz, h1, h2, h3, _, h5⟩ => ?_) he hg
  -- one of the two carriers, enabled if both are
  have hi : cg.inn = x.inn := hz.elim (fun e => e ▸ h1) (fun e => (e ▸ h1).trans exy.symm)
  have hxc : x ∈ carriers g og cg.inn := mem_carriers.mpr ⟨Or.inl hx, hi.symm⟩
  have hyc : y ∈ carriers g og cg.inn := mem_carriers.mpr ⟨Or.inr hy, by rw [hi, exy]⟩
  have hzc : z ∈ carriers g og cg.inn := hz.elim (fun e => e ▸ hxc) (fun e => e ▸ hyc)
  refine ⟨⟨z, hzc, h2.symm⟩, Or.inl ⟨z, hzc, by rw [h3]; exact hrefl _⟩, fun hall => h5 (hall x hxc) (hall y hyc), fun hone _ => ?_⟩
  have := carriers_two (i := cg.inn) hx hy hi.symm (by rw [hi, exy]); omega

theorem mateMultipointAvg_check (weq : W → W → Bool) (hrefl : ∀ a, weq a a = true)
    (g og : Genome W) (id : Int) (f1 f2 : W) (rs rs' : List Nat) (c : Genome W)
    (hw1 : C01.WFT g) (hw2 : C01.WFT og) (hl : SameLineage g og) (hf : FitOrdered f1 f2)
    (h : mateMultipointAvg g og id f1 f2 rs = .ok (c, rs')) :
    check weq .multipointAvg g og c f1 f2 = none := by
  have hs1 := hw1.wf.genesSorted
  have hs2 := hw2.wf.genesSorted
  have hd1 := hw1.wf.linksDistinct
  have hd2 := hw2.wf.linksDistinct
  refine check_of_clauses weq hrefl _ f1 f2 hl (C01.mateMultipointAvg_out g og id f1 f2 rs rs' c hw1 hw2 h)
    (mateMultipointAvg_nodes g og id f1 f2 rs rs' c hw1 hw2 h) (mateMultipointAvg_traits g og id f1 f2 rs rs' c h)
    (alignment_of_inns _ g og c f1 f2 hf (mateMultipointAvg_inns g og id f1 f2 rs rs' c h hs1 hs2 hd1 hd2 hl.1)) fun cg hcg => ?_
  obtain ⟨e, he, hg⟩ := mpCrossover_heirs avgPair_heir hd1 hd2 hl.1 (mateMultipointAvg_eq g og id f1 f2 ▸ h) cg hcg
  exact geneClause_heir weq hrefl _ (fun x hx y hy exy ha =>
    geneClause_avg weq _ (by decide) g og cg x y hs1 hs2 hx hy exy ha.inn (ha.link_eq (hl.1 x hx y hy exy))
      (by rw [ha.w]; exact hrefl _) ha.en.2.1) he hg

/-- **single point**: the model's child passes `CrossoverSpec.check` (also the gene-less child of K1 - the predicate
    does not ask for genes; that is C01's clause).  `hcomm`: see the file header. -/
theorem mateSinglePoint_check (weq : W → W → Bool) (hrefl : ∀ a, weq a a = true)
    (hcomm : ∀ a b : W, weq (avg a b) (avg b a) = true)
    (g og : Genome W) (id : Int) (f1 f2 : W) (rs rs' : List Nat) (c : Genome W)
    (hw1 : C01.WFT g) (hw2 : C01.WFT og) (hl : SameLineage g og)
    (h : mateSinglePoint g og id rs = .ok (c, rs')) :
    check weq .singlePoint g og c f1 f2 = none := by
  have hc : Consistent g.genes og.genes := hl.1
  have hs1 := hw1.wf.genesSorted
  have hs2 := hw2.wf.genesSorted
  refine check_of_clauses weq hrefl _ f1 f2 hl (C01.mateSinglePoint_out g og id rs rs' c hw1 hw2 h)
    (mateSinglePoint_nodes g og id rs rs' c hw1 hw2 h) (mateSinglePoint_traits g og id rs rs' c h)
    (by unfold alignmentOk; simp) fun cg hcg => ?_
  obtain ⟨hmem1, hmem2⟩ : (∀ z ∈ (shorter g og).genes, z ∈ g.genes ∨ z ∈ og.genes) ∧
      (∀ z ∈ (longer g og).genes, z ∈ g.genes ∨ z ∈ og.genes) :=
    shorter_longer_rec (P := fun a b => (∀ z ∈ a.genes, z ∈ g.genes ∨ z ∈ og.genes) ∧ ∀ z ∈ b.genes, z ∈ g.genes ∨ z ∈ og.genes)
      ⟨fun _ => Or.inl, fun _ => Or.inr⟩ ⟨fun _ => Or.inr, fun _ => Or.inl⟩
  rcases mateSinglePoint_gene g og id rs rs' c h hc hs1 hs2 cg hcg with ⟨x, hx, hcp⟩ | ⟨y, hy, hcp⟩ | ⟨x, hx, y, hy, e, ha⟩
  · exact geneClause_copy weq hrefl _ (hmem1 x hx) hcp
  · exact geneClause_copy weq hrefl _ (hmem2 y hy) hcp
  · rcases shorter_longer g og with ⟨e1, e2⟩ | ⟨e1, e2⟩ <;> rw [e1] at hx <;> rw [e2] at hy
    · exact geneClause_avg weq _ (by decide) g og cg x y hs1 hs2 hx hy e ha.inn (ha.link_eq (hc x hx y hy e))
        (by rw [ha.w]; exact hrefl _) ha.en.2.1
    · -- the shorter parent is the second one: the code averaged `x` (second parent) first
      have hxy : x.link = y.link := (hc y hy x hx e.symm).symm
      exact geneClause_avg weq _ (by decide) g og cg y x hs1 hs2 hy hx e.symm (by rw [ha.inn, e])
        (by rw [ha.link_eq hxy, hxy]) (by rw [ha.w]; exact hcomm _ _) (fun h1 h2 => ha.en.2.1 h2 h1)

/-! ## non-vacuity: the hypotheses of the theorems of `C04More` / `C04Check` hold of concrete parents and runs -/

section Examples
attribute [local instance] C01.drawScalar

def pa : Genome Int :=
  { id := 1, traits := [⟨1, [2]⟩],
    nodes := [⟨1, Kind.input, 4, some 1⟩, ⟨2, Kind.bias, 4, none⟩, ⟨3, Kind.output, 4, some 1⟩, ⟨4, Kind.hidden, 4, none⟩],
    genes := [⟨1, 1, 3, false, 2, 0, true, none⟩, ⟨2, 2, 3, false, 4, 0, true, some 1⟩, ⟨3, 1, 4, false, 6, 0, false, none⟩] }
def pb : Genome Int :=
  { id := 2, traits := [⟨1, [4]⟩], nodes := pa.nodes,
    genes := [⟨1, 1, 3, false, 4, 2, true, none⟩, ⟨2, 2, 3, false, 8, 0, false, none⟩, ⟨4, 4, 3, false, 1, 0, true, none⟩] }

example : C01.WFT pa ∧ C01.WFT pb ∧ SameLineage pa pb ∧ C01.SharedHead pa pb ∧ Consistent pa.genes pb.genes ∧
    GenesSorted pa.genes ∧ GenesSorted pb.genes ∧ LinksDistinct pa.genes ∧ LinksDistinct pb.genes ∧
    FitOrdered (2 : Int) 1 ∧ FitOrdered (1 : Int) 1 ∧ CrossDistinct pa.genes pb.genes := by decide

def showG (r : Except Stop (Genome Int × List Nat)) := r.toOption.map
    (fun r => (r.1.genes.map (fun x => (x.inn, x.w, x.mnum, x.en)), r.1.nodes.map (·.id), r.1.traits.map (·.params), r.2))

example : showG (mateMultipointAvg pa pb 9 (2 : Int) 1 [9,9,9,9, 9,9,9,9,80,7]) =
    some ([(1, 3, 1, true), (2, 6, 0, true), (3, 6, 0, false)], [1, 2, 3, 4], [[3]], [7]) := by
  simp [showG, mateMultipointAvg, matePrologue, mateTraits, traitAvg, ioNodes, childTraitRef, nodeInsert, insertAt, insertIndex,
    multipointAvgWalk, p1Better, pa, pb, Kind.input, Kind.output, Kind.hidden, Kind.bias,
    Except.toOption, List.zipWith, avgChosen, disableDraw, Rand.float64, addChosen, ensureNode, chooseFrom, nodeById,
    Gene.sameLink, Scalar.avg, Scalar.gt, Scalar.lt, Scalar.eq, Scalar.div, Scalar.add, Scalar.ofInt, Scalar.ofDec, Scalar.ofUnit63, Scalar.one]

example : Rand.intn (shorter pa pb).genes.length [1 <<< 32, 9] = .ok (1, [9]) := by
  simp [Rand.intn, Rand.int31nLoop, Rand.int31OfRaw, shorter, pa, pb]

example : (((spPlan 1 (shorter pa pb).genes (longer pa pb).genes 0 false).map Origin.link).Pairwise (· ≠ ·)) ∧
   ((spPlan 1 (shorter pa pb).genes (longer pa pb).genes 0 false).map Origin.inn = [1, 2]) := by
  simp [spPlan, shorter, longer, pa, pb, Origin.link, Origin.inn, Gene.link]

example : (∀ a : Int, (fun a b => decide (a = b)) a a = true) ∧
    (∀ a b : Int, (fun a b => decide (a = b)) (avg a b) (avg b a) = true) := by
  refine ⟨by simp, fun a b => ?_⟩
  simp [Scalar.avg, Scalar.div, Scalar.add, Int.add_comm]

/-- single point, crossing point 1 of the second parent (equal gene counts): gene 1 copied from it, gene 2 averaged
    (disabled: the first operand is), gene 3 of the first parent skipped, gene 4 (behind the point in the shorter
    parent) never taken -/
example : showG (mateSinglePoint pa pb 9 [1 <<< 32, 9,9,9,9,70,7]) =
    some ([(1, 4, 2, true), (2, 6, 0, false)], [1, 2, 3], [[3]], [70, 7]) := by
  simp [showG, mateSinglePoint, matePrologue, mateTraits, traitAvg, ioNodes, childTraitRef, nodeInsert, insertAt, insertIndex,
    Rand.intn, Rand.int31nLoop, Rand.int31OfRaw, singlePointWalk, pa, pb, Kind.input, Kind.output, Kind.hidden, Kind.bias,
    Except.toOption, List.zipWith, avgChosen, disableDraw, Rand.float64, addChosen, ensureNode, chooseFrom, nodeById,
    Gene.sameLink, Scalar.avg, Scalar.gt, Scalar.lt, Scalar.eq, Scalar.div, Scalar.add, Scalar.ofInt, Scalar.ofDec, Scalar.ofUnit63, Scalar.one]

/-- multipoint on a full tie: the second parent's genes; gene 2 (disabled there, enabled in the first) stays disabled
    because the 75 % draw (70 < 75) says so -/
example : showG (mateMultipoint pa pb 9 (1 : Int) 1 [9, 9, 70, 7]) =
    some ([(1, 4, 2, true), (2, 8, 0, false), (4, 1, 0, true)], [1, 2, 3, 4], [[3]], [7]) := by
  simp [showG, mateMultipoint, matePrologue, mateTraits, traitAvg, ioNodes, childTraitRef, nodeInsert, insertAt, insertIndex,
    multipointWalk, p1Better, pa, pb, Kind.input, Kind.output, Kind.hidden, Kind.bias,
    Except.toOption, List.zipWith, disableDraw, Rand.float64, addChosen, ensureNode, chooseFrom, nodeById,
    Gene.sameLink, Scalar.avg, Scalar.gt, Scalar.lt, Scalar.eq, Scalar.div, Scalar.add, Scalar.ofInt, Scalar.ofDec, Scalar.ofUnit63, Scalar.one]

/-- K1 at the level of C04: parents of one lineage whose first genes differ ([2,3] × [1,2,3]) - the single-point
    child has no gene although both parents carry genes 2 and 3 -/
def pk1 : Genome Int :=
  { id := 1, traits := [⟨1, [2]⟩], nodes := [⟨1, Kind.input, 4, some 1⟩, ⟨2, Kind.bias, 4, none⟩, ⟨3, Kind.output, 4, some 1⟩],
    genes := [⟨2, 2, 3, false, 4, 0, true, none⟩, ⟨3, 1, 3, true, 6, 0, true, none⟩] }
def pk2 : Genome Int :=
  { pk1 with genes := [⟨1, 1, 3, false, 4, 0, true, none⟩, ⟨2, 2, 3, false, 4, 0, true, none⟩, ⟨3, 1, 3, true, 6, 0, true, none⟩] }
example : C01.WFT pk1 ∧ C01.WFT pk2 ∧ SameLineage pk1 pk2 ∧ ¬ C01.SharedHead pk1 pk2 := by decide
theorem C04_singlepoint_K1 : showG (mateSinglePoint pk1 pk2 9 [0]) = some ([], [1, 2, 3], [[2]], []) := by
  simp [showG, mateSinglePoint, matePrologue, mateTraits, traitAvg, ioNodes, childTraitRef, nodeInsert, insertAt, insertIndex,
    Rand.intn, Rand.int31OfRaw, singlePointWalk, pk1, pk2, Kind.input, Kind.output, Kind.bias,
    Except.toOption, List.zipWith, Scalar.avg, Scalar.div, Scalar.add, Scalar.ofInt]
end Examples

end GoNeat.C04
