/-
  C13 - after a flush a network / fast solver of any topology behaves exactly like a freshly built instance.

  Kind A: the theorems hold for every scalar type `W` with `[Scalar W]` and every activation table `σ`;
  the only law used is `hz : lt 0 0 = false` (needed because `Network.Flush` runs `FlushbackCheck`, which
  compares the zeroed fields with `> 0`).  Models: Model/Solver.lean (standard network, no MIMO control nodes),
  Model/FastSolver.lean (fast solver, no modules).

  Dead state (ignored by the equivalences, each with its deadness lemma):
  * standard: `ActivationSum` - not reset by `Flushback`, but the first sweep of `ActivateSteps` rewrites the sum
    of every neuron before the second sweep reads it (`Solver.CellRel.sweeps12`);
  * fast: `activated`, `inActivation`, `lastActivation` at neuron indices - rewritten by the first loop of
    `RecursiveSteps` before use (`Fast.recInit_RR`); `neuronSignalsBeingProcessed` at sensor indices - written by
    connections that target a sensor, never read into a signal (`Fast.recNode_congr`, `Fast.forwardStep_congr`).
  `lastActivation` at sensor indices and the bias signals are not reset by `Flush` either; they are constant
  (`Fast.Inv`).
-/
import GoNeat.Proofs.SolverFlush
import GoNeat.Proofs.FastFlush
import GoNeat.Proofs.ScalarInt

namespace GoNeat.C13

variable {W : Type} [Scalar W]

section Std
open GoNeat.Solver

/-- `Flush` after ANY history of calls succeeds and yields a state equal to the freshly built one in every field
    but `ActivationSum` -/
theorem std_flush_equiv_fresh (hz : Scalar.lt (Scalar.zero : W) Scalar.zero = false) (net : Net W)
    (σ : Nat → W → Option W) (hist : List (Op W)) :
    (flush (run net σ hist (init net)).1).2 = (true, none) ∧
      Equiv (flush (run net σ hist (init net)).1).1 (init net) :=
  (flushFresh hz net σ).flushed hist

/-- `ActivationSum` is dead: two states that differ only there are indistinguishable by any sequence of calls
    (same results, errors and outputs after every call) and stay so -/
theorem std_sum_dead (hz : Scalar.lt (Scalar.zero : W) Scalar.zero = false) (net : Net W) (σ : Nat → W → Option W)
    (ops : List (Op W)) {s t : St W} (h : Equiv s t) :
    (run net σ ops s).2 = (run net σ ops t).2 ∧ Equiv (run net σ ops s).1 (run net σ ops t).1 :=
  ((flushFresh hz net σ).dead ops s t h).symm

/-- C13 for the standard solver: whatever happened before the flush, every later sequence of sensor loads and
    activations returns the same results, errors and outputs as on a new instance -/
theorem std_flush_like_fresh (hz : Scalar.lt (Scalar.zero : W) Scalar.zero = false) (net : Net W)
    (σ : Nat → W → Option W) (hist ops : List (Op W)) :
    (run net σ ops (flush (run net σ hist (init net)).1).1).2 = (run net σ ops (init net)).2 :=
  (flushFresh hz net σ).like_fresh hist ops

/-- evaluating the same organism repeatedly (flush in between) on the same inputs gives identical results -/
theorem std_repeat_identical (hz : Scalar.lt (Scalar.zero : W) Scalar.zero = false) (net : Net W)
    (σ : Nat → W → Option W) (ops : List (Op W)) :
    (run net σ ops (flush (run net σ ops (init net)).1).1).2 = (run net σ ops (init net)).2 :=
  std_flush_like_fresh hz net σ ops ops

end Std

section FastS
open GoNeat.Fast

/-- `Flush` after any history yields a state equivalent to `NewFastModularNetworkSolver`'s -/
theorem fast_flush_equiv_fresh (fn : FastNet W) (σ : Nat → W → Option W) (hist : List (Op W)) :
    (flush fn (run fn σ hist (init fn)).1).2 = (true, none) ∧
      FE fn (flush fn (run fn σ hist (init fn)).1).1 (init fn) :=
  (flushFresh fn σ).flushed hist

/-- the ignored arrays are dead: equivalent states are indistinguishable by any sequence of calls -/
theorem fast_dead_state (fn : FastNet W) (σ : Nat → W → Option W) (ops : List (Op W)) {s t : FState W}
    (h : FE fn s t) : (run fn σ ops s).2 = (run fn σ ops t).2 ∧ FE fn (run fn σ ops s).1 (run fn σ ops t).1 :=
  ((flushFresh fn σ).dead ops s t h).symm

/-- C13 for the fast solver (every `FastNet`, in particular every result of `Network.FastNetworkSolver()`) -/
theorem fast_flush_like_fresh (fn : FastNet W) (σ : Nat → W → Option W) (hist ops : List (Op W)) :
    (run fn σ ops (flush fn (run fn σ hist (init fn)).1).1).2 = (run fn σ ops (init fn)).2 :=
  (flushFresh fn σ).like_fresh hist ops

theorem fast_repeat_identical (fn : FastNet W) (σ : Nat → W → Option W) (ops : List (Op W)) :
    (run fn σ ops (flush fn (run fn σ ops (init fn)).1).1).2 = (run fn σ ops (init fn)).2 :=
  fast_flush_like_fresh fn σ ops ops

/-- the same for a fast solver built from any network (`_h` only says where `fn` comes from; it is not used) -/
theorem fast_of_network_flush_like_fresh (net : Net W) (fn : FastNet W) (_h : ofNet net = .ok fn)
    (σ : Nat → W → Option W) (hist ops : List (Op W)) :
    (run fn σ ops (flush fn (run fn σ hist (init fn)).1).1).2 = (run fn σ ops (init fn)).2 :=
  fast_flush_like_fresh fn σ hist ops

end FastS

/-! ## non-vacuity: a recurrent network (self-loop) over the exact `Int` scalar -/
section Examples
open GoNeat.ExactInt

/-- input 0 → output 1 (weight 1), self-loop on 1 (weight 1), linear activation -/
def loopNet : Net Int :=
  { id := 1
    nodes := [ { id := 1, kind := Kind.input, act := 17, incoming := [], outgoing := [] },
               { id := 2, kind := Kind.output, act := 14,
                 incoming := [ { src := 0, dst := 1, w := 1, recur := false },
                               { src := 1, dst := 1, w := 1, recur := true } ], outgoing := [] } ]
    inputs := [0], outputs := [1] }

def script : List (Solver.Op Int) := [.load [1], .activate 1]

/-- the hypothesis `hz` holds for the exact instance -/
example : Scalar.lt (Scalar.zero : Int) Scalar.zero = false := by decide +kernel

/-- the property is not trivial: without a flush the second evaluation differs (2 instead of 1) ... -/
example : ((Solver.run loopNet sigmaInt script (Solver.init loopNet)).2.map (·.outs)) = [[0], [1]] := by decide +kernel
example : ((Solver.run loopNet sigmaInt script (Solver.run loopNet sigmaInt script (Solver.init loopNet)).1).2.map (·.outs))
    = [[1], [2]] := by decide +kernel
/-- ... and with the flush it is the fresh result again -/
example : ((Solver.run loopNet sigmaInt script
    (Solver.flush (Solver.run loopNet sigmaInt script (Solver.init loopNet)).1).1).2.map (·.outs)) = [[0], [1]] := by decide +kernel

/-- the fast solver built from the same network -/
def loopFast : Fast.FastNet Int :=
  { nBias := 0, nInput := 1, nOutput := 1, nTotal := 2, acts := [17, 14], biasList := [0, 0],
    conns := [ { src := 0, dst := 1, w := 1 }, { src := 1, dst := 1, w := 1 } ] }

example : (match Fast.ofNet loopNet with | .ok fn => fn.conns.map (fun c => (c.src, c.dst, c.w)) | .error _ => [])
    = loopFast.conns.map (fun c => (c.src, c.dst, c.w)) := by decide +kernel

def fscript : List (Fast.Op Int) := [.load [1], .forward 1, .recursive]

example : ((Fast.run loopFast sigmaInt fscript (Fast.init loopFast)).2.map (·.outs)) = [[0], [1], [2]] := by decide +kernel
/-- without a flush the second evaluation differs (note 5, not 3, after `ForwardSteps`: `RecursiveSteps` leaves its
    pre-activation sums in `neuronSignalsBeingProcessed` and the next forward step adds to them) -/
example : ((Fast.run loopFast sigmaInt fscript (Fast.run loopFast sigmaInt fscript (Fast.init loopFast)).1).2.map (·.outs))
    = [[2], [5], [6]] := by decide +kernel
example : ((Fast.run loopFast sigmaInt fscript
    (Fast.flush loopFast (Fast.run loopFast sigmaInt fscript (Fast.init loopFast)).1).1).2.map (·.outs)) = [[0], [1], [2]] := by
  decide +kernel

end Examples

end GoNeat.C13
