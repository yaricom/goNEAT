/-
  Property C10, Kind B (exact ordered-field arithmetic): within one species the adjusted fitness is a strictly
  monotone rescaling of the raw fitness (for non-negative fitness values, positive age significance), so the
  organism `Species.reproduce` treats as champion — the head of the species after `adjustFitness` — is the member
  with the greatest RAW fitness; with pairwise distinct fitness values it is the unique fittest organism.
-/
import GoNeat.Props.C09ParentsExact
import GoNeat.Proofs.Exact

namespace GoNeat.C10
open GoNeat
variable {K : Type} [Field K] [LinearOrder K] [IsStrictOrderedRing K] [FloorRing K]

theorem exact_strictWeak : C08.StrictWeak K := by
  refine ⟨?_, ?_, ?_⟩
  · intro a; simp
  · intro a b c; simp only [Exact.lt_eq, decide_eq_true_eq]; exact lt_trans
  · intro a b c; simp only [Exact.lt_eq, decide_eq_true_eq]
    intro h
    rcases lt_or_ge a c with h1 | h1
    · exact Or.inl h1
    · exact Or.inr (lt_of_le_of_lt h1 h)

theorem exact_eqLaw : EqLaw K := by
  intro a b
  simp only [Exact.eq_eq, Exact.lt_eq, decide_eq_true_eq, decide_eq_false_iff_not, not_lt]
  constructor
  · rintro rfl; exact ⟨le_refl _, le_refl _⟩
  · rintro ⟨h1, h2⟩; exact le_antisymm h2 h1

theorem adjusted_lt_iff (o : EpochOpts K) (s : Species K) (f g : K) (hf : 0 ≤ f) (hg : 0 ≤ g) (ha : 0 < o.ageSignificance)
    (hne : s.orgs ≠ []) : C09.adjustedFitness o s f < C09.adjustedFitness o s g ↔ f < g := by
  rw [C09.adjustedFitness_eq o s f hf ha, C09.adjustedFitness_eq o s g hg ha]
  exact mul_lt_mul_iff_of_pos_right
    (div_pos (C09.factor_pos o s ha) (Nat.cast_pos.mpr (List.length_pos_iff.mpr hne)))

/-- **C10 (the champion is the fittest organism).** In exact arithmetic, for a species whose members carry non-negative
    fitness values: after `adjustFitness` the first organism — the one `reproduce` clones as champion — has a raw
    (original) fitness no member exceeds. -/
theorem champion_is_fittest (o : EpochOpts K) (s s' : Species K) (top : Org K) (rest : List (Org K))
    (h : adjustFitness o s = .ok s') (hs' : s'.orgs = top :: rest)
    (hnn : ∀ x ∈ s.orgs, 0 ≤ x.fitness) (ha : 0 < o.ageSignificance) :
    (∃ y ∈ s.orgs, top.uid = y.uid ∧ top.originalFitness = y.fitness) ∧ ∀ x ∈ s.orgs, x.fitness ≤ top.originalFitness := by
  obtain ⟨a, m, hne', rfl⟩ := adjustFitness_ok o s s' h
  let adjusted := s.orgs.map (fun x => { x with originalFitness := x.fitness, fitness := C09.adjustedFitness o s x.fitness })
  have hsorted : adjustedOrgs o s = sortOrgsDesc adjusted := rfl
  cases hsort : sortOrgsDesc adjusted with
  | nil => exact absurd (hsorted.trans hsort) hne'
  | cons t r =>
    -- head of the marked list is the head of the sorted list with two flags rewritten
    have htop : top.uid = t.uid ∧ top.originalFitness = t.originalFitness ∧ top.fitness = t.fitness := by
      simp only [hsorted, hsort, markOrgs, List.cons.injEq] at hs'
      obtain ⟨rfl, _⟩ := hs'
      exact ⟨rfl, rfl, rfl⟩
    have htmem : t ∈ adjusted := (sortOrgsDesc_perm adjusted).mem_iff.mp (by rw [hsort]; simp)
    obtain ⟨y, hy, hty⟩ := List.mem_map.mp htmem
    have hne : s.orgs ≠ [] := List.ne_nil_of_mem hy
    have hmax := sortOrgsDesc_head_fittest exact_strictWeak exact_eqLaw adjusted t r hsort
    refine ⟨⟨y, hy, by rw [htop.1, ← hty], by rw [htop.2.1, ← hty]⟩, ?_⟩
    intro x hx
    have hx' : ({ x with originalFitness := x.fitness, fitness := C09.adjustedFitness o s x.fitness } : Org K) ∈ adjusted :=
      List.mem_map.mpr ⟨x, hx, rfl⟩
    have := (hmax _ hx').2
    rw [← hty] at this
    simp only [Exact.lt_eq, decide_eq_false_iff_not] at this
    rw [adjusted_lt_iff o s _ _ (hnn y hy) (hnn x hx) ha hne] at this
    rw [htop.2.1, ← hty]
    exact not_lt.mp this

end GoNeat.C10
