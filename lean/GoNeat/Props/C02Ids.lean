/-
  Property C02, second part — species ids are unique and never reused, species founded during a turnover get
  fresh ids and start at age one, surviving species age by exactly one (with the first-turnover exception),
  genome ids are unique after the turnover, and the number of babies equals the total of the quotas.
  Kind A: every theorem holds for every scalar type, random stream, registry and option setting.
-/
import GoNeat.Props.C02
import GoNeat.Props.C09

namespace GoNeat.C02
open GoNeat Scalar
variable {W : Type} [Scalar W]

/-- what C02 says about a species: its id, its age and the "founded at construction / this turnover" flag -/
def skey (s : Species W) : Int × Int × Bool := (s.id, s.age, s.isNovel)

/-- keys of `k` species founded one after the other when `last` was the highest id issued so far -/
def freshKeys (last : Int) (k : Nat) : List (Int × Int × Bool) :=
  (List.range k).map (fun (i : Nat) => (last + 1 + (i : Int), (1 : Int), true))

theorem modify_keys (ss : List (Species W)) (i : Nat) (org : Org W) :
    (ss.modify i (fun s => { s with orgs := s.orgs ++ [org] })).map skey = ss.map skey := by
  induction ss generalizing i with
  | nil => simp
  | cons s ss ih =>
    cases i with
    | zero => simp [List.modify, skey]
    | succ i => simp [List.modify_succ_cons, ih]

theorem speciateOne_keys (o : EpochOpts W) (p p' : Pop W) (org : Org W) (h : speciateOne o p org = .ok p') :
    (p'.species.map skey = p.species.map skey ∧ p'.lastSpecies = p.lastSpecies) ∨
    (p'.species.map skey = p.species.map skey ++ [(p.lastSpecies + 1, 1, true)] ∧ p'.lastSpecies = p.lastSpecies + 1) := by
  rcases speciateOne_ok h with ⟨i, _, rfl⟩ | ⟨s, h1, h2, h3, _, _, rfl⟩
  · exact .inl ⟨modify_keys _ _ _, rfl⟩
  · exact .inr ⟨by simp [skey, h1, h2, h3], rfl⟩

theorem speciateLoop_keys (o : EpochOpts W) (p p' : Pop W) (orgs : List (Org W)) (h : speciateLoop o p orgs = .ok p') :
    ∃ k : Nat, p'.species.map skey = p.species.map skey ++ freshKeys p.lastSpecies k ∧ p'.lastSpecies = p.lastSpecies + k := by
  refine speciateLoop_induct (fun _ q => ∃ k : Nat, q.species.map skey = p.species.map skey ++ freshKeys p.lastSpecies k ∧
    q.lastSpecies = p.lastSpecies + k) ?_ (done := []) ⟨0, by simp [freshKeys], by simp⟩ h
  intro _ q org q' ⟨k, hk, hl⟩ h1
  rcases speciateOne_keys o q q' org h1 with ⟨e1, e2⟩ | ⟨e1, e2⟩
  · exact ⟨k, by rw [e1, hk], by rw [e2, hl]⟩
  · refine ⟨k + 1, ?_, by rw [e2, hl]; push_cast; omega⟩
    rw [e1, hk, hl, List.append_assoc]
    simp only [freshKeys, List.range_succ, List.map_append, List.map_cons, List.map_nil]
    rw [Int.add_right_comm]

structure SpIdInv (p : Pop W) : Prop where
  nodup : (p.species.map (·.id)).Nodup
  le : ∀ s ∈ p.species, s.id ≤ p.lastSpecies

theorem ids_of_keys (ss : List (Species W)) : ss.map (·.id) = (ss.map skey).map (·.1) := by
  simp [skey, Function.comp_def]

theorem freshKeys_ids (last : Int) (k : Nat) : (freshKeys last k).map (·.1) = (List.range k).map (fun (i : Nat) => last + 1 + (i : Int)) := by
  simp [freshKeys, Function.comp_def]

/-- what finalisation does to a species' key.  A turnover takes the list of keys to a sublist of
    `(keys ++ freshKeys last k).map aged`; `species_of_keys` reads what C02 says about ids and ages off that. -/
def aged (k : Int × Int × Bool) : Int × Int × Bool := (k.1, if k.2.2 then k.2.1 else k.2.1 + 1, false)

theorem aged_ids (ks : List (Int × Int × Bool)) : (ks.map aged).map (·.1) = ks.map (·.1) := by
  rw [List.map_map]; rfl

theorem SpIdInv.step {p q : Pop W} {k : Nat} (hinv : SpIdInv p)
    (hsub : (q.species.map (·.id)).Sublist ((p.species.map skey ++ freshKeys p.lastSpecies k).map (·.1)))
    (hl : q.lastSpecies = p.lastSpecies + k) : SpIdInv q := by
  rw [List.map_append, ← ids_of_keys, freshKeys_ids] at hsub
  have hfresh : ∀ i ∈ (List.range k).map (fun (i : Nat) => p.lastSpecies + 1 + (i : Int)), p.lastSpecies < i ∧ i ≤ p.lastSpecies + k := by
    intro i hi
    obtain ⟨j, hj, rfl⟩ := List.mem_map.mp hi
    have := List.mem_range.mp hj
    omega
  have hold : ∀ i ∈ p.species.map (·.id), i ≤ p.lastSpecies := by
    intro i hi
    obtain ⟨s, hs, rfl⟩ := List.mem_map.mp hi
    exact hinv.le s hs
  refine ⟨hsub.nodup (List.nodup_append.mpr ⟨hinv.nodup, nodup_map_range _ k (fun a b e => by omega), fun a ha b hb e => ?_⟩), fun s hs => ?_⟩
  · have := hold a ha
    have := hfresh b hb
    omega
  · rcases List.mem_append.mp (hsub.subset (List.mem_map_of_mem hs)) with h1 | h1
    · have := hold _ h1
      omega
    · have := hfresh _ h1
      omega

theorem speciateLoop_idInv (o : EpochOpts W) (p p' : Pop W) (orgs : List (Org W)) (h : speciateLoop o p orgs = .ok p')
    (hinv : SpIdInv p) : SpIdInv p' ∧ p.lastSpecies ≤ p'.lastSpecies := by
  obtain ⟨k, hk, hl⟩ := speciateLoop_keys o p p' orgs h
  exact ⟨hinv.step (by rw [← hk, ← ids_of_keys]; exact .refl _) hl, by omega⟩

theorem purgeOrAgeLoop_keys (ss : List (Species W)) (k : Int) :
    (purgeOrAgeLoop ss k).map skey = ((ss.filter (fun s => !s.orgs.isEmpty)).map skey).map aged := by
  induction ss generalizing k with
  | nil => rfl
  | cons s ss ih =>
    unfold purgeOrAgeLoop
    by_cases he : s.orgs.isEmpty
    · rw [if_pos he, ih, List.filter_cons_of_neg (by simp [he])]
    · rw [if_neg he, List.filter_cons_of_pos (by simp [he]), List.map_cons, ih]
      rfl

theorem finalize_keys (p : Pop W) :
    ((finalizeReproduction p).species.map skey).Sublist ((p.species.map skey).map aged) := by
  have e : (purgeOldGeneration p).species.map skey = p.species.map skey := by
    simp [purgeOldGeneration, skey, Function.comp_def]
  rw [← e]
  show ((purgeOrAgeLoop (purgeOldGeneration p).species 0).map skey).Sublist _
  rw [purgeOrAgeLoop_keys]
  exact (List.filter_sublist.map skey).map aged

theorem SpIdInv.sublist {p q : Pop W} (hinv : SpIdInv p) (hsub : (q.species.map (·.id)).Sublist (p.species.map (·.id)))
    (hl : q.lastSpecies = p.lastSpecies) : SpIdInv q :=
  hinv.step (k := 0) (by rwa [freshKeys, List.range_zero, List.map_nil, List.append_nil, ← ids_of_keys])
    (by rw [hl]; exact (Int.add_zero _).symm)

theorem finalize_idInv (p : Pop W) (hinv : SpIdInv p) : SpIdInv (finalizeReproduction p) :=
  hinv.sublist (by have := (finalize_keys p).map (·.1); rwa [aged_ids, ← ids_of_keys, ← ids_of_keys] at this) rfl

theorem species_of_keys {p p' : Pop W} {k : Nat} (hinv : SpIdInv p)
    (hsub : (p'.species.map skey).Sublist ((p.species.map skey ++ freshKeys p.lastSpecies k).map aged))
    (hl : p'.lastSpecies = p.lastSpecies + k) :
    SpIdInv p' ∧ p.lastSpecies ≤ p'.lastSpecies ∧
    ∀ s' ∈ p'.species, s'.isNovel = false ∧
      ((∃ s ∈ p.species, s'.id = s.id ∧ s'.age = (if s.isNovel then s.age else s.age + 1)) ∨
       (p.lastSpecies < s'.id ∧ s'.id ≤ p'.lastSpecies ∧ s'.age = 1)) := by
  refine ⟨hinv.step (by have := hsub.map (·.1); rwa [aged_ids, ← ids_of_keys] at this) hl, by omega, fun s' hs' => ?_⟩
  obtain ⟨key, hkey, e⟩ := List.mem_map.mp (hsub.subset (List.mem_map_of_mem hs'))
  simp only [aged, skey, Prod.mk.injEq] at e
  obtain ⟨e1, e2, e3⟩ := e
  refine ⟨e3.symm, ?_⟩
  rcases List.mem_append.mp hkey with hold | hnew
  · obtain ⟨s, hs, rfl⟩ := List.mem_map.mp hold
    exact .inl ⟨s, hs, e1.symm, e2.symm⟩
  · obtain ⟨i, hi, rfl⟩ := List.mem_map.mp hnew
    have := List.mem_range.mp hi
    simp only [↓reduceIte] at e1 e2
    exact .inr (by omega)

theorem reproduce_finalize_keys {o : EpochOpts W} {gen : Int} {p1 p2 : Pop W} {ex : ExecState} {rs rs' : List Nat}
    (h : reproducePhase o gen p1 ex rs = .ok (p2, rs')) :
    ∃ k : Nat, ((finalizeReproduction p2).species.map skey).Sublist ((p1.species.map skey ++ freshKeys p1.lastSpecies k).map aged) ∧
      (finalizeReproduction p2).lastSpecies = p1.lastSpecies + k := by
  obtain ⟨babies, reg, uid, _, _, _, hsp⟩ := reproducePhase_ok h
  obtain ⟨k, hk, hl⟩ := speciateLoop_keys o _ _ _ hsp
  exact ⟨k, hk ▸ finalize_keys p2, hl⟩

/-- **C02 (species ids and ages over the reproduction phase).** If species ids were unique and not above
    `LastSpecies` before, then after reproduction, speciation of the babies and finalisation they still are;
    `LastSpecies` never decreases; and every species of the new generation is either a survivor — same id, exactly
    one generation older, except that a species still flagged as founded at construction keeps its age — or was
    founded during this turnover: its id is fresh (above every id issued before, at most the new `LastSpecies`)
    and its age is one. No species keeps the novel flag. -/
theorem reproduce_finalize_species (o : EpochOpts W) (gen : Int) (p1 p2 : Pop W) (ex : ExecState) (rs rs' : List Nat)
    (hinv : SpIdInv p1) (h : reproducePhase o gen p1 ex rs = .ok (p2, rs')) :
    let p3 := finalizeReproduction p2
    SpIdInv p3 ∧ p1.lastSpecies ≤ p3.lastSpecies ∧
    ∀ s' ∈ p3.species, s'.isNovel = false ∧
      ((∃ s ∈ p1.species, s'.id = s.id ∧ s'.age = (if s.isNovel then s.age else s.age + 1)) ∨
       (p1.lastSpecies < s'.id ∧ s'.id ≤ p3.lastSpecies ∧ s'.age = 1)) := by
  obtain ⟨k, hsub, hl⟩ := reproduce_finalize_keys h
  exact species_of_keys hinv hsub hl


theorem reproduceSpecies_count (o : EpochOpts W) (gen : Int) (s : Species W) (sorted : List (Species W)) (reg reg' : Reg W)
    (uid uid' : Nat) (babies : List (Org W)) (rs rs' : List Nat)
    (h : reproduceSpecies o gen s sorted reg uid rs = .ok ((babies, reg', uid'), rs')) :
    babies.length = s.expectedOffspring.toNat := by
  obtain ⟨_, st, _, hloop, rfl, _, _⟩ := reproduceSpecies_ok h
  have := congrArg List.length (reproduceLoop_uids _ _ _ _ _ _ _ _ _ _ _ hloop).1
  simpa using this

theorem reproduceAll_count (o : EpochOpts W) (gen : Int) (sorted ss : List (Species W)) (reg reg' : Reg W) (uid uid' : Nat)
    (acc babies : List (Org W)) (rs rs' : List Nat)
    (h : reproduceAll o gen sorted ss reg uid acc rs = .ok ((babies, reg', uid'), rs')) :
    babies.length = acc.length + (ss.map (fun s => s.expectedOffspring.toNat)).sum := by
  have key := reproduceAll_induct (I := fun rest _ _ a _ => a.length + (rest.map (fun s => s.expectedOffspring.toNat)).sum =
    acc.length + (ss.map (fun s => s.expectedOffspring.toNat)).sum) ?_ h rfl
  · simpa using key
  · intro s rest _ _ _ a _ bs _ _ _ hI hs
    rw [List.length_append, reproduceSpecies_count _ _ _ _ _ _ _ _ _ _ _ hs, ← hI, List.map_cons, List.sum_cons]
    omega

theorem toNat_sum_of_nonneg (ss : List (Species W)) (hnn : ∀ s ∈ ss, 0 ≤ s.expectedOffspring) :
    (((ss.map (fun s => s.expectedOffspring.toNat)).sum : Nat) : Int) = C09.quotaSum ss := by
  induction ss with
  | nil => simp [C09.quotaSum]
  | cons s ss ih =>
    have h1 := hnn s (by simp)
    have h2 := ih (fun x hx => hnn x (by simp [hx]))
    simp only [List.map_cons, List.sum_cons, C09.quotaSum] at *
    omega

/-- **C02 (exact size).** When the quotas after the preparation phase are non-negative and total the population
    size — which C09 proves for every outcome of the rounded computation with raw total ≤ n — reproduction of all
    species, whenever it returns, yields exactly `PopSize` babies: the condition of the sanity check
    `progeny size != PopSize` in the epoch executor is false, for every stream, registry and option setting. -/
theorem progeny_size_exact (o : EpochOpts W) (gen : Int) (p1 : Pop W) (sorted : List (Species W)) (reg reg' : Reg W)
    (uid uid' : Nat) (babies : List (Org W)) (rs rs' : List Nat)
    (hnn : ∀ s ∈ p1.species, 0 ≤ s.expectedOffspring) (htot : C09.quotaSum p1.species = o.popSize)
    (hall : reproduceAll o gen sorted p1.species reg uid [] rs = .ok ((babies, reg', uid'), rs')) :
    babies.length = o.popSize := by
  have hc := reproduceAll_count _ _ _ _ _ _ _ _ _ _ _ _ hall
  have hs := toNat_sum_of_nonneg p1.species hnn
  simp only [List.length_nil, Nat.zero_add] at hc
  have : ((babies.length : Nat) : Int) = (o.popSize : Int) := by rw [hc, hs, htot]
  exact_mod_cast this


def genomeIds (ss : List (Species W)) : List Int := ss.flatMap (fun s => s.orgs.map (·.genome.id))

theorem renumber_length (l : List (Org W)) (k : Int) : (renumber l k).length = l.length := by
  induction l generalizing k with
  | nil => rfl
  | cons x xs ih => simp [renumber, ih]

/-- **C02 (genome ids).** After the turnover the genome ids of the population are exactly 0, 1, …, n−1 in the
    order of the organism list: unique. -/
theorem finalize_genomeIds (p : Pop W) :
    let p' := finalizeReproduction p
    genomeIds p'.species = (List.range p'.organisms.length).map (fun (i : Nat) => (i : Int)) ∧ (genomeIds p'.species).Nodup := by
  intro p'
  have h1 : genomeIds p'.species = (List.range p'.organisms.length).map (fun (i : Nat) => (i : Int)) := by
    obtain ⟨e, eo⟩ := orgsOf_finalize p
    rw [show genomeIds p'.species = (orgsOf p'.species).map (·.genome.id) from (List.map_flatMap ..).symm,
      show p'.organisms = _ from eo, List.length_map, show orgsOf p'.species = _ from e, renumber_ids, renumber_length]
    simp
  refine ⟨h1, ?_⟩
  rw [h1]
  exact nodup_map_range _ _ (fun a b e => by exact_mod_cast e)

end GoNeat.C02
