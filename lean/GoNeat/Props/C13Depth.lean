/-
  C13 with DEPTH QUERIES in the history ("any history" includes `Network.MaxActivationDepthWithCap(cap)` /
  `Network.MaxActivationDepth()` calls - the documented way to obtain the step count for `ActivateSteps`).

  Model: Model/SolverDepth.lean - the calls of Model/Solver.lean plus the depth query of C14 (Model/Depth.lean,
  every cap, both exits of `NNode.Depth`) run on the `visited` marks of the solver state, the marks it leaves behind
  written back into the state.  Kind A (every scalar type, every activation table; only `hz : lt 0 0 = false`).

  * a depth query - capped or not, hitting the cap or not - leaves the WHOLE state unchanged whenever no output
    node is marked (`depth_query_state_unchanged`, from C14 `marks_restored`; node level: `depth_node_marks_unchanged`
    from C14 `marks_restored_node`);
  * (not proved here: that every state reachable from a fresh network carries no mark at all, i.e. that the hypothesis
    above holds at every point of every history - it needs "LoadSensors / ActivateSteps / ForwardSteps do not write
    `visited`" for each loop of Model/Solver.lean; the flush theorems below do NOT need it, they are unconditional;
    the co-simulation compares every `visited` flag after every call);
  * flush = fresh for histories and later sequences that contain depth queries anywhere
    (`std_flush_equiv_fresh_with_depth`, `std_flush_like_fresh_with_depth`): the answers of later depth queries
    included; for histories without depth queries the extended run is the run of Props/C13.lean (`runD_call`).
-/
import GoNeat.Proofs.ScalarInt
import GoNeat.Proofs.SolverFlush
import GoNeat.Props.C14
import GoNeat.Model.SolverDepth

namespace GoNeat.C13

set_option linter.unusedSectionVars false

variable {W : Type} [Scalar W]

section StdDepth
open GoNeat.Solver GoNeat.SolverD

omit [Scalar W] in
theorem setVisited_self (s : St W) : setVisited s (s.map (·.visited)) = s := by
  induction s with
  | nil => rfl
  | cons a s ih => simp only [List.map_cons, setVisited, ih]

/-- `NNode.Depth` on an unmarked node of the network leaves the marks of the solver state as they are - normal and
    depth-cap exit (C14 `marks_restored_node` on the state's marks) -/
theorem depth_node_marks_unchanged (net : Net W) (cap : Int) (f : Nat) (s : St W) (i d : Nat)
    (h : Depth.marked (s.map (·.visited)) i = false) :
    setVisited s (Depth.depth net cap f (s.map (·.visited)) i d).vis = s := by
  rw [C14.marks_restored_node net cap f _ i d h, setVisited_self]

/-- `MaxActivationDepthWithCap(cap)` - every cap, cap hit or not, every topology - returns the solver state exactly
    as it found it, in every field of every node, whenever no output node carries a mark -/
theorem depth_query_state_unchanged (net : Net W) (cap : Int) (s : St W)
    (ho : Depth.outsUnmarked net (s.map (·.visited)) = true) : (depthQuery net cap s).1 = s := by
  simp only [depthQuery, C14.marks_restored net cap _ ho, setVisited_self]

/-- C13 over the call type extended by the depth query -/
theorem flushFreshD (hz : Scalar.lt (Scalar.zero : W) Scalar.zero = false) (net : Net W) (σ : Nat → W → Option W) :
    FlushFresh (stepD net σ) (runD net σ) flush (init net) Equiv (fun s => s.length = net.nodes.length) (true, none) where
  isRun := ⟨fun _ => rfl, fun _ _ _ => rfl⟩
  congr := fun op s t h => by
    cases op with
    | call o =>
      have hs := step_congr hz net σ o s t h
      simp only [stepD]
      exact ⟨hs.1, by rw [hs.2, readOutputs_congr net hs.1]⟩
    | depth cap =>
      simp only [stepD, depthQuery, Equiv_visited h]
      have he := setVisited_congr (Depth.maxDepthCap net cap (t.map (·.visited))).vis h
      exact ⟨he, by rw [readOutputs_congr net he]⟩
  keeps := fun op s h => by
    cases op with
    | call o => exact (flushFresh hz net σ).keeps o s h
    | depth cap => simpa only [stepD, depthQuery, length_setVisited] using h
  fresh := (flushFresh hz net σ).fresh
  flush := (flushFresh hz net σ).flush

/-- `Flush` after ANY history - `Solver` calls and depth queries with any caps in any order - succeeds and yields a
    state equal to the freshly built one in every field (the `visited` marks included) but `ActivationSum` -/
theorem std_flush_equiv_fresh_with_depth (hz : Scalar.lt (Scalar.zero : W) Scalar.zero = false) (net : Net W)
    (σ : Nat → W → Option W) (hist : List (OpD W)) :
    (flush (runD net σ hist (init net)).1).2 = (true, none) ∧
      Equiv (flush (runD net σ hist (init net)).1).1 (init net) :=
  (flushFreshD hz net σ).flushed hist

/-- C13 for the standard solver over the call type extended by the depth query: whatever happened before the flush
    (capped depth queries that hit the cap included), every later sequence of sensor loads, activations AND depth
    queries returns the same results, errors, outputs and depth answers as on a new instance -/
theorem std_flush_like_fresh_with_depth (hz : Scalar.lt (Scalar.zero : W) Scalar.zero = false) (net : Net W)
    (σ : Nat → W → Option W) (hist ops : List (OpD W)) :
    (runD net σ ops (flush (runD net σ hist (init net)).1).1).2 = (runD net σ ops (init net)).2 :=
  (flushFreshD hz net σ).like_fresh hist ops

/-- histories without depth queries: the extended run is the run of Props/C13.lean -/
theorem runD_call (net : Net W) (σ : Nat → W → Option W) (ops : List (Op W)) (s : St W) :
    (runD net σ (ops.map .call) s).1 = (run net σ ops s).1 ∧
      callObs (ops.map .call) (runD net σ (ops.map .call) s).2 = (run net σ ops s).2 := by
  induction ops generalizing s with
  | nil => exact ⟨rfl, rfl⟩
  | cons op ops ih =>
    simp only [List.map_cons, runD, stepD, run, callObs, (ih _).1, (ih _).2, obsOf]
    exact ⟨trivial, trivial⟩

end StdDepth

/-! ## non-vacuity: the usage pattern of the demo (capped query that hits the cap, activation, flush, RecursiveSteps)
    on a network with a long and a short path to the output, over the exact `Int` scalar -/
section Examples
open GoNeat.ExactInt GoNeat.Solver GoNeat.SolverD

private def nd (k : Kind) (ins : List (Nat × Int)) (i : Nat) : NNodeS Int :=
  { id := i + 1, kind := k, act := 14, incoming := ins.map fun p => { src := p.1, dst := i, w := p.2, recur := false },
    outgoing := [] }

/-- 0 (input) → 1 → 2 → 3 → 5 (output), short path 0 → 4 → 5, self-loop on 5: depth 4 -/
def deepNet : Net Int :=
  { id := 1, inputs := [0], outputs := [5],
    nodes := [nd Kind.input [] 0, nd Kind.hidden [(0, 1)] 1, nd Kind.hidden [(1, 2)] 2, nd Kind.hidden [(2, 1)] 3,
              nd Kind.hidden [(0, 3)] 4, nd Kind.output [(3, 1), (4, 1), (5, 1)] 5] }

def deepHist : List (OpD Int) := [.depth 2, .call (.load [1]), .call (.activate 2)]
def deepSeq : List (OpD Int) := [.call (.load [1]), .call .recursive, .depth 0, .depth 4, .depth 3]

/-- what the sequence answers on the fresh network: depth answers and outputs of every call -/
theorem deepSeq_fresh : (runD deepNet sigmaInt deepSeq (init deepNet)).2.map (fun o => (o.depth, o.outs)) =
    [(none, [0]), (none, [11]), (some (4, .ok), [11]), (some (4, .ok), [11]), (some (3, .exceeded), [11])] := by
  decide +kernel

/-- the capped query of the history hits the cap, the uncapped one answers 4; caps at / below the depth -/
example : (runD deepNet sigmaInt deepHist (init deepNet)).2.map (·.depth) = [some (2, .exceeded), none, none] := by decide +kernel
example : (runD deepNet sigmaInt deepSeq (init deepNet)).2.map (·.depth)
    = [none, none, some (4, .ok), some (4, .ok), some (3, .exceeded)] := by
  have := congrArg (List.map Prod.fst) deepSeq_fresh
  rwa [List.map_map] at this
/-- the hypothesis of `depth_query_state_unchanged` holds on the fresh state and the query returns it as it is -/
example : Depth.outsUnmarked deepNet ((init deepNet).map (·.visited)) = true ∧
    (depthQuery deepNet 2 (init deepNet)).1.map (·.visited) = (init deepNet).map (·.visited) := by decide +kernel
/-- not trivial: the history leaves activations behind (without a flush the sequence answers 16, not 11) ... -/
example : (runD deepNet sigmaInt deepSeq (init deepNet)).2.map (·.outs) = [[0], [11], [11], [11], [11]] := by
  have := congrArg (List.map Prod.snd) deepSeq_fresh
  rwa [List.map_map] at this
example : (runD deepNet sigmaInt deepSeq (runD deepNet sigmaInt deepHist (init deepNet)).1).2.map (·.outs)
    = [[0], [16], [16], [16], [16]] := by decide +kernel
/-- ... and with the flush it is the fresh result again -/
example : (runD deepNet sigmaInt deepSeq (flush (runD deepNet sigmaInt deepHist (init deepNet)).1).1).2.map (·.outs)
    = [[0], [11], [11], [11], [11]] := by
  -- `std_flush_like_fresh_with_depth`: after the flush the sequence answers as on the fresh network (`deepSeq_fresh`)
  rw [std_flush_like_fresh_with_depth (by decide)]
  have := congrArg (List.map Prod.snd) deepSeq_fresh
  rwa [List.map_map] at this

end Examples

end GoNeat.C13
