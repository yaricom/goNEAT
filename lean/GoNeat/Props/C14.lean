/-
  C14 - activation depth is the longest path to an output, terminates on every graph, obeys the cap, and leaves
  no traversal marks behind.

  Kind A (no scalar law; the weights play no role).  Model: Model/Depth.lean (`NNode.Depth` with the `visited`
  marks threaded through, `MaxActivationDepthWithCap`, the no-hidden shortcut); specification: Spec/Depth.lean;
  helper lemmas: Proofs/Depth.lean.  All theorems are for networks of every size and topology and for every fuel
  the model uses (no bounds); `vis` is the vector of `visited` flags at the time of the call.

  Hypotheses (decidable, evaluated by the driver on the real inputs):
    `marksFit net vis`      - one flag per node;
    `outsUnmarked net vis`  - no output carries a mark (fresh network; also re-established by every query);
    `Ranked net lvl`        - `lvl` increases along every link the search follows (⇔ the graph is acyclic);
    `noHiddenShortcut net = false` - the code's own test for "has hidden nodes" (`hidden_defeats_shortcut`
                               derives it from `hasHidden` for networks with consistent input/output lists);
    `net.ctrl = []`         - non-modular.

  `no_fuel_error`, `uncapped_bounded`, `cap_behaviour`, `depth_bounded`, `dag_depth_is_longest_path` and `dag_depth_eq_lp`
  are read off the closed form of the query (`Depth.maxDepthCap_closed`, `Depth.maxDepthCap_zero`: the uncapped depth
  `netDepth`, with the cap test applied once; `Depth.maxDepthCap_const` where the query does no search), which needs
  `marksFit` for the fuel to suffice.  `marks_restored`, `queries_independent`,
  `nonpos_cap_is_no_cap` and `depth_is_a_path_length` do not assume `marksFit` and are proved from the recursion
  itself (`Depth.depth_vis`, `Depth.depth_nonpos_cap`, `Depth.depth_attained`).
-/
import GoNeat.Proofs.Depth
import GoNeat.Model.LegacyDepth

namespace GoNeat.C14
open GoNeat GoNeat.Depth

variable {W : Type}

/-- `NNode.Depth` started on an unmarked node returns the marks exactly as it found them - normal exit, depth-cap
    error exit, any cap, any topology -/
theorem marks_restored_node (net : Net W) (cap : Int) (f : Nat) (vis : List Bool) (i d : Nat)
    (h : marked vis i = false) : (depth net cap f vis i d).vis = vis :=
  depth_vis net cap f vis i d h

/-- `MaxActivationDepthWithCap` leaves the marks exactly as it found them (every cap, every topology, whether or
    not the cap was hit) -/
theorem marks_restored (net : Net W) (cap : Int) (vis : List Bool) (ho : outsUnmarked net vis = true) :
    (maxDepthCap net cap vis).vis = vis := by
  by_cases h : net.ctrl = [] ∧ noHiddenShortcut net = false
  · rw [maxDepthCap_eq h.1 h.2]
    exact outLoop_vis net cap _ _ _ (outsUnmarked_iff.mp ho)
  · obtain ⟨_, _, _, _, hk⟩ := maxDepthCap_const h
    rw [hk]

/-- hence any later query answers as on the marks before: in a sequence of queries with arbitrary caps on one
    instance every answer is the answer the untouched network would give -/
theorem queries_independent (net : Net W) (caps : List Int) (vis : List Bool) (ho : outsUnmarked net vis = true) :
    runQueries net caps vis = caps.map fun c => maxDepthCap net c vis := by
  induction caps with
  | nil => rfl
  | cons c cs ih =>
    unfold runQueries
    simp only [marks_restored net c vis ho, ih, List.map_cons]

/-- the fuel `|allNodes| + 1` is never exhausted: the recursion of `NNode.Depth` terminates on every graph -/
theorem no_fuel_error (net : Net W) (cap : Int) (vis : List Bool) (hf : marksFit net vis = true)
    (ho : outsUnmarked net vis = true) : (maxDepthCap net cap vis).err ≠ .fuel := by
  by_cases h : net.ctrl = [] ∧ noHiddenShortcut net = false
  · rw [maxDepthCap_closed h.1 h.2 cap hf ho]
    split <;> simp
  · obtain ⟨_, _, _, he, hk⟩ := maxDepthCap_const h
    rw [hk]
    exact he

/-- every non-positive cap means "no cap" -/
theorem nonpos_cap_is_no_cap (net : Net W) {cap : Int} (h : cap ≤ 0) (vis : List Bool) :
    maxDepthCap net cap vis = maxDepthCap net 0 vis := by
  unfold maxDepthCap
  rw [outLoop_nonpos_cap net h]

/-- without a cap the query succeeds and reports a depth between 0 and the number of nodes -/
theorem uncapped_bounded (net : Net W) (vis : List Bool) (hc : net.ctrl = []) (hs : noHiddenShortcut net = false)
    (hf : marksFit net vis = true) (ho : outsUnmarked net vis = true) :
    (maxDepthCap net 0 vis).err = .ok ∧ 0 ≤ (maxDepthCap net 0 vis).depth ∧
      (maxDepthCap net 0 vis).depth ≤ net.nodes.length := by
  rw [maxDepthCap_zero hc hs hf ho]
  exact ⟨rfl, Int.natCast_nonneg _, Int.ofNat_le.mpr (netDepth_le net (marksFit_iff.mp hf) (outsUnmarked_iff.mp ho))⟩

/-- with a positive cap the answer is the uncapped one when that does not exceed the cap, otherwise the cap
    together with the depth-exceeded error; the marks are untouched in both cases.  Any topology. -/
theorem cap_behaviour (net : Net W) {cap : Int} (hcap : 0 < cap) (vis : List Bool)
    (hf : marksFit net vis = true) (ho : outsUnmarked net vis = true) :
    ((maxDepthCap net 0 vis).depth ≤ cap → maxDepthCap net cap vis = maxDepthCap net 0 vis) ∧
    (cap < (maxDepthCap net 0 vis).depth → maxDepthCap net cap vis = ⟨cap, .exceeded, vis⟩) := by
  by_cases h : net.ctrl = [] ∧ noHiddenShortcut net = false
  · rw [maxDepthCap_closed h.1 h.2 cap hf ho, maxDepthCap_zero h.1 h.2 hf ho, overCap_pos hcap]
    exact ⟨fun hle => if_neg (by simpa using hle), fun hlt => if_pos (by simpa using hlt)⟩
  · obtain ⟨k, _, hk1, _, hk⟩ := maxDepthCap_const h
    rw [hk cap, hk 0]
    exact ⟨fun _ => rfl, fun hlt => by simp only at hlt; omega⟩

/-- consequently every answer, capped or not, lies between 0 and the number of nodes -/
theorem depth_bounded (net : Net W) (cap : Int) (vis : List Bool) (hc : net.ctrl = [])
    (hs : noHiddenShortcut net = false) (hf : marksFit net vis = true) (ho : outsUnmarked net vis = true) :
    0 ≤ (maxDepthCap net cap vis).depth ∧ (maxDepthCap net cap vis).depth ≤ net.nodes.length := by
  have := netDepth_le net (marksFit_iff.mp hf) (outsUnmarked_iff.mp ho)
  rw [maxDepthCap_closed hc hs cap hf ho]
  cases h : overCap cap (netDepth net vis)
  · simp only [Bool.false_eq_true, ↓reduceIte]
    omega
  · simp only [overCap, Bool.and_eq_true, decide_eq_true_eq] at h
    simp only [↓reduceIte]
    omega

/-- on ANY graph a depth reported without error is the number of links of a real path that ends in an output
    (or 0 when there is no output) -/
theorem depth_is_a_path_length (net : Net W) (cap : Int) (vis : List Bool) (hc : net.ctrl = [])
    (hs : noHiddenShortcut net = false) (ho : outsUnmarked net vis = true)
    (he : (maxDepthCap net cap vis).err = .ok) :
    (∃ o ∈ net.outputs, ∃ u k, Path net u o k ∧ (maxDepthCap net cap vis).depth = (k : Int)) ∨
      (maxDepthCap net cap vis).depth = 0 := by
  have ho' := outsUnmarked_iff.mp ho
  rw [maxDepthCap_eq hc hs, outLoop_eq_loop net cap _ _ _ ho'] at he ⊢
  rcases loop_attained (call := fun v j => depth net cap (fuelOf net) v j 0)
    (fun j hj => depth_vis net cap _ vis j 0 (mem_callees.mp hj).2) 0 he with h | ⟨o, hom, h1, h2⟩
  · right; simp [h]
  · left
    obtain ⟨hout, hmo⟩ := mem_callees.mp hom
    obtain ⟨u, k, hp, hk⟩ := depth_attained net cap (fuelOf net) vis o 0 hmo h1
    exact ⟨o, hout, u, k, hp, by simp only at h2 ⊢; rw [← h2, hk]; simp⟩

/-- C14, first sentence.  Non-modular network with hidden nodes and no cycles (a ranking exists), fresh marks:
    the uncapped query succeeds, leaves the marks clean, its result dominates the length of EVERY path that ends in
    an output and is attained by one - it is the number of links on the longest such path. -/
theorem dag_depth_is_longest_path (net : Net W) (lvl : Nat → Nat) (hr : Ranked net lvl = true) (hc : net.ctrl = [])
    (hs : noHiddenShortcut net = false) :
    (maxDepthCap net 0 (clean net)).err = .ok ∧ (maxDepthCap net 0 (clean net)).vis = clean net ∧
    (∀ o ∈ net.outputs, ∀ u k, Path net u o k → (k : Int) ≤ (maxDepthCap net 0 (clean net)).depth) ∧
    ((∃ o ∈ net.outputs, ∃ u k, Path net u o k ∧ (maxDepthCap net 0 (clean net)).depth = (k : Int)) ∨
      (net.outputs = [] ∧ (maxDepthCap net 0 (clean net)).depth = 0)) := by
  rw [maxDepthCap_zero hc hs (clean_fit net) (clean_outs net)]
  refine ⟨rfl, rfl, fun o hom u k hp =>
    Int.ofNat_le.mpr (Nat.le_trans (sp_clean_ge (rankedP_of_ranked hr) hp) (le_maxList _ hom)), ?_⟩
  · rcases maxList_attained (sp net (fuelOf net) (clean net)) net.outputs with h | ⟨o, hom, h⟩
    · cases hout : net.outputs with
      | nil => exact Or.inr ⟨rfl, congrArg Int.ofNat h⟩
      | cons o os => exact Or.inl ⟨o, by simp, o, 0, Path.nil o, congrArg Int.ofNat h⟩
    · obtain ⟨u, hp⟩ := sp_path net (fuelOf net) (clean net) o
      exact Or.inl ⟨o, hom, u, _, hp, congrArg Int.ofNat h⟩

/-- the same with the executable longest-path function `lpOut` (the form the driver evaluates on the
    implementation's answers): if `lp net F` is a ranking, the depth equals `lpOut net F` -/
theorem dag_depth_eq_lp (net : Net W) (F : Nat) (hr : Ranked net (lp net F) = true) (hc : net.ctrl = [])
    (hs : noHiddenShortcut net = false) :
    (maxDepthCap net 0 (clean net)).depth = (lpOut net F : Int) := by
  rw [maxDepthCap_zero hc hs (clean_fit net) (clean_outs net)]
  exact congrArg Int.ofNat (maxList_congr fun o _ => sp_clean_eq_lp (rankedP_of_ranked hr) o)

/-- `lpOut` really is the longest path ending in an output whenever `lp net F` is a ranking -/
theorem lp_is_longest_path (net : Net W) (F : Nat) (hr : Ranked net (lp net F) = true) (v : Nat) :
    (∃ u, Path net u v (lp net F v)) ∧ ∀ u k, Path net u v k → k ≤ lp net F v :=
  ⟨lp_attained net F v, fun _ _ hp => lp_exact (rankedP_of_ranked hr) hp⟩

/-- a network with a hidden node whose `inputs`/`Outputs` lists are consistent with the node kinds does not take
    the no-hidden shortcut -/
theorem hidden_defeats_shortcut (net : Net W) (hh : hasHidden net = true) (hio : IOCounts net = true) :
    noHiddenShortcut net = false := by
  unfold IOCounts at hio
  simp only [Bool.and_eq_true, beq_iff_eq] at hio
  unfold noHiddenShortcut
  rw [hio.1, hio.2]
  have h3 := filter3_le (fun nd : NNodeS W => nd.isSensor) (fun nd => nd.kind == Kind.output)
    (fun nd => nd.kind == Kind.hidden) kinds_exclusive net.nodes
  unfold hasHidden at hh
  obtain ⟨x, hx, hp⟩ := List.any_eq_true.mp hh
  have hpos : 0 < (net.nodes.filter fun nd => nd.kind == Kind.hidden).length :=
    List.length_pos_of_mem (List.mem_filter.mpr ⟨hx, hp⟩)
  simp only [beq_eq_false_iff_ne, ne_eq]
  omega

theorem model_query_ok (net : Net W) (c : Int) (he : (maxDepthCap net 0 (clean net)).err = .ok) :
    queryOk net.nodes.length (maxDepthCap net 0 (clean net)).depth (toQuery c (maxDepthCap net c (clean net))) = true := by
  have hfit := clean_fit net
  have houts := clean_outs net
  have hm := marks_restored net c (clean net) houts
  unfold queryOk toQuery
  rw [← clean_eq_replicate net]
  simp only [hm, beq_self_eq_true, Bool.true_and]
  by_cases hc : c ≤ 0
  · rw [if_pos hc, nonpos_cap_is_no_cap net hc, he]; simp
  · rw [if_neg hc]
    have hcap := cap_behaviour net (cap := c) (by omega) (clean net) hfit houts
    by_cases hle : (maxDepthCap net 0 (clean net)).depth ≤ c
    · rw [if_pos hle, hcap.1 hle, he]; simp
    · rw [if_neg hle, hcap.2 (by omega)]; simp

/-- the answers of the MODEL to any sequence of queries (any caps, one instance, marks carried over) satisfy the
    predicate `querySpec` that the driver evaluates on the IMPLEMENTATION's answers - for every non-modular network,
    cyclic or not; the longest-path clause is included whenever `lp net F` is a ranking -/
theorem model_meets_querySpec (net : Net W) (caps : List Int) (dagFuel : Option Nat) (hc : net.ctrl = [])
    (hd : ∀ F, dagFuel = some F → Ranked net (lp net F) = true) :
    querySpec net dagFuel (toQuery 0 (maxDepthCap net 0 (clean net)))
      (List.zipWith toQuery caps (runQueries net caps (clean net))) = true := by
  have hfit := clean_fit net
  have houts := clean_outs net
  have he : (maxDepthCap net 0 (clean net)).err = .ok ∧ 0 ≤ (maxDepthCap net 0 (clean net)).depth ∧
      (noHiddenShortcut net = true ∨ (maxDepthCap net 0 (clean net)).depth ≤ net.nodes.length) := by
    cases hs : noHiddenShortcut net with
    | true =>
      unfold maxDepthCap
      simp [hc, hs]
    | false =>
      have := uncapped_bounded net (clean net) hc hs hfit houts
      exact ⟨this.1, this.2.1, Or.inr this.2.2⟩
  have hz : ∀ cs : List Int, List.zipWith toQuery cs (cs.map fun c => maxDepthCap net c (clean net)) =
      cs.map fun c => toQuery c (maxDepthCap net c (clean net)) := by
    intro cs; rw [List.zipWith_map_right, List.zipWith_self]
  rw [queries_independent net caps _ houts, hz]
  unfold querySpec
  simp only [Bool.and_eq_true, Bool.or_eq_true, decide_eq_true_eq, beq_iff_eq, List.all_eq_true, List.mem_map,
    forall_exists_index, and_imp, forall_apply_eq_imp_iff₂]
  refine ⟨⟨⟨⟨⟨he.1, he.2.1⟩, he.2.2⟩, model_query_ok net 0 he.1⟩, fun c _ => model_query_ok net c he.1⟩, ?_⟩
  cases dagFuel with
  | none => trivial
  | some F =>
    simp only [Bool.or_eq_true, beq_iff_eq]
    cases hs : noHiddenShortcut net with
    | true => left; rfl
    | false => right; exact dag_depth_eq_lp net F (hd F rfl) hc hs

section Examples

private def nd (kind : Kind) (srcs : List Nat) : NNodeS Nat :=
  { id := 0, kind := kind, act := 0, incoming := srcs.map fun s => { src := s, dst := 0, w := 0, recur := false },
    outgoing := [] }

/-- chain sensor 0 → hidden 1 → 2 → 3 → 4 → output 5 -/
private def chain : Net Nat :=
  { id := 1, inputs := [0], outputs := [5],
    nodes := [nd Kind.input [], nd Kind.hidden [0], nd Kind.hidden [1], nd Kind.hidden [2], nd Kind.hidden [3],
              nd Kind.output [4]] }

/-- diamond with a skip link: 0 → 1 → 2 → 3(out), 0 → 3, 1 → 3 -/
private def diamond : Net Nat :=
  { id := 2, inputs := [0], outputs := [3],
    nodes := [nd Kind.input [], nd Kind.hidden [0], nd Kind.hidden [1], nd Kind.output [0, 1, 2]] }

/-- cyclic: 0 → 1 ⇄ 2 → 3(out), self-loop on 2, and 3 → 1 -/
private def cyclic : Net Nat :=
  { id := 3, inputs := [0], outputs := [3],
    nodes := [nd Kind.input [], nd Kind.hidden [0, 2, 3], nd Kind.hidden [1, 2], nd Kind.output [2]] }

/-- non-vacuity: the hypotheses of `dag_depth_is_longest_path` / `dag_depth_eq_lp` / `hidden_defeats_shortcut` hold on
    concrete networks, and the depth is the expected one -/
example : Ranked chain (lp chain 7) = true ∧ chain.ctrl = [] ∧ noHiddenShortcut chain = false ∧
    hasHidden chain = true ∧ IOCounts chain = true ∧ maxDepthCap chain 0 (clean chain) = ⟨5, .ok, clean chain⟩ := by
  decide +kernel
example : Ranked diamond (lp diamond 5) = true ∧ noHiddenShortcut diamond = false ∧
    maxDepthCap diamond 0 (clean diamond) = ⟨3, .ok, clean diamond⟩ ∧ lpOut diamond 5 = 3 := by decide +kernel
/-- hypotheses of the general theorems on a cyclic network; the cap is hit (cap 1 < depth 3) and not hit (cap 3) -/
example : marksFit cyclic (clean cyclic) = true ∧ outsUnmarked cyclic (clean cyclic) = true ∧
    Ranked cyclic (lp cyclic 5) = false ∧
    maxDepthCap cyclic 0 (clean cyclic) = ⟨3, .ok, clean cyclic⟩ ∧
    maxDepthCap cyclic 1 (clean cyclic) = ⟨1, .exceeded, clean cyclic⟩ ∧
    maxDepthCap cyclic 3 (clean cyclic) = ⟨3, .ok, clean cyclic⟩ := by decide +kernel

/-- the pre-repair `NNode.Depth` (Model/LegacyDepth.lean; repaired by d4f2c1c) violates C14: on the chain of depth 5
    a query capped at 2 leaves the marks of nodes 3, 4, 5 set, and the next UNCAPPED query answers 0 instead of 5 -/
theorem marks_legacy_counterexample :
    (Legacy.maxDepthCap chain 2 (clean chain)).vis = [false, false, false, true, true, true] ∧
    Legacy.maxDepthCap chain 0 (Legacy.maxDepthCap chain 2 (clean chain)).vis ≠
      Legacy.maxDepthCap chain 0 (clean chain) ∧
    (Legacy.maxDepthCap chain 0 (Legacy.maxDepthCap chain 2 (clean chain)).vis).depth = 0 ∧
    (Legacy.maxDepthCap chain 0 (clean chain)).depth = 5 := by decide +kernel

/-- ... while the repaired definition answers 5 both times (instance of `queries_independent`) -/
example : (runQueries chain [2, 0] (clean chain)).map (fun r => (r.depth, r.err)) = [(2, .exceeded), (5, .ok)] := by
  decide +kernel

end Examples

end GoNeat.C14
