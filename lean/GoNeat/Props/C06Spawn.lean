/-
  Property C06, spawn clause — a population spawned from a start genome has exactly its topology and enabled
  flags and differs from it only in connection weights and the mutation numbers that mirror them.
  Kind A: every scalar type, every random stream, every population size, all options.
-/
import GoNeat.Props.C06
import GoNeat.Props.C05
import GoNeat.Proofs.EpochFrame
import GoNeat.Proofs.ScalarInt

namespace GoNeat.C06
open GoNeat Scalar MutateLemmas
variable {W : Type} [Scalar W]

/-- genome `m` is the start genome `g` up to weights: same traits (ids and parameters), same nodes (ids, roles,
    activation types, trait references), same modules, and gene by gene the same innovation number, endpoints,
    recurrence flag, enabled flag and trait reference; every mutation number mirrors its weight -/
structure SameTopology (g m : Genome W) : Prop where
  traits : m.traits = g.traits
  nodes : m.nodes = g.nodes
  modules : m.modules = g.modules
  genes : m.genes.map C05.Gene.core = g.genes.map C05.Gene.core
  mirror : ∀ x ∈ m.genes, x.mnum = x.w

/-- the spawn loop: member `i` is a duplicate of `g` under id `count + i` with perturbed weights only -/
theorem spawnLoop_topology (g : Genome W) (hr : RefsOk g) (n : Nat) (count : Int) (uid : Nat) (orgs : List (Org W))
    (rs rs' : List Nat) (h : spawnLoop g n count uid rs = .ok (orgs, rs')) :
    orgs.map (·.genome.id) = (List.range n).map (fun (i : Nat) => count + (i : Int)) ∧
    ∀ x ∈ orgs, SameTopology g x.genome := by
  refine spawnLoop_induct (fun n c _ l => l.map (·.genome.id) = (List.range n).map (fun (i : Nat) => c + (i : Int)) ∧
    ∀ x ∈ l, SameTopology g x.genome) (fun _ _ => ⟨rfl, fun _ hx => nomatch hx⟩) ?_ h
  intro n c _ d d' _ _ rest hd hw ⟨ih1, ih2⟩
  rw [duplicate_exact g c hr] at hd
  cases hd
  obtain ⟨hid, hnodes, htraits, hmods, hcore, hmirror⟩ := C05.mutateLinkWeights_paramOnly _ _ _ _ _ _ _ hw
  refine ⟨?_, ?_⟩
  · rw [List.range_succ_eq_map]
    simp only [List.map_cons, List.map_map, ih1, newOrganism, hid, List.cons.injEq]
    refine ⟨by simp, ?_⟩
    apply List.map_congr_left
    intro a _; simp only [Function.comp]; omega
  · intro x hx
    rcases List.mem_cons.mp hx with rfl | hx
    · exact ⟨htraits, hnodes, hmods, hcore, hmirror⟩
    · exact ih2 x hx

/-- **C06 (spawn).** For every start genome whose references resolve, every population size, every option setting
    and every stream: a successful `spawn` consists of exactly `PopSize` organisms (`orgs`, with genome ids
    `0 … PopSize-1`), each of which sits in a species of the population and no species holds anything else, and every
    member's genome has exactly the start genome's traits, nodes, modules and genes up to weight / mutation number
    (same innovation number, endpoints, recurrence flag, enabled flag, trait reference), the mutation number
    mirroring the weight. -/
theorem spawn_topology (o : EpochOpts W) (g : Genome W) (hr : RefsOk g) (p : Pop W) (rs rs' : List Nat)
    (h : spawn o g rs = .ok (p, rs')) :
    (∀ s ∈ p.species, ∀ m ∈ s.orgs, SameTopology g m.genome) ∧
    ∃ orgs : List (Org W), orgs.length = o.popSize ∧
      orgs.map (·.genome.id) = (List.range o.popSize).map (fun (i : Nat) => (i : Int)) ∧
      (∀ x ∈ orgs, ∃ s ∈ p.species, x ∈ s.orgs) ∧ (∀ s ∈ p.species, ∀ m ∈ s.orgs, m ∈ orgs) := by
  obtain ⟨_, orgs, lastNode, nextInn, hloop, _, _, _, hsp⟩ := spawn_ok h
  obtain ⟨hids, htop⟩ := spawnLoop_topology g hr _ _ _ _ _ _ hloop
  -- speciation files every spawned organism exactly once, into an empty species list
  have hperm : (orgsOf p.species).Perm orgs := by simpa [orgsOf] using (speciateLoop_perm hsp).1
  have hmem : ∀ s ∈ p.species, ∀ m ∈ s.orgs, m ∈ orgs := fun s hs m hm => hperm.mem_iff.mp (mem_orgsOf.mpr ⟨s, hs, hm⟩)
  refine ⟨fun s hs m hm => htop m (hmem s hs m hm), orgs, ?_, ?_, fun x hx => mem_orgsOf.mp (hperm.mem_iff.mpr hx), hmem⟩
  · have := congrArg List.length hids
    simpa using this
  · simpa using hids

/-! ### non-vacuity: `sample` (disabled gene, recurrent gene, nil trait; Props/C06.lean) without its module spawns -/
section NonVacuity

@[instance_reducible] def rawScalar : Scalar Int := { ExactInt.intScalar with ofUnit63 := fun x => (x : Int) }
attribute [local instance] rawScalar

def start : Genome Int := { sample with modules := [] }

def mo : MutOpts Int :=
  { recurOnlyProb := 0, newLinkTries := 3, activators := [4], activatorProbs := [1], traitMutationPower := 1,
    traitParamMutProb := 0, weightMutPower := 1, mutateRandomTraitProb := 0, mutateLinkTraitProb := 0,
    mutateNodeTraitProb := 0, mutateLinkWeightsProb := 0, mutateToggleEnableProb := 0, mutateGeneReenableProb := 0 }

def eo : EpochOpts Int :=
  { popSize := 2, dropOffAge := 15, ageSignificance := 1, survivalThresh := 1, babiesStolen := 0, compatThreshold := 3,
    compat := { disjointCoeff := 1, excessCoeff := 1, mutdiffCoeff := 1, linear := true },
    mutateOnlyProb := 0, mutateAddNodeProb := 0, mutateAddLinkProb := 0, mutateConnectSensors := 0,
    interspeciesMateRate := 0, mateMultipointProb := 0, mateMultipointAvgProb := 0, mateSinglepointProb := 0,
    mateOnlyProb := 0, mopts := mo }

example : RefsOk start := ⟨by decide, by decide, by decide, by decide⟩

example : (match spawn eo start (List.replicate 40 3) with
           | .ok (p, _) => p.organisms.length == 2
           | .error _ => false) = true := by decide +kernel

end NonVacuity

end GoNeat.C06
