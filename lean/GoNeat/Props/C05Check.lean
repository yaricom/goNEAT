/-
  Property C05, closing the loop: the genome the MODEL produces satisfies the executable relations of
  `Spec/Mutation.lean` that the driver (`Driver/Operators.lean`, `mutationHandler`) evaluates on the genomes the
  IMPLEMENTATION produced.  So what the check decides on Go's output is a consequence of the theorems of
  `Props/C05.lean` / `Props/C05More.lean`; a disagreement between Go and a relation is a disagreement with the model.

  One theorem `μ_check` per mutator (for the three structural ones `μ_check_false` covers the `else` branch), stated
  on the expression the driver evaluates for that op:
    mutAddNode         `if res then addNodeRel weq g g' else addNodeFalseRel weq g g'`
    mutAddLink         `if res then addLinkRel weq g g' else unchangedRel weq g g'`
    mutConnectSensors  `(connectSensorsRel weq g g' res).orElse (fun _ => if res then none else unchangedRel weq g g')`
    mutToggleEnable    `(paramOnlyRel g g').orElse (fun _ => toggleRel g g')`
    mutGeneReEnable    `(paramOnlyRel g g').orElse (fun _ => reenableRel weq g g')`
    the other four (link weights, random trait, link trait, node trait) and `mutateAllNonstructural`,
    the composition of the six parametric mutators     `paramOnlyRel g g'`
  (`none` = the relation holds).  Hypotheses: `weq` reflexive (the driver passes bit equality); for the three
  structural mutators (result `true`) the decidable invariants of C01: `WFT g` and `RegInv reg g` - the relations recognise the new
  genes / the new node by "number not among the old ones", and only the registry invariant makes the numbers a
  mutator obtains new (`addNode_check_needs_regInv` shows the hypothesis is necessary).  The six parametric
  mutators, their composition and the `false` results need no hypothesis at all.

  Also the two clauses the relations test beyond `mutateToggleEnable_spec` / `mutateGeneReEnable_spec`:
  `mutateToggleEnable_genes` (every gene is untouched or an enabled gene with only its flag cleared: nothing is ever
  enabled, weights / mutation numbers / trait references untouched) and `mutateGeneReEnable_genes`.
-/
import GoNeat.Proofs.MutationCheck
import GoNeat.Props.C05More
import GoNeat.Props.C01

namespace GoNeat.C05
open GoNeat Scalar MutationSpec
variable {W : Type} [Scalar W]

omit [Scalar W] in
theorem paramOnlyRel_of {g g' : Genome W} (h : ParamOnly g g') : paramOnlyRel g g' = none :=
  paramOnlyRel_none g g' h.nodes h.genes h.traits

theorem mutateLinkWeights_check (g g' : Genome W) (power rate : W) (mt : WeightMutator) (rs rs' : List Nat)
    (h : mutateLinkWeights g power rate mt rs = .ok (g', rs')) : paramOnlyRel g g' = none :=
  paramOnlyRel_of (C01.ParamRel.linkWeights h).only

theorem mutateRandomTrait_check (g g' : Genome W) (o : MutOpts W) (rs rs' : List Nat)
    (h : mutateRandomTrait g o rs = .ok (g', rs')) : paramOnlyRel g g' = none :=
  paramOnlyRel_of (C01.ParamRel.randomTrait h).only

theorem mutateLinkTrait_check (times : Nat) (g g' : Genome W) (rs rs' : List Nat)
    (h : mutateLinkTrait g times rs = .ok (g', rs')) : paramOnlyRel g g' = none :=
  paramOnlyRel_of (C01.ParamRel.linkTrait h).only

theorem mutateNodeTrait_check (times : Nat) (g g' : Genome W) (rs rs' : List Nat)
    (h : mutateNodeTrait g times rs = .ok (g', rs')) : paramOnlyRel g g' = none :=
  paramOnlyRel_of (C01.ParamRel.nodeTrait h).only

theorem mutateAllNonstructural_check (g g' : Genome W) (o : MutOpts W) (rs rs' : List Nat)
    (h : mutateAllNonstructural g o rs = .ok (g', rs')) : paramOnlyRel g g' = none :=
  paramOnlyRel_of (mutateAllNonstructural_paramOnly g g' o rs rs' h)

/-- what toggle-enable may do to one gene: nothing, or clear the flag of an enabled gene (every other field kept) -/
def ToggledFrom (a b : Gene W) : Prop := b = a ∨ (a.en = true ∧ b = { a with en := false })

omit [Scalar W] in
theorem ToggledFrom.trans {a b c : Gene W} (h1 : ToggledFrom a b) (h2 : ToggledFrom b c) : ToggledFrom a c := by
  rcases h1 with rfl | ⟨ha, rfl⟩
  · exact h2
  · rcases h2 with rfl | ⟨hb, _⟩
    · exact .inr ⟨ha, rfl⟩
    · cases hb

/-- **C05 (toggle-enable, per gene).** For every number of rounds and every stream: the gene list keeps its length
    and, position by position, a gene is either untouched or was enabled and has only its enabled flag cleared.
    Hence toggle-enable never ENABLES a gene and never touches a weight, mutation number or trait reference. -/
theorem mutateToggleEnable_genes (times : Nat) (g g' : Genome W) (rs rs' : List Nat)
    (h : mutateToggleEnable g times rs = .ok (g', rs')) :
    g'.genes.length = g.genes.length ∧
    ∀ (i : Nat) (a b : Gene W), g.genes[i]? = some a → g'.genes[i]? = some b → ToggledFrom a b :=
  mutateToggleEnable_ind
    (fun g g' : Genome W => g'.genes.length = g.genes.length ∧
      ∀ (i : Nat) (a b : Gene W), g.genes[i]? = some a → g'.genes[i]? = some b → ToggledFrom a b)
    (fun _ => ⟨rfl, fun i a b ha hb => .inl (Option.some.inj (ha ▸ hb)).symm⟩)
    (fun {x y z} h1 h2 => ⟨h2.1.trans h1.1, fun i a c ha hc => by
      have hi : i < y.genes.length := by rw [h1.1]; exact (List.getElem?_eq_some_iff.mp ha).1
      exact (h1.2 i a _ ha (List.getElem?_eq_getElem hi)).trans (h2.2 i _ c (List.getElem?_eq_getElem hi) hc)⟩)
    (fun g k gene hk hen _ => ⟨List.length_modify _ _ _, fun i a b ha hb => by
      rcases setEnabledAt_pointwise ha hb with e | ⟨rfl, e⟩
      · exact .inl e
      · exact .inr ⟨Option.some.inj (hk.symm.trans ha) ▸ hen, e⟩⟩) h

omit [Scalar W] in
theorem toggleRel_none (g g' : Genome W) (hout : ∀ s, HasOutlet g.genes s → HasOutlet g'.genes s)
    (hgen : ∀ (i : Nat) (a b : Gene W), g.genes[i]? = some a → g'.genes[i]? = some b → ToggledFrom a b) : toggleRel g g' = none := by
  have h1 : ((g.genes.filter (·.en)).map (·.src)).all (fun s => g'.genes.any (fun x => x.src == s && x.en)) = true := by
    rw [List.all_eq_true]
    intro s hs
    obtain ⟨x, hx, rfl⟩ := List.mem_map.mp hs
    have hx' := List.mem_filter.mp hx
    obtain ⟨y, hy, hys, hye⟩ := hout x.src ⟨x, hx'.1, rfl, hx'.2⟩
    exact List.any_eq_true.mpr ⟨y, hy, by simp [hys, hye]⟩
  have h2 : (List.zip g.genes g'.genes).any (fun (a, b) => !a.en && b.en) = false := by
    rw [List.any_eq_false]
    rintro ⟨a, b⟩ hab
    obtain ⟨i, hi⟩ := List.getElem?_of_mem hab
    rw [List.getElem?_zip_eq_some] at hi
    rcases hgen i a b hi.1 hi.2 with rfl | ⟨_, rfl⟩ <;> simp
  unfold toggleRel
  simp only [h1, h2, Bool.not_true, Bool.false_eq_true, ↓reduceIte]

theorem mutateToggleEnable_check (times : Nat) (g g' : Genome W) (rs rs' : List Nat)
    (h : mutateToggleEnable g times rs = .ok (g', rs')) :
    (paramOnlyRel g g').orElse (fun _ => toggleRel g g') = none := by
  rw [paramOnlyRel_of (C01.ParamRel.toggleEnable h).only]
  exact toggleRel_none g g' (mutateToggleEnable_spec _ _ _ _ _ h).2.2.2.2 (mutateToggleEnable_genes _ _ _ _ _ h).2

theorem reenableFirst_genes (genes : List (Gene W)) :
    (reenableFirst genes).length = genes.length ∧
    ∀ (i : Nat) (a b : Gene W), genes[i]? = some a → (reenableFirst genes)[i]? = some b → b = a ∨ (a.en = false ∧ b = { a with en := true }) := by
  refine ⟨reenableFirst_length genes, fun i a b ha hb => ?_⟩
  rw [reenableFirst_eq] at hb
  rcases setEnabledAt_pointwise ha hb with e | ⟨hk, e⟩
  · exact .inl e
  · obtain ⟨hi, rfl⟩ := List.getElem?_eq_some_iff.mp ha
    have := List.findIdx_getElem (p := fun x : Gene W => !x.en) (w := hk ▸ hi)
    exact .inr ⟨by simpa [hk] using this, e⟩

/-- **C05 (re-enable, per gene).** Position by position a gene is untouched or was disabled and has only its enabled
    flag set: re-enable never disables a gene and never touches a weight, mutation number or trait reference
    (which gene is enabled - the first disabled one - is `mutateGeneReEnable_spec` + `reenableFirst_spec`). -/
theorem mutateGeneReEnable_genes (g g' : Genome W) (h : mutateGeneReEnable g = .ok g') :
    g'.genes.length = g.genes.length ∧
    ∀ (i : Nat) (a b : Gene W), g.genes[i]? = some a → g'.genes[i]? = some b → b = a ∨ (a.en = false ∧ b = { a with en := true }) := by
  obtain ⟨_, _, _, e⟩ := mutateGeneReEnable_spec g g' h
  rw [e]; exact reenableFirst_genes g.genes

theorem mutateGeneReEnable_check (weq : W → W → Bool) (hrefl : ∀ a, weq a a = true) (g g' : Genome W)
    (h : mutateGeneReEnable g = .ok g') :
    (paramOnlyRel g g').orElse (fun _ => reenableRel weq g g') = none := by
  rw [paramOnlyRel_of (C01.ParamRel.reEnable h).only]
  show reenableRel weq g g' = none
  unfold reenableRel
  rw [(mutateGeneReEnable_spec g g' h).2.2.2, genesEq_refl weq hrefl]; rfl

/-! The three structural relations: genomes related as `mutateAddLink_spec`, `ConnectSensorsRel`, `AddNodeRel` say pass the
executable relation when the result ascends strictly - what C01 adds: it makes the inserted numbers (the id) new, and the
relations find the added genes (node) by "number (id) not among the old ones". -/

theorem addLinkRel_of (weq : W → W → Bool) (hrefl : ∀ a, weq a a = true) {g g' : Genome W} {x : Gene W}
    (hns : NodesSorted g.nodes) (hs : GenesSorted g'.genes)
    (hg : g'.genes = geneInsert g.genes x) (hn : g'.nodes = g.nodes) (ht : g'.traits = g.traits)
    (h1 : ∃ n1 ∈ g.nodes, n1.id = x.src) (h2 : ∃ n2 ∈ g.nodes, n2.id = x.dst ∧ n2.isSensor = false)
    (hdup : ∀ y ∈ g.genes, ¬ (y.src = x.src ∧ y.dst = x.dst ∧ y.recur = x.recur)) : addLinkRel weq g g' = none := by
  obtain ⟨hkept, hnew⟩ := genes_split g (new := [x]) hs (hg ▸ geneInsert_sublist _ _) (hg ▸ geneInsert_perm _ _) rfl
  have hnew := List.perm_singleton.mp hnew
  obtain ⟨n1, hn1, e1⟩ := h1
  obtain ⟨n2, hn2, e2, hsens⟩ := h2
  have c1 : g.nodes.any (·.id == x.src) = true := List.any_eq_true.mpr ⟨n1, hn1, by simp [e1]⟩
  have c2 : g.nodes.any (·.id == x.dst) = true := List.any_eq_true.mpr ⟨n2, hn2, by simp [e2]⟩
  have c3 : g.genes.any (fun y => y.src == x.src && y.dst == x.dst && y.recur == x.recur) = false := by
    rw [List.any_eq_false]
    intro y hy hc
    simp only [Bool.and_eq_true, beq_iff_eq] at hc
    exact hdup y hy ⟨hc.1.1, hc.1.2, hc.2⟩
  have c4 : g.nodes.any (fun n => n.id == x.dst && n.isSensor) = false := by
    rw [List.any_eq_false]
    intro m hm hc
    simp only [Bool.and_eq_true, beq_iff_eq] at hc
    rw [C01.node_unique g.nodes hns m n2 hm hn2 (by rw [hc.1, e2]), hsens] at hc
    exact Bool.false_ne_true hc.2
  unfold addLinkRel
  simp only [oldP] at hkept hnew
  simp only [hkept, hnew, ht, hn, traitsEq_refl weq hrefl, genesEq_refl weq hrefl, c1, c2, c3, c4, bne_self_eq_false,
    Bool.not_true, Bool.false_eq_true, ↓reduceIte, Bool.and_self]

theorem mutateAddLink_check (weq : W → W → Bool) (hrefl : ∀ a, weq a a = true)
    (g g' : Genome W) (reg reg' : Reg W) (o : MutOpts W) (rs rs' : List Nat) (res : Bool)
    (hw : C01.WFT g) (hi : C01.RegInv reg g)
    (h : mutateAddLink g reg o rs = .ok ((g', reg', res), rs')) :
    (if res then addLinkRel weq g g' else none) = none := by
  cases res with
  | false => rfl
  | true =>
    obtain ⟨gene, hg, hn, ht, _, _, h1, h2, hdup⟩ := mutateAddLink_spec g g' reg reg' o rs rs' h
    exact addLinkRel_of weq hrefl hw.wf.nodesSorted (C01.mutateAddLink_wf g g' reg reg' o rs rs' true hw hi h).1.wf.genesSorted
      hg hn ht h1 h2 hdup

theorem connectSensorsRel_of (weq : W → W → Bool) (hrefl : ∀ a, weq a a = true) {g g' : Genome W}
    (hs : GenesSorted g'.genes) (h : ConnectSensorsRel g g') : connectSensorsRel weq g g' true = none := by
  obtain ⟨_, hn, ht, _, sensor, hsn, hsens, hun, new, hne, _, hsub, hperm, hall, hnd, hcover, htgt, _⟩ := h
  obtain ⟨hkept, hnew⟩ := genes_split g hs hsub (hperm.trans List.perm_append_comm) rfl
  unfold connectSensorsRel
  simp only [oldP] at hkept hnew
  simp only [hkept, ht, hn, traitsEq_refl weq hrefl, genesEq_refl weq hrefl, bne_self_eq_false,
    Bool.not_true, Bool.false_eq_true, ↓reduceIte]
  -- `N`: the added genes as the relation finds them, a permutation of `new`
  generalize g'.genes.filter (fun x => !(g.genes.map (·.inn)).contains x.inn) = N at hnew
  cases N with
  | nil => exact absurd hnew.symm.eq_nil hne
  | cons x t =>
    have hx : x.src = sensor.id := (hall x (hnew.mem_iff.mp List.mem_cons_self)).1
    have c1 : (x :: t).all (·.src == x.src) = true :=
      List.all_eq_true.mpr (fun y hy => by simp [(hall y (hnew.mem_iff.mp hy)).1, hx])
    have c2 : g.nodes.any (fun n => n.id == x.src && n.isSensor) = true :=
      List.any_eq_true.mpr ⟨sensor, hsn, by simp [hx, hsens]⟩
    have c3 : g.genes.any (·.src == x.src) = false := by
      rw [List.any_eq_false]; intro y hy; rw [hx]; simpa using hun y hy
    have c4 : (x :: t).all (fun y => g.nodes.any (fun n => n.id == y.dst && !n.isSensor)) = true :=
      List.all_eq_true.mpr (fun y hy => by
        obtain ⟨o, ho, hod⟩ := htgt y (hnew.mem_iff.mp hy)
        have ho' := List.mem_filter.mp ho
        exact List.any_eq_true.mpr ⟨o, ho'.1, by simp [hod, ho'.2]⟩)
    have c5 : (decide ((List.map (·.dst) (x :: t)).Nodup) == false) = false := by
      rw [decide_eq_true (((hnew.map (·.dst)).nodup_iff).mpr hnd)]; rfl
    have c6 : (g.nodes.filter (fun n => !n.isSensor)).all (fun n => (x :: t).any (·.dst == n.id)) = true :=
      List.all_eq_true.mpr (fun o ho => by
        obtain ⟨y, hy, hyd⟩ := List.mem_map.mp (hcover o ho)
        exact List.any_eq_true.mpr ⟨y, hnew.mem_iff.mpr hy, by simp [hyd]⟩)
    simp only [c1, c2, c3, c4, c5, c6, Bool.not_true, Bool.false_eq_true, ↓reduceIte, Bool.and_false]

theorem mutateConnectSensors_check (weq : W → W → Bool) (hrefl : ∀ a, weq a a = true)
    (g g' : Genome W) (reg reg' : Reg W) (rs rs' : List Nat) (res : Bool)
    (hw : C01.WFT g) (hi : C01.RegInv reg g)
    (h : mutateConnectSensors g reg rs = .ok ((g', reg', res), rs')) :
    connectSensorsRel weq g g' res = none := by
  have hspec := mutateConnectSensors_spec g g' reg reg' res rs rs' h
  cases res with
  | false => rw [(hspec.2 rfl).1]; exact connectSensorsRel_none_false weq hrefl g
  | true =>
    exact connectSensorsRel_of weq hrefl (C01.mutateConnectSensors_wf g g' reg reg' rs rs' true hw hi h).1.wf.genesSorted
      (hspec.1 rfl)

theorem addNodeRel_of (weq : W → W → Bool) (hrefl : ∀ a, weq a a = true) {g g' : Genome W}
    (hw : WF g) (hs : GenesSorted g'.genes) (hns : NodesSorted g'.nodes) (h : AddNodeRel g g') :
    addNodeRel weq g g' = none := by
  obtain ⟨⟨k, old, n, i1, i2, hk, hen, hbias, hkind, hnodes, hgenes⟩, ht, _⟩ := h
  obtain ⟨hkept, hnewG⟩ := genes_split g (old := setEnabledAt g.genes k false) (new := [_, _]) hs
    (by rw [hgenes]; exact (geneInsert_sublist _ _).trans (geneInsert_sublist _ _))
    (by rw [hgenes]; exact (geneInsert_perm _ _).trans ((geneInsert_perm _ _).cons _)) (modify_map_of_eq _ _ _ _ (fun _ => rfl))
  -- the same for the nodes: the new id is not among the old ones
  have hpn : g'.nodes.Perm ([n] ++ g.nodes) := by rw [hnodes]; exact insertAt_perm _ _ _
  have hnid : n.id ∉ g.nodes.map (·.id) :=
    (List.nodup_cons.mp (((hpn.map (·.id)).nodup_iff).mp (C01.sorted_ids_nodup _ hns))).1
  obtain ⟨holdN, hnewN⟩ := filter_split (fun m : Node => g.nodes.any (·.id == m.id))
    (by rw [hnodes]; exact insertAt_sublist _ _ _) hpn
    (fun m hm => List.any_eq_true.mpr ⟨m, hm, by simp⟩)
    (fun m hm => by
      obtain rfl := List.mem_singleton.mp hm
      rw [List.any_eq_false]; intro m' hm' hc
      exact hnid (List.mem_map.mpr ⟨m', hm', by simpa using hc⟩))
  have hnewN := List.perm_singleton.mp hnewN
  have hchg := zip_modify_changed (geneEq weq) (geneEq_refl weq hrefl) (fun x : Gene W => { x with en := false }) g.genes k old hk
    (by simp [geneEq, hen])
  have hne : old.dst ≠ n.id := fun e => hnid (e ▸ (hw.endpoints old (List.mem_of_getElem? hk)).2)
  unfold addNodeRel
  simp only [oldP] at hkept hnewG
  simp only [hkept, ht, hnewN, holdN, hchg, setEnabledAt, traitsEq_refl weq hrefl, List.length_modify, bne_self_eq_false,
    Bool.not_true, Bool.false_eq_true, ↓reduceIte]
  rcases perm_pair hnewG with e | e <;> rw [e] <;>
    simp [hkind, hen, geneEq_refl weq hrefl, hrefl, hne]
  all_goals
    cases hsrc : nodeById g.nodes old.src with
    | none => rfl
    | some s => simpa using hbias s hsrc

theorem mutateAddNode_check (weq : W → W → Bool) (hrefl : ∀ a, weq a a = true)
    (g g' : Genome W) (reg reg' : Reg W) (o : MutOpts W) (rs rs' : List Nat) (res : Bool)
    (hw : C01.WFT g) (hi : C01.RegInv reg g)
    (h : mutateAddNode g reg o rs = .ok ((g', reg', res), rs')) :
    (if res then addNodeRel weq g g' else none) = none := by
  cases res with
  | false => rfl
  | true =>
    have hwf := (C01.mutateAddNode_wf g g' reg reg' o rs rs' true hw hi h).1.wf
    exact addNodeRel_of weq hrefl hw.wf hwf.genesSorted hwf.nodesSorted (mutateAddNode_spec g g' reg reg' o rs rs' h)

section Examples
attribute [local instance] C01.drawScalar

/-- the equality test on the example scalar (the driver passes bit equality on `Float`) -/
def ieq : Int → Int → Bool := fun a b => decide (a = b)

example : ∀ a, ieq a a = true := by simp [ieq]

/-- the hypotheses of the three structural `_check` theorems hold of evolved genomes under a registry with records
    of both kinds (`Props/C01.lean`) -/
example : C01.WFT C01.ev2 ∧ C01.RegInv C01.evReg C01.ev2 ∧ C01.WFT C01.cs ∧ C01.RegInv C01.evReg C01.cs := by decide +kernel

/-- successful runs exist, and the relations evaluate to `none` on them (here by evaluation, in general by the theorems) -/
example : (match mutateAddNode C01.ev2 C01.evReg C01.mo [2, 2, 2] with
           | .ok ((g', _, res), _) => res && (addNodeRel ieq C01.ev2 g').isNone
           | .error _ => false) = true := by decide +kernel
example : (match mutateAddLink C01.ev2 C01.evReg C01.mo [5, 1<<<32, 1<<<32, 1<<<32, 2<<<32, 3<<<32] with
           | .ok ((g', _, res), _) => res && (addLinkRel ieq C01.ev2 g').isNone
           | .error _ => false) = true := by decide +kernel
example : (match mutateConnectSensors C01.cs C01.evReg [0, 0, 1, 3] with
           | .ok ((g', _, res), _) => res && (connectSensorsRel ieq C01.cs g' res).isNone
           | .error _ => false) = true := by decide +kernel
/-- toggle-enable really disables a gene here (gene 2, 2→3: gene 6 still leaves node 2) -/
example : (match mutateToggleEnable C01.ev1 2 [1 <<< 32, 0] with
           | .ok (g', _) => g'.genes.map (·.en) == [false, false, true, true, true] &&
                            ((paramOnlyRel C01.ev1 g').orElse (fun _ => toggleRel C01.ev1 g')).isNone
           | .error _ => false) = true := by decide +kernel
example : (match mutateGeneReEnable C01.ev1 with
           | .ok g' => g'.genes.map (·.en) == [true, true, true, true, true] &&
                       ((paramOnlyRel C01.ev1 g').orElse (fun _ => reenableRel ieq C01.ev1 g')).isNone
           | .error _ => false) = true := by decide +kernel

/-- a well-formed genome and a registry that is consistent in itself (`RegOk`) and above the genome's numbers
    (`CounterAbove`) but whose node-split record for gene 1 carries the number 2 that gene 2 (another link) already
    has: only `RegCompat` fails -/
def clashG : Genome Int :=
  { id := 1, traits := [⟨1, []⟩],
    nodes := [⟨1, Kind.input, 4, none⟩, ⟨2, Kind.output, 4, none⟩, ⟨3, Kind.hidden, 4, none⟩],
    genes := [⟨1, 1, 2, false, 5, 0, true, none⟩, ⟨2, 1, 3, false, 0, 0, true, none⟩] }
def clashReg : Reg Int := { records := [⟨1, 1, 2, 2, 7, 0, 0, 5, 1, false⟩], nextInn := 7, nextNode := 5 }

/-- **the registry hypothesis of `mutateAddNode_check` is necessary** (and the driver, which guards the C05 relations
    with `WF` of the input only, relies on its generators handing it registries of really evolved populations):
    on `clashG` / `clashReg` the MODEL's successful add-node yields the numbers [1, 2, 2, 7], and `addNodeRel`
    - which finds the new genes by "number not among the old ones" - rejects it. -/
theorem addNode_check_needs_regInv :
    C01.WFT clashG ∧ C01.RegOk clashReg ∧ C01.CounterAbove clashReg clashG ∧ ¬ C01.RegCompat clashReg clashG ∧
    (match mutateAddNode clashG clashReg C01.mo [5] with
     | .ok ((g', _, res), _) => res && g'.genes.map (·.inn) == [1, 2, 2, 7] && (addNodeRel ieq clashG g').isSome
     | .error _ => false) = true := by decide +kernel

/-- **what `connectSensorsRel` alone does not ask** (DESIGN §3 says "result `false` ⇒ genome unchanged"; the theorem
    `mutateConnectSensors_spec` proves it of the model; this relation does not test it): a result `false` together
    with ONE added gene from the unconnected bias node 1 of `cutOff` (non-sensor nodes 3 and 4) passes; the same
    genomes with result `true` do not.  That is why the driver follows it with `unchangedRel` on a `false` result
    (`mutateConnectSensors_check_false`). -/
example :
    connectSensorsRel ieq cutOff { cutOff with genes := cutOff.genes ++ [⟨3, 1, 3, false, 0, 0, true, none⟩] } false = none ∧
    connectSensorsRel ieq cutOff { cutOff with genes := cutOff.genes ++ [⟨3, 1, 3, false, 0, 0, true, none⟩] } true =
      some "not-one-to-every-non-sensor" := by decide +kernel

end Examples

end GoNeat.C05

namespace GoNeat.C05
open GoNeat Scalar MutationSpec
variable {W : Type} [Scalar W]

theorem unchangedRel_refl (weq : W → W → Bool) (hrefl : ∀ a, weq a a = true) (g : Genome W) : unchangedRel weq g g = none := by
  simp [unchangedRel, traitsEq_refl weq hrefl, genesEq_refl weq hrefl]

theorem mutateAddLink_check_false (weq : W → W → Bool) (hrefl : ∀ a, weq a a = true) (g g' : Genome W) (reg reg' : Reg W)
    (o : MutOpts W) (rs rs' : List Nat) (h : mutateAddLink g reg o rs = .ok ((g', reg', false), rs')) :
    unchangedRel weq g g' = none := by
  obtain ⟨rfl, _⟩ := mutateAddLink_false g g' reg reg' o rs rs' h
  exact unchangedRel_refl weq hrefl _

theorem mutateConnectSensors_check_false (weq : W → W → Bool) (hrefl : ∀ a, weq a a = true) (g g' : Genome W) (reg reg' : Reg W)
    (rs rs' : List Nat) (h : mutateConnectSensors g reg rs = .ok ((g', reg', false), rs')) :
    unchangedRel weq g g' = none := by
  obtain ⟨rfl, _⟩ := (mutateConnectSensors_spec g g' reg reg' false rs rs' h).2 rfl
  exact unchangedRel_refl weq hrefl _

theorem mutateAddNode_check_false (weq : W → W → Bool) (hrefl : ∀ a, weq a a = true) (g g' : Genome W) (reg reg' : Reg W)
    (o : MutOpts W) (rs rs' : List Nat) (h : mutateAddNode g reg o rs = .ok ((g', reg', false), rs')) :
    addNodeFalseRel weq g g' = none := by
  obtain ⟨_, _, hn, ht, _, hg⟩ := mutateAddNode_false g g' reg reg' o rs rs' h
  rcases hg with rfl | ⟨k, old, _, hk, hen, hgenes, _⟩
  · unfold addNodeFalseRel
    simp only [traitsEq_refl weq hrefl, Bool.not_true, Bool.false_eq_true, ↓reduceIte, bne_self_eq_false,
      zip_self_unchanged (geneEq weq) (geneEq_refl weq hrefl) g'.genes, List.isEmpty_nil]
  · unfold addNodeFalseRel
    have hdiff := zip_modify_changed (geneEq weq) (geneEq_refl weq hrefl) (fun x => { x with en := false }) g.genes k old hk
      (by simp [geneEq, hen])
    rw [ht, hn, hgenes]
    simp only [traitsEq_refl weq hrefl, Bool.not_true, Bool.false_eq_true, ↓reduceIte, bne_self_eq_false, setEnabledAt,
      List.length_modify, hdiff]
    simp [hen, geneEq_refl weq hrefl]

end GoNeat.C05
