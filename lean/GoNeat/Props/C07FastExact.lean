/-
  Property C07, Kind B (exact ordered-field arithmetic): the fast method returns the NEAT formula and hence the same
  value as the linear method.  float64 rounding is outside (the two methods differ in the last bits because one adds
  a coefficient k times and the other multiplies; the check reports that difference as information).
-/
import GoNeat.Props.C07Fast
import GoNeat.Props.C07Exact
import GoNeat.Proofs.ListLemmas

namespace GoNeat.C07
open GoNeat
variable {K : Type} [Field K] [LinearOrder K] [IsStrictOrderedRing K] [FloorRing K]

/-- Σ |Δ mutation number| over the genes of `xs` that have a partner (same innovation number) in `ys` -/
def matchSum (xs ys : List (Gene K)) : K :=
  (xs.map (fun x => match ys.find? (fun y => y.inn == x.inn) with
    | some y => |x.mnum - y.mnum|
    | none => 0)).sum

/-- the fast walk's running value is `c_D·D + c_E·E` of its ghost counters, and its integer match counter is the ghost one -/
def FastAgree (o : CompatOpts K) (a : FastAcc K) : Prop :=
  a.compat = o.disjointCoeff * (a.cnt.disjoint : K) + o.excessCoeff * (a.cnt.excess : K) ∧ a.numMatching = a.cnt.matching

/-- an unmatched gene, charged as disjoint (`c`) or as excess, whatever happens to the switch -/
theorem FastAgree.skip {o : CompatOpts K} {a : FastAcc K} (h : FastAgree o a) (sw : Nat) (c : Bool) :
    FastAgree o { a with sw := sw, compat := Scalar.add a.compat (if c then o.disjointCoeff else o.excessCoeff),
                         cnt := a.cnt.add (if c then { disjoint := 1 } else { excess := 1 }) } := by
  obtain ⟨h1, h2⟩ := h
  cases c <;> refine ⟨?_, h2⟩
  · simp only [Exact.add_eq, h1, Counts.add, Bool.false_eq_true, ↓reduceIte]
    push_cast; ring
  · simp only [Exact.add_eq, h1, Counts.add, ↓reduceIte]
    push_cast; ring

/-- `n` left-over genes of one genome, all disjoint -/
theorem FastAgree.rest {o : CompatOpts K} {a : FastAcc K} (h : FastAgree o a) (n : Nat) :
    FastAgree o { a with compat := Scalar.add a.compat (Scalar.mul (Scalar.ofInt n) o.disjointCoeff),
                         cnt := { a.cnt with disjoint := a.cnt.disjoint + n } } := by
  obtain ⟨h1, h2⟩ := h
  refine ⟨?_, h2⟩
  simp only [Exact.add_eq, Exact.mul_eq, Exact.ofInt_eq, h1]
  push_cast; ring

theorem fastWalk_agree (xs ys : List (Gene K)) (o : CompatOpts K) (a : FastAcc K) (h : FastAgree o a) :
    FastAgree o (fastWalk xs ys o a) := by
  induction xs, ys using descWalk_induction Gene.inn generalizing a with
  | nil_left ys => rw [fastWalk]; exact h.rest ys.length
  | nil_right x xs => rw [fastWalk]; exact h.rest (xs.length + 1)
  | right x xs y ys hlt ih => rw [fastWalk_right xs ys o a hlt]; exact ih _ (h.skip _ _)
  | both x xs y ys heq ih => rw [fastWalk_both xs ys o a heq]; exact ih _ ⟨h.1, congrArg (· + 1) h.2⟩
  | left x xs y ys hlt ih => rw [fastWalk_left xs ys o a hlt]; exact ih _ (h.skip _ _)

theorem find_none_of_not_mem (ys : List (Gene K)) (k : Int) (h : k ∉ inns ys) : ys.find? (fun y => y.inn == k) = none := by
  rw [List.find?_eq_none]
  intro y hy hk
  apply h
  simp only [beq_iff_eq] at hk
  exact hk ▸ List.mem_map_of_mem (f := fun g : Gene K => g.inn) hy

theorem matchSum_nil_left (ys : List (Gene K)) : matchSum [] ys = 0 := rfl
theorem matchSum_nil_right (xs : List (Gene K)) : matchSum xs [] = 0 := by
  induction xs with
  | nil => rfl
  | cons x xs ih => simp [matchSum] at ih ⊢

theorem matchSum_skip_left (x : Gene K) (xs ys : List (Gene K)) (h : x.inn ∉ inns ys) :
    matchSum (x :: xs) ys = matchSum xs ys := by
  simp [matchSum, find_none_of_not_mem ys x.inn h]

theorem matchSum_skip_right (y : Gene K) (xs ys : List (Gene K)) (h : y.inn ∉ inns xs) :
    matchSum xs (y :: ys) = matchSum xs ys := by
  unfold matchSum
  congr 1
  apply List.map_congr_left
  intro x hx
  have : (y.inn == x.inn) = false := by
    simp only [beq_eq_false_iff_ne, ne_eq]
    intro e; apply h; rw [e]; exact List.mem_map_of_mem (f := fun g : Gene K => g.inn) hx
  simp [this]

theorem matchSum_match (x y : Gene K) (xs ys : List (Gene K)) (he : x.inn = y.inn) (hx : y.inn ∉ inns xs) :
    matchSum (x :: xs) (y :: ys) = |x.mnum - y.mnum| + matchSum xs ys := by
  have h1 : matchSum (x :: xs) (y :: ys) = |x.mnum - y.mnum| + matchSum xs (y :: ys) := by
    simp [matchSum, he]
  rw [h1, matchSum_skip_right y xs ys hx]

theorem linWalk_mutDiff (xs ys : List (Gene K)) (a : LinAcc K) (hx : Asc (inns xs)) (hy : Asc (inns ys)) :
    (linWalk xs ys a).mutDiffTotal = a.mutDiffTotal + matchSum xs ys := by
  fun_induction linWalk xs ys a with
  | case1 a => simp [matchSum]
  | case2 y ys a ih => rw [ih hx (asc_tail hy)]; simp [matchSum_nil_left]
  | case3 x xs a ih => rw [ih (asc_tail hx) hy]; simp [matchSum_nil_right]
  | case4 x xs y ys a heq ih =>
    rw [inns_cons] at hx hy
    rw [ih (asc_tail hx) (asc_tail hy), matchSum_match x y xs ys heq (not_mem_of_lt_all _ _ (heq ▸ asc_head_lt hx))]
    simp only [Exact.add_eq, Exact.abs_eq, Exact.sub_eq]; ring
  | case5 x xs y ys a hne hlt ih =>
    rw [inns_cons] at hy
    rw [ih (asc_tail hx) hy, matchSum_skip_left x xs (y :: ys) (not_mem_of_lt_all _ _ (asc_lt_all hlt hy))]
  | case6 x xs y ys a hne hnlt ih =>
    rw [inns_cons] at hx
    rw [ih hx (asc_tail hy), matchSum_skip_right y (x :: xs) ys (not_mem_of_lt_all _ _ (asc_lt_all (show y.inn < x.inn by omega) hx))]

theorem fastWalk_mutDiff (xs ys : List (Gene K)) (o : CompatOpts K) (a : FastAcc K) (hx : Desc (inns xs)) (hy : Desc (inns ys)) :
    (fastWalk xs ys o a).mutDiff = a.mutDiff + matchSum xs ys := by
  induction xs, ys using descWalk_induction Gene.inn generalizing a with
  | nil_left ys => simp [fastWalk, matchSum_nil_left]
  | nil_right x xs => simp [fastWalk, matchSum_nil_right]
  | right x xs y ys hlt ih =>
    rw [inns_cons] at hx hy
    rw [fastWalk_right xs ys o a hlt, ih _ hx (desc_tail hy),
      matchSum_skip_right y (x :: xs) ys (not_mem_of_all_gt _ _ (desc_gt_all hlt hx))]
    rfl
  | both x xs y ys heq ih =>
    rw [inns_cons] at hx hy
    rw [fastWalk_both xs ys o a heq, ih _ (desc_tail hx) (desc_tail hy), matchSum_match x y xs ys heq
      (not_mem_of_all_gt _ _ (heq ▸ desc_head_gt hx))]
    simp only [matched, Exact.add_eq, Exact.abs_eq, Exact.sub_eq]; ring
  | left x xs y ys hlt ih =>
    rw [inns_cons] at hx hy
    rw [fastWalk_left xs ys o a hlt, ih _ (desc_tail hx) hy,
      matchSum_skip_left x xs (y :: ys) (not_mem_of_all_gt _ _ (desc_gt_all hlt hy))]
    rfl

theorem find_reverse {W : Type} (ys : List (Gene W)) (h : Asc (inns ys)) (k : Int) :
    ys.reverse.find? (fun y => y.inn == k) = ys.find? (fun y => y.inn == k) := by
  cases hf : ys.find? (fun y => y.inn == k) with
  | none => exact List.find?_eq_none.mpr fun y hy => List.find?_eq_none.mp hf y (List.mem_reverse.mp hy)
  | some y =>
    have hy : y ∈ ys := List.mem_of_find?_eq_some hf
    have hp : (y.inn == k) = true := List.find?_some (p := fun y : Gene W => y.inn == k) hf
    exact find_unique _ _ y (List.mem_reverse.mpr hy) hp fun z hz hpz =>
      nodup_map_inj Gene.inn (asc_nodup h) (List.mem_reverse.mp hz) hy ((beq_iff_eq.mp hpz).trans (beq_iff_eq.mp hp).symm)

theorem matchSum_reverse (xs ys : List (Gene K)) (h : Asc (inns ys)) : matchSum xs.reverse ys.reverse = matchSum xs ys := by
  unfold matchSum
  rw [List.map_reverse, List.sum_reverse]
  congr 1
  apply List.map_congr_left
  intro x _
  rw [find_reverse ys h]

theorem compatFastAcc_mutDiff (o : CompatOpts K) (g og : Genome K) (hg : GenesSorted g.genes) (ho : GenesSorted og.genes) :
    (compatFastAcc o g og).mutDiff = matchSum g.genes og.genes := by
  unfold compatFastAcc
  rw [fastWalk_mutDiff _ _ _ _ (desc_reverse_of_sorted hg) (desc_reverse_of_sorted ho), matchSum_reverse _ _ (asc_of_sorted ho)]
  exact zero_add _

theorem compatLinearAcc_mutDiff (g og : Genome K) (hg : GenesSorted g.genes) (ho : GenesSorted og.genes) :
    (compatLinearAcc g og).mutDiffTotal = matchSum g.genes og.genes := by
  unfold compatLinearAcc
  rw [linWalk_mutDiff _ _ _ (asc_of_sorted hg) (asc_of_sorted ho)]
  exact zero_add _

/-! `compatFast` by the shape of the two gene lists: the walk is only entered when neither is empty -/

theorem compatFast_nil_left (o : CompatOpts K) (g og : Genome K) (h : g.genes = []) :
    compatFast o g og = (og.genes.length : K) * o.excessCoeff := by
  unfold compatFast
  rw [h]
  cases og.genes <;> simp

theorem compatFast_nil_right (o : CompatOpts K) (g og : Genome K) (h : og.genes = []) :
    compatFast o g og = (g.genes.length : K) * o.excessCoeff := by
  unfold compatFast
  rw [h]
  cases g.genes <;> simp

theorem compatFast_of_ne_nil (o : CompatOpts K) (g og : Genome K) (hg0 : g.genes ≠ []) (ho0 : og.genes ≠ []) :
    compatFast o g og =
      if 0 < (compatFastAcc o g og).numMatching then
        (compatFastAcc o g og).compat + (compatFastAcc o g og).mutDiff * o.mutdiffCoeff / ((compatFastAcc o g og).numMatching : K)
      else (compatFastAcc o g og).compat := by
  unfold compatFast
  cases hgg : g.genes with
  | nil => exact absurd hgg hg0
  | cons x xs =>
    cases hoo : og.genes with
    | nil => exact absurd hoo ho0
    | cons y ys => simp

/-- **C07 (fast method, exact arithmetic): the NEAT formula.** For sorted genomes (empty ones included)
    `compatFast = c_D·D + c_E·E + c_M·(Σ|Δmut| / M)`, the last term absent when no gene matches. -/
theorem compatFast_formula (o : CompatOpts K) (g og : Genome K) (hg : GenesSorted g.genes) (ho : GenesSorted og.genes) :
    let c := specCounts (inns g.genes) (inns og.genes)
    compatFast o g og =
      o.disjointCoeff * (c.disjoint : K) + o.excessCoeff * (c.excess : K) +
        (if 0 < c.matching then o.mutdiffCoeff * (matchSum g.genes og.genes / (c.matching : K)) else 0) := by
  intro c
  by_cases hg0 : g.genes = []
  · have hc : c = { excess := og.genes.length } := by
      show specCounts (inns g.genes) (inns og.genes) = _
      rw [hg0, inns_nil, specCounts_nil_left, inns, List.length_map]
    rw [compatFast_nil_left o g og hg0, hc]
    simp [mul_comm]
  · by_cases ho0 : og.genes = []
    · have hc : c = { excess := g.genes.length } := by
        show specCounts (inns g.genes) (inns og.genes) = _
        rw [ho0, inns_nil, specCounts_nil_right, inns, List.length_map]
      rw [compatFast_nil_right o g og ho0, hc]
      simp [mul_comm]
    · obtain ⟨ha1, ha2⟩ : FastAgree o (compatFastAcc o g og) := fastWalk_agree _ _ _ _ (by simp [FastAgree])
      rw [compatFast_of_ne_nil o g og hg0 ho0, ha1, ha2, compatFastAcc_mutDiff o g og hg ho,
        compatFast_counts o g og hg ho hg0 ho0]
      split
      · rw [mul_comm (matchSum _ _), mul_div_assoc]
      · rw [add_zero]

/-- **C07 (the two methods return the same value, exact arithmetic).** -/
theorem compatFast_eq_compatLinear (o : CompatOpts K) (g og : Genome K) (hg : GenesSorted g.genes) (ho : GenesSorted og.genes) :
    compatFast o g og = compatLinear o g og := by
  rw [compatFast_formula o g og hg ho, compatLinear_formula o g og hg ho, compatLinearAcc_mutDiff g og hg ho]

/-- **C07 (fast method): symmetric, never negative, zero against itself** — exact arithmetic, sorted genomes -/
theorem compatFast_symm (o : CompatOpts K) (g og : Genome K) (hg : GenesSorted g.genes) (ho : GenesSorted og.genes) :
    compatFast o g og = compatFast o og g := by
  rw [compatFast_eq_compatLinear o g og hg ho, compatFast_eq_compatLinear o og g ho hg, compatLinear_symm]

theorem compatFast_nonneg (o : CompatOpts K) (g og : Genome K) (hg : GenesSorted g.genes) (ho : GenesSorted og.genes)
    (hd : 0 ≤ o.disjointCoeff) (he : 0 ≤ o.excessCoeff) (hm : 0 ≤ o.mutdiffCoeff) : 0 ≤ compatFast o g og := by
  rw [compatFast_eq_compatLinear o g og hg ho]; exact compatLinear_nonneg o g og hd he hm

theorem compatFast_self (o : CompatOpts K) (g : Genome K) (hg : GenesSorted g.genes) : compatFast o g g = 0 := by
  rw [compatFast_eq_compatLinear o g g hg hg]; exact compatLinear_self o g hg

/-- whichever method the options select, the distance is the same number -/
theorem compatibility_method_independent (o o' : CompatOpts K) (g og : Genome K) (hg : GenesSorted g.genes) (ho : GenesSorted og.genes)
    (hc : o'.disjointCoeff = o.disjointCoeff ∧ o'.excessCoeff = o.excessCoeff ∧ o'.mutdiffCoeff = o.mutdiffCoeff) :
    compatibility o g og = compatibility o' g og := by
  have hl : compatLinear o' g og = compatLinear o g og := by
    unfold compatLinear; rw [hc.1, hc.2.1, hc.2.2]
  unfold compatibility
  split <;> split
  · exact hl.symm
  · rw [compatFast_eq_compatLinear o' g og hg ho, hl]
  · rw [compatFast_eq_compatLinear o g og hg ho, hl]
  · rw [compatFast_eq_compatLinear o g og hg ho, compatFast_eq_compatLinear o' g og hg ho, hl]

end GoNeat.C07
