/-
  C18, module clause ("the module activations return the product, maximum and minimum of their inputs") on the CALL
  PATH of the standard solver: `network.ActivateModule` (neat/network/common.go), modelled by
  `SolverMod.activateModule` (Model/SolverMod.lean: inputs = `GetActiveOut` of every `Incoming` source in `Incoming`
  order, `ActivateModuleByType`, the length check, `setActivation` + `isActive = true` on every `Outgoing` target).

  Kind A (every scalar type `W`, every module activator `μ`, every control-node wiring, every state):
    `activateModule_writes`          success path: output node `k` receives `setActivation (μ … inputs)[k]`, is active
    `activateModule_unknown`, `activateModule_outLen`   the two error paths leave the state untouched
    `moduleInputs_congr`             the inputs are a function of the active outputs of the module's OWN sources only
    `moduleInputs_after_earlier`     an earlier `ActivateModule` of ANY control node whose output nodes are not among
                                     this module's sources does not change this module's inputs
  Kind R (exact reals, the Kind of `multiplyModule_eq_prod` / `maxModule_eq_maximum` / `minModule_eq_minimum`), with
  `muR` = the closure the REGENERATED registry selects for the type code, in its regenerated real form:
    `activateModule_own_inputs`      the value written to the output node of a module of type 21 / 22 / 23 is the
                                     List.prod / maximum / minimum of the active outputs of exactly its own sources
    `module_sequence_own_inputs`     the same for the SECOND of two `ActivateModule` calls in sequence, in terms of the
                                     state before the first call
    `muR_unknown`                    undocumented type code: error, nothing written
  Why "own inputs" is a theorem of its own: `ActivateModule` collects the inputs of a module into a slice made for that
  call.  Were the slice kept between calls (a buffer on the network, a pool), a module with fewer sources activated after
  one with more would read what the earlier call left behind; "of their inputs" in the property means, for EVERY call of
  a sequence, of the active outputs of exactly that module's `Incoming` sources - hence the statements about the second
  of two calls, and the example at the end (a wide module, then a narrow one).
  Not proved here: float64 rounding (trusted, executed by op `actModule`, sequence form).
-/
import GoNeat.Props.C18
import GoNeat.Props.C13Mod
import GoNeat.Proofs.Exact


namespace GoNeat.C18
open GoNeat.Solver GoNeat.SolverMod GoNeat.C13Mod
open GoNeat.Spec.Act GoNeat.Act GoNeat.Gen

section KindA
variable {W : Type} [Scalar W]

/-- what `ActivateModule` collects: `GetActiveOut` of every `Incoming` source, in `Incoming` order -/
theorem moduleInputs_def (cn : NNodeS W) (s : St W) :
    moduleInputs cn s = cn.incoming.map fun l => activeOut (get s l.src) := rfl

theorem moduleInputs_congr (cn : NNodeS W) (s t : St W)
    (h : ∀ l ∈ cn.incoming, activeOut (get s l.src) = activeOut (get t l.src)) :
    moduleInputs cn s = moduleInputs cn t :=
  SolverMod.moduleInputs_congr cn s t h

theorem activateModule_writes (μ : Nat → List W → Option (List W)) (cn : NNodeS W) (s : St W) (outs : List W)
    (hμ : μ cn.act (moduleInputs cn s) = some outs) (hlen : outs.length = cn.outgoing.length) :
    (activateModule μ cn s).2 = none ∧
    ∀ (k : Nat) (hk : k < cn.outgoing.length), (cn.outgoing.map (·.dst)).Nodup → cn.outgoing[k].dst < s.length →
      get (activateModule μ cn s).1 cn.outgoing[k].dst =
        { setActivation (outs[k]'(by omega)) (get s cn.outgoing[k].dst) with isActive := true } := by
  rw [activateModule_ok μ cn s outs hμ hlen]
  refine ⟨rfl, fun k hk hnd hd => ?_⟩
  exact setOuts_get_hit cn.outgoing outs s hnd k hk (by omega) hd

theorem activateModule_unknown (μ : Nat → List W → Option (List W)) (cn : NNodeS W) (s : St W)
    (hμ : μ cn.act (moduleInputs cn s) = none) : activateModule μ cn s = (s, some .unknownModAct) := by
  simp only [activateModule, hμ]

theorem activateModule_outLen (μ : Nat → List W → Option (List W)) (cn : NNodeS W) (s : St W) (outs : List W)
    (hμ : μ cn.act (moduleInputs cn s) = some outs) (hlen : outs.length ≠ cn.outgoing.length) :
    activateModule μ cn s = (s, some .moduleOutLen) := by
  have hne : (outs.length != cn.outgoing.length) = true := by simp [hlen]
  simp only [activateModule, hμ, hne]
  rfl

theorem activateModule_other_nodes (μ : Nat → List W → Option (List W)) (cn : NNodeS W) (s : St W) (j : Nat)
    (h : ∀ l ∈ cn.outgoing, l.dst ≠ j) : get (activateModule μ cn s).1 j = get s j := by
  unfold activateModule
  split
  · rfl
  · split
    · rfl
    · exact setOuts_get_other _ _ _ _ h

theorem moduleInputs_after_earlier (μ : Nat → List W → Option (List W)) (cn1 cn2 : NNodeS W) (s : St W)
    (hdisj : ∀ a ∈ cn2.incoming, ∀ b ∈ cn1.outgoing, b.dst ≠ a.src) :
    moduleInputs cn2 (activateModule μ cn1 s).1 = moduleInputs cn2 s := by
  apply moduleInputs_congr
  intro a ha
  rw [activateModule_other_nodes μ cn1 s a.src (hdisj a ha)]

end KindA

section KindR


/-- `NodeActivators.ActivateModuleByType` over the reals: the closure the REGENERATED registry selects for the type
    code (`reg.moduleOfCode`), in its regenerated real form (`ActR.moduleByName`); the Go closures return one value -/
noncomputable def muR (t : Nat) (xs : List ℝ) : Option (List ℝ) :=
  (reg.moduleOfCode t).bind fun fn => (ActR.moduleByName.lookup fn).map fun f => [(f xs).toReal]

theorem muR_multiply (xs : List ℝ) : muR 21 xs = some [xs.prod] := by
  simp [muR, activateModuleByType_closures.1, ActR.moduleByName, List.lookup, multiplyModule_eq_prod]

theorem muR_max (xs : List ℝ) (m : ℝ) (hm : xs.maximum = (m : WithBot ℝ)) : muR 22 xs = some [m] := by
  simp [muR, activateModuleByType_closures.2.1, ActR.moduleByName, List.lookup, maxModule_eq_maximum xs m hm]

theorem muR_min (xs : List ℝ) (m : ℝ) (hb : ∀ x ∈ xs, x ≤ maxFloat64) (hm : xs.minimum = (m : WithTop ℝ)) :
    muR 23 xs = some [m] := by
  simp [muR, activateModuleByType_closures.2.2, ActR.moduleByName, List.lookup, minModule_eq_minimum xs m hb hm]

theorem muR_unknown (cn : NNodeS ℝ) (s : St ℝ) (h : docOfCode cn.act = none) :
    activateModule muR cn s = (s, some .unknownModAct) := by
  apply activateModule_unknown
  simp [muR, (unknown_code_error cn.act h).2.2]

theorem activateModule_single (cn : NNodeS ℝ) (s : St ℝ) (l : NLink ℝ) (v : ℝ) (hout : cn.outgoing = [l])
    (hd : l.dst < s.length) (hμ : muR cn.act (moduleInputs cn s) = some [v]) :
    (activateModule muR cn s).2 = none ∧ (get (activateModule muR cn s).1 l.dst).activation = v ∧
      (get (activateModule muR cn s).1 l.dst).isActive = true := by
  obtain ⟨h1, h2⟩ := activateModule_writes muR cn s [v] hμ (by simp [hout])
  have h3 := h2 0 (by simp [hout]) (by simp [hout]) (by simpa [hout] using hd)
  simp only [hout, List.getElem_cons_zero] at h3
  refine ⟨h1, ?_, ?_⟩ <;> rw [h3] <;> rfl

/-- C18 on the call path of the solver, for EVERY control-node wiring `cn` (any fan-in, any sources) with one output
    link and EVERY state `s`: the value `ActivateModule` writes to the output node is the product / the maximum / the
    minimum of `xs` = the active outputs of exactly the module's own `Incoming` sources - `xs` is a function of `cn`
    and `s` only, there is no other argument an earlier call could have left behind. -/
theorem activateModule_own_inputs (cn : NNodeS ℝ) (s : St ℝ) (l : NLink ℝ) (hout : cn.outgoing = [l])
    (hd : l.dst < s.length) (xs : List ℝ) (hxs : xs = cn.incoming.map fun a => activeOut (get s a.src)) :
    (cn.act = 21 → (activateModule muR cn s).2 = none ∧ (get (activateModule muR cn s).1 l.dst).isActive = true ∧
        (get (activateModule muR cn s).1 l.dst).activation = xs.prod) ∧
    (cn.act = 22 → ∀ m : ℝ, xs.maximum = (m : WithBot ℝ) →
        (activateModule muR cn s).2 = none ∧ (get (activateModule muR cn s).1 l.dst).isActive = true ∧
        (get (activateModule muR cn s).1 l.dst).activation = m) ∧
    (cn.act = 23 → ∀ m : ℝ, (∀ x ∈ xs, x ≤ maxFloat64) → xs.minimum = (m : WithTop ℝ) →
        (activateModule muR cn s).2 = none ∧ (get (activateModule muR cn s).1 l.dst).isActive = true ∧
        (get (activateModule muR cn s).1 l.dst).activation = m) := by
  have hin : moduleInputs cn s = xs := by rw [hxs]; rfl
  refine ⟨fun ht => ?_, fun ht m hm => ?_, fun ht m hb hm => ?_⟩
  · obtain ⟨a, b, c⟩ := activateModule_single cn s l _ hout hd (by rw [ht, hin]; exact muR_multiply xs)
    exact ⟨a, c, b⟩
  · obtain ⟨a, b, c⟩ := activateModule_single cn s l _ hout hd (by rw [ht, hin]; exact muR_max xs m hm)
    exact ⟨a, c, b⟩
  · obtain ⟨a, b, c⟩ := activateModule_single cn s l _ hout hd (by rw [ht, hin]; exact muR_min xs m hb hm)
    exact ⟨a, c, b⟩

/-- two `ActivateModule` calls in sequence, `cn1` (ANY fan-in, type, number of output links; success or error) then
    `cn2`: the value `cn2` writes is the product / maximum / minimum of the active outputs its own sources had BEFORE
    the first call (`cn1` does not write to them) - nothing of the first call's inputs enters. -/
theorem module_sequence_own_inputs (cn1 cn2 : NNodeS ℝ) (s : St ℝ) (l : NLink ℝ) (hout : cn2.outgoing = [l])
    (hd : l.dst < s.length) (hdisj : ∀ a ∈ cn2.incoming, ∀ b ∈ cn1.outgoing, b.dst ≠ a.src)
    (xs : List ℝ) (hxs : xs = cn2.incoming.map fun a => activeOut (get s a.src)) (s2 : St ℝ × Option Err)
    (hs2 : s2 = activateModule muR cn2 (activateModule muR cn1 s).1) :
    (cn2.act = 21 → s2.2 = none ∧ (get s2.1 l.dst).isActive = true ∧ (get s2.1 l.dst).activation = xs.prod) ∧
    (cn2.act = 22 → ∀ m : ℝ, xs.maximum = (m : WithBot ℝ) →
        s2.2 = none ∧ (get s2.1 l.dst).isActive = true ∧ (get s2.1 l.dst).activation = m) ∧
    (cn2.act = 23 → ∀ m : ℝ, (∀ x ∈ xs, x ≤ maxFloat64) → xs.minimum = (m : WithTop ℝ) →
        s2.2 = none ∧ (get s2.1 l.dst).isActive = true ∧ (get s2.1 l.dst).activation = m) := by
  subst hs2
  apply activateModule_own_inputs cn2 _ l hout (by rw [length_activateModule]; exact hd) xs
  rw [hxs]
  exact (moduleInputs_after_earlier muR cn1 cn2 s hdisj).symm

end KindR

section NonVacuity

/-- sources 0,1,2 hold 2,3,5; sources 3,4 hold 1,2; nodes 5 and 6 are the two (fresh) output nodes -/
noncomputable def exState : St ℝ :=
  [sensorLoad 2 NState.fresh, sensorLoad 3 NState.fresh, sensorLoad 5 NState.fresh, sensorLoad 1 NState.fresh,
   sensorLoad 2 NState.fresh, NState.fresh, NState.fresh]
noncomputable def exLink (a b : Nat) : NLink ℝ := { src := a, dst := b, w := 1, recur := false }
noncomputable def exWide : NNodeS ℝ :=
  { id := 1000, kind := 0, act := 22, incoming := [exLink 0 7, exLink 1 7, exLink 2 7], outgoing := [exLink 7 5] }
noncomputable def exNarrow : NNodeS ℝ :=
  { id := 1001, kind := 0, act := 22, incoming := [exLink 3 8, exLink 4 8], outgoing := [exLink 8 6] }

theorem exWide_inputs : (exWide.incoming.map fun a => activeOut (get exState a.src)) = [2, 3, 5] := by
  simp [exWide, exLink, exState, Solver.get, activeOut, sensorLoad, saveActs, NState.fresh]

theorem exNarrow_inputs : (exNarrow.incoming.map fun a => activeOut (get exState a.src)) = [1, 2] := by
  simp [exNarrow, exLink, exState, Solver.get, activeOut, sensorLoad, saveActs, NState.fresh]

theorem maximum_one_two : ([1, 2] : List ℝ).maximum = ((2 : ℝ) : WithBot ℝ) :=
  List.maximum_eq_coe_iff.mpr ⟨by simp, by intro a ha; simp at ha; rcases ha with rfl | rfl <;> norm_num⟩

/-- the wide module returns 5 = max {2,3,5}; the narrow module activated AFTER it returns 2 = max {1,2} (5 would be the
    answer from a buffer the wide module left behind) -/
example :
    (get (activateModule muR exWide exState).1 5).activation = 5 ∧
    (get (activateModule muR exNarrow (activateModule muR exWide exState).1).1 6).activation = 2 := by
  constructor
  · have h := (activateModule_own_inputs exWide exState (exLink 7 5) rfl (by simp [exState, exLink]) [2, 3, 5]
      exWide_inputs.symm).2.1 rfl 5
      (List.maximum_eq_coe_iff.mpr ⟨by simp, by intro a ha; simp at ha; rcases ha with rfl | rfl | rfl <;> norm_num⟩)
    exact h.2.2
  · have h := (module_sequence_own_inputs exWide exNarrow exState (exLink 8 6) rfl (by simp [exState, exLink])
      (by intro a ha b hb; simp [exWide, exNarrow, exLink] at ha hb; rcases ha with rfl | rfl <;> subst hb <;> simp)
      [1, 2] exNarrow_inputs.symm _ rfl).2.1 rfl 2 maximum_one_two
    exact h.2.2

/-- hypotheses of the min clause are satisfiable: every element of [1, 2] is at most MaxFloat64 -/
example : ∀ x ∈ ([1, 2] : List ℝ), x ≤ maxFloat64 := by
  intro x hx
  have h : (2 : ℝ) ≤ maxFloat64 := by
    unfold maxFloat64
    have h1 : (1 : ℝ) ≤ 2 ^ 971 := one_le_pow₀ (by norm_num)
    have h2 : (2 : ℝ) ^ 1024 = 2 ^ 971 * 2 ^ 53 := by rw [← pow_add]
    rw [h2]
    generalize (2 : ℝ) ^ 971 = y at h1 ⊢
    norm_num
    linarith
  simp at hx
  rcases hx with rfl | rfl <;> linarith

/-- the error paths are reachable: a maximum module with two output links, and type code 24 -/
example : (activateModule muR { exNarrow with outgoing := [exLink 8 5, exLink 8 6] } exState).2 = some .moduleOutLen := by
  have hm : muR 22 [1, 2] = some [2] := muR_max [1, 2] 2 maximum_one_two
  rw [activateModule_outLen muR _ exState [2] (by rw [moduleInputs_def]; exact exNarrow_inputs ▸ hm) (by simp)]
example : (activateModule muR { exNarrow with act := 24 } exState).2 = some .unknownModAct := by
  rw [muR_unknown _ _ (by decide)]

end NonVacuity

end GoNeat.C18
