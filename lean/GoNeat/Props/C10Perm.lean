/-
  C10 / C09 / C01: the single-epoch theorems for a population whose species lists were re-ordered
  (`C02.SpeciesPerm p q`, what `Generation.FillPopulationStatistics` does) before `NextEpoch` runs on it.
  None of their hypotheses depends on the order inside a species (table in Props/C02Perm.lean); these are the
  transfers, stated so that the hypotheses are those of the original theorems ON `p` and the epoch runs on `q`.
  Also what the C10 RUN theorem `runEpochs_keeps_champions_perm` (Props/C10Epoch.lean) needs to be applied: the
  relation `EvalKeepsPerm` composes and contains the within-species permutations; a two-generation run whose evaluator
  reverses every species list.
  Kind A.
-/
import GoNeat.Props.C10Epoch
import GoNeat.Props.C02Perm

set_option linter.unusedSectionVars false

namespace GoNeat.C10
open GoNeat Scalar
variable {W : Type} [Scalar W]

/-- **C10, end to end, after a within-species re-ordering.**  The hypotheses of `nextEpoch_keeps_champion` on `p`;
    the epoch (and its preparation phase) run on the re-ordered `q`: for every species of the prepared population whose
    quota exceeds five, its first organism - the champion `Species.reproduce` clones, chosen AFTER the epoch's own sort -
    is carried unmodified into the new population. -/
theorem nextEpoch_keeps_champion_perm (o : EpochOpts W) (gen : Int) (p q p' p1 : Pop W) (ex : ExecState) (rs rs1 rs' : List Nat)
    (hu : C02.UidInv p) (hnd : (p.species.map (·.id)).Nodup) (hz : ScZero p) (hrefs : RefsOkPop p)
    (hpq : C02.SpeciesPerm p q)
    (hprep : prepareForReproduction o q rs = .ok ((p1, ex), rs1))
    (h : nextEpoch o gen q rs = .ok (p', rs')) :
    ∀ s ∈ p1.species, s.expectedOffspring > 5 → ∃ champ, s.orgs.head? = some champ ∧
      ∃ s' ∈ p'.species, ∃ x ∈ s'.orgs, x.uid ∈ p'.organisms ∧ IsCopy champ x :=
  nextEpoch_keeps_champion o gen q p' p1 ex rs rs1 rs' (hpq.sameShape.uidInv hu) (by rw [hpq.sameShape.ids]; exact hnd)
    (hpq.all hz) (hpq.all hrefs) hprep h

theorem EvalKeepsPerm.evalOkPerm {q q' : Pop W} (h : EvalKeepsPerm q q') : C02.EvalOkPerm q q' := ⟨h.1, h.2.1, h.2.2.1⟩

theorem EvalKeepsPerm.refl (p : Pop W) : EvalKeepsPerm p p := ⟨C02.SameShapePerm.refl p, fun _ h => h, rfl, id⟩

/-- evaluations compose (assign fitness, then `FillPopulationStatistics`, …) -/
theorem EvalKeepsPerm.trans {p q r : Pop W} (h1 : EvalKeepsPerm p q) (h2 : EvalKeepsPerm q r) : EvalKeepsPerm p r :=
  ⟨h1.1.trans h2.1, fun g hg => h1.2.1 g (h2.2.1 g hg), h2.2.2.1.trans h1.2.2.1, fun hz => h2.2.2.2 (h1.2.2.2 hz)⟩

theorem evalKeepsPerm_of_speciesPerm {p q : Pop W} (h : C02.SpeciesPerm p q) : EvalKeepsPerm p q :=
  ⟨h.sameShape, h.evalOkPerm.2.1, h.evalOkPerm.2.2, h.all⟩

/-- `runEpochs_keeps_champions` is the instance of `runEpochs_keeps_champions_perm` for order-preserving evaluations -/
theorem runEpochs_keeps_champions_of_perm (o : EpochOpts W) (evs : List (Pop W → Pop W)) (gen : Int) (p p' : Pop W) (rs rs' : List Nat)
    (hev : ∀ ev ∈ evs, ∀ q, EvalKeeps q (ev q)) (hinv : ChampInv p)
    (h : C02.runEpochs o evs gen p rs = .ok (p', rs')) :
    ChampInv p' ∧ (runSteps o evs gen p rs).length = evs.length ∧
    (∀ st ∈ runSteps o evs gen p rs, ChampInv st.1 ∧ KeepsChampions o st.1 st.2.1 st.2.2) ∧
    (evs ≠ [] → p'.organisms.length = o.popSize ∧ p'.organisms.Nodup ∧ p'.organisms = C02.orgUids p'.species ∧
      ∀ s ∈ p'.species, s.orgs ≠ []) :=
  runEpochs_keeps_champions o evs gen p p' rs rs' hev hinv h

/-! ### non-vacuity: a two-generation run whose evaluator assigns fitness values AND reverses every species list -/
section RunExamplePerm
open GoNeat.ExactInt
attribute [local instance] intScalar

/-- reverse the member list of every species (a within-species permutation that is not the identity) -/
def revOrgs (p : Pop W) : Pop W := { p with species := p.species.map (fun s => { s with orgs := s.orgs.reverse }) }

theorem revOrgs_speciesPerm (p : Pop W) : C02.SpeciesPerm p (revOrgs p) :=
  ⟨rfl, C02.forall₂_map_self _ (fun s => ⟨rfl, List.reverse_perm s.orgs⟩) p.species⟩

def iEvalRev : Pop Int → Pop Int := fun q => revOrgs (iEval q)

theorem evalKeepsPerm_iEvalRev (q : Pop Int) : EvalKeepsPerm q (iEvalRev q) :=
  (evalKeeps_setFitness _ q).toPerm.trans (evalKeepsPerm_of_speciesPerm (revOrgs_speciesPerm _))

/-- the evaluator does change the order (so `EvalKeeps`, which fixes it, does not hold), both generations of the run
    have a species with quota 8 (> 5), and the run returns organisms 16-23 in species 1 -/
theorem exRunPerm_views :
    ((iEvalRev iPop8).species.map (fun s => s.orgs.map (·.uid))) = [[7, 6, 5, 4, 3, 2, 1, 0]] ∧
    (runSteps iOpts8 [iEvalRev, iEvalRev] 1 iPop8 stR).map (fun st => (prepView (prepareForReproduction iOpts8 st.1 st.2.1)).map
        (fun r => (r.1, r.2.1))) = [[(1, 8)], [(1, 8)]] ∧
    (popView (C02.runEpochs iOpts8 [iEvalRev, iEvalRev] 1 iPop8 stR)).map (fun r => (r.1, r.2.1)) =
      [(1, 16), (1, 17), (1, 18), (1, 19), (1, 20), (1, 21), (1, 22), (1, 23)] := by decide +kernel

example : ¬ EvalKeeps iPop8 (iEvalRev iPop8) := by
  intro h
  have := h.1.2.2.2
  revert this
  decide +kernel

/-- the conclusion of `runEpochs_keeps_champions_perm`, instantiated: two epochs ran, and in each the champion of every
    sizeable species was preserved -/
example : ∃ p' rs', C02.runEpochs iOpts8 [iEvalRev, iEvalRev] 1 iPop8 stR = .ok (p', rs') ∧ ChampInv p' ∧
    (runSteps iOpts8 [iEvalRev, iEvalRev] 1 iPop8 stR).length = 2 ∧
    ∀ st ∈ runSteps iOpts8 [iEvalRev, iEvalRev] 1 iPop8 stR, ChampInv st.1 ∧ KeepsChampions iOpts8 st.1 st.2.1 st.2.2 := by
  obtain ⟨p', rs', h⟩ := popView_ok (r := C02.runEpochs iOpts8 [iEvalRev, iEvalRev] 1 iPop8 stR)
    (by intro h0; have := exRunPerm_views.2.2; rw [h0] at this; cases this)
  obtain ⟨a, b, c, _⟩ := runEpochs_keeps_champions_perm iOpts8 [iEvalRev, iEvalRev] 1 iPop8 p' stR rs'
    (by intro ev hev q
        simp only [List.mem_cons, List.not_mem_nil, or_false, or_self] at hev
        subst hev; exact evalKeepsPerm_iEvalRev q) exRun_inv h
  exact ⟨p', rs', h, a, b, c⟩

end RunExamplePerm

end GoNeat.C10

namespace GoNeat.C09
open GoNeat Scalar
variable {W : Type} [Scalar W]

/-- **C09 (expected offspring) after a within-species re-ordering**: the hypothesis (unique species ids) on `p`; the
    statement is about the population `q` that enters the preparation phase (its species, its mean) -/
theorem prepare_expected_full_perm (o : EpochOpts W) (p q p1 : Pop W) (ex : ExecState) (rs rs' : List Nat)
    (hnd : (p.species.map (·.id)).Nodup) (hpq : C02.SpeciesPerm p q)
    (h : prepareForReproduction o q rs = .ok ((p1, ex), rs')) :
    ∀ s1 ∈ p1.species, ∃ s0 ∈ q.species, s1.id = s0.id ∧ ∀ x ∈ s1.orgs, ∃ x0 ∈ s0.orgs, x.uid = x0.uid ∧
      x.originalFitness = x0.fitness ∧ x.fitness = adjustedFitness o s0 x.originalFitness ∧
      x.expectedOffspring =
        (if eq (popMeanAdjusted o q) zero then x0.expectedOffspring else div x.fitness (popMeanAdjusted o q)) :=
  prepare_expected_full o q p1 ex rs rs' (by rw [hpq.sameShape.ids]; exact hnd) h

end GoNeat.C09

namespace GoNeat.C01
open GoNeat Scalar
variable {W : Type} [Scalar W]

/-- **C01, epoch closure, after an evaluation that may re-order inside the species**: the pool invariant on `p`, the
    epoch on `q` -/
theorem nextEpoch_closed_perm (X : List (Genome W)) (o : EpochOpts W) (generation : Int) (p q p' : Pop W) (rs rs' : List Nat)
    (hP : PoolOk p.reg (X ++ genomesOfPop p)) (hpq : C02.EvalOkPerm p q) (h : nextEpoch o generation q rs = .ok (p', rs')) :
    PoolOk p'.reg (X ++ genomesOfPop p') :=
  nextEpoch_closed X o generation q p' rs rs' (C02.pool_evalPerm hP hpq) h

end GoNeat.C01
