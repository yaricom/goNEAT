/-
  Property C02 "without error", Kind B: the float facts the epoch theorem takes as hypotheses hold in exact
  ordered-field arithmetic (`exactScalar`): a draw `f = x/2^63` with `x < 2^63` lies in `[0,1)`, hence
  `f·t ≤ t` for `t ≥ 0` (`UnitMulLe`), `0 ≤ floor(f/4·n) < n` for `n > 0` (`PickLaw`), and
  `floor(survival_thresh·n + 1) ≥ 1` for a non-negative threshold (`OptsOk.parents`, from C09ParentsExact).
  For float64 the same facts follow from monotonicity of rounding; that is trusted and observed by the check.
-/
import GoNeat.Props.C02NoError
import GoNeat.Props.C09ParentsExact

namespace GoNeat.C02
open GoNeat GoNeat.NoErr
variable {K : Type} [Field K] [LinearOrder K] [IsStrictOrderedRing K] [FloorRing K]

theorem unit_nonneg (x : Nat) : (0 : K) ≤ (x : K) / 2 ^ 63 := by positivity

theorem unit_lt_one (x : Nat) (hx : x < 2 ^ 63) : (x : K) / 2 ^ 63 < 1 := by
  rw [div_lt_one (by positivity)]
  exact_mod_cast hx

theorem unitMulLe_exact : UnitMulLe K := by
  intro x t hx _ ht
  simp only [Exact.le_eq, Exact.zero_eq, decide_eq_true_eq] at ht
  simp only [Exact.le_eq, Exact.mul_eq, decide_eq_true_eq]
  show (x : K) / 2 ^ 63 * t ≤ t
  exact mul_le_of_le_one_left ht (unit_lt_one x hx).le

theorem floor_quarter_mul_lt {f : K} (h0 : 0 ≤ f) (h1 : f < 1) {n : Nat} (hn : 0 < n) :
    0 ≤ ⌊f / 4 * (n : K)⌋ ∧ ⌊f / 4 * (n : K)⌋.toNat < n := by
  have hnpos : (0 : K) < (n : K) := Nat.cast_pos.mpr hn
  have hq0 : 0 ≤ f / 4 := div_nonneg h0 (by norm_num)
  have hq1 : f / 4 < 1 := (div_le_self h0 (by norm_num)).trans_lt h1
  have hhi : f / 4 * (n : K) < ((n : Int) : K) := by
    rw [Int.cast_natCast]
    exact mul_lt_of_lt_one_left hnpos hq1
  have f0 : 0 ≤ ⌊f / 4 * (n : K)⌋ := Int.floor_nonneg.mpr (mul_nonneg hq0 hnpos.le)
  have f1 : ⌊f / 4 * (n : K)⌋ < (n : Int) := Int.floor_lt.mpr hhi
  exact ⟨f0, by omega⟩

theorem pickLaw_exact : PickLaw K := by
  intro x n hx hn _
  have h := floor_quarter_mul_lt (unit_nonneg (K := K) x) (unit_lt_one x hx) hn
  simp only [Exact.floorInt_eq, Exact.mul_eq, Exact.div_eq, Exact.ofInt_eq, Int.cast_ofNat, Int.cast_natCast]
  exact h

theorem floatFacts_exact : FloatFacts K := ⟨unitMulLe_exact, pickLaw_exact⟩

theorem parents_exact (o : EpochOpts K) (h : 0 ≤ o.survivalThresh) : ∀ n, n ≤ o.popSize → 1 ≤ C09.numParents o n :=
  fun n _ => C09.numParents_pos o n h

/-- **C02 "without error" in exact arithmetic**: no float fact is left as a hypothesis except `QuotaOk`
    (the C09 raw-quota facts; in exact arithmetic they are `C09.quotaOk_exact` of Props/C09QuotaExact.lean, which needs
    some organism with positive adjusted fitness: `C09.quotaOk_needs_positive`). -/
theorem nextEpoch_no_error_exact (S : List Nat) (o : EpochOpts K) (p : Pop K) (h : Hyp S o p) (gen : Int) :
    ∀ rs, Valid rs → ∀ msg, nextEpoch o gen p rs ≠ .error (.error msg) :=
  nextEpoch_no_error floatFacts_exact S o p h gen

end GoNeat.C02
