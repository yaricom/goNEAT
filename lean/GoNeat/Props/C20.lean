/-
  Property C20: an experiment run follows its trial/generation protocol exactly.   Kind A (no arithmetic at all).

  Model: `Model/Experiment.lean` (`execute : Script → List Event × Result`); specification predicate:
  `Spec/Experiment.lean` (`Protocol.check`, evaluated by the driver on the implementation's output).
  All theorems quantify over EVERY script: arbitrary numbers of runs and generations, arbitrary functions
  `(trial, generation) ↦ solved / unsolved / evaluator error`, `↦ epoch failure`, `↦ cancellation inside a callback`,
  with and without observer.  Proofs are by induction over the two loops (fuel = remaining generations / runs).
-/
import GoNeat.Spec.Experiment
import GoNeat.Model.LegacyExperiment

namespace GoNeat.C20
open GoNeat.Experiment

theorem solvedAt_of_solved {s : Script} {t g : Nat} (h : s.evalRes t g = .solved) : solvedAt s t g = true := by
  simp [solvedAt, h]
theorem solvedAt_of_unsolved {s : Script} {t g : Nat} (h : s.evalRes t g = .unsolved) : solvedAt s t g = false := by
  simp [solvedAt, h]
theorem solvedAt_of_fail {s : Script} {t g : Nat} (h : s.evalRes t g = .fail) : solvedAt s t g = false := by
  simp [solvedAt, h]

theorem gensEvents_zero (s : Script) (t g : Nat) : gensEvents s t g 0 = [] := by simp [gensEvents]
theorem gensEvents_succ (s : Script) (t g n : Nat) :
    gensEvents s t g (n + 1) = genEvents s t g ++ gensEvents s t (g + 1) n := by
  simp [gensEvents, List.range'_succ]

/-! ### cancellation flag threaded by the model = "some callback so far cancelled" -/

theorem flagAfter_nil (s : Script) (c : Bool) : flagAfter s c [] = c := by simp [flagAfter]
theorem flagAfter_cons (s : Script) (c : Bool) (e : Event) (es : List Event) :
    flagAfter s c (e :: es) = flagAfter s (c || cancelsAt s e) es := by
  simp [flagAfter, Bool.or_assoc]
theorem flagAfter_append (s : Script) (c : Bool) (a b : List Event) :
    flagAfter s c (a ++ b) = flagAfter s (flagAfter s c a) b := by
  simp [flagAfter, Bool.or_assoc]
theorem flagAfter_obs (s : Script) (c : Bool) (e : Event) :
    flagAfter s c (obs s e) = (c || (s.observer && cancelsAt s e)) := by
  unfold obs; cases s.observer <;> simp [flagAfter]

theorem noEval_append_obs (s : Script) (c : Bool) (e : Event) (he : isEval e = false) (rest : List Event) :
    noEvalAfterCancel s (obs s e ++ rest) c = noEvalAfterCancel s rest (c || (s.observer && cancelsAt s e)) := by
  unfold obs; cases s.observer <;> simp [noEvalAfterCancel, he]

theorem noEval_append (s : Script) (a b : List Event) (c : Bool) :
    noEvalAfterCancel s (a ++ b) c = (noEvalAfterCancel s a c && noEvalAfterCancel s b (flagAfter s c a)) := by
  induction a generalizing c with
  | nil => simp [noEvalAfterCancel, flagAfter]
  | cons x xs ih => simp [noEvalAfterCancel, ih, flagAfter_cons, Bool.and_assoc]

/-- how the generation loop of a trial can be aborted in generation `g+m` -/
def GenAbort (s : Script) (t g m : Nat) (evs : List Event) (e : Err) : Prop :=
  (e = .cancelled ∧ (evs = gensEvents s t g m ∨
      (s.evalRes t (g + m) = .unsolved ∧ evs = gensEvents s t g m ++ [.eval t (g + m) t (g + m)]))) ∨
  (e = .evalFailed t (g + m) ∧ s.evalRes t (g + m) = .fail ∧ evs = gensEvents s t g m ++ [.eval t (g + m) t (g + m)]) ∨
  (e = .epochFailed ∧ s.evalRes t (g + m) = .unsolved ∧ s.epochFails t (g + m) = true ∧
      evs = gensEvents s t g m ++ [.eval t (g + m) t (g + m)])

theorem GenAbort.shift {s : Script} {t g m : Nat} {evs : List Event} {e : Err}
    (h : GenAbort s t (g + 1) m evs e) : GenAbort s t g (m + 1) (genEvents s t g ++ evs) e := by
  have hg : g + (m + 1) = g + 1 + m := by omega
  unfold GenAbort at *
  rw [hg, gensEvents_succ]
  rcases h with ⟨he, h | ⟨h1, h2⟩⟩ | ⟨he, h1, h2⟩ | ⟨he, h1, h2, h3⟩
  · exact Or.inl ⟨he, Or.inl (by rw [h])⟩
  · exact Or.inl ⟨he, Or.inr ⟨h1, by rw [h2, List.append_assoc]⟩⟩
  · exact Or.inr (Or.inl ⟨he, h1, by rw [h2, List.append_assoc]⟩)
  · exact Or.inr (Or.inr ⟨he, h1, h2, by rw [h3, List.append_assoc]⟩)

theorem genLoop_shape (s : Script) (t : Nat) (fuel g : Nat) (c : Bool) :
    noEvalAfterCancel s (genLoop s t fuel g g c).events c = true ∧
    (∀ c', (genLoop s t fuel g g c).exit = .ok c' →
        (genLoop s t fuel g g c).events = gensEvents s t g (lenFrom s t fuel g) ∧
        (genLoop s t fuel g g c).gens = (List.range' g (lenFrom s t fuel g)).map (genRec s t) ∧
        (∀ j, j < lenFrom s t fuel g → s.evalRes t (g + j) ≠ .fail ∧
            (solvedAt s t (g + j) = true ∨ s.epochFails t (g + j) = false)) ∧
        c' = flagAfter s c (genLoop s t fuel g g c).events) ∧
    (∀ e, (genLoop s t fuel g g c).exit = .error e →
        (∃ m, m < lenFrom s t fuel g ∧ GenAbort s t g m (genLoop s t fuel g g c).events e) ∧
        (e = .cancelled → flagAfter s c (genLoop s t fuel g g c).events = true)) := by
  induction fuel generalizing g c with
  | zero => simp [genLoop, lenFrom, gensEvents, flagAfter, noEvalAfterCancel]
  | succ fuel ih =>
    have hpos : 0 < lenFrom s t (fuel + 1) g := by unfold lenFrom; split <;> omega
    unfold genLoop
    cases c with
    | true =>
      simp only [↓reduceIte, reduceCtorEq, false_imp_iff, implies_true, true_and, Except.error.injEq, noEvalAfterCancel]
      rintro e rfl
      exact ⟨⟨0, hpos, Or.inl ⟨rfl, Or.inl (by simp [gensEvents])⟩⟩, fun _ => by simp [flagAfter]⟩
    | false =>
      simp only [Bool.false_eq_true, ↓reduceIte]
      cases hr : s.evalRes t g with
      | fail =>
        simp only [reduceCtorEq, false_imp_iff, implies_true, true_and, Except.error.injEq]
        refine ⟨by simp [noEvalAfterCancel, isEval], ?_⟩
        rintro e rfl
        exact ⟨⟨0, hpos, Or.inr (Or.inl ⟨rfl, hr, by simp [gensEvents]⟩)⟩, nofun⟩
      | solved =>
        have hs := solvedAt_of_solved hr
        have hl : lenFrom s t (fuel + 1) g = 1 := by simp [lenFrom, hs]
        simp only [Except.ok.injEq, reduceCtorEq, false_imp_iff, implies_true, and_true]
        refine ⟨?_, ?_⟩
        · unfold obs; cases s.observer <;> simp [noEvalAfterCancel, isEval]
        · rintro c' rfl
          rw [hl]
          refine ⟨by simp [gensEvents, genEvents, hs], by simp [genRec, hs], ?_, ?_⟩
          · intro j hj
            obtain rfl : j = 0 := by omega
            simp [hr, hs]
          · rw [flagAfter_cons, flagAfter_obs]; simp [cancelsAt]
      | unsolved =>
        have hs := solvedAt_of_unsolved hr
        have hl : lenFrom s t (fuel + 1) g = lenFrom s t fuel (g + 1) + 1 := by simp [lenFrom, hs]; omega
        by_cases hc1 : s.evalCancels t g = true
        · simp only [hc1, ↓reduceIte, reduceCtorEq, false_imp_iff, implies_true, true_and, Except.error.injEq]
          refine ⟨by simp [noEvalAfterCancel, isEval], ?_⟩
          rintro e rfl
          exact ⟨⟨0, hpos, Or.inl ⟨rfl, Or.inr ⟨hr, by simp [gensEvents]⟩⟩⟩, fun _ => by simp [flagAfter, cancelsAt, hc1]⟩
        · simp only [hc1, Bool.false_eq_true, ↓reduceIte]
          have hc1' : s.evalCancels t g = false := by simpa using hc1
          by_cases hef : s.epochFails t g = true
          · simp only [hef, ↓reduceIte, reduceCtorEq, false_imp_iff, implies_true, true_and, Except.error.injEq]
            refine ⟨by simp [noEvalAfterCancel, isEval], ?_⟩
            rintro e rfl
            exact ⟨⟨0, hpos, Or.inr (Or.inr ⟨rfl, hr, hef, by simp [gensEvents]⟩)⟩, nofun⟩
          · simp only [hef, Bool.false_eq_true, ↓reduceIte]
            obtain ⟨ih0, ih1, ih2⟩ := ih (g + 1) (s.observer && s.evaluatedCancels t g)
            have hge : genEvents s t g = .eval t g t g :: .epoch t g :: obs s (.evaluated t g) := by
              simp [genEvents, hs]
            -- the flag after this generation's three callbacks is the flag the next generation starts with
            have hfl : ∀ rest, flagAfter s false (.eval t g t g :: .epoch t g :: (obs s (.evaluated t g) ++ rest)) =
                flagAfter s (s.observer && s.evaluatedCancels t g) rest := by
              intro rest
              rw [flagAfter_cons, flagAfter_cons, flagAfter_append, flagAfter_obs]
              simp [cancelsAt, hc1']
            refine ⟨?_, ?_, ?_⟩
            · have := noEval_append_obs s (false || s.evalCancels t g || false) (.evaluated t g) rfl
                (genLoop s t fuel (g + 1) (g + 1) (s.observer && s.evaluatedCancels t g)).events
              rw [noEvalAfterCancel, noEvalAfterCancel]
              simp only [cancelsAt] at this ⊢
              rw [this]
              simpa [isEval, hc1'] using ih0
            · intro c' hc'
              obtain ⟨e1, e2, e3, e4⟩ := ih1 c' hc'
              rw [hl, hfl]
              refine ⟨by rw [gensEvents_succ, hge, e1]; simp, by rw [e2]; simp [List.range'_succ, genRec, hs], ?_, e4⟩
              intro j hj
              cases j with
              | zero => simp [hr, hef]
              | succ j =>
                rw [show g + (j + 1) = g + 1 + j by omega]
                exact e3 j (by omega)
            · intro e he
              obtain ⟨⟨m, hm, hab⟩, e2⟩ := ih2 e he
              rw [hfl]
              refine ⟨⟨m + 1, by omega, ?_⟩, e2⟩
              have := hab.shift
              rw [hge] at this
              simpa using this

theorem trialsEvents_zero (s : Script) (t : Nat) : trialsEvents s t 0 = [] := by simp [trialsEvents]
theorem trialsEvents_succ (s : Script) (t k : Nat) :
    trialsEvents s t (k + 1) = trialEvents s t ++ trialsEvents s (t + 1) k := by
  simp [trialsEvents, List.range'_succ]

/-- how a run can be aborted in trial `t`: before the trial starts, or inside its generation loop -/
def TrialAbort (s : Script) (t : Nat) (tail : List Event) (e : Err) : Prop :=
  (e = .spawnFailed ∧ s.spawnOk t = false ∧ tail = []) ∨
  (e = .badExecutor ∧ s.execOk = false ∧ tail = []) ∨
  (∃ m, m < trialLen s t ∧ ∃ evs, GenAbort s t 0 m evs e ∧ tail = obs s (.started t) ++ evs)

theorem trialLoop_shape (s : Script) (fuel t : Nat) (c : Bool) :
    noEvalAfterCancel s (trialLoop s fuel t c).events c = true ∧
    ((trialLoop s fuel t c).err = some .cancelled → flagAfter s c (trialLoop s fuel t c).events = true) ∧
    ∃ k, (trialLoop s fuel t c).trials = (List.range' t k).map (expectedTrial s) ∧ k ≤ fuel ∧
      (∀ j, j < k → noSwallowedError s (t + j) = true) ∧
      ((trialLoop s fuel t c).err = none → k = fuel ∧ (trialLoop s fuel t c).events = trialsEvents s t k) ∧
      (∀ e, (trialLoop s fuel t c).err = some e → k < fuel ∧
          ∃ tail, (trialLoop s fuel t c).events = trialsEvents s t k ++ tail ∧ TrialAbort s (t + k) tail e) := by
  induction fuel generalizing t c with
  | zero => exact ⟨rfl, nofun, 0, by simp [trialLoop, trialsEvents]⟩
  | succ fuel ih =>
    -- a run that ends before trial `t` has started, with error `e0`
    have stop : ∀ e0, TrialAbort s t [] e0 → e0 ≠ .cancelled →
        noEvalAfterCancel s [] c = true ∧ (some e0 = some Err.cancelled → flagAfter s c [] = true) ∧
        ∃ k, ([] : List TrialRec) = (List.range' t k).map (expectedTrial s) ∧ k ≤ fuel + 1 ∧
          (∀ j, j < k → noSwallowedError s (t + j) = true) ∧ (some e0 = none → k = fuel + 1 ∧ [] = trialsEvents s t k) ∧
          (∀ e, some e0 = some e → k < fuel + 1 ∧ ∃ tail, [] = trialsEvents s t k ++ tail ∧ TrialAbort s (t + k) tail e) := by
      intro e0 hab hne
      refine ⟨rfl, fun h => absurd (Option.some.inj h) hne, 0, rfl, by omega, by omega, nofun, ?_⟩
      rintro e ⟨⟩
      exact ⟨by omega, [], by simp [trialsEvents], hab⟩
    unfold trialLoop
    by_cases hsp : s.spawnOk t = true
    · by_cases hex : s.execOk = true
      · simp only [hsp, hex, Bool.not_true, Bool.false_eq_true, ↓reduceIte]
        obtain ⟨g0, g1, g2⟩ := genLoop_shape s t s.maxGen 0 (c || (s.observer && s.startedCancels t))
        cases hexit : (genLoop s t s.maxGen 0 0 (c || (s.observer && s.startedCancels t))).exit with
        | error e =>
          obtain ⟨⟨m, hm, hab⟩, hfl⟩ := g2 e hexit
          refine ⟨?_, ?_, 0, by simp, by omega, by omega, nofun, ?_⟩
          · simp only [noEval_append_obs s c (.started t) rfl, cancelsAt]; exact g0
          · intro he
            simp only [flagAfter_append, flagAfter_obs, cancelsAt]
            exact hfl (Option.some.inj he)
          · rintro e' ⟨⟩
            exact ⟨by omega, _, by simp [trialsEvents], Or.inr (Or.inr ⟨m, hm, _, hab, rfl⟩)⟩
        | ok c2 =>
          obtain ⟨e1, e2, e3, e4⟩ := g1 c2 hexit
          obtain ⟨i0, i1, k, h1, h2, h3, h4, h5⟩ := ih (t + 1) (c2 || (s.observer && s.finishedCancels t))
          have hte : obs s (.started t) ++ ((genLoop s t s.maxGen 0 0 (c || (s.observer && s.startedCancels t))).events ++
              obs s (.finished t)) = trialEvents s t := by
            rw [e1]; rfl
          refine ⟨?_, ?_, k + 1, ?_, by omega, ?_, ?_, ?_⟩
          · simp only [noEval_append_obs s c (.started t) rfl, cancelsAt, noEval_append, g0, ← e4,
              noEval_append_obs s c2 (.finished t) rfl, Bool.true_and]
            exact i0
          · intro he
            simp only [flagAfter_append, flagAfter_obs, cancelsAt, ← e4]
            exact i1 he
          · simp only [List.range'_succ, List.map_cons, h1, List.cons.injEq, and_true]
            simp only [expectedTrial, e2]; rfl
          · intro j hj
            cases j with
            | zero =>
              simp only [noSwallowedError, List.all_eq_true, List.mem_range, Nat.add_zero]
              intro gg hgg
              have := e3 gg hgg
              simp only [Nat.zero_add] at this
              rcases this with ⟨a, b | b⟩ <;> simp [a, b]
            | succ j =>
              rw [show t + (j + 1) = t + 1 + j by omega]
              exact h3 j (by omega)
          · intro hnone
            obtain ⟨hk, hev⟩ := h4 hnone
            exact ⟨by omega, by simp only [hev, trialsEvents_succ, ← hte, List.append_assoc]⟩
          · intro e he
            obtain ⟨hk, tail, hev, hab⟩ := h5 e he
            refine ⟨by omega, tail, by simp only [hev, trialsEvents_succ, ← hte, List.append_assoc], ?_⟩
            rw [show t + (k + 1) = t + 1 + k by omega]
            exact hab
      · have hex' : s.execOk = false := by simpa using hex
        simp only [hsp, hex', Bool.not_true, Bool.false_eq_true, ↓reduceIte, Bool.not_false]
        exact stop _ (Or.inr (Or.inl ⟨rfl, hex', rfl⟩)) nofun
    · have hsp' : s.spawnOk t = false := by simpa using hsp
      simp only [hsp', Bool.not_false, ↓reduceIte]
      exact stop _ (Or.inl ⟨rfl, hsp', rfl⟩) nofun

theorem execute_of_options {s : Script} (ho : s.hasOptions = true) :
    execute s = ((trialLoop s s.runs 0 s.preCancelled).events,
      ⟨(trialLoop s s.runs 0 s.preCancelled).trials, (trialLoop s s.runs 0 s.preCancelled).err⟩) := by
  simp only [execute, ho, Bool.not_true, Bool.false_eq_true, ↓reduceIte]

theorem execute_no_options {s : Script} (ho : s.hasOptions = false) : execute s = ([], ⟨[], some .noOptions⟩) := by
  simp only [execute, ho, Bool.not_false, ↓reduceIte]

/-- **C20 (main theorem).** For EVERY script - any number of runs and generations, any pattern of solved
    generations, evaluator/epoch failures and cancellation points, with or without observer - the output of the
    `Execute` model satisfies the executable protocol specification `Protocol.check` (the predicate the driver
    evaluates on the implementation's output). -/
theorem execute_check (s : Script) : Protocol.check s (execute s).1 (execute s).2 = true := by
  by_cases ho : s.hasOptions = true
  · rw [execute_of_options ho]
    obtain ⟨f1, f2, k, h1, h2, h3, h4, h5⟩ := trialLoop_shape s s.runs 0 s.preCancelled
    have hlen : (trialLoop s s.runs 0 s.preCancelled).trials.length = k := by rw [h1]; simp
    unfold Protocol.check
    simp only [hlen, ho, Bool.true_or, Bool.and_true]
    have hA : ((trialLoop s s.runs 0 s.preCancelled).trials == (List.range' 0 k).map (expectedTrial s)) = true := by
      rw [h1]; simp
    have hB : (List.range k).all (noSwallowedError s) = true := by
      simp only [List.all_eq_true, List.mem_range]
      intro j hj; simpa using h3 j hj
    rw [hA, hB, f1]
    simp only [Bool.and_self, Bool.true_and]
    cases herr : (trialLoop s s.runs 0 s.preCancelled).err with
    | none =>
      obtain ⟨a, b⟩ := h4 herr
      simp [a, b]
    | some e =>
      obtain ⟨hk, tail, hev, hab⟩ := h5 e herr
      simp only [hev, List.take_left', List.drop_left', beq_self_eq_true, Bool.true_and]
      simp only [Nat.zero_add] at hab
      rcases hab with ⟨he, hs, ht⟩ | ⟨he, hs, ht⟩ | ⟨m, hm, evs, hga, ht⟩
      · subst he ht; simp [abortOk, hk, hs]
      · subst he ht; simp [abortOk, hk, hs]
      · subst ht
        rcases hga with ⟨he, hh | ⟨hr, hh⟩⟩ | ⟨he, hr, hh⟩ | ⟨he, hr, hf, hh⟩
        · subst he hh
          have hfl := f2 herr
          rw [hev] at hfl
          simp only [abortOk, hk, decide_true, hfl, Bool.true_and, List.any_eq_true, List.mem_range]
          exact ⟨m, hm, by simp [abortEvents]⟩
        · subst he hh
          have hfl := f2 herr
          rw [hev] at hfl
          simp only [abortOk, hk, decide_true, hfl, Bool.true_and, List.any_eq_true, List.mem_range]
          refine ⟨m, hm, ?_⟩
          simp only [Nat.zero_add] at hr
          simp [abortEvents, hr]
        · subst he hh
          simp only [Nat.zero_add] at hr
          simp [abortOk, hk, hm, hr, abortEvents]
        · subst he hh
          simp only [Nat.zero_add] at hr hf
          simp only [abortOk, hk, decide_true, Bool.true_and, List.any_eq_true, List.mem_range]
          exact ⟨m, hm, by simp [abortEvents, hr, hf]⟩
  · have ho' : s.hasOptions = false := by simpa using ho
    simp [execute_no_options ho', ho', Protocol.check, trialsEvents, abortOk, noEvalAfterCancel]


theorem lenFrom_spec (s : Script) (t fuel g : Nat) :
    lenFrom s t fuel g ≤ fuel ∧ (0 < fuel → 0 < lenFrom s t fuel g) ∧
    (∀ j, j + 1 < lenFrom s t fuel g → solvedAt s t (g + j) = false) ∧
    (lenFrom s t fuel g < fuel → solvedAt s t (g + lenFrom s t fuel g - 1) = true) := by
  induction fuel generalizing g with
  | zero => simp [lenFrom]
  | succ fuel ih =>
    unfold lenFrom
    by_cases hs : solvedAt s t g = true
    · simp only [hs, ↓reduceIte]
      refine ⟨by omega, by omega, by omega, ?_⟩
      intro _; simpa using hs
    · have hs' : solvedAt s t g = false := by simpa using hs
      simp only [hs', Bool.false_eq_true, ↓reduceIte]
      obtain ⟨a, b, c, d⟩ := ih (g + 1)
      refine ⟨by omega, by omega, ?_, ?_⟩
      · intro j hj
        cases j with
        | zero => simpa using hs'
        | succ j =>
          have := c j (by omega)
          have hg : g + (j + 1) = g + 1 + j := by omega
          rw [hg]; exact this
      · intro hlt
        have := d (by omega)
        have hg : g + (1 + lenFrom s t fuel (g + 1)) - 1 = g + 1 + lenFrom s t fuel (g + 1) - 1 := by omega
        rw [hg]; exact this

/-- **C20 (length of a completed trial).** A trial that runs to completion evaluates generations `0 .. trialLen-1`,
    where `trialLen ≤ maxGen`, no generation before the last one is solved, and the trial is shorter than
    `maxGen` only because its last generation is solved: the last generation is the first solved one, or
    `maxGen-1` if none is. -/
theorem trialLen_spec (s : Script) (t : Nat) :
    trialLen s t ≤ s.maxGen ∧ (0 < s.maxGen → 0 < trialLen s t) ∧
    (∀ g, g + 1 < trialLen s t → solvedAt s t g = false) ∧
    (trialLen s t < s.maxGen → solvedAt s t (trialLen s t - 1) = true) := by
  have := lenFrom_spec s t s.maxGen 0
  simpa [trialLen] using this

/-- **C20 (normal return).** If the model of `Execute` returns no error then exactly `runs` trials were recorded,
    trial `t` at position `t` with generations `0 .. trialLen-1` (solved flag as the evaluator reported), and the
    event sequence is the concatenation over `t = 0 .. runs-1` of
    `Started t · (Eval t g [on trial t's population after g turnovers] · Epoch t g [unless g solved] · Evaluated t g)_{g < trialLen} · Finished t`
    (notifications only with an observer). -/
theorem execute_complete (s : Script) (h : (execute s).2.err = none) :
    (execute s).2.trials = (List.range' 0 s.runs).map (expectedTrial s) ∧
    (execute s).1 = trialsEvents s 0 s.runs := by
  by_cases ho : s.hasOptions = true
  · rw [execute_of_options ho] at h ⊢
    obtain ⟨_, _, k, h1, _, _, h4, _⟩ := trialLoop_shape s s.runs 0 s.preCancelled
    obtain ⟨a, b⟩ := h4 h
    subst a
    exact ⟨h1, b⟩
  · rw [execute_no_options (by simpa using ho)] at h
    cases h

/-- **C20 (error return).** If the model of `Execute` returns error `e` (and options were present) then some
    `k < runs` trials were completed and recorded in order, their events are exactly those of `k` completed trials,
    and what follows is the aborted trial `k`: either nothing (spawn / executor selection failed), or
    `Started k`, `m < trialLen` complete generations, and - only when the evaluator itself failed, the turnover
    failed, or the turnover observed the cancellation - the evaluator call of generation `m` as the LAST event.
    The error is the evaluator's own error for exactly that generation, the turnover's error, or the context's
    error; in particular no evaluator call follows the failure. -/
theorem execute_abort (s : Script) (ho : s.hasOptions = true) (e : Err) (h : (execute s).2.err = some e) :
    ∃ k, k < s.runs ∧ (execute s).2.trials = (List.range' 0 k).map (expectedTrial s) ∧
      ∃ tail, (execute s).1 = trialsEvents s 0 k ++ tail ∧ TrialAbort s k tail e := by
  rw [execute_of_options ho] at h ⊢
  obtain ⟨_, _, k, h1, _, _, _, h5⟩ := trialLoop_shape s s.runs 0 s.preCancelled
  obtain ⟨hk, tail, hev, hab⟩ := h5 e h
  exact ⟨k, hk, h1, tail, hev, by simpa using hab⟩

/-- **C20 (cancellation).** For every script: the evaluator is never called once the context has been cancelled
    (before the call or inside any earlier callback), and a returned `cancelled` error means the context really
    was cancelled. -/
theorem execute_cancel (s : Script) :
    noEvalAfterCancel s (execute s).1 s.preCancelled = true ∧
    ((execute s).2.err = some .cancelled → flagAfter s s.preCancelled (execute s).1 = true) := by
  by_cases ho : s.hasOptions = true
  · rw [execute_of_options ho]
    exact ⟨(trialLoop_shape s s.runs 0 s.preCancelled).1, (trialLoop_shape s s.runs 0 s.preCancelled).2.1⟩
  · rw [execute_no_options (by simpa using ho)]
    simp [noEvalAfterCancel]

/-- **C20 (a cancelled context is not ignored).** Split the events of a run anywhere, `pre ++ post`: if the context is
    cancelled after the callbacks of `pre` (or was before the call), no evaluator call occurs in `post`. -/
theorem execute_no_eval_after (s : Script) (pre post : List Event) (h : (execute s).1 = pre ++ post)
    (hc : flagAfter s s.preCancelled pre = true) : ∀ e ∈ post, isEval e = false := by
  have h1 := (execute_cancel s).1
  rw [h] at h1
  have gen : ∀ (l : List Event) (c : Bool), noEvalAfterCancel s l c = true → c = true → ∀ e ∈ l, isEval e = false := by
    intro l
    induction l with
    | nil => simp
    | cons x xs ih =>
      intro c hn hc e he
      simp only [noEvalAfterCancel, Bool.and_eq_true, Bool.not_eq_true', Bool.and_eq_false_imp] at hn
      rcases List.mem_cons.mp he with rfl | hm
      · cases hx : isEval e with
        | false => rfl
        | true => have := hn.1 hx; simp [hc] at this
      · exact ih (c || cancelsAt s x) hn.2 (by simp [hc]) e hm
  rw [noEval_append, Bool.and_eq_true] at h1
  exact gen post _ h1.2 hc

/-! ### the repaired defect (a04f603): machine-checked counterexample against the frozen pre-fix model -/

/-- one run, one generation, reported solved, observer present -/
def solvedOnce : Script := { runs := 1, maxGen := 1, observer := true, evalRes := fun _ _ => .solved }

/-- pre-fix `Execute` notified `TrialRunFinished` twice for a trial that ended with a solved generation -/
theorem C20_double_finish_counterexample :
    (Legacy.execute solvedOnce).1 = [.started 0, .eval 0 0 0 0, .evaluated 0 0, .finished 0, .finished 0] ∧
    Protocol.check solvedOnce (Legacy.execute solvedOnce).1 (Legacy.execute solvedOnce).2 = false ∧
    (execute solvedOnce).1 = [.started 0, .eval 0 0 0 0, .evaluated 0 0, .finished 0] := by decide

/-! ### non-vacuity: the theorems have no hypotheses; these scripts show the interesting paths are inhabited -/

/-- 2 runs × 3 generations; trial 0 solved in generation 1; trial 1: the observer's callback for generation 0
    cancels the context -/
def demo : Script :=
  { runs := 2, maxGen := 3, observer := true,
    evalRes := fun t g => if t == 0 && g == 1 then .solved else .unsolved,
    evaluatedCancels := fun t g => t == 1 && g == 0 }

example : execute demo =
    ([.started 0, .eval 0 0 0 0, .epoch 0 0, .evaluated 0 0, .eval 0 1 0 1, .evaluated 0 1, .finished 0,
      .started 1, .eval 1 0 1 0, .epoch 1 0, .evaluated 1 0],
     ⟨[⟨0, [⟨0, 0, false⟩, ⟨1, 0, true⟩]⟩], some .cancelled⟩) := by decide

example : trialLen demo 0 = 2 ∧ trialLen demo 1 = 3 := by decide

/-- evaluator error in generation 2 of trial 0, no observer -/
example : execute { runs := 2, maxGen := 4, observer := false,
                    evalRes := fun _ g => if g == 2 then .fail else .unsolved } =
    ([.eval 0 0 0 0, .epoch 0 0, .eval 0 1 0 1, .epoch 0 1, .eval 0 2 0 2], ⟨[], some (.evalFailed 0 2)⟩) := by decide

/-- the specification rejects a turnover after the solved generation, a notification before the turnover,
    a missing finish, and a swallowed error -/
example : Protocol.check solvedOnce [.started 0, .eval 0 0 0 0, .epoch 0 0, .evaluated 0 0, .finished 0]
    ⟨[⟨0, [⟨0, 0, true⟩]⟩], none⟩ = false := by decide
example : Protocol.check { solvedOnce with evalRes := fun _ _ => .unsolved }
    [.started 0, .eval 0 0 0 0, .evaluated 0 0, .epoch 0 0, .finished 0] ⟨[⟨0, [⟨0, 0, false⟩]⟩], none⟩ = false := by decide
example : Protocol.check solvedOnce [.started 0, .eval 0 0 0 0, .evaluated 0 0] ⟨[⟨0, [⟨0, 0, true⟩]⟩], none⟩ = false := by decide
example : Protocol.check { solvedOnce with evalRes := fun _ _ => .fail }
    [.started 0, .eval 0 0 0 0, .epoch 0 0, .evaluated 0 0, .finished 0] ⟨[⟨0, [⟨0, 0, false⟩]⟩], none⟩ = false := by decide

section Chronology
set_option linter.unusedSimpArgs false
/-- position of an event inside a run: trial, slot (0 = start, g+1 = generation g, maxGen+1 = finish), phase
    inside the generation (0 = evaluation, 1 = turnover, 2 = notification) -/
def stamp (s : Script) : Event → Nat × Nat × Nat
  | .started t => (t, 0, 0)
  | .eval t g _ _ => (t, g + 1, 0)
  | .epoch t g => (t, g + 1, 1)
  | .evaluated t g => (t, g + 1, 2)
  | .finished t => (t, s.maxGen + 1, 0)

/-- strict lexicographic order on stamps -/
def Before (s : Script) (a b : Event) : Prop :=
  (stamp s a).1 < (stamp s b).1 ∨ ((stamp s a).1 = (stamp s b).1 ∧
    ((stamp s a).2.1 < (stamp s b).2.1 ∨ ((stamp s a).2.1 = (stamp s b).2.1 ∧ (stamp s a).2.2 < (stamp s b).2.2)))

theorem stamp_started (s : Script) (t : Nat) : stamp s (.started t) = (t, 0, 0) := rfl
theorem stamp_finished (s : Script) (t : Nat) : stamp s (.finished t) = (t, s.maxGen + 1, 0) := rfl
theorem stamp_eval (s : Script) (t g a b : Nat) : stamp s (.eval t g a b) = (t, g + 1, 0) := rfl

theorem mem_obs {s : Script} {e x : Event} (h : x ∈ obs s e) : x = e := by
  unfold obs at h; split at h <;> simp_all

theorem genEvents_sublist (s : Script) (t g : Nat) :
    (genEvents s t g).Sublist [.eval t g t g, .epoch t g, .evaluated t g] := by
  unfold genEvents obs
  cases solvedAt s t g <;> cases s.observer <;> simp

theorem stamp_genEvents {s : Script} {t g : Nat} {x : Event} (h : x ∈ genEvents s t g) :
    (stamp s x).1 = t ∧ (stamp s x).2.1 = g + 1 := by
  have := (genEvents_sublist s t g).subset h
  simp only [List.mem_cons, List.not_mem_nil, or_false] at this
  rcases this with rfl | rfl | rfl <;> exact ⟨rfl, rfl⟩

theorem genEvents_pairwise (s : Script) (t g : Nat) : (genEvents s t g).Pairwise (Before s) :=
  (show [Event.eval t g t g, .epoch t g, .evaluated t g].Pairwise (Before s) by simp [Before, stamp]).sublist
    (genEvents_sublist s t g)

theorem stamp_gensEvents {s : Script} {t g n : Nat} {x : Event} (h : x ∈ gensEvents s t g n) :
    (stamp s x).1 = t ∧ g + 1 ≤ (stamp s x).2.1 ∧ (stamp s x).2.1 ≤ g + n := by
  simp only [gensEvents, List.mem_flatMap, List.mem_range'_1] at h
  obtain ⟨j, ⟨h1, h2⟩, hx⟩ := h
  obtain ⟨a, b⟩ := stamp_genEvents hx
  exact ⟨a, by omega, by omega⟩

theorem gensEvents_pairwise (s : Script) (t g n : Nat) : (gensEvents s t g n).Pairwise (Before s) := by
  unfold gensEvents
  rw [List.pairwise_flatMap]
  refine ⟨fun j _ => genEvents_pairwise s t j, ?_⟩
  refine List.Pairwise.imp ?_ (List.pairwise_lt_range' (s := g) (n := n) (step := 1) (by omega))
  intro a b hab x hx y hy
  obtain ⟨x1, x2⟩ := stamp_genEvents hx
  obtain ⟨y1, y2⟩ := stamp_genEvents hy
  right; exact ⟨by omega, Or.inl (by omega)⟩

theorem Before.of_slot {s : Script} {a b : Event} (h1 : (stamp s a).1 = (stamp s b).1)
    (h2 : (stamp s a).2.1 < (stamp s b).2.1) : Before s a b := .inr ⟨h1, .inl h2⟩

theorem trialEvents_prefix (s : Script) (t : Nat) :
    (trialEvents s t).Pairwise (Before s) ∧ ∀ x ∈ trialEvents s t, (stamp s x).1 = t := by
  have hl := (trialLen_spec s t).1
  have hobs : ∀ e, (obs s e).Pairwise (Before s) := fun e => by unfold obs; split <;> simp
  unfold trialEvents
  refine ⟨?_, ?_⟩
  · rw [List.pairwise_append, List.pairwise_append]
    refine ⟨hobs _, ⟨gensEvents_pairwise s t 0 _, hobs _, ?_⟩, ?_⟩
    · intro x hx y hy
      obtain ⟨a, _, c⟩ := stamp_gensEvents hx
      cases mem_obs hy
      exact .of_slot a (by simp only [stamp_finished]; omega)
    · intro x hx y hy
      cases mem_obs hx
      rcases List.mem_append.mp hy with hy | hy
      · obtain ⟨a, b, _⟩ := stamp_gensEvents hy
        exact .of_slot a.symm (by simp only [stamp_started]; omega)
      · cases mem_obs hy
        exact .of_slot rfl (by simp only [stamp_started, stamp_finished]; omega)
  · intro x hx
    rcases List.mem_append.mp hx with hx | hx
    · cases mem_obs hx; rfl
    · rcases List.mem_append.mp hx with hx | hx
      · exact (stamp_gensEvents hx).1
      · cases mem_obs hx; rfl

theorem stamp_trialEvents {s : Script} {t : Nat} {x : Event} (h : x ∈ trialEvents s t) : (stamp s x).1 = t :=
  (trialEvents_prefix s t).2 x h

theorem trialEvents_pairwise (s : Script) (t : Nat) : (trialEvents s t).Pairwise (Before s) :=
  (trialEvents_prefix s t).1

theorem trialsEvents_pairwise (s : Script) (t k : Nat) : (trialsEvents s t k).Pairwise (Before s) := by
  unfold trialsEvents
  rw [List.pairwise_flatMap]
  refine ⟨fun j _ => trialEvents_pairwise s j, ?_⟩
  refine List.Pairwise.imp ?_ (List.pairwise_lt_range' (s := t) (n := k) (step := 1) (by omega))
  intro a b hab x hx y hy
  have := stamp_trialEvents hx
  have := stamp_trialEvents hy
  left; omega

theorem gensEvents_add (s : Script) (t g m n : Nat) :
    gensEvents s t g (m + n) = gensEvents s t g m ++ gensEvents s t (g + m) n := by
  simp only [gensEvents, ← List.range'_append_1, List.flatMap_append]

theorem trialsEvents_add (s : Script) (t k n : Nat) :
    trialsEvents s t (k + n) = trialsEvents s t k ++ trialsEvents s (t + k) n := by
  simp only [trialsEvents, ← List.range'_append_1, List.flatMap_append]

theorem GenAbort.prefix {s : Script} {t g m n : Nat} {evs : List Event} {e : Err} (h : GenAbort s t g m evs e)
    (hm : m < n) : evs <+: gensEvents s t g n := by
  obtain ⟨r, rfl⟩ : ∃ r, n = m + (1 + r) := ⟨n - m - 1, by omega⟩
  rw [gensEvents_add, gensEvents_add]
  have : evs = gensEvents s t g m ++ [] ∨ evs = gensEvents s t g m ++ [.eval t (g + m) t (g + m)] := by
    rcases h with ⟨_, h | ⟨_, h⟩⟩ | ⟨_, _, h⟩ | ⟨_, _, _, h⟩
    · exact .inl (by rw [h, List.append_nil])
    all_goals exact .inr h
  rcases this with rfl | rfl <;> rw [List.prefix_append_right_inj]
  · exact List.nil_prefix
  · exact ⟨_, by simp [gensEvents, genEvents]; rfl⟩

theorem TrialAbort.prefix {s : Script} {t : Nat} {tail : List Event} {e : Err} (h : TrialAbort s t tail e) :
    tail <+: trialEvents s t := by
  rcases h with ⟨_, _, rfl⟩ | ⟨_, _, rfl⟩ | ⟨m, hm, evs, hga, rfl⟩
  · exact List.nil_prefix
  · exact List.nil_prefix
  · exact (List.prefix_append_right_inj _).mpr ((hga.prefix hm).trans (List.prefix_append _ _))

/-- **C20 (an error only cuts the run short).** For every script the events of the run are the first events of
    the run in which all `runs` trials complete; so order has to be proved of complete trials only. -/
theorem execute_prefix (s : Script) : (execute s).1 <+: trialsEvents s 0 s.runs := by
  by_cases ho : s.hasOptions = true
  · cases herr : (execute s).2.err with
    | none => rw [(execute_complete s herr).2]; exact List.prefix_rfl
    | some e =>
      obtain ⟨k, hk, _, tail, hev, hab⟩ := execute_abort s ho e herr
      obtain ⟨r, hr⟩ : ∃ r, s.runs = k + (1 + r) := ⟨s.runs - k - 1, by omega⟩
      rw [hev, hr, trialsEvents_add, trialsEvents_add, List.prefix_append_right_inj, Nat.zero_add]
      exact hab.prefix.trans (by simp [trialsEvents])
  · rw [execute_no_options (by simpa using ho)]
    exact List.nil_prefix

/-- **C20 (exactly once, in order).** For every script the events of the run are strictly increasing in
    (trial, slot, phase): trials in order 0,1,2,...; inside a trial the start notification, then generations
    0,1,2,... each as evaluation < turnover < notification, then the finish notification after the last generation.
    In particular NO event occurs twice: no trial is started or finished twice, no generation evaluated, turned over
    or notified twice. -/
theorem execute_chronological (s : Script) : (execute s).1.Pairwise (Before s) :=
  (trialsEvents_pairwise s 0 s.runs).sublist (execute_prefix s).sublist


theorem Before.irrefl (s : Script) (a : Event) : ¬ Before s a a := by
  unfold Before; omega

/-- **C20 (no duplicate notification or evaluation).** -/
theorem execute_nodup (s : Script) : (execute s).1.Nodup := by
  have := execute_chronological s
  exact this.imp (fun {a b} h hab => by subst hab; exact Before.irrefl s a h)

end Chronology

end GoNeat.C20
