/-
  Property C01 — every genetic operator and epoch yields only well-formed genomes.
  Kind A: every theorem holds for every scalar type `W`, every random stream, every registry and all options.

  The invariant preserved is `WFT g` = `WF g` (Spec/WF.lean) ∧ no trait has id 0 (`TraitWithId` treats 0 as "no
  trait"; the property's quantifier says "trait ids consecutive as in every shipped genome", i.e. 1…n) ∧ every node kind
  is one of the four valid ones (`KindsValid`), and on the
  registry side `RegInv reg g` = `RegCompat` ∧ `CounterAbove` ∧ `RegOk` (Spec/WFReg.lean).
-/
import GoNeat.Model.GenesisOk
import GoNeat.Proofs.WFLemmas
import GoNeat.Proofs.WFParam
import GoNeat.Proofs.WFStruct
import GoNeat.Proofs.WFMate
import GoNeat.Proofs.WFPop
import GoNeat.Proofs.WFMate2
import GoNeat.Proofs.WFStep
import GoNeat.Proofs.WFClose
import GoNeat.Proofs.WFPrepare
import GoNeat.Props.C06
import GoNeat.Proofs.ScalarInt
import GoNeat.Proofs.ReproCases
import GoNeat.Proofs.RegistrySteps

namespace GoNeat.C01
open GoNeat Scalar
variable {W : Type} [Scalar W]

/-- **`geneInsert` keeps the gene list strictly ascending** when the new innovation number is not present, and
    the result is a permutation of old + new. -/
theorem geneInsert_sorted (genes : List (Gene W)) (x : Gene W) (hs : GenesSorted genes)
    (hnew : ∀ y ∈ genes, y.inn ≠ x.inn) :
    GenesSorted (geneInsert genes x) ∧ (geneInsert genes x).Perm (x :: genes) :=
  insertAt_sorted (fun y : Gene W => y.inn) genes x hs hnew

/-- **`nodeInsert` keeps the node list strictly ascending** when the new id is not present; permutation of old + new. -/
theorem nodeInsert_sorted (nodes : List Node) (n : Node) (hs : NodesSorted nodes) (hnew : ∀ m ∈ nodes, m.id ≠ n.id) :
    NodesSorted (nodeInsert nodes n) ∧ (nodeInsert nodes n).Perm (n :: nodes) :=
  insertAt_sorted (fun m : Node => m.id) nodes n hs hnew

/-- the equal-key branch exactly as the code has it: a gene whose number equals the *last* number is appended
    behind it; otherwise the gene is placed after all smaller numbers, i.e. directly *before* a gene with the same
    number.  Either way the result then carries the number twice (not strictly ascending) — which is why every
    caller guards the insertion (`haveGene` / `haveNode`). -/
theorem geneInsert_spec (genes : List (Gene W)) (x : Gene W) (hs : GenesSorted genes) :
    geneInsert genes x =
      if (genes.map (·.inn)).getLast? = some x.inn then genes ++ [x]
      else genes.filter (fun y => decide (y.inn < x.inn)) ++ x :: genes.filter (fun y => !decide (y.inn < x.inn)) :=
  insertAt_spec (fun y : Gene W => y.inn) genes x hs

theorem nodeInsert_spec (nodes : List Node) (n : Node) (hs : NodesSorted nodes) :
    nodeInsert nodes n =
      if (nodes.map (·.id)).getLast? = some n.id then nodes ++ [n]
      else nodes.filter (fun m => decide (m.id < n.id)) ++ n :: nodes.filter (fun m => !decide (m.id < n.id)) :=
  insertAt_spec (fun m : Node => m.id) nodes n hs

/-! ## expression: a well-formed genome passes every error exit of `Genome.Genesis` -/

theorem genesis_ok (g : Genome W) (h : WF g) : genesisErr g = none := by
  unfold genesisErr
  have h1 : g.genes.isEmpty = false := by
    cases hg : g.genes with
    | nil => exact absurd hg h.hasGene
    | cons _ _ => rfl
  have h2 : g.nodes.any (·.kind == Kind.output) = true := by
    obtain ⟨n, hn, hk⟩ := h.hasOutput
    exact List.any_eq_true.mpr ⟨n, hn, by simp [hk]⟩
  have h3 : g.genes.any (fun x => x.en && !(g.hasNode x.src && g.hasNode x.dst)) = false := by
    apply List.any_eq_false.mpr
    intro x hx
    obtain ⟨hs, hd⟩ := h.endpoints x hx
    have e1 : g.hasNode x.src = true := C06.nodeById_isSome g.nodes x.src hs
    have e2 : g.hasNode x.dst = true := C06.nodeById_isSome g.nodes x.dst hd
    simp [e1, e2]
  rw [h1, h2, h3]; rfl

/-- **`duplicate` preserves well-formedness** (it returns the same genome under a new id) -/
theorem duplicate_wf (g : Genome W) (newId : Int) (h : WFT g) (hm : g.modules = []) :
    ∃ d, g.duplicate newId = .ok d ∧ d = { g with id := newId } ∧ WFT d ∧ Retains g d ∧ SameSkel g d := by
  have hrefs : C06.RefsOk g := by
    refine ⟨h.wf.traitRefs, h.wf.endpoints, ?_, ?_⟩ <;> simp [hm]
  refine ⟨_, C06.duplicate_exact g newId hrefs, rfl, ?_, ?_, ?_⟩
  · exact (SameSkel.wft (g := g) ⟨rfl, rfl, rfl, rfl⟩ h.wf.traitRefs h)
  · exact Retains.refl g
  · exact ⟨rfl, rfl, rfl, rfl⟩

/-! ## the six parametric mutators and their composition `mutateAllNonstructural`

Shape of every theorem: well-formed in ⇒ well-formed out, every input/bias/output node retained, and — for *every*
registry — `RegCompat`/`CounterAbove`/`RegOk` (`RegInv`) carried over; the step keeps the skeleton (`SameSkel`:
innovation numbers, links, node ids and kinds, trait ids), which is what the population-level closure uses. -/

theorem param_step {g g' : Genome W} (hs : SameSkel g g' ∧ TraitRefsOwned g') (hw : WFT g) :
    WFT g' ∧ Retains g g' ∧ (∀ reg : Reg W, RegInv reg g → RegInv reg g') ∧ SameSkel g g' :=
  ⟨hs.1.wft hs.2 hw, hs.1.retains, fun reg hi => hs.1.regInv reg hi, hs.1⟩

theorem mutateLinkWeights_wf (g g' : Genome W) (power rate : W) (mt : WeightMutator) (rs rs' : List Nat)
    (hw : WFT g) (h : mutateLinkWeights g power rate mt rs = .ok (g', rs')) :
    WFT g' ∧ Retains g g' ∧ (∀ reg : Reg W, RegInv reg g → RegInv reg g') ∧ SameSkel g g' :=
  param_step ((ParamRel.linkWeights h).skel hw.tnz hw.wf.traitRefs) hw

theorem mutateRandomTrait_wf (g g' : Genome W) (o : MutOpts W) (rs rs' : List Nat)
    (hw : WFT g) (h : mutateRandomTrait g o rs = .ok (g', rs')) :
    WFT g' ∧ Retains g g' ∧ (∀ reg : Reg W, RegInv reg g → RegInv reg g') ∧ SameSkel g g' :=
  param_step ((ParamRel.randomTrait h).skel hw.tnz hw.wf.traitRefs) hw

theorem mutateLinkTrait_wf (times : Nat) (g g' : Genome W) (rs rs' : List Nat)
    (hw : WFT g) (h : mutateLinkTrait g times rs = .ok (g', rs')) :
    WFT g' ∧ Retains g g' ∧ (∀ reg : Reg W, RegInv reg g → RegInv reg g') ∧ SameSkel g g' :=
  param_step ((ParamRel.linkTrait h).skel hw.tnz hw.wf.traitRefs) hw

theorem mutateNodeTrait_wf (times : Nat) (g g' : Genome W) (rs rs' : List Nat)
    (hw : WFT g) (h : mutateNodeTrait g times rs = .ok (g', rs')) :
    WFT g' ∧ Retains g g' ∧ (∀ reg : Reg W, RegInv reg g → RegInv reg g') ∧ SameSkel g g' :=
  param_step ((ParamRel.nodeTrait h).skel hw.tnz hw.wf.traitRefs) hw

theorem mutateToggleEnable_wf (times : Nat) (g g' : Genome W) (rs rs' : List Nat)
    (hw : WFT g) (h : mutateToggleEnable g times rs = .ok (g', rs')) :
    WFT g' ∧ Retains g g' ∧ (∀ reg : Reg W, RegInv reg g → RegInv reg g') ∧ SameSkel g g' :=
  param_step ((ParamRel.toggleEnable h).skel hw.tnz hw.wf.traitRefs) hw

theorem mutateGeneReEnable_wf (g g' : Genome W) (hw : WFT g) (h : mutateGeneReEnable g = .ok g') :
    WFT g' ∧ Retains g g' ∧ (∀ reg : Reg W, RegInv reg g → RegInv reg g') ∧ SameSkel g g' :=
  param_step ((ParamRel.reEnable h).skel hw.tnz hw.wf.traitRefs) hw

theorem mutateAllNonstructural_wf (g g' : Genome W) (o : MutOpts W) (rs rs' : List Nat)
    (hw : WFT g) (h : mutateAllNonstructural g o rs = .ok (g', rs')) :
    WFT g' ∧ Retains g g' ∧ (∀ reg : Reg W, RegInv reg g → RegInv reg g') ∧ SameSkel g g' :=
  param_step ((ParamRel.all h).skel hw.tnz hw.wf.traitRefs) hw

/-! ## add-link

The `linkExists` test of the search loop excludes a duplicate link and a sensor target; the `haveGene` guard
together with `RegCompat` excludes a duplicate innovation number when the number comes from a record; a fresh
number exceeds every number of the genome by `CounterAbove`. -/

theorem linkTail_closed {g g' : Genome W} {reg reg' : Reg W} {s d : Int} {r : Bool}
    (ht : MutateLemmas.LinkTail g reg s d r g' reg') (hw : WFT g) (hi : RegInv reg g)
    (hs : s ∈ nodeIds g) (hd : d ∈ nodeIds g) (hsens : ∀ n ∈ g.nodes, n.id = d → n.isSensor = false)
    (hno : ∀ y ∈ g.genes, ¬ (y.src = s ∧ y.dst = d ∧ y.recur = r)) : StructOut g reg g' reg' ∧ g'.nodes = g.nodes := by
  have hlink : ∀ x : Gene W, x.link = (s, d, r) → ∀ y ∈ g.genes, y.link ≠ x.link := by
    intro x hx y hy e
    rw [hx] at e
    unfold Gene.link at e
    simp only [Prod.mk.injEq] at e
    exact hno y hy e
  have hk : C03.Keeps g reg g' reg' := fun _ L _ _ => (C03.LinkTail.step ht).keeps L
  have hri := hk.regInv hi
  cases ht with
  | @recorded i tr hf htr hh =>
    have hmem : i ∈ reg.records := List.mem_of_find?_eq_some hf
    obtain ⟨ht2, hin, hout, hrec⟩ := (C03.linkMatch_iff _ _ _ i).mp (List.find?_some hf)
    have hinn := haveGene_false g _ hw.wf.genesSorted hh (by
      intro y hy e
      rw [(hi.compat i hmem).1 ht2 y hy e, hin, hout, hrec]; rfl)
    have hwf := addGene_wft g _ hw hinn (hlink _ rfl) hs hd hsens (traitAt_ok g _ tr htr hw.tnz)
    exact ⟨⟨hwf, hri, hk, fun hb => C16.lstep_addGene g _ hw hwf (fun h0 hh0 => (hb h0 hh0 i hmem).1 ht2)⟩, rfl⟩
  | @fresh tn w tr hf htr =>
    have hinn : ∀ y ∈ g.genes, y.inn ≠ reg.nextInn + 1 := by
      intro y hy; have := hi.above.1 y hy; omega
    have hwf := addGene_wft g { inn := reg.nextInn + 1, src := s, dst := d, recur := r, w := w, mnum := w, en := true, trait := tr }
      hw hinn (hlink _ rfl) hs hd hsens (traitAt_ok g _ tr htr hw.tnz)
    refine ⟨⟨hwf, hri, hk, fun _ => C16.lstep_addGene g _ hw hwf (fun h0 hh0 => ?_)⟩, rfl⟩
    have := hi.above.1 h0 (List.mem_of_mem_take hh0)
    show h0.inn < reg.nextInn + 1
    omega

theorem mutateAddLink_inv {g g' : Genome W} {reg reg' : Reg W} {o : MutOpts W} {rs rs' : List Nat} {b : Bool}
    (hw : WFT g) (hi : RegInv reg g) (h : mutateAddLink g reg o rs = .ok ((g', reg', b), rs')) :
    StructOut g reg g' reg' ∧ g'.nodes = g.nodes := by
  rcases MutateLemmas.mutateAddLink_cases h with ⟨_, rfl, rfl⟩ | ⟨_, n1, hn1, n2, hn2, r, hsens, hno, ht⟩
  · exact ⟨.refl hw hi, rfl⟩
  · refine linkTail_closed ht hw hi (List.mem_map_of_mem hn1) (List.mem_map_of_mem hn2) (fun n hn e => ?_) hno
    rw [node_unique g.nodes hw.wf.nodesSorted n n2 hn hn2 e]
    exact hsens

theorem mutateAddLink_wf (g g' : Genome W) (reg reg' : Reg W) (o : MutOpts W) (rs rs' : List Nat) (b : Bool)
    (hw : WFT g) (hi : RegInv reg g) (h : mutateAddLink g reg o rs = .ok ((g', reg', b), rs')) :
    WFT g' ∧ Retains g g' ∧ RegInv reg' g' :=
  let ⟨⟨w, i, _⟩, n⟩ := mutateAddLink_inv hw hi h
  ⟨w, Retains.of_nodes_eq _ _ n, i⟩

/-! ## connect-sensors

One link tail per non-sensor node that the sensor does not reach yet; the invariant `WFT ∧ RegInv` (node list
unchanged) is carried through the loop. -/

theorem connectLoop_inv (sensor : Node) (outs : List Node) {g g' : Genome W} {reg reg' : Reg W} {added b : Bool}
    {rs rs' : List Nat} (hw : WFT g) (hi : RegInv reg g) (hs : sensor ∈ g.nodes)
    (ho : ∀ o ∈ outs, o ∈ g.nodes ∧ o.isSensor = false)
    (h : connectLoop sensor outs g reg added rs = .ok ((g', reg', b), rs')) : StructOut g reg g' reg' ∧ g'.nodes = g.nodes := by
  induction outs generalizing g reg added rs with
  | nil =>
    obtain ⟨rfl, rfl, _⟩ := MutateLemmas.connectLoop_nil h
    exact ⟨.refl hw hi, rfl⟩
  | cons o os ih =>
    rcases MutateLemmas.connectLoop_cons h with ⟨_, _, h⟩ | ⟨hno, g1, reg1, rs1, ht, h⟩
    · exact ih hw hi hs (fun x hx => ho x (List.mem_cons_of_mem _ hx)) h
    · obtain ⟨hom, hos⟩ := ho o List.mem_cons_self
      obtain ⟨⟨w1, i1, k1, s1⟩, n1⟩ := linkTail_closed ht hw hi (List.mem_map_of_mem hs) (List.mem_map_of_mem hom)
        (fun n hn e => by rw [node_unique g.nodes hw.wf.nodesSorted n o hn hom e]; exact hos)
        (fun y hy e => hno y hy ⟨e.1, e.2.1⟩)
      obtain ⟨⟨w2, i2, k2, s2⟩, n2⟩ := ih w1 i1 (by rw [n1]; exact hs)
        (fun x hx => by rw [n1]; exact ho x (List.mem_cons_of_mem _ hx)) h
      exact ⟨⟨w2, i2, k1.trans k2, fun hb => (s1 hb).trans (s2 (k1.hbr hi hb (s1 hb)))⟩, n2.trans n1⟩

theorem mutateConnectSensors_inv {g g' : Genome W} {reg reg' : Reg W} {rs rs' : List Nat} {b : Bool}
    (hw : WFT g) (hi : RegInv reg g) (h : mutateConnectSensors g reg rs = .ok ((g', reg', b), rs')) :
    StructOut g reg g' reg' ∧ g'.nodes = g.nodes := by
  rcases MutateLemmas.mutateConnectSensors_cases h with ⟨_, rfl, rfl⟩ | ⟨sensor, hs, _, _, _, h⟩
  · exact ⟨.refl hw hi, rfl⟩
  · refine connectLoop_inv sensor _ hw hi hs (fun o ho => ?_) h
    have := List.mem_filter.mp ho
    exact ⟨this.1, by simpa using this.2⟩

theorem mutateConnectSensors_wf (g g' : Genome W) (reg reg' : Reg W) (rs rs' : List Nat) (b : Bool)
    (hw : WFT g) (hi : RegInv reg g) (h : mutateConnectSensors g reg rs = .ok ((g', reg', b), rs')) :
    WFT g' ∧ Retains g g' ∧ RegInv reg' g' :=
  let ⟨⟨w, i, _⟩, n⟩ := mutateConnectSensors_inv hw hi h
  ⟨w, Retains.of_nodes_eq _ _ n, i⟩

/-! ## add-node

The chosen gene is disabled first (a skeleton-preserving step); then either a matching record supplies node id and
the two numbers — the `haveNode` guard plus `RegCompat` exclude both a duplicate node and duplicate numbers — or all
three are fresh (`CounterAbove`).  On the "node already in this genome" exit the genome keeps the disabled gene and
is still well-formed. -/

theorem splitAt_closed {g : Genome W} {k : Nat} {old : Gene W} {n i1 i2 : Int} {act : Nat} {tr0 : Option Int} (hw : WFT g)
    (hk : g.genes[k]? = some old) (htr : traitAt g 0 = .ok tr0) (hnid : n ∉ nodeIds g)
    (h1 : ∀ y ∈ g.genes, y.inn ≠ i1) (h2 : ∀ y ∈ g.genes, y.inn ≠ i2) (h12 : i1 ≠ i2) :
    WFT (MutateLemmas.splitAt g k old n i1 i2 act tr0) ∧ Retains g (MutateLemmas.splitAt g k old n i1 i2 act tr0) ∧
    ((∀ h0 ∈ g.genes.take 1, h0.inn < i1 ∧ h0.inn < i2) → C16.LStep g (MutateLemmas.splitAt g k old n i1 i2 act tr0)) := by
  have hgm : old ∈ g.genes := List.mem_of_getElem? hk
  obtain ⟨hskel, _, hkeys⟩ := setEnabledAt_step g k false hw.wf.traitRefs
  obtain ⟨hs1, hw1, _⟩ := C16.lstep_disable g k hw
  have htrg : TraitRefOk g old.trait := hw.wf.traitRefs.1 old hgm
  have hold1 : ∀ i : Int, (∀ y ∈ g.genes, y.inn ≠ i) → ∀ y ∈ setEnabledAt g.genes k false, y.inn ≠ i := by
    intro i hi y hy
    obtain ⟨z, hz, e, _⟩ := hkeys y hy
    rw [← (geneKey_eq e).1]
    exact hi z hz
  have hwf : WFT (MutateLemmas.splitAt g k old n i1 i2 act tr0) :=
    addSplit_wft ({ g with genes := setEnabledAt g.genes k false } : Genome W) _ _ _ hw1 hnid rfl
      (traitAt_ok _ _ tr0 htr hw.tnz) ⟨rfl, (hw.wf.endpoints old hgm).1, htrg⟩ ⟨rfl, (hw.wf.endpoints old hgm).2, htrg⟩
      (hw.wf.noSensorTarget old hgm) (hold1 i1 h1) (hold1 i2 h2) h12
  refine ⟨hwf, Retains.of_nodes_sub _ _ (fun m hm => (mem_insertAt _ _ _ _).mpr (Or.inr hm)), fun hlt => ?_⟩
  -- the disabled genome starts with the same number
  have hlt' : ∀ h0 ∈ setEnabledAt g.genes k false |>.take 1, h0.inn < i1 ∧ h0.inn < i2 := by
    intro h0 hh
    have he := hskel.head
    rw [mem_take_one.mp hh] at he
    obtain ⟨f, hf, e⟩ := Option.map_eq_some_iff.mp he.symm
    have e : f.inn = h0.inn := e
    exact e ▸ hlt f (mem_take_one.mpr hf)
  exact hs1.trans (C16.lstep_addSplit ({ g with genes := setEnabledAt g.genes k false } : Genome W) _ _ _ hw1 hwf rfl
    (fun h0 hh => (hlt' h0 hh).1) (fun h0 hh => (hlt' h0 hh).2))

theorem mutateAddNode_inv {g g' : Genome W} {reg reg' : Reg W} {o : MutOpts W} {rs rs' : List Nat} {b : Bool}
    (hw : WFT g) (hi : RegInv reg g) (h : mutateAddNode g reg o rs = .ok ((g', reg', b), rs')) :
    StructOut g reg g' reg' ∧ Retains g g' := by
  have hk := C03.mutateAddNode_keeps h
  have hri := hk.regInv hi
  cases MutateLemmas.mutateAddNode_cases h with
  | noop => exact ⟨.refl hw hi, Retains.refl _⟩
  | @known k old i hk' hsp hf hn =>
    obtain ⟨hskel, hrefs1, _⟩ := setEnabledAt_step g k false hw.wf.traitRefs
    exact ⟨⟨hskel.wft hrefs1 hw, hri, hk, fun _ => C16.lstep_of_skel hskel⟩, hskel.retains⟩
  | @recorded k old i tr0 hk' hsp hf hn htr =>
    have hmem : i ∈ reg.records := List.mem_of_find?_eq_some hf
    obtain ⟨ht, hin, hout, _⟩ := (C03.nodeMatch_iff _ _ _ i).mp (List.find?_some hf)
    have hnid : i.newNode ∉ nodeIds g := not_mem_nodeIds_of_hasNode g _ hn
    have hc := (hi.compat i hmem).2 ht
    obtain ⟨hwf, hret, hstep⟩ := splitAt_closed (act := defaultActivation) hw hk' htr hnid
      (fun y hy e => hnid ((hc.1 y hy e).2 ▸ (hw.wf.endpoints y hy).2))
      (fun y hy e => hnid ((hc.2.1 y hy e).1 ▸ (hw.wf.endpoints y hy).1)) ((hi.ok.2 i hmem i hmem).2.2 ht ht).2.2
    exact ⟨⟨hwf, hri, hk, fun hb => hstep (fun h0 hh => (hb h0 hh i hmem).2 ht)⟩, hret⟩
  | @fresh k old tr0 act hk' hsp hf htr =>
    have hnid : reg.nextNode + 1 ∉ nodeIds g := by
      intro hm
      obtain ⟨m, hm', e⟩ := List.mem_map.mp hm
      have := hi.above.2 m hm'
      omega
    have hinn : ∀ y ∈ g.genes, y.inn ≤ reg.nextInn := hi.above.1
    obtain ⟨hwf, hret, hstep⟩ := splitAt_closed (act := act) hw hk' htr hnid
      (i1 := reg.nextInn + 1) (i2 := reg.nextInn + 1 + 1) (fun y hy => by have := hinn y hy; omega)
      (fun y hy => by have := hinn y hy; omega) (by omega)
    refine ⟨⟨hwf, hri, hk, fun _ => hstep (fun h0 hh => ?_)⟩, hret⟩
    have := hinn h0 (List.mem_of_mem_take hh)
    constructor <;> omega

theorem mutateAddNode_wf (g g' : Genome W) (reg reg' : Reg W) (o : MutOpts W) (rs rs' : List Nat) (b : Bool)
    (hw : WFT g) (hi : RegInv reg g) (h : mutateAddNode g reg o rs = .ok ((g', reg', b), rs')) :
    WFT g' ∧ Retains g g' ∧ RegInv reg' g' :=
  let ⟨⟨w, i, _⟩, r⟩ := mutateAddNode_inv hw hi h
  ⟨w, r, i⟩

/-! ## the three crossovers

The child under construction satisfies `AccInv` from the prologue on (averaged traits with the first parent's ids,
copies of the second parent's input/bias/output nodes) and every "add the chosen gene to the baby" keeps it:
links stay distinct *because of* the same-link conflict check, endpoints are added as nodes before the gene, trait
pointers are re-targeted into the child's traits.  The walks collect genes in strictly ascending innovation order.
`SameLineage` (a node id has one role in both parents, same input/bias/output ids) gives "no link into a sensor"
and the retention of the first parent's input/bias/output nodes. -/

/-- multipoint crossover, under the node/trait part of the lineage hypothesis only -/
theorem mateMultipoint_node (g og : Genome W) (id : Int) (f1 f2 : W) (rs rs' : List Nat) (c : Genome W)
    (hw1 : WFT g) (hw2 : WFT og) (hl : NodeLineage g og)
    (h : mateMultipoint g og id f1 f2 rs = .ok (c, rs')) : WFT c ∧ Retains og c ∧ Retains g c := by
  obtain ⟨nt, acc, rfl, hids, hacc, hs, hne, _⟩ := mateMultipoint_out g og id f1 f2 rs rs' c hw1 hw2 h
  exact child_wft g og nt acc id hacc hs (hne (fun h => nomatch h)) hw1 hw2 hl hids

/-- averaging multipoint crossover, under the node/trait part of the lineage hypothesis only -/
theorem mateMultipointAvg_node (g og : Genome W) (id : Int) (f1 f2 : W) (rs rs' : List Nat) (c : Genome W)
    (hw1 : WFT g) (hw2 : WFT og) (hl : NodeLineage g og)
    (h : mateMultipointAvg g og id f1 f2 rs = .ok (c, rs')) : WFT c ∧ Retains og c ∧ Retains g c := by
  obtain ⟨nt, acc, rfl, hids, hacc, hs, hne, _⟩ := mateMultipointAvg_out g og id f1 f2 rs rs' c hw1 hw2 h
  exact child_wft g og nt acc id hacc hs (hne (fun h => nomatch h)) hw1 hw2 hl hids

/-  Full-strength statement of the property for single-point crossover (FALSE of the code, see
    `C01_singlepoint_counterexample` below — known finding K1):

      theorem mateSinglePoint_wf_full (hw1 : WFT g) (hw2 : WFT og) (hl : SameLineage g og)
          (h : mateSinglePoint g og id rs = .ok (c, rs')) : WFT c ∧ Retains og c ∧ Retains g c

    What is proved: the same under the additional hypothesis `SharedHead g og` (first genes carry the same innovation
    number), which holds in every population spawned from one genome. -/

/-- single-point crossover, under the node/trait part of the lineage hypothesis and `SharedHead` -/
theorem mateSinglePoint_node (g og : Genome W) (id : Int) (rs rs' : List Nat) (c : Genome W)
    (hw1 : WFT g) (hw2 : WFT og) (hl : NodeLineage g og) (hh : SharedHead g og)
    (h : mateSinglePoint g og id rs = .ok (c, rs')) : WFT c ∧ Retains og c ∧ Retains g c := by
  obtain ⟨nt, acc, rfl, hids, hacc, hs, hne, _⟩ := mateSinglePoint_out g og id rs rs' c hw1 hw2 h
  exact child_wft g og nt acc id hacc hs (hne (fun _ => hh)) hw1 hw2 hl hids

/-- **multipoint crossover preserves well-formedness** (parents of one lineage) -/
theorem mateMultipoint_wf (g og : Genome W) (id : Int) (f1 f2 : W) (rs rs' : List Nat) (c : Genome W)
    (hw1 : WFT g) (hw2 : WFT og) (hl : SameLineage g og)
    (h : mateMultipoint g og id f1 f2 rs = .ok (c, rs')) : WFT c ∧ Retains og c ∧ Retains g c :=
  mateMultipoint_node g og id f1 f2 rs rs' c hw1 hw2 (nodeLineage_of_sameLineage hl) h

/-- **averaging multipoint crossover preserves well-formedness** (parents of one lineage) -/
theorem mateMultipointAvg_wf (g og : Genome W) (id : Int) (f1 f2 : W) (rs rs' : List Nat) (c : Genome W)
    (hw1 : WFT g) (hw2 : WFT og) (hl : SameLineage g og)
    (h : mateMultipointAvg g og id f1 f2 rs = .ok (c, rs')) : WFT c ∧ Retains og c ∧ Retains g c :=
  mateMultipointAvg_node g og id f1 f2 rs rs' c hw1 hw2 (nodeLineage_of_sameLineage hl) h

/-- **single-point crossover preserves well-formedness for parents of one lineage that share their first gene** -/
theorem C01_singlepoint_partial (g og : Genome W) (id : Int) (rs rs' : List Nat) (c : Genome W)
    (hw1 : WFT g) (hw2 : WFT og) (hl : SameLineage g og) (hh : SharedHead g og)
    (h : mateSinglePoint g og id rs = .ok (c, rs')) : WFT c ∧ Retains og c ∧ Retains g c :=
  mateSinglePoint_node g og id rs rs' c hw1 hw2 (nodeLineage_of_sameLineage hl) hh h

omit [Scalar W] in
theorem nodes_le_last (nodes : List Node) (hs : NodesSorted nodes) (last : Node) (hl : nodes.getLast? = some last) :
    ∀ n ∈ nodes, n.id ≤ last.id :=
  pairwise_le_last (fun x : Node => x.id) nodes hs last hl

theorem spawn_reg (o : EpochOpts W) (g : Genome W) (rs rs' : List Nat) (p : Pop W) (h : spawn o g rs = .ok (p, rs')) :
    p.reg.records = [] ∧ RegInv p.reg g := by
  obtain ⟨_, orgs, lastNode, nextInn, _, hln, hni, _, hsp⟩ := spawn_ok h
  rw [(speciateLoop_perm hsp).2.2.2]
  refine ⟨rfl, by intro i hi; simp at hi, ⟨?_, ?_⟩, ⟨by intro i hi; simp at hi, by intro i hi; simp at hi⟩⟩
  · intro x hx
    -- the accessor takes the maximum over all genes (goNEAT fix 48b1f99)
    exact g.nextGeneInnov_gt _ hni x hx
  · intro n hn
    have := g.lastNodeId_ge _ hln n hn
    show n.id ≤ lastNode + 1
    omega

/-- **every member of a spawned population is well-formed**, has the start genome's skeleton (so retains all its
    input/bias/output nodes, is of its lineage and shares its first gene), and the population's registry starts in a
    state that satisfies the registry invariant for every member: no records, counters at/above every number in use -/
theorem spawn_wf (o : EpochOpts W) (g : Genome W) (rs rs' : List Nat) (p : Pop W) (hw : WFT g) (hm : g.modules = [])
    (h : spawn o g rs = .ok (p, rs')) :
    ∀ x ∈ allOrgs p, WFT x.genome ∧ Retains g x.genome ∧ SameSkel g x.genome ∧ RegInv p.reg x.genome := by
  have hig := (spawn_reg o g rs rs' p h).2
  obtain ⟨_, orgs, _, _, hloop, _, _, _, hsp⟩ := spawn_ok h
  have hmem := spawnLoop_members g hw hm _ _ _ _ _ _ hloop
  intro x hx
  rcases (speciateLoop_orgs o _ _ _ hsp).1 x hx with h' | h'
  · simp [allOrgs] at h'
  · obtain ⟨w, s⟩ := hmem x h'
    exact ⟨w, s.retains, s, s.regInv _ hig⟩

/-! ## population-level closure, part 1: what a structural mutation does to the node set and the first gene

`C16.LStep g g'`: old nodes stay, a new node is hidden, trait ids and modules are untouched, and the first gene keeps its
number (new genes carry numbers above it: fresh ones by `CounterAbove`, recorded ones by `HeadBelowRecords`).  The
registry side - it only grows by records made of fresh numbers, a new node's id is fresh or recorded - is `C03.Keeps`. -/

theorem mutateAddLink_step (g g' : Genome W) (reg reg' : Reg W) (o : MutOpts W) (rs rs' : List Nat) (b : Bool)
    (hw : WFT g) (hi : RegInv reg g) (hb : HeadBelowRecords reg g)
    (h : mutateAddLink g reg o rs = .ok ((g', reg', b), rs')) : C16.LStep g g' :=
  (mutateAddLink_inv hw hi h).1.2.2.2 hb

theorem mutateConnectSensors_step (g g' : Genome W) (reg reg' : Reg W) (rs rs' : List Nat) (b : Bool)
    (hw : WFT g) (hi : RegInv reg g) (hb : HeadBelowRecords reg g)
    (h : mutateConnectSensors g reg rs = .ok ((g', reg', b), rs')) : C16.LStep g g' :=
  (mutateConnectSensors_inv hw hi h).1.2.2.2 hb

theorem mutateAddNode_step (g g' : Genome W) (reg reg' : Reg W) (o : MutOpts W) (rs rs' : List Nat) (b : Bool)
    (hw : WFT g) (hi : RegInv reg g) (hb : HeadBelowRecords reg g)
    (h : mutateAddNode g reg o rs = .ok ((g', reg', b), rs')) : C16.LStep g g' :=
  (mutateAddNode_inv hw hi h).1.2.2.2 hb

/-! ## population-level closure, part 2: every operator keeps the pool invariant

`Fits reg P g`: `g` is well-formed (`WFT`), non-modular, satisfies `RegInv reg`, its first gene is below every recorded
number, and it is of the node lineage of, and shares its first gene with, every member of the pool `P`.
`PoolOk reg P`: every member of `P` fits.  (The gene clause of `SameLineage` — one number, one link — is not needed
for well-formedness; it is property C03.) -/

theorem dup_closed {reg : Reg W} {P : List (Genome W)} {g d : Genome W} (id : Int) (hf : Fits reg P g)
    (h : g.duplicate id = .ok d) : Fits reg P d := by
  obtain ⟨d', hd', rfl, _, _, hs⟩ := duplicate_wf g id hf.wft hf.nomod
  rw [hd'] at h
  cases h
  exact hf.skel hs (hs.wft hf.wft.wf.traitRefs hf.wft).wf.traitRefs

theorem nonstructural_closed {reg : Reg W} {P : List (Genome W)} {g g' : Genome W} (o : MutOpts W)
    (rs rs' : List Nat) (hf : Fits reg P g) (h : mutateAllNonstructural g o rs = .ok (g', rs')) : Fits reg P g' := by
  obtain ⟨w, _, _, hs⟩ := mutateAllNonstructural_wf g g' o rs rs' hf.wft h
  exact hf.skel hs w.wf.traitRefs

theorem _root_.GoNeat.StructStep.closed {o : MutOpts W} {reg reg' : Reg W} {P : List (Genome W)} {g g' : Genome W}
    (h : StructStep o g reg g' reg') (hP : PoolOk reg P) (hf : Fits reg P g) : Fits reg' P g' ∧ PoolOk reg' P := by
  cases h with
  | none hg hr => rw [hg, hr]; exact ⟨hf, hP⟩
  | node b rs rs' h => exact (mutateAddNode_inv hf.wft hf.rinv h).1.closed hP hf
  | link b rs rs' h => exact (mutateAddLink_inv hf.wft hf.rinv h).1.closed hP hf
  | sensors b rs rs' h => exact (mutateConnectSensors_inv hf.wft hf.rinv h).1.closed hP hf

theorem _root_.GoNeat.ParamStep.closed {o : MutOpts W} {reg : Reg W} {P : List (Genome W)} {g g' : Genome W}
    (h : ParamStep o g g') (hf : Fits reg P g) : Fits reg P g' := by
  cases h with
  | none hg => rw [hg]; exact hf
  | weights power rate mt rs rs' h => exact (mutateLinkWeights_wf g g' power rate mt rs rs' hf.wft h).elim fun w hs => hf.skel hs.2.2 w.wf.traitRefs
  | all rs rs' h => exact nonstructural_closed o rs rs' hf h

theorem _root_.GoNeat.Grown.closed {o : MutOpts W} {reg reg' : Reg W} {P : List (Genome W)} {g g' : Genome W}
    (h : Grown o g reg g' reg') (hP : PoolOk reg P) (hf : Fits reg P g) : Fits reg' P g' ∧ PoolOk reg' P := by
  obtain ⟨gm, hs, hp⟩ := h
  obtain ⟨f, p⟩ := hs.closed hP hf
  exact ⟨hp.closed f, p⟩

/-- the mutation chain applied to a fresh baby genome (`Species.reproduce`) -/
theorem mutateBaby_closed {reg reg' : Reg W} {P : List (Genome W)} {g g' : Genome W} (o : EpochOpts W)
    (rs rs' : List Nat) (b : Bool) (hP : PoolOk reg P) (hf : Fits reg P g)
    (h : mutateBaby o g reg rs = .ok ((g', reg', b), rs')) : Fits reg' P g' ∧ PoolOk reg' P :=
  (mutateBaby_grown h).closed hP hf

theorem mate_closed {reg : Reg W} {P : List (Genome W)} {mom dad : Org W} {g0 : Genome W} {id : Int} {rs rs' : List Nat}
    (fm : Fits reg P mom.genome) (fd : Fits reg P dad.genome) (hd : dad.genome ∈ P)
    (hmate : mateMultipoint mom.genome dad.genome id mom.originalFitness dad.originalFitness rs = .ok (g0, rs') ∨
      mateMultipointAvg mom.genome dad.genome id mom.originalFitness dad.originalFitness rs = .ok (g0, rs') ∨
      mateSinglePoint mom.genome dad.genome id rs = .ok (g0, rs')) : Fits reg P g0 := by
  have hl : NodeLineage mom.genome dad.genome := fm.nodes _ hd
  have hh : SharedHead mom.genome dad.genome := fm.head _ hd
  rcases hmate with hc | hc | hc
  · exact child_closed fm fd hl hh (mateMultipoint_out _ _ _ _ _ _ _ _ fm.wft fd.wft hc)
  · exact child_closed fm fd hl hh (mateMultipointAvg_out _ _ _ _ _ _ _ _ fm.wft fd.wft hc)
  · exact child_closed fm fd hl hh (mateSinglePoint_out _ _ _ _ _ _ fm.wft fd.wft hc)

theorem _root_.GoNeat.Source.closed {s : Species W} {sorted : List (Species W)} {champ : Org W} {g0 : Genome W}
    (h : Source s sorted champ g0) {reg : Reg W} {P : List (Genome W)} (hP : PoolOk reg P) (hchamp : champ.genome ∈ P)
    (hs : ∀ x ∈ s.orgs, x.genome ∈ P) (hsorted : ∀ sp ∈ sorted, ∀ x ∈ sp.orgs, x.genome ∈ P) : Fits reg P g0 := by
  cases h with
  | dup p id g0 hp hd =>
    have hm : p.genome ∈ P := by
      rcases hp with rfl | hp
      · exact hchamp
      · exact hs p hp
    exact dup_closed id (hP _ hm) hd
  | mate mom dad g0 id rs rs' hmom hdad hmate =>
    have hd : dad.genome ∈ P := by
      rcases hdad with hd | ⟨sp, hsp, hd⟩
      · exact hs dad hd
      · exact hsorted sp hsp dad hd
    exact mate_closed (hP _ (hs mom hmom)) (hP _ hd) hd hmate

/-- the pool during the reproduction of a generation: the genomes of the current generation and the babies so far -/
def poolOf (P0 : List (Genome W)) (st : ReproState W) : List (Genome W) := P0 ++ st.babies.map (·.genome)

/-- **one offspring**: whatever branch `Species.reproduce` takes (super-champion clone with or without mutation, champion
    clone, mutation only, mating with or without mutation; mate from the same or another species; any of the three
    crossovers), the pool invariant holds for the pool extended by the baby, under the registry after the baby -/
theorem reproduceOne_closed (o : EpochOpts W) (generation : Int) (s : Species W) (sorted : List (Species W))
    (champ : Org W) (count : Int) (st st' : ReproState W) (rs rs' : List Nat) (P0 : List (Genome W))
    (hchamp : champ.genome ∈ P0) (hs : ∀ x ∈ s.orgs, x.genome ∈ P0)
    (hsorted : ∀ sp ∈ sorted, ∀ x ∈ sp.orgs, x.genome ∈ P0)
    (hP : PoolOk st.reg (poolOf P0 st))
    (h : reproduceOne o generation s sorted champ count st rs = .ok (st', rs')) : PoolOk st'.reg (poolOf P0 st') := by
  obtain ⟨g0, g1, hsrc, hgrown, _, _, _, _, hbab, _⟩ := reproduceOne_baby h
  have f0 : Fits st.reg (poolOf P0 st) g0 := hsrc.closed hP (List.mem_append_left _ hchamp)
    (fun x hx => List.mem_append_left _ (hs x hx)) (fun sp hsp x hx => List.mem_append_left _ (hsorted sp hsp x hx))
  obtain ⟨f1, p1⟩ := hgrown.closed hP f0
  unfold poolOf at p1 f1 ⊢
  rw [hbab, List.map_append, ← List.append_assoc]
  exact p1.add f1

/-- **`Species.reproduce` keeps the pool invariant** for the pool extended by all its babies -/
theorem reproduceSpecies_closed (o : EpochOpts W) (generation : Int) (s : Species W) (sorted : List (Species W))
    (reg reg' : Reg W) (uid uid' : Nat) (rs rs' : List Nat) (babies : List (Org W)) (P0 : List (Genome W))
    (hs : ∀ x ∈ s.orgs, x.genome ∈ P0) (hsorted : ∀ sp ∈ sorted, ∀ x ∈ sp.orgs, x.genome ∈ P0)
    (hP : PoolOk reg P0)
    (h : reproduceSpecies o generation s sorted reg uid rs = .ok ((babies, reg', uid'), rs')) :
    PoolOk reg' (P0 ++ babies.map (·.genome)) := by
  obtain ⟨champ, st, hc, hloop, rfl, rfl, _⟩ := reproduceSpecies_ok h
  refine reproduceLoop_induct (I := fun _ st => PoolOk st.reg (poolOf P0 st)) ?_ hloop (by simpa [poolOf] using hP)
  intro _ count st rs st' rs' hI hone
  exact reproduceOne_closed o generation s sorted champ count st st' rs rs' P0 (hs champ (List.mem_of_mem_head? hc)) hs hsorted hI hone

theorem reproduceAll_closed (o : EpochOpts W) (generation : Int) (sorted ss : List (Species W)) (reg reg' : Reg W)
    (uid uid' : Nat) (babies babies' : List (Org W)) (rs rs' : List Nat) (P0 : List (Genome W))
    (hss : ∀ s ∈ ss, ∀ x ∈ s.orgs, x.genome ∈ P0) (hsorted : ∀ sp ∈ sorted, ∀ x ∈ sp.orgs, x.genome ∈ P0)
    (hP : PoolOk reg (P0 ++ babies.map (·.genome)))
    (h : reproduceAll o generation sorted ss reg uid babies rs = .ok ((babies', reg', uid'), rs')) :
    PoolOk reg' (P0 ++ babies'.map (·.genome)) := by
  refine reproduceAll_induct (I := fun _ r _ bs _ => PoolOk r (P0 ++ bs.map (·.genome))) ?_ h hP
  intro s _ hs reg uid acc rs bs reg1 uid1 rs1 hI hsp
  have h1 := reproduceSpecies_closed o generation s sorted reg reg1 uid uid1 rs rs1 bs (P0 ++ acc.map (·.genome))
    (fun x hx => List.mem_append_left _ (hss s hs x hx))
    (fun sp hsp' x hx => List.mem_append_left _ (hsorted sp hsp' x hx)) hI hsp
  simpa [List.append_assoc] using h1

def genomesOfPop (p : Pop W) : List (Genome W) := (allOrgs p).map (·.genome)

omit [Scalar W] in
theorem mem_genomesOfPop {p : Pop W} {g : Genome W} : g ∈ genomesOfPop p ↔ ∃ s ∈ p.species, ∃ x ∈ s.orgs, x.genome = g := by
  unfold genomesOfPop
  simp only [List.mem_map, mem_allOrgs]
  constructor
  · rintro ⟨x, ⟨s, hs, hx⟩, e⟩; exact ⟨s, hs, x, hx, e⟩
  · rintro ⟨s, hs, x, hx, e⟩; exact ⟨x, ⟨s, hs, hx⟩, e⟩

omit [Scalar W] in
theorem genomesOfPop_mapOrgs {u : Org W → Org W} (hg : ∀ x, (u x).genome = x.genome) (p : Pop W) :
    genomesOfPop (mapOrgs u p) = genomesOfPop p := by
  simp only [genomesOfPop, allOrgs_eq, orgsOf_mapOrgs, List.map_map, Function.comp_def, hg]

omit [Scalar W] in
theorem genomesOfPop_sub {p q : Pop W} (h : GenomesSub q.species p.species) : ∀ g ∈ genomesOfPop q, g ∈ genomesOfPop p := by
  intro g hg
  obtain ⟨s, hs, x, hx, rfl⟩ := mem_genomesOfPop.mp hg
  exact mem_genomesOfPop.mpr (h s hs x hx)

omit [Scalar W] in
theorem PoolOk.subset {reg : Reg W} {P P' : List (Genome W)} (h : PoolOk reg P) (hsub : ∀ g ∈ P', g ∈ P) : PoolOk reg P' :=
  fun g hg => let f := h g (hsub g hg)
    ⟨f.wft, f.nomod, f.rinv, f.hbr, fun b hb => f.nodes b (hsub b hb), fun b hb => f.head b (hsub b hb)⟩

omit [Scalar W] in
theorem PoolOk.mono_right {reg : Reg W} {X P P' : List (Genome W)} (h : PoolOk reg (X ++ P)) (hsub : ∀ g ∈ P', g ∈ P) :
    PoolOk reg (X ++ P') :=
  h.subset fun g hg => (List.mem_append.mp hg).elim (List.mem_append_left _) (fun hx => List.mem_append_right _ (hsub g hx))

omit [Scalar W] in
theorem PoolOk.reid {reg : Reg W} {P P' : List (Genome W)} (h : PoolOk reg P)
    (hre : ∀ g' ∈ P', ∃ g ∈ P, g' = { g with id := g'.id }) : PoolOk reg P' :=
  h.skel fun g' hg' => let ⟨g, hg, e⟩ := hre g' hg'
    ⟨g, hg, e ▸ ⟨rfl, rfl, rfl, rfl⟩, e ▸ (h g hg).wft.wf.traitRefs⟩

omit [Scalar W] in
theorem PoolOk.clear {reg : Reg W} {P : List (Genome W)} (h : PoolOk reg P) : PoolOk { reg with records := [] } P := by
  intro g hg
  have f := h g hg
  exact ⟨f.wft, f.nomod, ⟨by intro i hi; simp at hi, f.rinv.above, ⟨by intro i hi; simp at hi, by intro i hi; simp at hi⟩⟩,
         by intro h0 _ i hi; simp at hi, f.nodes, f.head⟩

/-- **the pool invariant passes the join**: if it holds, under the registry of the population the babies are filed into,
    for the members of that population and the babies, it holds for the finalised population -/
theorem join_closed (X : List (Genome W)) {o : EpochOpts W} {q p2 : Pop W} {babies : List (Org W)}
    (hsp : speciateLoop o q babies = .ok p2) (hP : PoolOk q.reg ((X ++ genomesOfPop q) ++ babies.map (·.genome))) :
    PoolOk (finalizeReproduction p2).reg (X ++ genomesOfPop (finalizeReproduction p2)) := by
  rw [(join_fields hsp).1]
  refine (hP.reid fun g' hg' => ?_).clear
  rcases List.mem_append.mp hg' with hx | hg'
  · exact ⟨g', List.mem_append_left _ (List.mem_append_left _ hx), rfl⟩
  · obtain ⟨x, hx, rfl⟩ := List.mem_map.mp hg'
    obtain ⟨y, hy, e⟩ := join_from hsp x hx
    refine ⟨y.genome, ?_, congrArg Org.genome e⟩
    rcases hy with hb | ⟨ho, _⟩
    · exact List.mem_append_right _ (List.mem_map_of_mem hb)
    · exact List.mem_append_left _ (List.mem_append_right _ (List.mem_map_of_mem ho))

/-- **the reproduction phase followed by finalisation keeps the pool invariant**: every genome of the new
    generation is well-formed, they are pairwise of one node lineage and share their first gene, and the registry
    invariant holds for each.  `X` is a list of ghost members (e.g. the start genome) carried along. -/
theorem reproduce_finalize_closed (X : List (Genome W)) (o : EpochOpts W) (generation : Int) (p1 p2 : Pop W) (ex : ExecState)
    (rs rs' : List Nat) (hP : PoolOk p1.reg (X ++ genomesOfPop p1)) (h : reproducePhase o generation p1 ex rs = .ok (p2, rs')) :
    PoolOk (finalizeReproduction p2).reg (X ++ genomesOfPop (finalizeReproduction p2)) := by
  obtain ⟨babies, reg, uid, t⟩ := reproducePhase_renewal h
  have hmem : ∀ s ∈ p1.species, ∀ x ∈ s.orgs, x.genome ∈ X ++ genomesOfPop p1 :=
    fun s hs x hx => List.mem_append_right _ (mem_genomesOfPop.mpr ⟨s, hs, x, hx, rfl⟩)
  exact join_closed X t.spec (reproduceAll_closed o generation _ p1.species p1.reg reg p1.nextUid uid [] babies rs rs'
    (X ++ genomesOfPop p1) hmem (fun sp hsp => hmem sp (C08.sortedOf_sub ex p1 sp hsp)) (by simpa using hP) t.repro)

/-- **C01, epoch closure.**  If every genome of a population fits (`PoolOk`: well-formed, pairwise of one node lineage,
    sharing the first gene, registry invariant), then so does every genome of the population `NextEpoch` returns —
    for every fitness assignment, every option setting and every random stream. -/
theorem nextEpoch_closed (X : List (Genome W)) (o : EpochOpts W) (generation : Int) (p p' : Pop W) (rs rs' : List Nat)
    (hP : PoolOk p.reg (X ++ genomesOfPop p)) (h : nextEpoch o generation p rs = .ok (p', rs')) :
    PoolOk p'.reg (X ++ genomesOfPop p') := by
  obtain ⟨p1, ex, rs1, p2, hprep, hrep, rfl⟩ := nextEpoch_ok h
  obtain ⟨hsub, hreg⟩ := prepare_genomes o p p1 ex rs rs1 hprep
  have hP1 : PoolOk p1.reg (X ++ genomesOfPop p1) := hreg ▸ hP.mono_right (genomesOfPop_sub hsub)
  exact reproduce_finalize_closed X o generation p1 p2 ex rs1 rs' hP1 hrep

/-- what happens to a population between and during epochs: fitness evaluation changes no genome and not the
    registry; an epoch is `nextEpoch` with any options, generation number and random stream -/
inductive Evolves : Pop W → Pop W → Prop where
  | refl (p : Pop W) : Evolves p p
  | eval {p q r : Pop W} : Evolves p q → (∀ g ∈ genomesOfPop r, g ∈ genomesOfPop q) → r.reg = q.reg → Evolves p r
  | epoch {p q r : Pop W} (o : EpochOpts W) (generation : Int) (rs rs' : List Nat) :
      Evolves p q → nextEpoch o generation q rs = .ok (r, rs') → Evolves p r

/-- **C01, any number of epochs** -/
theorem evolves_closed (X : List (Genome W)) (p q : Pop W) (hP : PoolOk p.reg (X ++ genomesOfPop p)) (h : Evolves p q) :
    PoolOk q.reg (X ++ genomesOfPop q) := by
  induction h with
  | refl => exact hP
  | eval _ hsub hreg ih =>
    rw [hreg]
    exact ih.mono_right hsub
  | epoch o generation rs rs' _ hstep ih => exact nextEpoch_closed X o generation _ _ rs rs' ih hstep

/-- **a spawned population satisfies the pool invariant**, together with its start genome as ghost member -/
theorem spawn_poolOk (o : EpochOpts W) (g : Genome W) (rs rs' : List Nat) (p : Pop W) (hw : WFT g) (hm : g.modules = [])
    (h : spawn o g rs = .ok (p, rs')) : PoolOk p.reg ([g] ++ genomesOfPop p) := by
  obtain ⟨hrec, hig⟩ := spawn_reg o g rs rs' p h
  have h0 : PoolOk p.reg [g] := fun a ha => by
    rw [List.mem_singleton.mp ha]
    refine ⟨hw, hm, hig, fun _ _ i hi => ?_, fun b hb => ?_, fun b hb => ?_⟩
    · rw [hrec] at hi; cases hi
    · rw [List.mem_singleton.mp hb]; exact .refl g hw.wf.nodesSorted
    · rw [List.mem_singleton.mp hb]; rfl
  refine h0.skel fun a ha => ⟨g, List.mem_singleton_self g, ?_⟩
  rcases List.mem_append.mp ha with ha | ha
  · rw [List.mem_singleton.mp ha]
    exact ⟨.refl g, hw.wf.traitRefs⟩
  · obtain ⟨x, hx, rfl⟩ := List.mem_map.mp ha
    obtain ⟨wa, _, ska, _⟩ := spawn_wf o g rs rs' p hw hm h x hx
    exact ⟨ska, wa.wf.traitRefs⟩

/-- **C01 for whole evolutionary runs**: every genome of every population reachable from a population spawned from a
    well-formed non-modular start genome — by any number of epochs with any options, any fitness values and any random
    streams — is well-formed, retains every input/bias/output node of the start genome, and passes every error exit of
    `Genesis` -/
theorem evolution_wf (o : EpochOpts W) (g : Genome W) (rs rs' : List Nat) (p q : Pop W) (hw : WFT g) (hm : g.modules = [])
    (h : spawn o g rs = .ok (p, rs')) (he : Evolves p q) :
    ∀ x ∈ genomesOfPop q, WFT x ∧ Retains g x ∧ genesisErr x = none ∧ SharedHead x g := by
  have hq := evolves_closed [g] p q (spawn_poolOk o g rs rs' p hw hm h) he
  intro x hx
  have f := hq x (List.mem_append_right _ hx)
  exact ⟨f.wft, retains_of_nodeLineage g x (f.nodes g (by simp)), genesis_ok x f.wft.wf, f.head g (by simp)⟩

/-! ## known finding K1 (machine-checked witness) and non-vacuity of the hypotheses -/

section Witnesses
open GoNeat.ExactInt

/-- parent with the single gene 5 (a recurrent-free link hidden→output) -/
def k1a : Genome Int :=
  { id := 1, traits := [⟨1, []⟩],
    nodes := [⟨1, Kind.input, 4, some 1⟩, ⟨2, Kind.output, 4, some 1⟩, ⟨3, Kind.hidden, 4, some 1⟩],
    genes := [⟨5, 3, 2, false, 0, 0, true, some 1⟩] }
/-- parent with the genes 1, 2 -/
def k1b : Genome Int :=
  { id := 2, traits := [⟨1, []⟩],
    nodes := [⟨1, Kind.input, 4, some 1⟩, ⟨2, Kind.output, 4, some 1⟩, ⟨3, Kind.hidden, 4, some 1⟩],
    genes := [⟨1, 1, 2, false, 0, 0, true, some 1⟩, ⟨2, 1, 3, false, 0, 0, true, some 1⟩] }

/-- the K1 parents are well-formed and of one lineage; only `SharedHead` fails -/
example : WFT k1a ∧ WFT k1b ∧ SameLineage k1a k1b ∧ ¬ SharedHead k1a k1b := by decide

/-- **K1: single-point crossover of well-formed parents of one lineage without a common first gene returns a
    genome with no genes** ([5] × [1,2]; the walk breaks on its first iteration with `chosenGene == nil`).  So the
    full-strength single-point clause of C01 is false of the code; `C01_singlepoint_partial` needs `SharedHead`. -/
theorem C01_singlepoint_counterexample :
    (mateSinglePoint k1a k1b 7 [0]).toOption.map (fun r => r.1.genes.length) = some 0 := by
  simp [mateSinglePoint, matePrologue, mateTraits, traitAvg, ioNodes, childTraitRef, nodeInsert, insertAt, insertIndex,
    Rand.intn, Rand.int31OfRaw, singlePointWalk, k1a, k1b, Kind.input, Kind.output, Kind.hidden, Kind.bias,
    Except.toOption, List.zipWith]

/-- the gene-less child is not well-formed and `Genesis` rejects it -/
example : genesisErr ({ id := 7, traits := [⟨1, []⟩], nodes := k1a.nodes, genes := [] } : Genome Int) = some "genesis:noGenes" := by
  decide

/-- an evolved genome: hidden node 4 splits gene 1 (1→3), genes 4 and 5 are the two halves, gene 6 is an added link -/
def ev1 : Genome Int :=
  { id := 1, traits := [⟨1, [0]⟩, ⟨2, [0]⟩],
    nodes := [⟨1, Kind.input, 4, some 1⟩, ⟨2, Kind.bias, 4, none⟩, ⟨3, Kind.output, 4, some 2⟩, ⟨4, Kind.hidden, 4, some 1⟩],
    genes := [⟨1, 1, 3, false, 0, 0, false, some 1⟩, ⟨2, 2, 3, false, 0, 0, true, none⟩,
              ⟨4, 1, 4, false, 1, 0, true, some 1⟩, ⟨5, 4, 3, false, 0, 0, true, some 1⟩, ⟨6, 2, 4, false, 0, 0, true, some 2⟩] }
/-- its sibling without the added link but with a recurrent self-loop on the hidden node -/
def ev2 : Genome Int :=
  { ev1 with id := 2, genes := [⟨1, 1, 3, false, 0, 0, false, some 1⟩, ⟨2, 2, 3, false, 0, 0, true, none⟩,
              ⟨4, 1, 4, false, 1, 0, true, some 1⟩, ⟨5, 4, 3, false, 0, 0, true, some 1⟩, ⟨7, 4, 4, true, 0, 0, true, none⟩] }
/-- the registry of their generation: the node split of gene 1 and the two added links -/
def evReg : Reg Int :=
  { records := [⟨1, 1, 3, 4, 5, 0, 0, 4, 1, false⟩, ⟨2, 2, 4, 6, 0, 0, 1, 0, 0, false⟩, ⟨2, 4, 4, 7, 0, 0, 0, 0, 0, true⟩],
    nextInn := 7, nextNode := 5 }

/-- hypotheses of the mutator theorems are satisfiable with a registry holding records of both kinds that match genes
    of the genome -/
example : WFT ev1 ∧ RegInv evReg ev1 ∧ WFT ev2 ∧ RegInv evReg ev2 := by decide
/-- hypotheses of the crossover theorems -/
example : WFT ev1 ∧ WFT ev2 ∧ SameLineage ev1 ev2 ∧ SharedHead ev1 ev2 := by decide
/-- hypotheses of the insertion lemmas: a mid-list insertion -/
example : GenesSorted ev1.genes ∧ (∀ y ∈ ev1.genes, y.inn ≠ 3) ∧
    (geneInsert ev1.genes ⟨3, 2, 4, false, 0, 0, true, none⟩).map (·.inn) = [1, 2, 3, 4, 5, 6] := by decide
/-- the equal-key branch: a second gene 4 lands directly before the old gene 4; a second gene 6 (= last) behind it -/
example : (geneInsert ev1.genes ⟨4, 2, 4, false, 9, 0, true, none⟩).map (fun x => (x.inn, x.w)) =
      [(1, 0), (2, 0), (4, 9), (4, 1), (5, 0), (6, 0)] ∧
    (geneInsert ev1.genes ⟨6, 2, 4, false, 9, 0, true, none⟩).map (fun x => (x.inn, x.w)) =
      [(1, 0), (2, 0), (4, 1), (5, 0), (6, 0), (6, 9)] := by decide
/-- duplication and spawning: the hypotheses (well-formed, non-modular) -/
example : WFT ev1 ∧ ev1.modules = [] := by decide
/-- the pool invariant of the population-level theorems holds for the two evolved siblings under their registry
    (and fails as soon as a member does not share the first gene: the K1 parents) -/
example : PoolOk evReg [ev1, ev2] ∧ HeadBelowRecords evReg ev1 ∧ ¬ PoolOk { evReg with records := [] } [k1a, k1b] := by decide

/-! concrete successful runs (the `… = ok` hypotheses are satisfiable): a scalar whose unit draw is the raw value
    itself lets a stream steer every branch -/
@[instance_reducible] def drawScalar : Scalar Int :=
  { intScalar with ofUnit63 := fun x => (x : Int), ofDec := fun m _ => (m : Int) }
section Runs
attribute [local instance] drawScalar
def mo : MutOpts Int := { recurOnlyProb := 0, newLinkTries := 3, activators := [4], activatorProbs := [1], traitMutationPower := 0, traitParamMutProb := 0, weightMutPower := 0, mutateRandomTraitProb := 1, mutateLinkTraitProb := 1, mutateNodeTraitProb := 1, mutateLinkWeightsProb := 1, mutateToggleEnableProb := 1, mutateGeneReenableProb := 1 }
/-- a genome whose input node 1 is not connected -/
def cs : Genome Int :=
  { id := 3, traits := [⟨1, [0]⟩],
    nodes := [⟨1, Kind.input, 4, some 1⟩, ⟨2, Kind.bias, 4, none⟩, ⟨3, Kind.output, 4, some 1⟩],
    genes := [⟨2, 2, 3, false, 0, 0, true, none⟩] }
example : WFT cs ∧ RegInv evReg cs := by decide +kernel
/-- add-link on `ev2` finds the open link 2→4, for which the registry holds number 6: the gene is inserted
    *mid-list* (between 5 and 7), the counter does not move -/
example : (mutateAddLink ev2 evReg mo [5, 1<<<32, 1<<<32, 1<<<32, 2<<<32, 3<<<32]).toOption.map
    (fun r => (r.1.2.2, r.1.1.genes.map (·.inn), r.1.2.1.nextInn)) = some (true, [1, 2, 4, 5, 6, 7], 7) := by decide +kernel
/-- add-node on `ev2` splits gene 4 with fresh numbers 8, 9 and fresh node id 6 -/
example : (mutateAddNode ev2 evReg mo [2, 2, 2]).toOption.map
    (fun r => (r.1.2.2, r.1.1.genes.map (·.inn), r.1.1.nodes.map (·.id), r.1.2.1.nextInn)) =
    some (true, [1, 2, 4, 5, 7, 8, 9], [1, 2, 3, 4, 6], 9) := by decide +kernel
/-- connect-sensors wires the unconnected input with a fresh number -/
example : (mutateConnectSensors cs evReg [0, 0, 1, 3]).toOption.map
    (fun r => (r.1.2.2, r.1.1.genes.map (fun x => (x.inn, x.src, x.dst)), r.1.2.1.nextInn)) =
    some (true, [(2, 2, 3), (8, 1, 3)], 8) := by decide +kernel
/-- all six parametric stages run (the disabled gene 1 is re-enabled, trait pointers move) -/
example : (mutateAllNonstructural ev1 mo (List.replicate 40 0)).toOption.map
    (fun r => (r.1.genes.map (fun x => (x.inn, x.en, x.trait)), r.1.nodes.map (·.trait))) =
    some ([(1, true, some 1), (2, true, none), (4, true, some 1), (5, true, some 1), (6, true, some 2)],
          [some 1, none, some 2, some 1]) := by decide +kernel
end Runs

end Witnesses

end GoNeat.C01
