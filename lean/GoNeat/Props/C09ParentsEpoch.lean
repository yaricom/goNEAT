/-
  Property C09, the parent cut over the whole preparation phase: after `prepareForReproduction` every species that
  keeps a quota consists of exactly the top `floor(survival_thresh*n + 1)` organisms of the species as it was sorted by
  adjusted fitness — the marks set by `adjustFitness` survive quota assignment, fix-up, sorting, stolen babies /
  delta coding and the write-back unchanged, and `purgeOrganisms` removes exactly the marked organisms.  Kind A.
-/
import GoNeat.Props.C09Parents
import GoNeat.Proofs.ListLemmas
import GoNeat.Props.C02Epoch

namespace GoNeat.C09
open GoNeat Scalar
variable {W : Type} [Scalar W]

theorem foldl_fixed {α β} (g : Option α → β → Option α) (x : α) (hg : ∀ s, g (some x) s = some x) (l : List β) :
    l.foldl g (some x) = some x := by
  induction l with
  | nil => rfl
  | cons b bs ih => simp only [List.foldl_cons, hg, ih]

theorem findOrg_of_mem (p : Pop W) (hnd : (C02.orgUids p.species).Nodup) (s : Species W) (hs : s ∈ p.species) (x : Org W) (hx : x ∈ s.orgs) :
    p.findOrg x.uid = some x := by
  unfold Pop.findOrg
  generalize p.species = ss at hnd hs
  -- invariant of the fold: the accumulator is `none` until the species holding `x` is reached
  suffices h : ∀ (acc : Option (Org W)), (acc = none ∨ acc = some x) →
      ss.foldl (fun acc s => match acc with | some o => some o | none => s.orgs.find? (·.uid == x.uid)) acc = some x ∨
      (acc = none ∧ ∀ s' ∈ ss, x ∉ s'.orgs) by
    rcases h none (Or.inl rfl) with h1 | ⟨_, h2⟩
    · exact h1
    · exact absurd hx (h2 s hs)
  induction ss with
  | nil => cases hs
  | cons a as ih =>
    intro acc hacc
    simp only [List.foldl_cons]
    rcases hacc with rfl | rfl
    · simp only
      simp only [C02.orgUids_cons, List.nodup_append] at hnd
      by_cases hxa : x ∈ a.orgs
      · have hfind : a.orgs.find? (fun y => y.uid == x.uid) = some x := by
          apply find_unique _ _ x hxa (by simp)
          · intro z hz hzu
            simp only [beq_iff_eq] at hzu
            exact nodup_map_inj (·.uid) hnd.1 hz hxa hzu
        rw [hfind]
        left
        exact foldl_fixed _ x (by intro s; rfl) as
      · have hnone : a.orgs.find? (fun y => y.uid == x.uid) = none := by
          rw [List.find?_eq_none]
          intro y hy hyu
          simp only [beq_iff_eq] at hyu
          -- y ∈ a.orgs has x's uid; x is in a later species: contradiction with Nodup
          rcases List.mem_cons.mp hs with rfl | hs'
          · exact hxa hx
          · have h1 : y.uid ∈ a.orgs.map (·.uid) := List.mem_map_of_mem hy
            have h2 : x.uid ∈ C02.orgUids as := by
              simp only [C02.orgUids, List.mem_flatMap, List.mem_map]
              exact ⟨s, hs', x, hx, rfl⟩
            exact hnd.2.2 _ h1 _ h2 hyu
        rw [hnone]
        rcases List.mem_cons.mp hs with rfl | hs'
        · exact absurd hx hxa
        · rcases ih hnd.2.1 hs' none (Or.inl rfl) with h1 | ⟨_, h2⟩
          · exact Or.inl h1
          · exact absurd hx (h2 s hs')
    · left
      exact foldl_fixed _ x (by intro s; rfl) as


theorem findOrg_some_mem (p : Pop W) (u : Nat) (y : Org W) (h : p.findOrg u = some y) :
    ∃ s ∈ p.species, y ∈ s.orgs ∧ y.uid = u := by
  unfold Pop.findOrg at h
  generalize p.species = ss at h
  suffices hgen : ∀ (acc : Option (Org W)),
      ss.foldl (fun acc s => match acc with | some o => some o | none => s.orgs.find? (·.uid == u)) acc = some y →
      acc = some y ∨ ∃ s ∈ ss, y ∈ s.orgs ∧ y.uid = u by
    rcases hgen none h with h0 | h1
    · cases h0
    · exact h1
  clear h
  induction ss with
  | nil => intro acc h; left; simpa using h
  | cons a as ih =>
    intro acc h
    simp only [List.foldl_cons] at h
    rcases ih _ h with h0 | ⟨s, hs, r⟩
    · cases acc with
      | some z => left; simpa using h0
      | none =>
        right
        have hf : a.orgs.find? (fun x => x.uid == u) = some y := h0
        exact ⟨a, by simp, List.mem_of_find?_eq_some hf, by have := List.find?_some hf; simpa using this⟩
    · exact Or.inr ⟨s, by simp [hs], r⟩


theorem orgList_mem (q : Pop W) (y : Org W) (hy : y ∈ q.orgList) : ∃ s ∈ q.species, y ∈ s.orgs := by
  unfold Pop.orgList at hy
  obtain ⟨u, _, hf⟩ := List.mem_filterMap.mp hy
  obtain ⟨s, hs, hys, _⟩ := findOrg_some_mem q u y hf
  exact ⟨s, hs, hys⟩

theorem mem_orgList (q : Pop W) (hl : ∀ u ∈ C02.orgUids q.species, u ∈ q.organisms) (hnd : (C02.orgUids q.species).Nodup)
    (s : Species W) (hs : s ∈ q.species) (x : Org W) (hx : x ∈ s.orgs) : x ∈ q.orgList := by
  unfold Pop.orgList
  refine List.mem_filterMap.mpr ⟨x.uid, ?_, findOrg_of_mem q hnd s hs x hx⟩
  apply hl
  simp only [C02.orgUids, List.mem_flatMap, List.mem_map]
  exact ⟨s, hs, x, hx, rfl⟩

theorem not_doomed (pre : Pop W) (hnd : (C02.orgUids pre.species).Nodup) (m : Species W) (hm : m ∈ pre.species)
    (x : Org W) (hx : x ∈ m.orgs) (hte : x.toEliminate = false) :
    ((pre.orgList.filter (·.toEliminate)).map (·.uid)).contains x.uid = false := by
  simp only [List.contains_eq_mem, List.mem_map, List.mem_filter, decide_eq_false_iff_not]
  rintro ⟨y, ⟨hyl, hyte⟩, hyu⟩
  obtain ⟨sy, hsy, hyin⟩ := orgList_mem pre y hyl
  have hfy := findOrg_of_mem pre hnd sy hsy y hyin
  rw [hyu, findOrg_of_mem pre hnd m hm x hx] at hfy
  cases hfy
  rw [hte] at hyte
  cases hyte

theorem doomed_iff_marked (pre : Pop W) (hl : ∀ u ∈ C02.orgUids pre.species, u ∈ pre.organisms)
    (hnd : (C02.orgUids pre.species).Nodup) (m : Species W) (hm : m ∈ pre.species) (x : Org W) (hx : x ∈ m.orgs) :
    ((pre.orgList.filter (·.toEliminate)).map (·.uid)).contains x.uid = x.toEliminate := by
  cases hte : x.toEliminate with
  | false => exact not_doomed pre hnd m hm x hx hte
  | true =>
    simp only [List.contains_eq_mem, List.mem_map, List.mem_filter, decide_eq_true_eq]
    exact ⟨x, ⟨mem_orgList pre hl hnd m hm x hx, hte⟩, rfl⟩


theorem sublist_flatMap {α β} (f : α → List β) {a b : List α} (h : a.Sublist b) : (a.flatMap f).Sublist (b.flatMap f) := by
  induction h with
  | slnil => simp
  | cons x _ ih => simp only [List.flatMap_cons]; exact ih.trans (List.sublist_append_right _ _)
  | cons_cons x _ ih => simp only [List.flatMap_cons]; exact List.Sublist.append (List.Sublist.refl _) ih

/-- the species' members as the code sorts them: adjusted fitness recorded, sorted descending -/
def sortedAdjusted (o : EpochOpts W) (s : Species W) : List (Org W) :=
  sortOrgsDesc (s.orgs.map (fun x => { x with originalFitness := x.fitness, fitness := adjustedFitness o s x.fitness }))

theorem unmarked_of_key (s : Species W) :
    (s.orgs.filter (fun x => !x.toEliminate)).map (·.uid) = (((C02.ukey s).2).filter (fun k => !k.2)).map (·.1) := by
  simp only [C02.ukey]
  generalize s.orgs = l
  induction l with
  | nil => rfl
  | cons x xs ih =>
    simp only [List.map_cons, List.filter_cons]
    split <;> simp_all

/-- **the removal at the end of the preparation phase is by mark.**  For a population with pairwise distinct allocation ids
    and unique species ids, the species left are, in order and up to `bare`, some of the adjusted species with the expected
    offspring set (`mid`), each without the members in `doomed`: no unmarked member is doomed, and if the population is
    consistently allocated exactly the marked ones are. -/
theorem prepare_marked (o : EpochOpts W) (p p1 : Pop W) (ex : ExecState) (rs rs' : List Nat)
    (hnd : (p.species.map (·.id)).Nodup) (hundup : (C02.orgUids p.species).Nodup)
    (h : prepareForReproduction o p rs = .ok ((p1, ex), rs')) :
    ∃ (species1 mid : List (Species W)) (doomed : List Nat), adjustAll o p.species = .ok species1 ∧
      (mid.map bare).Sublist ((species1.map (fun s =>
        { s with orgs := s.orgs.map (setExp (popMean ({ p with species := species1 } : Pop W))) })).map bare) ∧
      p1.species = mid.map (fun s => { s with orgs := s.orgs.filter (fun x => !doomed.contains x.uid) }) ∧
      ∀ m ∈ mid, ∀ x ∈ m.orgs, (x.toEliminate = false → doomed.contains x.uid = false) ∧
        (C02.UidInv p → doomed.contains x.uid = x.toEliminate) := by
  obtain ⟨species1, doomed, pre, hadj, hsub, hporg, hdoomed, hsp, _⟩ := prepare_bare o p p1 ex rs rs' hnd h
  have hperm := C02.adjustAll_uids o _ _ hadj
  -- the allocation ids before the removal are, in order, some of those of the adjusted species: distinct (and listed)
  have hsubu : (C02.orgUids pre.species).Sublist (C02.orgUids species1) := by
    rw [C02.uids_of_ukeys, C02.uids_of_ukeys species1]
    exact sublist_flatMap _ (sublist_of_bare_setExp C02.ukey_bare C02.ukey_setExp hsub)
  have hndpre := hsubu.nodup (hperm.nodup_iff.mpr hundup)
  refine ⟨species1, pre.species, doomed, hadj, hsub, hsp, fun m hm x hx => ?_⟩
  rw [hdoomed]
  exact ⟨not_doomed pre hndpre m hm x hx, fun hu =>
    doomed_iff_marked pre (fun u hu' => hporg ▸ hu.listed u (hperm.subset (hsubu.subset hu'))) hndpre m hm x hx⟩

/-- **C09 (parents, whole preparation phase).** For a consistently allocated population with pairwise distinct
    allocation ids and unique species ids in which no organism is marked yet: after `prepareForReproduction` every species
    still present consists of exactly the first `floor(survival_thresh*n + 1)` organisms of that species as sorted by
    adjusted fitness (n = its size before the turnover) — for every stream and option setting. -/
theorem prepare_parents (o : EpochOpts W) (p p1 : Pop W) (ex : ExecState) (rs rs' : List Nat)
    (hnd : (p.species.map (·.id)).Nodup) (hu : C02.UidInv p) (hundup : (C02.orgUids p.species).Nodup)
    (hun : ∀ s ∈ p.species, ∀ x ∈ s.orgs, x.toEliminate = false)
    (h : prepareForReproduction o p rs = .ok ((p1, ex), rs')) :
    ∀ s1 ∈ p1.species, ∃ s0 ∈ p.species, s1.id = s0.id ∧
      s1.orgs.map (·.uid) = ((sortedAdjusted o s0).take (numParents o s0.orgs.length).toNat).map (·.uid) := by
  obtain ⟨species1, mid, doomed, hadj, hsub, hsp, hdoom⟩ := prepare_marked o p p1 ex rs rs' hnd hundup h
  intro s1 hs1
  rw [hsp] at hs1
  obtain ⟨s, hs, rfl⟩ := List.mem_map.mp hs1
  -- the species of `mid` has the key of a species produced by `adjustFitness`
  obtain ⟨sa, hsa, hka⟩ := List.mem_map.mp
    ((sublist_of_bare_setExp C02.ukey_bare C02.ukey_setExp hsub).subset (List.mem_map_of_mem (f := C02.ukey) hs))
  obtain ⟨s0, hs0, hadj0⟩ := adjustAll_mem o _ _ hadj sa hsa
  obtain ⟨a, m, _, rfl⟩ := adjustFitness_ok o s0 sa hadj0
  refine ⟨s0, hs0, (congrArg (fun k => k.1.1) hka).symm, ?_⟩
  show (s.orgs.filter (fun x => !doomed.contains x.uid)).map (·.uid) = _
  rw [List.filter_congr (fun x hx => by rw [(hdoom s hs x hx).2 hu]), unmarked_of_key s, ← hka, ← unmarked_of_key]
  have hso : adjustedOrgs o s0 = sortedAdjusted o s0 :=
    congrArg sortOrgsDesc (List.map_congr_left (fun x _ => adjustOrg_eq o s0 x))
  have hun' : ∀ x ∈ sortedAdjusted o s0, x.toEliminate = false := by
    intro x hx
    have := (C10.sortOrgsDesc_perm _).mem_iff.mp hx
    obtain ⟨y, hy, rfl⟩ := List.mem_map.mp this
    exact hun s0 hs0 y hy
  have := filter_unmarked_markOrgs (numParents o s0.orgs.length) (sortedAdjusted o s0) 0 hun'
  simpa [numParents, hso] using this

end GoNeat.C09
