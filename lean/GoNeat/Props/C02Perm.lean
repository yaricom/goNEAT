/-
  Property C02 (and what C01 / C09 / C10 / C20 take from it): the epoch theorems for populations whose species lists
  were RE-ORDERED between two epochs.

  Why.  Every evaluator shipped with goNEAT calls `Generation.FillPopulationStatistics(pop)`, which sorts every species'
  organism list in place (C19Gen `fill_population`) before `NextEpoch` runs.  The evaluator hypothesis `SameShape` /
  `EvalOk` contains `q'.species.map ukey = q.species.map ukey` - the member ids of every species IN ORDER - and so does
  not cover those runs.

  ## Which hypotheses a within-species permutation of `orgs` (with `organisms` unchanged) breaks

  | theorem                                   | hypotheses                                             | broken? |
  |-------------------------------------------|--------------------------------------------------------|---------|
  | `C02.nextEpoch_popInv`                    | `UidInv` (membership + counter), `SpIdInv` (ids)       | none    |
  | `C02.nextEpoch_no_error`, `nextEpoch_popOk` | `OptsOk`; `PopOk`: uid, spid, size, `perm` (already a `List.Perm`), nodup, nonempty, unmarked / pool / shaped (membership), recs (registry) | none of `PopOk` (`popOk_evalPerm`) |
  |                                           | `QuotaOk o p` (the rounded quota computation ON p)     | not transferable for an arbitrary scalar: `adjustFitness` re-sorts with a non-stable sort and sums in list order, so ties / float sums may differ.  It is a hypothesis about the population that ENTERS the epoch, and is stated on that population (`q`) below; C20 (3) states it on the population the evaluator returned, so nothing is lost there.  In EXACT arithmetic it is a theorem under order-insensitive hypotheses: `C09.quotaOk_exact_perm` (Props/C09QuotaExact.lean) |
  | `C02.runEpochs_inv`, `runEpochs_no_error` | `SameShape q (ev q)` / `EvalOk q (ev q)`               | BROKEN (ordered `ukey`) - proved under `SameShapePerm` / `EvalOkPerm`: `runEpochs_inv_perm`, `runEpochs_no_error_perm` |
  | `C10.nextEpoch_keeps_champion`            | `UidInv`, ids `Nodup`, `ScZero`, `RefsOkPop` (all membership) | none (Props/C10Perm.lean) |
  | `C10.runEpochs_keeps_champions`           | `EvalKeeps` ⊇ `SameShape`                              | BROKEN in the same way - proved under `C10.EvalKeepsPerm`: `C10.runEpochs_keeps_champions_perm` (Props/C10Epoch.lean) |
  | `C09.prepare_expected(_full)`             | ids `Nodup`                                            | none; the conclusion speaks of the population that enters the epoch (its mean is summed in its order) |
  | `C09.mean_values_perm`                    | `organisms.Perm (orgUids species)` (already a Perm)    | none    |
  | `C01.nextEpoch_closed`                    | `PoolOk reg (X ++ genomesOfPop p)` (membership)        | none    |
  | `C20.executeReal_evaluated_inv`, `_no_epoch_error`, `_ends` | `∀ t g q, EvalOk q (eval t g q).pop`   | BROKEN - proved under `EvalOkPerm`: the `_perm` theorems of Props/C20Epoch.lean |
  | `C20.EvalInv`                             | `(orgUids species).Perm organisms`                     | none (already the permutation form) |

  So no invariant needs weakening: the only order-sensitive item is the EVALUATOR hypothesis.  `nextEpoch_popInv`
  still CONCLUDES the equality `organisms = orgUids species` for the population it returns (finalisation rebuilds
  `organisms` from the species lists); the equality is lost again by the next `FillPopulationStatistics`
  (C19Gen `fill_breaks_listing_order`), which is why the invariants carried between epochs use the `Perm` form.

  This file: `SpeciesPerm` (what the sort does) is an admissible evaluation, and the single-epoch theorems for a
  re-ordered population; the relations `SameShapePerm` / `EvalOkPerm` and the run theorems are in Props/C02Epoch.lean
  and Props/C02NoError.lean.  Kind A.
-/
import GoNeat.Props.C02NoError

set_option linter.unusedSectionVars false

namespace GoNeat.C02
open GoNeat Scalar GoNeat.NoErr GoNeat.C01

variable {W : Type} [Scalar W]

/-- **the same population except for the order inside the species**: every field of the population record but
    `species` is equal (in particular `organisms`, the registry and both counters), the species lists have the same
    length, and the `i`-th species differs only in `orgs`, which is a permutation.  What
    `Generation.FillPopulationStatistics` does to a population (Props/C20EpochFill.lean `fill_speciesPerm`). -/
def SpeciesPerm (p q : Pop W) : Prop :=
  q = { p with species := q.species } ∧
  All₂ (fun s s' => s' = { s with orgs := s'.orgs } ∧ s'.orgs.Perm s.orgs) p.species q.species

theorem SpeciesPerm.fields {p q : Pop W} (h : SpeciesPerm p q) :
    q.organisms = p.organisms ∧ q.nextUid = p.nextUid ∧ q.lastSpecies = p.lastSpecies ∧ q.reg = p.reg ∧
    q.highestFitness = p.highestFitness ∧ q.epochsHighestLastChanged = p.epochsHighestLastChanged :=
  have e1 := congrArg Pop.organisms h.1
  have e2 := congrArg Pop.nextUid h.1
  have e3 := congrArg Pop.lastSpecies h.1
  have e4 := congrArg Pop.reg h.1
  have e5 := congrArg Pop.highestFitness h.1
  have e6 := congrArg Pop.epochsHighestLastChanged h.1
  ⟨e1, e2, e3, e4, e5, e6⟩

theorem SpeciesPerm.mem {p q : Pop W} (h : SpeciesPerm p q) :
    (∀ s' ∈ q.species, ∀ x ∈ s'.orgs, ∃ s ∈ p.species, x ∈ s.orgs) := by
  intro s' hs' x hx
  obtain ⟨s, hs, _, hp⟩ := forall₂_mem_right h.2 s' hs'
  exact ⟨s, hs, hp.mem_iff.mp hx⟩

theorem SpeciesPerm.all {p q : Pop W} (h : SpeciesPerm p q) {φ : Org W → Prop} (hp : ∀ s ∈ p.species, ∀ x ∈ s.orgs, φ x) :
    ∀ s' ∈ q.species, ∀ x ∈ s'.orgs, φ x := fun s' hs' x hx =>
  have ⟨s, hs, hxs⟩ := h.mem s' hs' x hx
  hp s hs x hxs

theorem SpeciesPerm.sameShape {p q : Pop W} (h : SpeciesPerm p q) : SameShapePerm p q := by
  obtain ⟨f1, f2, f3, _⟩ := h.fields
  refine ⟨f1, f2, f3, forall₂_imp ?_ h.2⟩
  intro s s' hs
  obtain ⟨e, hp⟩ := hs
  refine ⟨?_, hp.map _⟩
  rw [e]; rfl

theorem SpeciesPerm.evalOkPerm {p q : Pop W} (h : SpeciesPerm p q) : EvalOkPerm p q := by
  refine ⟨h.sameShape, ?_, h.fields.2.2.2.1⟩
  intro g hg
  obtain ⟨s', hs', x, hx, rfl⟩ := mem_genomesOfPop.mp hg
  obtain ⟨s, hs, hxs⟩ := h.mem s' hs' x hx
  exact mem_genomesOfPop.mpr ⟨s, hs, x, hxs, rfl⟩

/-- **C02 (one whole epoch) for a re-ordered population.**  If `p` satisfies the hypotheses of `nextEpoch_popInv`
    (`UidInv`, `SpIdInv`) and `q` is what an evaluation that may re-order the organisms inside each species made of it
    (`SameShapePerm p q`; in particular `SpeciesPerm p q`, i.e. `q = FillPopulationStatistics p`), then `NextEpoch`
    run on `q` has every conclusion of `nextEpoch_popInv` (freshness stated against `p`'s organisms, which are `q`'s). -/
theorem nextEpoch_popInv_perm (o : EpochOpts W) (gen : Int) (p q p' : Pop W) (rs rs' : List Nat)
    (hu : UidInv p) (hs : SpIdInv p) (hpq : SameShapePerm p q) (h : nextEpoch o gen q rs = .ok (p', rs')) :
    (p'.organisms.length = o.popSize ∧ p'.organisms.Nodup ∧ p'.organisms = orgUids p'.species ∧
     (∀ s ∈ p'.species, s.orgs ≠ []) ∧ (∀ u ∈ p'.organisms, u ∉ p.organisms) ∧ (genomeIds p'.species).Nodup) ∧
    UidInv p' ∧ SpIdInv p' := by
  obtain ⟨hu0, hs0⟩ := sameShapePerm_inv p q hpq hu hs
  have := nextEpoch_popInv o gen q p' rs rs' hu0 hs0 h
  rwa [hpq.1] at this

/-- **C02 "succeeds without error" for a re-ordered population.**  If `p` satisfies the population hypotheses `PopOk`
    of `nextEpoch_no_error` and `q` is what an admissible evaluation - fitness assignment AND re-ordering inside the
    species - made of it, then `NextEpoch` on `q` returns no implementation error.  The quota facts are those of the
    population that enters the epoch (`QuotaOk o q`; see the header). -/
theorem nextEpoch_no_error_perm (hff : FloatFacts W) (S : List Nat) (o : EpochOpts W) (p q : Pop W) (ho : OptsOk o)
    (hp : PopOk S o p) (hpq : EvalOkPerm p q) (hq : QuotaOk o q) (gen : Int) :
    ∀ rs, Valid rs → ∀ msg, nextEpoch o gen q rs ≠ .error (.error msg) :=
  nextEpoch_no_error hff S o q ⟨ho, popOk_evalPerm S o p q hp hpq, hq⟩ gen

/-- … and the population it returns satisfies `PopOk` again -/
theorem nextEpoch_popOk_perm (hff : FloatFacts W) (S : List Nat) (o : EpochOpts W) (p q : Pop W) (ho : OptsOk o)
    (hp : PopOk S o p) (hpq : EvalOkPerm p q) (hq : QuotaOk o q) (gen : Int) (rs rs' : List Nat) (hv : Valid rs) (p' : Pop W)
    (he : nextEpoch o gen q rs = .ok (p', rs')) : PopOk S o p' :=
  nextEpoch_popOk hff S o q ⟨ho, popOk_evalPerm S o p q hp hpq, hq⟩ gen rs rs' hv p' he

/-- `runEpochs_no_error` is the instance of `runEpochs_no_error_perm` for order-preserving evaluations -/
example (hff : FloatFacts W) (S : List Nat) (o : EpochOpts W) (ho : OptsOk o)
    (evs : List (Pop W → Pop W)) (hev : ∀ ev ∈ evs, ∀ q, EvalOk q (ev q)) (gen : Int) (p : Pop W) (rs : List Nat)
    (hv : Valid rs) (hp : PopOk S o p) (hq : QuotaAlong o evs gen p rs) :
    ∀ msg, runEpochs o evs gen p rs ≠ .error (.error msg) :=
  runEpochs_no_error_perm hff S o ho evs (fun ev h q => (hev ev h q).toPerm) gen p rs hv hp hq

end GoNeat.C02
