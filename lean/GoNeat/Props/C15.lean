/-
  C15 — everything the library writes it reads back unchanged.

  1. the PLAIN genome format, the organism wire form and population files, over the token-line model
     `Model/PlainIO.lean`: `parse_render`, `write_ok`, `readGenome_render`, `unmarshal_marshal`, `parsePop_renderPop`,
     `parsePop_renderPopCommented`.  float64 spellings are abstract (`FloatsRoundTrip`: what `%g` prints parses back to
     the same value - validated by the driver on every token Go wrote); the activation registry maps are abstract
     (`ActsRoundTrip`).  All statements hold for genomes of every size (induction over the trait, node and gene lists).
  2. the field maps of the encodings that go through third-party codecs (`Model/Codec.lean`; helper lemmas in
     Proofs/Codec.lean): YAML genome `decGenome_encGenome`, saved experiment (gob) `decExp_encExp`, fast-solver model
     (JSON) `decModel_encModel`; the known limits `nil_champion_not_restored`, `yaml_module_links_read_as_one`.
  3. the regenerated activator registry: `registry_acts_roundtrip` (`ActsRoundTrip` holds for the real library),
     `registry_all_types_writable`.
  4. non-vacuity (`natCodec`, `exGenome`, `exModular`, `exExperiment`, `exModel`) and the counterexamples against the
     code before its repairs: `readPopulation_legacy_counterexample`, `yaml_module_node_zero_counterexample`.
  The obligations over the regenerated codec tables are in Props/C15Tables.lean.
-/
import GoNeat.Proofs.PlainIO
import GoNeat.Proofs.Codec
import GoNeat.Model.RegistryCodec
import GoNeat.Model.LegacyCodec
import GoNeat.Props.C18Registry

namespace GoNeat.C15
open GoNeat.PlainIO

variable {F : Type}

/-- **Plain genome round trip.** For every genome satisfying the decidable `WFio`, what `WriteGenome` prints is
    read back by `plainGenomeReader.Read` as exactly the same genome: same id, traits with the same eight
    parameters, nodes with the same neuron type, activation type and trait pointer, genes with the same endpoints,
    weight, mutation number, innovation number, recurrent and enabled flags and trait pointer. -/
theorem parse_render (C : Codec F) (hF : FloatsRoundTrip C) (hA : ActsRoundTrip C) (g : Genome F)
    (h : WFio C g = true) : parse C (render C g) = .ok g :=
  parse_render_aux C hF hA g h

/-- the writer side: `WriteGenome` succeeds on such a genome (every activation type has a name) -/
theorem write_ok (C : Codec F) (g : Genome F) (h : WFio C g = true) : write C g = .ok (render C g) := by
  simp only [WFio, Bool.and_eq_true, List.all_eq_true] at h
  have hn := h.1.1.2
  have : writable C g = true := by
    simp only [writable, List.all_eq_true]
    intro n hn'
    have := hn n hn'
    simp only [nodeOK, Bool.and_eq_true] at this
    cases hnm : C.actName n.act with
    | none => simp [hnm] at this
    | some _ => rfl
  simp [write, this]

theorem readGenome_render (C : Codec F) (hF : FloatsRoundTrip C) (hA : ActsRoundTrip C) (g : Genome F)
    (h : WFio C g = true) : readGenome C (render C g) g.id = .ok g :=
  readGenome_render_aux C hF hA g h

/-- **Organism wire form.** `UnmarshalBinary (MarshalBinary o)` restores fitness, generation, highest fitness,
    the champion-child flag and the genome. -/
theorem unmarshal_marshal (C : Codec F) (hF : FloatsRoundTrip C) (hA : ActsRoundTrip C) (o : OrgBin F)
    (h : WFio C o.genotype = true) : unmarshal C (marshal C o) = .ok o := by
  simp [unmarshal, marshal, orgHeader, hF o.fitness, hF o.highestFitness, parseInt_fmtInt, parseBool_fmtBool,
    readGenome_render C hF hA o.genotype h]

/-- what `ReadPopulation` needs beyond `WFio`: `getLastNodeId`/`getNextGeneInnovNum` fail on an empty genome -/
def WFpop (C : Codec F) (g : Genome F) : Bool := WFio C g && !g.nodes.isEmpty && !g.genes.isEmpty

theorem render_eq (C : Codec F) (g : Genome F) :
    render C g = startLine g.id ::
      ((g.traits.map (traitLine C) ++ (g.nodes.map (nodeLine C) ++ g.genes.map (geneLine C))) ++ [endLine g.id]) := by
  simp [render, List.append_assoc]

theorem bodyLines (C : Codec F) (g : Genome F) :
    ∀ l ∈ g.traits.map (traitLine C) ++ (g.nodes.map (nodeLine C) ++ g.genes.map (geneLine C)), bodyLine l = true := by
  intro l hl
  simp only [List.mem_append, List.mem_map] at hl
  rcases hl with ⟨t, _, rfl⟩ | ⟨n, _, rfl⟩ | ⟨x, _, rfl⟩
  · simp only [traitLine]; split <;> simp [bodyLine]
  · simp [nodeLine, bodyLine]
  · simp [geneLine, bodyLine]

theorem popLines_render (C : Codec F) (hF : FloatsRoundTrip C) (hA : ActsRoundTrip C) (g : Genome F)
    (h : WFpop C g = true) (st : PSt F) (rest : List Line) :
    popLines C st (render C g ++ rest) = popLines C { buf := none, idCheck := -1, out := st.out ++ [g] } rest := by
  simp only [WFpop, Bool.and_eq_true, Bool.not_eq_true'] at h
  obtain ⟨⟨hwf, hn⟩, hg⟩ := h
  have hstart : popStep C st (startLine g.id) = .ok { st with buf := some [startLine g.id], idCheck := g.id } := by
    simp [popStep, popStepKw, startLine, parseInt_fmtInt]
  have hr := readGenome_render C hF hA g hwf
  rw [render_eq] at hr ⊢
  rw [List.cons_append, List.append_assoc, popLines, hstart]
  simp only []
  rw [popLines_body C _ _ _ [startLine g.id] rfl (bodyLines C g)]
  simp only [List.cons_append, List.nil_append, popLines, popStep, endLine, popStepKw,
    show ¬ ("genomeend" = "genomestart") by decide, if_false, if_true, finishGenome]
  rw [show ["genomeend", fmtInt g.id] = endLine g.id from rfl, hr]
  simp [hn, hg]

theorem renderPop_eq (C : Codec F) (gs : List (Genome F)) :
    renderPop C gs = renderPopCommented C (gs.map fun g => ([], g)) := by
  induction gs with
  | nil => rfl
  | cons g gs ih => simp [renderPop, renderPopCommented, ih]

/-- about `out` alone and from any state: a `genomestart` line resets the buffer, and `idCheck` of the last state
    depends on whether the list is empty -/
theorem popLines_renderPopCommented (C : Codec F) (hF : FloatsRoundTrip C) (hA : ActsRoundTrip C)
    (cgs : List (List (List String) × Genome F)) (h : ∀ cg ∈ cgs, WFpop C cg.2 = true ∧ ∀ c ∈ cg.1, c ≠ []) (st : PSt F) :
    (popLines C st (renderPopCommented C cgs)).map (·.out) = .ok (st.out ++ cgs.map (·.2)) := by
  induction cgs generalizing st with
  | nil => simp [renderPopCommented, popLines, Except.map]
  | cons cg cgs ih =>
    have hcg := h cg List.mem_cons_self
    rw [renderPopCommented, popLines_comments C cg.1 _ st hcg.2, popLines_render C hF hA cg.2 hcg.1 st,
      ih (fun cg' hcg' => h cg' (List.mem_cons_of_mem _ hcg'))]
    simp

theorem parsePop_eq (C : Codec F) (ls : List Line) : parsePop C ls = (popLines C {} ls).map (·.out) := by
  unfold parsePop
  cases popLines C {} ls <;> rfl

/-- **Population round trip.** A population written genome by genome (`Population.Write`) is read back by
    `ReadPopulation` (as repaired by fbbeedc in /repo: the buffer of a genome starts with the complete line
    `genomestart <id>`) as the same genomes in the same order, for populations of every size. -/
theorem parsePop_renderPop (C : Codec F) (hF : FloatsRoundTrip C) (hA : ActsRoundTrip C) (gs : List (Genome F))
    (h : ∀ g ∈ gs, WFpop C g = true) : parsePop C (renderPop C gs) = .ok gs := by
  rw [parsePop_eq, renderPop_eq, popLines_renderPopCommented C hF hA _ (by simpa using h)]
  simp [Function.comp_def]

/-- the same with the comment lines `Species.Write` puts in front of every genome (organism header, winner marker) -/
theorem parsePop_renderPopCommented (C : Codec F) (hF : FloatsRoundTrip C) (hA : ActsRoundTrip C)
    (cgs : List (List (List String) × Genome F))
    (h : ∀ cg ∈ cgs, WFpop C cg.2 = true ∧ ∀ c ∈ cg.1, c ≠ []) :
    parsePop C (renderPopCommented C cgs) = .ok (cgs.map (·.2)) := by
  rw [parsePop_eq, popLines_renderPopCommented C hF hA cgs h]
  rfl

/-! Field maps of the YAML genome, the saved experiment (gob) and the fast-solver model (JSON): yaml.v3 + cast,
  encoding/gob and encoding/json are trusted to hand back the value tree / value sequence they were given; proved here
  is what the goNEAT code does around them (Model/Codec.lean). -/

open GoNeat.Codec

/-- **YAML genome round trip (modules included).** For every genome satisfying `WFyaml` the tree the YAML writer
    builds is taken apart by the YAML reader into the same genome.  `WFyaml` asks of a module what the reader
    rebuilds unconditionally (control node hidden, every module link weight `1.0`, not recurrent, no trait) and
    of every float that the YAML layer gives it back unchanged (`yf x = x`: every float64 but negative zero). -/
theorem decGenome_encGenome [DecidableEq F] (C : Codec F) (hA : ActsRoundTrip C) (K : Consts F) (g : Genome F)
    (h : WFyaml C K g = true) : decGenome C K (encGenome C g) = .ok g := by
  simp only [WFyaml, yamlStable, Bool.and_eq_true, decide_eq_true_eq, List.all_eq_true, beq_iff_eq, bne_iff_ne, ne_eq] at h
  obtain ⟨⟨⟨⟨⟨⟨⟨⟨hsT, hsG⟩, hsM⟩, htr⟩, hndT⟩, hndN⟩, hnodes⟩, hgenes⟩, hmods⟩ := h
  have ht := decTraits_enc K g.traits [] (fun t ht => (htr t ht).1) hsT (by simpa using hndT)
  have hn := decNodes_enc C hA g.traits g.nodes [] hnodes (by simpa using hndN)
  have hg := decGenes_enc K g.traits g.nodes g.genes hgenes hsG
  have hm := decModules_enc C hA K g.traits g.nodes g.modules hmods hsM
  simp only [List.nil_append] at ht hn
  cases g with
  | mk id traits nodes genes modules =>
    simp only at ht hn hg hm
    simp only [decGenome, encGenome, get_cons, List.cons_append, List.nil_append, String.reduceEq, ↓reduceIte, ht, hn, hg]
    -- what is left is the lookup of the optional key `modules`
    cases modules with
    | nil => simp [Codec.get]
    | cons m ms =>
      simp only [List.map_cons] at hm
      simp [get_cons, hm]

/-- **Saved experiment round trip.** `Experiment.Decode` applied to the value sequence of `Experiment.Encode`
    restores id, name, every trial, every generation (all thirteen fields) and every champion with its genome,
    and consumes the whole stream — provided every generation has a champion with a genotype (`WFexp`). -/
theorem decExp_encExp (C : Codec F) (hF : FloatsRoundTrip C) (hA : ActsRoundTrip C) (e : Experiment F)
    (h : WFexp C e = true) : decExp C (encExp C e) = .ok (e, []) := by
  simp only [WFexp, List.all_eq_true] at h
  cases e with
  | mk id name trials =>
    have hn : ¬ ((trials.length : Int) < 0) := by omega
    have := decTrials_enc C hF hA trials h []
    simp only [List.append_nil] at this
    simp [decExp, encExp, hn, this]

/-- C15, "… and the fitness, complexity, diversity and winner statistics derived from them": they are functions of the
    record; `stat` is any function of it -/
theorem stats_restored {α : Type} (C : Codec F) (hF : FloatsRoundTrip C) (hA : ActsRoundTrip C) (e : Experiment F)
    (h : WFexp C e = true) (stat : Experiment F → α) :
    (decExp C (encExp C e)).toOption.map (fun r => stat r.1) = some (stat e) := by
  rw [decExp_encExp C hF hA e h]; rfl

/-- **Observation (known limit).** A generation WITHOUT champion is encoded without the organism block but decoded
    with one: the last generation of a stream then fails with end-of-stream instead of being restored. -/
theorem nil_champion_not_restored (C : Codec F) (g : Codec.Generation F) (h : g.champion = none) :
    decGen C (encGen C g) = .error .eof := by
  cases g with
  | mk id executed solved fitness age complexity diversity winnerEvals winnerNodes winnerGenes duration trialId champion =>
    simp only at h
    subst h
    simp [decGen, encGen, decOrg]

/-- **Fast-solver model round trip.** `ReadFMNSModel` rebuilds from the written object the same counts, activation
    types, bias list, connections (weights and signals) and modules. -/
theorem decModel_encModel (C : Codec F) (hA : ActsRoundTrip C) (m : FastModel F) (h : WFmodel C m = true) :
    decModel C (encModel C m) = .ok m := by
  simp only [WFmodel, Bool.and_eq_true, decide_eq_true_eq, List.all_eq_true] at h
  obtain ⟨⟨hs, hacts⟩, hmods⟩ := h
  have ha := decActs_enc C hA m.acts hacts
  have hl := decLinks_enc m.conns
  have hb := Codec.decFloats_map (fun x => x) m.biasList (fun _ _ => rfl)
  have hm := decMods_enc C hA m.modules hmods
  -- the key `modules` is written only for a non-empty list; absent, it reads as the empty list
  have hx : getList (if m.modules = [] then [] else [("modules", Val.list (m.modules.map (encMod C)))]) "modules" =
      .ok (m.modules.map (encMod (F := F) C)) := by
    cases m.modules <;> simp [getList_cons] <;> rfl
  cases m with
  | mk id name nInput nSensor nOutput nBias nTotal acts biasList conns modules =>
    simp only at hs ha hl hb hm hx
    subst hs
    simp [decModel, encModel, get_cons, getInt, getStr, getList_cons, hx, ha, hl, hb, hm]

/-- C15, "a fast-solver model file restores a solver that computes identical outputs": the model read back describes the
    same solver (`toFastNet`) -/
theorem model_same_outputs [Scalar F] (C : Codec F) (hA : ActsRoundTrip C) (m : FastModel F) (h : WFmodel C m = true)
    (σ : Nat → F → Option F) (ops : List (Fast.Op F)) (s : Fast.FState F) :
    (decModel C (encModel C m)).toOption.map (fun m' => Fast.run m'.toFastNet σ ops s) =
      some (Fast.run m.toFastNet σ ops s) := by
  rw [decModel_encModel C hA m h]; rfl

/-- **Registry names round-trip.** In the regenerated activator registry every registered type has a name that
    `ActivationTypeFromName` maps back to it: the hypothesis `ActsRoundTrip` of the theorems above holds for
    the real library, whatever the float spelling. -/
theorem registry_acts_roundtrip {F : Type} (fmtF : F → String) (parseF : String → Option F) :
    ActsRoundTrip (regCodec fmtF parseF) := by
  intro a nm h
  simp only [regCodec, regActName] at h ⊢
  cases hf : GoNeat.Gen.Registry.registered.find? (·.code == a) with
  | none => simp [hf] at h
  | some r =>
    simp only [hf, Option.some.injEq] at h
    have hcode := List.find?_some hf
    simp only [beq_iff_eq] at hcode
    rw [← h, ← hcode, regActOfName]
    -- the first registration found under the name of `r` has the type code of `r`: the name is the identifier of a type
    -- constant, and the const block gives an identifier one value (`C18.registered_code_of_name`)
    cases hf' : GoNeat.Gen.Registry.registered.find? (·.name == r.name) with
    | none => exact absurd (List.find?_eq_none.mp hf' r (List.mem_of_find?_eq_some hf)) (by simp)
    | some r' =>
      exact congrArg some (C18.registered_code_of_name (List.mem_of_find?_eq_some hf) (List.mem_of_find?_eq_some hf')
        (by simpa using List.find?_some hf'))

theorem registry_all_types_writable :
    ∀ r ∈ GoNeat.Gen.Registry.registered, regActName r.code = some r.name :=
  -- the two columns are compared as lists by `rfl`: the name found is then recognised as the same literal,
  -- where `decide` would compare the two strings byte by byte
  List.map_inj_left.mp rfl

/-- a toy instance: "floats" are naturals printed in decimal; activation names from the real registry -/
def natCodec : Codec Nat :=
  regCodec fmtNat (fun s => match parseInt s with
    | some (.ofNat n) => some n
    | _ => none)

theorem natCodec_floats : FloatsRoundTrip natCodec := by
  intro x
  simp [natCodec, regCodec, parseInt_fmtNat]

/-- one trait, a bias + input + output + hidden node (one with a trait, the others nil), three genes: a disabled
    one, a recurrent self-loop with nil trait, and one with a trait -/
def exGenome : Genome Nat :=
  { id := 7
    traits := [{ id := 1, params := [1, 0, 0, 0, 0, 0, 0, 25] }, { id := 3, params := [0, 0, 0, 0, 0, 0, 0, 0] }]
    nodes := [{ id := 1, kind := Kind.bias, act := 17, trait := none }, { id := 2, kind := Kind.input, act := 17, trait := some 3 },
              { id := 4, kind := Kind.output, act := 4, trait := none }, { id := 9, kind := Kind.hidden, act := 11, trait := some 1 }]
    genes := [{ inn := 1, src := 1, dst := 4, recur := false, w := 5, mnum := 0, en := false, trait := some 1 },
              { inn := 2, src := 9, dst := 9, recur := true, w := 12345678901234567890, mnum := 3, en := true, trait := none },
              { inn := 5, src := 2, dst := 9, recur := false, w := 0, mnum := 0, en := true, trait := some 3 }] }

def exCtrl : Node := { id := 20, kind := Kind.hidden, act := 21, trait := some 1 }

def exModule : Module Nat :=
  { inn := 9, mnum := 2, en := true, ctrl := exCtrl,
    ins := [{ node := 2, w := 1, recur := false, trait := none }, { node := 9, w := 1, recur := false, trait := none }],
    outs := [{ node := 4, w := 1, recur := false, trait := none }] }

/-- a modular genome as the YAML reader builds it (module link weights `1`) -/
def exModular : Genome Nat := { exGenome with modules := [exModule] }

def exModel : FastModel Nat :=
  { id := 1, name := "m", nInput := 2, nSensor := 3, nOutput := 1, nBias := 1, nTotal := 5, acts := [17, 17, 17, 4, 11],
    biasList := [0, 0, 0, 0, 2], conns := [{ src := 1, tgt := 4, weight := 3, signal := 0 }], modules := [{ act := 21, ins := [1, 2], outs := [4] }] }

/-- the well-formedness predicates of the plain, YAML and JSON formats on the example genome, its modular variant and the
    example model, over `natCodec`: one statement, because all four look the same activation types up by name in the
    regenerated registry, and the kernel shares that work only inside one declaration -/
theorem ex_wf :
    WFio natCodec exGenome = true ∧ WFyaml natCodec { zero := 0, one := 1 } exGenome = true ∧
    WFyaml natCodec { zero := 0, one := 1 } exModular = true ∧ WFmodel natCodec exModel = true := by decide +kernel

theorem exGenome_io : WFio natCodec exGenome = true := ex_wf.1

example : WFio natCodec exGenome = true := exGenome_io
example : WFpop natCodec exGenome = true := by rw [WFpop, exGenome_io]; rfl
example : WFyaml natCodec { zero := 0, one := 1 } exGenome = true := ex_wf.2.1
example : parse natCodec (render natCodec exGenome) = .ok exGenome :=
  parse_render natCodec natCodec_floats (registry_acts_roundtrip _ _) exGenome exGenome_io

example : WFyaml natCodec { zero := 0, one := 1 } exModular = true := ex_wf.2.2.1

def exExperiment : Codec.Experiment Nat :=
  { id := 1, name := "xor", trials := [{ id := 0, gens := [
      { id := 0, executed := 1700000000000000000, solved := true, fitness := [3, 4], age := [1, 1], complexity := [7, 9],
        diversity := 2, winnerEvals := 150, winnerNodes := 4, winnerGenes := 3, duration := 1000, trialId := 0,
        champion := some { fitness := 4, isWinner := true, generation := 0, expectedOffspring := 2, error := 0,
                           genotype := some exGenome } }] }] }

example : WFexp natCodec exExperiment = true := by simp [WFexp, WFgen, exExperiment, exGenome_io]

example : WFmodel natCodec exModel = true := ex_wf.2.2.2

/-- **Counterexample against the shipped `ReadPopulation`** (`PlainIO.Legacy`: the per-genome buffer starts with
    `"genomestart <id>"` without a newline, so the first line behind it is glued to it and skipped by the genome
    reader).  Writing the one-genome population `[exGenome]` and reading it back loses the first trait (id 1)
    and with it the trait pointer of the first gene; with the repair (`parsePop`) both are restored. -/
theorem readPopulation_legacy_counterexample :
    (Legacy.parsePop natCodec (renderPop natCodec [exGenome])).toOption.map
        (·.map fun g => (g.traits.map (·.id), g.genes.map (·.trait))) = some [([3], [none, none, some 3])] ∧
    (parsePop natCodec (renderPop natCodec [exGenome])).toOption.map
        (·.map fun g => (g.traits.map (·.id), g.genes.map (·.trait))) = some [([1, 3], [some 1, none, some 3])] := by
  decide +kernel

/-- **Counterexample against the shipped `NodeWithId`** (`Codec.Legacy.decWires`: the helper answered nil for id 0).
    A module reading node 0 and writing node 1 - legal, `Genome.verify`, `Genesis` and the YAML writer accept it - is
    written, and the pre-repair reader refuses its own writer's output with "no MIMO input node with id: 0"; the repaired
    reader (`decWires`) restores the wires.  Replayed on the real code: op `ioYaml`, family `modular:hand`, node ids
    starting at 0. -/
theorem yaml_module_node_zero_counterexample :
    let nodes : List Node := [{ id := 0, kind := Kind.input, act := 0, trait := none },
                              { id := 1, kind := Kind.output, act := 0, trait := none }]
    let ws : List (Wire Nat) := [{ node := 0, w := 1, recur := false, trait := none }]
    Codec.Legacy.decWires { zero := 0, one := 1 } nodes (encWires 0 ws) = .error (.noModuleNode 0) ∧
    decWires { zero := 0, one := 1 } nodes (encWires 0 ws) = .ok ws := by
  intro nodes ws
  exact ⟨by simp [nodes, ws, encWires, Codec.Legacy.decWires, Codec.get], by simp [nodes, ws, encWires, decWires, Codec.get]⟩

/-- whatever list of values the YAML reader is given (not only what `encWires` wrote): every module link it builds is
    `NewLink(1.0, …, false)` without trait -/
theorem decWires_links_one {F : Type} (K : Consts F) (nodes : List Node) (vs : List (Val F)) (ws' : List (Wire F))
    (h : decWires K nodes vs = .ok ws') : ∀ w ∈ ws', w.w = K.one ∧ w.recur = false ∧ w.trait = none := by
  fun_induction decWires K nodes vs generalizing ws' with
  | case1 => cases h; exact fun _ hw => nomatch hw
  | case3 kvs vs id _ _ ws hd ih =>
    cases h
    exact fun x hx => (List.mem_cons.mp hx).elim (fun e => e ▸ ⟨rfl, rfl, rfl⟩) (ih ws hd x)
  | case2 | case4 | case5 | case6 => cases h

/-- **Observation (YAML modules).** The YAML writer does not write module link weights (`encWires` holds only
    endpoint id and order) and the reader rebuilds every module link as `NewLink(1.0, …)`: whatever the source
    weights were, every module link read back has weight `1.0`, is not recurrent and has no trait. -/
theorem yaml_module_links_read_as_one {F : Type} (K : Consts F) (nodes : List Node) (ws ws' : List (Wire F)) (i : Nat)
    (h : decWires K nodes (encWires i ws) = .ok ws') :
    ∀ w ∈ ws', w.w = K.one ∧ w.recur = false ∧ w.trait = none :=
  decWires_links_one K nodes _ ws' h

end GoNeat.C15
