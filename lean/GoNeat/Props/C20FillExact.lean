/-
  C02 / C09 / C10 after `Generation.FillPopulationStatistics`, Kind B: the corollaries of Props/C09QuotaExact.lean and
  Props/C10Perm.lean for the population `q = (fillPopulationStatistics p).2` that every shipped evaluator hands to
  `NextEpoch` (`fill_speciesPerm`: it is a within-species re-ordering of `p`).  Hypotheses on `p`, computation on `q`.
  In exact ordered-field arithmetic the quota facts `QuotaOk o q` need no hypothesis about `q`.
  The statements are C02 / C09 / C10 statements; they stand under the name and namespace of C20 because the population
  they speak of is the one an evaluator of the experiment driver leaves (`fillEval`, Model/ExperimentFill.lean; `evalOkPerm_fill`, Props/C20EpochFill.lean).
-/
import GoNeat.Props.C20EpochFill
import GoNeat.Props.C09QuotaExact
import GoNeat.Props.C10Perm

namespace GoNeat.C20
open GoNeat GoNeat.Experiment GoNeat.C01 GoNeat.C02 GoNeat.NoErr GoNeat.GenStatsModel
variable {K : Type} [Field K] [LinearOrder K] [IsStrictOrderedRing K] [FloorRing K]

/-- **`QuotaOk` for the population `FillPopulationStatistics` returns, exact arithmetic**: `C09.QuotaHyp` on `p`
    (`Population.Organisms` lists exactly the members of the species, `PopSize` of them, one has a positive adjusted
    fitness) - the raw quotas computed by the epoch from the RE-ORDERED population are non-negative and total exactly
    `PopSize` -/
theorem rawQuotas_exact_fill (o : EpochOpts K) (p q : Pop K) (st : GenStats K) (h : C09.QuotaHyp o p)
    (hf : fillPopulationStatistics p = .ok (st, q)) :
    ∀ species1, adjustAll o q.species = .ok species1 →
      (∀ s ∈ (C09.rawAssign ({ q with species := species1 } : Pop K)).1, 0 ≤ s.expectedOffspring) ∧
      (C09.rawAssign ({ q with species := species1 } : Pop K)).2 = (o.popSize : Int) :=
  C09.rawQuotas_exact_perm o p q h (fill_speciesPerm false none p q st hf)

theorem quotaOk_exact_fill (o : EpochOpts K) (p q : Pop K) (st : GenStats K) (h : C09.QuotaHyp o p)
    (hf : fillPopulationStatistics p = .ok (st, q)) : QuotaOk o q :=
  C09.quotaOk_exact_perm o p q h (fill_speciesPerm false none p q st hf)

/-- **C02 "succeeds without error" after `FillPopulationStatistics`, exact arithmetic, no float fact and no quota
    hypothesis left**: `OptsOk`, `PopOk` on `p`, some organism of `p` has a positive adjusted fitness -/
theorem nextEpoch_no_error_exact_fill (S : List Nat) (o : EpochOpts K) (p q : Pop K) (st : GenStats K) (ho : OptsOk o)
    (hp : PopOk S o p) (hpos : C09.SomePositive o p) (hf : fillPopulationStatistics p = .ok (st, q)) (gen : Int) :
    ∀ rs, Valid rs → ∀ msg, nextEpoch o gen q rs ≠ .error (.error msg) :=
  C09.nextEpoch_no_error_exact_perm S o p q ho hp hpos (fill_speciesPerm false none p q st hf) gen

end GoNeat.C20

namespace GoNeat.C20
open GoNeat GoNeat.Experiment GoNeat.GenStatsModel
variable {W : Type} [Scalar W]

/-- `FillPopulationStatistics` is an admissible evaluation step for the C10 run theorem
    (`C10.runEpochs_keeps_champions_perm`); composed with a fitness assignment by `C10.EvalKeepsPerm.trans` -/
theorem evalKeepsPerm_fill (p q : Pop W) (st : GenStats W) (hf : fillPopulationStatistics p = .ok (st, q)) :
    C10.EvalKeepsPerm p q :=
  C10.evalKeepsPerm_of_speciesPerm (fill_speciesPerm false none p q st hf)

end GoNeat.C20
