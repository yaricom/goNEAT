/-
  Property C19 (Kind A part): statements about the statistics model that hold for EVERY scalar type `W` with
  `[Scalar W]` - no arithmetic law is used: results for the empty series, StdDev/Variance/MeanVariance consistency,
  the quantile never fails with "unsorted" when the sorting routine returns a sorted list and returns an element of
  the series, it depends on the series only through its sorted copy; the experiment/trial aggregates (written as the
  loops of the Go code) equal the direct recomputation from the recorded generations (`Spec/Stats.lean`).
  The arithmetic content (mean, variance, minimum, quantile rank, permutation invariance) is in `Props/C19Exact.lean`.
-/
import GoNeat.Spec.Stats
import GoNeat.Model.LegacyStats
import GoNeat.Proofs.OrderLaws
import GoNeat.Proofs.RunningBest

namespace GoNeat.C19
open GoNeat GoNeat.Stats Scalar

theorem foldl_count {α : Type} (p : α → Bool) (ts : List α) (c : Nat) :
    ts.foldl (fun c t => if p t then c + 1 else c) c = c + (ts.filter p).length := by
  induction ts generalizing c with
  | nil => simp
  | cons t ts ih =>
    simp only [List.foldl_cons, ih, List.filter_cons]
    split <;> simp <;> omega

variable {W : Type} [Scalar W]

/-- **C19 (empty series).** Every statistic of the empty series is NaN (`none`), the sum is 0, and no quantile fails. -/
theorem empty_series [HasSqrt W] :
    fMin ([] : List W) = none ∧ fMax ([] : List W) = none ∧ fSum ([] : List W) = zero ∧ fMean ([] : List W) = none ∧
    fMeanVariance ([] : List W) = none ∧ fVariance ([] : List W) = none ∧ fStdDev ([] : List W) = none ∧
    fMedian ([] : List W) = .ok none ∧ fQ25 ([] : List W) = .ok none ∧ fQ75 ([] : List W) = .ok none := by
  refine ⟨rfl, rfl, rfl, rfl, rfl, rfl, rfl, rfl, rfl, rfl⟩

/-- **C19 (non-empty series are never NaN by construction).** Min, Max, Mean, MeanVariance, Variance, StdDev of a
    non-empty series are values (`some`). -/
theorem nonempty_defined [HasSqrt W] (x : W) (xs : List W) :
    (fMin (x :: xs)).isSome ∧ (fMax (x :: xs)).isSome ∧ (fMean (x :: xs)).isSome ∧ (fMeanVariance (x :: xs)).isSome ∧
    (fVariance (x :: xs)).isSome ∧ (fStdDev (x :: xs)).isSome := by
  refine ⟨rfl, rfl, rfl, rfl, rfl, rfl⟩

theorem meanVariance_fst (xs : List W) : (fMeanVariance xs).map (·.1) = fMean xs := by
  cases xs <;> rfl

/-- **C19 (consistency).** StdDev is the square root of Variance; MeanVariance returns Mean and Variance. -/
theorem stddev_variance_mean [HasSqrt W] (xs : List W) :
    fStdDev xs = (fVariance xs).map HasSqrt.sqrt ∧ (fMeanVariance xs).map (·.1) = fMean xs ∧
    (fMeanVariance xs).map (·.2) = fVariance xs :=
  ⟨rfl, meanVariance_fst xs, rfl⟩

theorem empiricalLoop_mem (fidx : W) (ys : List W) (c v : W) (h : empiricalLoop fidx ys c = some v) : v ∈ ys := by
  induction ys generalizing c with
  | nil => simp [empiricalLoop] at h
  | cons y ys ih =>
    unfold empiricalLoop at h
    simp only at h
    split at h
    · simp only [Option.some.injEq] at h; simp [h]
    · exact List.mem_cons_of_mem _ (ih _ h)

theorem fQuantileWith_of_ne_nil (sort : List W → List W) (p : W) {xs : List W} (h : xs ≠ []) :
    fQuantileWith sort p xs = (gonumQuantile p (sort xs)).map some := by
  cases xs with
  | nil => exact absurd rfl h
  | cons x xs => rfl

/-- **C19 (quantiles never hit gonum's "unsorted" panic, and return an element of the series).** For every sorting
    routine whose output passes `sort.Float64sAreSorted` and only contains elements of its input: the quantile of a
    series (in ANY order) is not the `unsorted` error, and a returned value is an element of the series. -/
theorem quantile_no_unsorted_panic (sort : List W → List W) (p : W) (xs : List W)
    (hs : isSorted (sort xs) = true) (hsub : ∀ v ∈ sort xs, v ∈ xs) :
    fQuantileWith sort p xs ≠ .error .unsorted ∧
    ∀ v, fQuantileWith sort p xs = .ok (some v) → v ∈ xs := by
  cases xs with
  | nil => simp [fQuantileWith]
  | cons x xs =>
    simp only [fQuantileWith, gonumQuantile, hs, Bool.not_true, Bool.false_eq_true, ↓reduceIte]
    cases hl : empiricalLoop (mul p (ofInt (sort (x :: xs)).length)) (sort (x :: xs)) zero with
    | none => simp [Except.map]
    | some v =>
      refine ⟨by simp [Except.map], ?_⟩
      intro v' hv'
      simp only [Except.map, Except.ok.injEq, Option.some.injEq] at hv'
      subst hv'
      exact hsub _ (empiricalLoop_mem _ _ _ _ hl)

/-- **C19 (order enters only through the sorted copy).** Two series with the same sorted copy have the same
    quantiles (with `sorted_copy_unique` of Props/C19Exact.lean: any two orders of the same values). -/
theorem quantile_depends_on_sorted (sort : List W → List W) (p : W) (xs ys : List W)
    (h : sort xs = sort ys) (hne : xs = [] ↔ ys = []) : fQuantileWith sort p xs = fQuantileWith sort p ys := by
  by_cases hx : xs = []
  · rw [hx, hne.mp hx]
  · rw [fQuantileWith_of_ne_nil sort p hx, fQuantileWith_of_ne_nil sort p (mt hne.mpr hx), h]

/-! ### the repaired defect (227b966): counterexample against the frozen pre-fix definition -/

section
open GoNeat.ExactInt

/-- pre-fix `Floats.Median/Q25/Q75` on the series 3, 1, 2 (any `p`): gonum's `panic("x data are not sorted")`;
    the repaired accessor sorts a copy and returns an element -/
theorem C19_quantile_unsorted_counterexample (p : Int) :
    Legacy.fQuantile p [3, 1, 2] = .error .unsorted ∧
    fQuantileWith sortAsc p [3, 1, 2] ≠ .error .unsorted ∧ sortAsc ([3, 1, 2] : List Int) = [1, 2, 3] := by
  refine ⟨rfl, ?_, by decide⟩
  exact (quantile_no_unsorted_panic sortAsc p [3, 1, 2] (by decide) (by decide)).1

example : fMin ([3, 1, 2, 6] : List Int) = some 1 ∧ fMax ([3, 1, 2, 6] : List Int) = some 6 ∧ fSum ([3, 1, 2, 6] : List Int) = 12 ∧
    fMean ([3, 1, 2, 6] : List Int) = some 3 ∧ fQuantileWith sortAsc 1 ([3, 1, 2, 6] : List Int) = .ok (some 6) :=
  ⟨rfl, rfl, rfl, rfl, rfl⟩
end

/-- **C19 (solved count).** `TrialsSolved` = number of trials with a solved generation. -/
theorem trialsSolved_eq (e : Experiment W) : trialsSolved e = specTrialsSolved e := by
  simp [trialsSolved, specTrialsSolved, foldl_count]

/-- **C19 (success rate).** `SuccessRate` = solved trials / trials (0 without trials). -/
theorem successRate_eq (e : Experiment W) : successRate e = specSuccessRate e := by
  unfold successRate specSuccessRate
  rw [trialsSolved_eq]
  cases h : e.trials with
  | nil => simp
  | cons t ts => simp

theorem winnerLoop_eq (gs : List (Gen W)) :
    winnerLoop gs = match gs.find? (·.solved) with
      | some e => (e.winnerNodes, e.winnerGenes, e.winnerEvals, e.diversity)
      | none => (0, 0, 0, 0) := by
  induction gs with
  | nil => rfl
  | cons g gs ih =>
    unfold winnerLoop
    by_cases h : g.solved = true
    · simp [h]
    · simp only [h, Bool.false_eq_true, ↓reduceIte, List.find?_cons]
      simpa using ih

/-- **C19 (winner statistics of a trial).** Those of the first solved generation; zeros when no generation is solved;
    -1 for a trial without generations. -/
theorem winnerStatistics_eq (t : Trial W) : winnerStatistics t = specWinner t := by
  unfold winnerStatistics specWinner
  cases h : t.gens with
  | nil => simp
  | cons g gs =>
    simp only [winnerLoop_eq]
    cases List.find? (·.solved) (g :: gs) <;> simp

theorem winnerTotals_fold (ts : List (Trial W)) (acc : Int × Int × Int × Int × Nat) :
    ts.foldl (fun acc t =>
      if trialSolved t then
        let w := winnerStatistics t
        (acc.1 + w.1, acc.2.1 + w.2.1, acc.2.2.1 + w.2.2.1, acc.2.2.2.1 + w.2.2.2, acc.2.2.2.2 + 1)
      else acc) acc =
    (acc.1 + (((ts.filter trialSolved).map specWinner).map (·.1)).sum,
     acc.2.1 + (((ts.filter trialSolved).map specWinner).map (·.2.1)).sum,
     acc.2.2.1 + (((ts.filter trialSolved).map specWinner).map (·.2.2.1)).sum,
     acc.2.2.2.1 + (((ts.filter trialSolved).map specWinner).map (·.2.2.2)).sum,
     acc.2.2.2.2 + ((ts.filter trialSolved).map specWinner).length) := by
  induction ts generalizing acc with
  | nil => simp
  | cons t ts ih =>
    simp only [List.foldl_cons]
    rw [ih]
    by_cases h : trialSolved t = true
    · simp only [h, ↓reduceIte, List.filter_cons, List.map_cons, List.sum_cons, List.length_cons, winnerStatistics_eq]
      rw [Int.add_assoc, Int.add_assoc, Int.add_assoc, Int.add_assoc, Nat.add_assoc, Nat.add_comm 1]
    · simp [h]

/-- **C19 (average winner statistics).** Averages of nodes, genes, evaluations and diversity of the winner generation
    over the solved trials; -1 when no trial is solved. -/
theorem avgWinnerStatistics_eq (e : Experiment W) : avgWinnerStatistics e = specAvgWinner e := by
  unfold avgWinnerStatistics specAvgWinner winnerTotals
  rw [winnerTotals_fold]
  simp

/-- the per-trial series are maps over the recorded generations (definitional): the champion-fitness series has one
    entry per recorded generation; the diversity series lists the generations' numbers of species; epochs per trial =
    number of recorded generations; average diversity = mean of the trial's diversity series -/
theorem per_trial_series (e : Experiment W) (t : Trial W) :
    (championsFitness t).length = t.gens.length ∧ (diversity t) = t.gens.map (fun g => ofInt g.diversity) ∧
    epochsPerTrial e = e.trials.map (fun t => ofInt t.gens.length) ∧
    avgDiversity e = e.trials.map (fun t => fMean (diversity t)) := by
  refine ⟨by simp [championsFitness], rfl, rfl, rfl⟩

theorem bestLoop_spec (ho : LtOrder W) (cs : List (Champ W)) (cur : Champ W) :
    bestLoop cur cs ∈ cur :: cs ∧ ∀ c' ∈ cur :: cs, lt (bestLoop cur cs).fitness c'.fitness = false :=
  (keepBest_id_spec (R := fun b c : Champ W => lt b.fitness c.fitness = true) (fun _ => Bool.eq_false_iff.mp (ho.irrefl _))
    (fun _ _ _ => ho.trans _ _ _) cur cs).imp_right fun h c hc => Bool.eq_false_iff.mpr (h c hc)

/-- **C19 (best organism of a trial).** For every scalar type on which `<` is irreflexive and transitive:
    `Trial.BestOrganism(false)` returns one of the trial's champions and no champion of the trial is fitter;
    it returns nothing exactly when the trial has no champion.  (Hence `BestFitness` is the maximal champion
    fitness; `BestSpeciesAge` / `BestComplexity` are those of a fittest champion.) -/
theorem bestOrganism_spec (ho : LtOrder W) (t : Trial W) :
    match bestOrganism false t with
    | none => champions t = []
    | some c => c ∈ champions t ∧ ∀ c' ∈ champions t, lt c.fitness c'.fitness = false := by
  have hc : t.gens.filterMap (fun e => if !false || e.solved then e.champion else none) = champions t := by
    simp [champions]
  unfold bestOrganism
  rw [hc]
  cases h : champions t with
  | nil => simp
  | cons c cs => exact bestLoop_spec ho cs c

section
open GoNeat.ExactInt
example : LtOrder Int := C10.int_order_laws.1.ltOrder
end

end GoNeat.C19
