/-
  Property C10, the sort step: after `sort.Sort(sort.Reverse(organisms))` the first organism of a species is a
  fittest one — no member is strictly greater in the sort order (adjusted fitness, then highest fitness).
  Holds for every scalar type whose `<` is a strict weak order and whose `==` is its incomparability (true for
  float64 without NaN and for every ordered field); `sort.Sort` is modelled by `goSort` (Model/GoSort.lean: Go's
  insertion sort up to 12 elements, the transliterated pdqsort above), and the only facts used are that it
  returns a sorted permutation (`goSort_head_min`, `goSort_perm`).
-/
import GoNeat.Model.Population
import GoNeat.Proofs.SortLemmas
import GoNeat.Proofs.OrderLaws

namespace GoNeat.C10
open GoNeat Scalar
variable {W : Type} [Scalar W]

theorem lt_laws (hw : C08.StrictWeak W) : LessLaws (fun a b : W => lt a b) := ⟨lt_asymm hw, lt_negTrans hw⟩

theorem orgLess_false_iff (a b : Org W) :
    orgLess a b = false ↔ (lt a.fitness b.fitness = false ∧ (eq a.fitness b.fitness = true → lt a.highestFitness b.highestFitness = false)) := by
  unfold orgLess
  cases h1 : lt a.fitness b.fitness <;> cases h2 : eq a.fitness b.fitness <;> simp

theorem orgLess_laws (hw : C08.StrictWeak W) (he : EqLaw W) : LessLaws (fun a b : Org W => orgLess b a) := by
  constructor
  · intro a b h
    show orgLess a b = false
    have h' : orgLess b a = true := h
    rw [orgLess_false_iff]
    unfold orgLess at h'
    cases h1 : lt b.fitness a.fitness with
    | true =>
      refine ⟨lt_asymm hw _ _ h1, ?_⟩
      intro heq
      have := ((he _ _).mp heq).2
      rw [h1] at this; cases this
    | false =>
      simp only [h1, Bool.false_eq_true, ↓reduceIte] at h'
      cases h2 : eq b.fitness a.fitness with
      | false => simp [h2] at h'
      | true =>
        simp only [h2, ↓reduceIte] at h'
        have hinc := (he _ _).mp h2
        exact ⟨hinc.2, fun _ => lt_asymm hw _ _ h'⟩
  · intro a b c h1 h2
    show orgLess c a = false
    have h1' : orgLess b a = false := h1
    have h2' : orgLess c b = false := h2
    rw [orgLess_false_iff] at h1' h2' ⊢
    obtain ⟨p1, q1⟩ := h1'
    obtain ⟨p2, q2⟩ := h2'
    refine ⟨lt_negTrans hw _ _ _ p2 p1, ?_⟩
    intro heq
    obtain ⟨e1, e2⟩ := (he _ _).mp heq
    -- c ~ a; from ¬ c<b, ¬ b<a deduce b ~ a and c ~ b
    have hab := lt_negTrans hw _ _ _ e2 p2
    have hbc := lt_negTrans hw _ _ _ p1 e2
    have r1 := q1 ((he _ _).mpr ⟨p1, hab⟩)
    have r2 := q2 ((he _ _).mpr ⟨p2, hbc⟩)
    exact lt_negTrans hw _ _ _ r2 r1

/-- **C10 (champion = head of the sorted species).** After the descending sort the first organism is a fittest
    member: no member of the species is strictly greater in (adjusted fitness, highest fitness) order; in particular
    none has a strictly greater adjusted fitness. For lists of every length. -/
theorem sortOrgsDesc_head_fittest (hw : C08.StrictWeak W) (he : EqLaw W) (l : List (Org W)) (top : Org W) (rest : List (Org W))
    (h : sortOrgsDesc l = top :: rest) : ∀ x ∈ l, orgLess top x = false ∧ lt top.fitness x.fitness = false := by
  intro x hx
  have hirr : orgLess top top = false := by
    rw [orgLess_false_iff]; exact ⟨hw.irrefl _, fun _ => hw.irrefl _⟩
  have := goSort_head_min (fun a b : Org W => orgLess b a) (orgLess_laws hw he) l top rest h hirr x hx
  exact ⟨this, ((orgLess_false_iff _ _).mp this).1⟩

/-- the sorted list is a permutation of the species' members: the champion is a member -/
theorem sortOrgsDesc_perm (l : List (Org W)) : (sortOrgsDesc l).Perm l := goSort_perm _ l

theorem sortOrgsDesc_eq_nil (l : List (Org W)) : sortOrgsDesc l = [] ↔ l = [] := by
  rw [← List.length_eq_zero_iff, (sortOrgsDesc_perm l).length_eq, List.length_eq_zero_iff]


/-! non-vacuity: the hypotheses hold for the exact integer scalar (and hence describe a real order) -/
section NonVacuity
open GoNeat.ExactInt
example : C08.StrictWeak Int ∧ EqLaw Int := int_order_laws
end NonVacuity

end GoNeat.C10
