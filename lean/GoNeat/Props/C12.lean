/-
  C12 - all solvers compute the feed-forward function.

  `evalNode` (Spec/Solver.lean) is the feed-forward function: a sensor has its loaded value, a neuron has
  activation(Σ weight·source) with the sum taken in `Incoming` order from 0 - the value obtained by evaluating each
  neuron once in topological order.  Hypotheses (`FFNet net lvl`, decidable): no control nodes, every node is a
  sensor or a neuron, every neuron has an incoming link, no time-delayed links, and `lvl` ranks every link's source
  strictly below its target (acyclic).  With the tight ranking (`Tight`: sensors 0, neurons 1 + max of sources)
  `lvl o` is the length of the longest sensor-to-`o` path.

  Kind A (every scalar type, every activation table, exact, same summation order): `std_forward` (standard solver
  against `evalNode`); `fast_recursive_fval` (fast recursive activation against `fvalNode`, the feed-forward function of
  the fast representation); `fast_forward_partial` (one forward step, cell by cell).
  Kind B (exact arithmetic, `[CommSemiring K] [ExactArith K]`): `translation_partial` (the translation of one neuron:
  connections + folded bias = Σ incoming weight·source).

  `_partial` in `fast_forward_partial` and `translation_partial` does NOT mean partial correctness: both are total,
  unconditional statements about ONE forward step / the translation of ONE neuron, i.e. a part of what the statements of
  Props/C12Fast.lean (`fast_forward`, `fast_relax*`, `fval_eq_eval`, `all_solvers_eval`) say about all steps / the whole
  network.
-/
import GoNeat.Proofs.SolverFF
import GoNeat.Proofs.FastFFAll
import GoNeat.Proofs.SolverExact
import GoNeat.Proofs.ScalarInt
import GoNeat.Model.LegacySolver

namespace GoNeat.C12
open GoNeat.Solver GoNeat.SolverSpec

variable {W : Type} [Scalar W]

/-- **Standard solver.**  From any state in which the sensors are loaded (no flush needed), `ForwardSteps(k)` with
    `k ≥ 1` and `k ≥` the rank of every output succeeds, and every output holds exactly the feed-forward value of the
    loaded sensor values (`sens i` = activation of sensor `i`), for every fuel that covers the output's rank. -/
theorem std_forward (net : Net W) (σ : Nat → W → Option W) (lvl : Nat → Nat) (hff : FFNet net lvl = true)
    (hσ : ∀ (i : Nat) (nd : NNodeS W), net.nodes[i]? = some nd → nd.isNeuron = true → ∀ x, (σ nd.act x).isSome = true)
    (s0 : St W) (hlen : s0.length = net.nodes.length)
    (hloaded : ∀ (i : Nat) (nd : NNodeS W), net.nodes[i]? = some nd → nd.isSensor = true → (get s0 i).count > 0)
    (k : Nat) (hk1 : 1 ≤ k) (hk : ∀ o ∈ net.outputs, lvl o ≤ k) :
    (forwardSteps net σ (k : Int) s0).2 = (true, none) ∧
      ∀ o ∈ net.outputs, ∀ f, lvl o + 1 ≤ f →
        evalNode net σ (fun i => (get s0 i).activation) f o =
          some (get (forwardSteps net σ (k : Int) s0).1 o).activation := by
  have hp := FFNet_props net lvl hff
  have hP0 : P net σ (fun i => (get s0 i).activation) lvl 0 s0 :=
    ⟨hlen, fun i nd hi hs => ⟨hloaded i nd hi hs, rfl⟩, fun i nd hi hs hl => by
      have := (neuron_facts net lvl hp i nd hi hs).2.1
      omega⟩
  unfold forwardSteps
  have hk0 : ((k : Int) == 0) = false := by
    simp only [beq_eq_false_iff_ne, ne_eq]
    omega
  simp only [hk0, Bool.false_eq_true, if_false, Int.toNat_natCast]
  obtain ⟨s', hrun, h2⟩ := fwdLoop_ff net σ _ lvl hp hσ k hk hk1 k false 0 s0 hP0 hk1
  rw [hrun]
  exact ⟨rfl, fun o ho f hf => (h2.value (hp.outs o ho) (by have := hk o ho; omega) hf).2.1⟩

/-- **Standard solver, as the property words it**: a freshly built (or flushed) network whose `inputs` list holds all
    its sensors; `LoadSensors(xs)` succeeds (either branch; in the second branch bias nodes are loaded with 1.0 by
    `loadNe`); then `ForwardSteps(k)`, `k ≥ 1`, `k ≥` rank of every output, succeeds and every output equals the
    feed-forward value of the loaded sensor values. -/
theorem std_forward_fresh (net : Net W) (σ : Nat → W → Option W) (lvl : Nat → Nat) (hff : FFNet net lvl = true)
    (hσ : ∀ (i : Nat) (nd : NNodeS W), net.nodes[i]? = some nd → nd.isNeuron = true → ∀ x, (σ nd.act x).isSome = true)
    (hin : ∀ (i : Nat) (nd : NNodeS W), net.nodes[i]? = some nd → nd.isSensor = true → i ∈ net.inputs)
    (xs : List W) (hload : (loadSensors net xs (init net)).2 = none)
    (k : Nat) (hk1 : 1 ≤ k) (hk : ∀ o ∈ net.outputs, lvl o ≤ k) :
    (forwardSteps net σ (k : Int) (loadSensors net xs (init net)).1).2 = (true, none) ∧
      ∀ o ∈ net.outputs, ∀ f, lvl o + 1 ≤ f →
        evalNode net σ (fun i => (get (loadSensors net xs (init net)).1 i).activation) f o =
          some (get (forwardSteps net σ (k : Int) (loadSensors net xs (init net)).1).1 o).activation := by
  obtain ⟨hlen, hc⟩ := loadSensors_init_loaded net xs hload
  exact std_forward net σ lvl hff hσ _ hlen (fun i nd hi hs => hc i nd hi hs (hin i nd hi hs)) k hk1 hk

/-- the same, read through `ReadOutputs` -/
theorem std_forward_outputs (net : Net W) (σ : Nat → W → Option W) (lvl : Nat → Nat) (hff : FFNet net lvl = true)
    (hσ : ∀ (i : Nat) (nd : NNodeS W), net.nodes[i]? = some nd → nd.isNeuron = true → ∀ x, (σ nd.act x).isSome = true)
    (s0 : St W) (hlen : s0.length = net.nodes.length)
    (hloaded : ∀ (i : Nat) (nd : NNodeS W), net.nodes[i]? = some nd → nd.isSensor = true → (get s0 i).count > 0)
    (k : Nat) (hk1 : 1 ≤ k) (hk : ∀ o ∈ net.outputs, lvl o ≤ k) (f : Nat) (hf : ∀ o ∈ net.outputs, lvl o + 1 ≤ f) :
    net.outputs.map (evalNode net σ (fun i => (get s0 i).activation) f) =
      (readOutputs net (forwardSteps net σ (k : Int) s0).1).map some := by
  have := (std_forward net σ lvl hff hσ s0 hlen hloaded k hk1 hk).2
  unfold readOutputs
  rw [List.map_map]
  apply List.map_congr_left
  intro o ho
  exact this o ho f (hf o ho)

section FastSolver
open GoNeat.Fast

/-- **Fast recursive activation (Kind A, exact).**  On an acyclic fast network (`FFFast`: every connection goes up
    in rank) with total activations, from any state with arrays of the right length, `RecursiveSteps` succeeds and
    every output neuron holds `fvalNode` - activation(Σ over `reverseAdjacentList` of signal·`adjacentMatrix`, then the
    bias) of the current sensor signals, each neuron evaluated once. -/
theorem fast_recursive_fval (fn : FastNet W) (σ : Nat → W → Option W) (lvl : Nat → Nat) (hff : FFFast fn lvl)
    (hσ : ∀ i, fn.nSensor ≤ i → i < fn.nTotal → ∀ x, (σ (fn.acts.getD i 0) x).isSome = true)
    (s : FState W) (hS : s.signals.length = fn.nTotal) (hP : s.processing.length = fn.nTotal) (hout : 0 < fn.nOutput) :
    (Fast.recursiveSteps fn σ s).2 = (true, none) ∧
      ∀ k, k < fn.nOutput →
        fvalNode fn σ (getW s.signals) (lvl (fn.nSensor + k) + 1) (fn.nSensor + k) =
          some (getW (Fast.recursiveSteps fn σ s).1.signals (fn.nSensor + k)) := by
  have hri : RI fn σ (getW s.signals) lvl (recInit fn s) := by
    refine ⟨hS, hP, by simp [recInit], by simp [recInit], fun j hj hjt => ⟨?_, rfl⟩, fun j hjt hja => ?_⟩
    · simp only [recInit, getB_map_range, hjt, if_true]
      exact decide_eq_true hj
    · simp only [recInit, getB_map_range, hjt, if_true, decide_eq_true_eq] at hja
      unfold fvalNode
      simp [hja, recInit]
  have hin : ∀ j, getB (recInit fn s).inAct j = false := fun j => by simp [recInit, getB_replicate_false]
  have hos : ∀ o ∈ (List.range fn.nOutput).map (· + fn.nSensor), o < fn.nTotal := by
    intro o ho
    simp only [List.mem_map, List.mem_range] at ho
    obtain ⟨k, hk, rfl⟩ := ho
    have := hff.outs
    omega
  have hne : (List.range fn.nOutput).map (· + fn.nSensor) ≠ [] := by
    intro h
    have := congrArg List.length h
    simp at this
    omega
  obtain ⟨s', r, hr, r2, r3, r4⟩ := recOutputs_ff fn σ (getW s.signals) lvl hff hσ _ false (recInit fn s) hos hri hin
  unfold Fast.recursiveSteps
  rw [hr, r2 hne]
  refine ⟨rfl, fun k hk => ?_⟩
  have hmem : fn.nSensor + k ∈ (List.range fn.nOutput).map (· + fn.nSensor) := by
    simp only [List.mem_map, List.mem_range]
    exact ⟨k, hk, by omega⟩
  exact r3.val _ (hos _ hmem) (r4 _ hmem)

/-- **One forward step (Kind A, exact)**: every neuron becomes activation(Σ_{connections into it} signal·weight + bias)
    of the signals before the step; sensors keep their signals; the processing cells are clean again.
    (One step of what `fast_forward` states for `k` steps; "partial" is not partial correctness, see the header.) -/
theorem fast_forward_partial (fn : FastNet W) (σ : Nat → W → Option W) (delta : W) (s : FState W)
    (hS : s.signals.length = fn.nTotal) (hP : s.processing.length = fn.nTotal)
    (hσ : ∀ i, fn.nSensor ≤ i → i < fn.nTotal → ∀ x, (σ (fn.acts.getD i 0) x).isSome = true)
    (hzero : ∀ i, fn.nSensor ≤ i → i < fn.nTotal → getW s.processing i = Scalar.zero) :
    (forwardStep fn σ delta s).2.2 = none ∧
      (∀ j, j < fn.nSensor → getW (forwardStep fn σ delta s).1.signals j = getW s.signals j) ∧
      (∀ i, fn.nSensor ≤ i → i < fn.nTotal →
        σ (fn.acts.getD i 0) (biased fn i (tFold (getW s.signals) (fn.conns.filter fun c => c.dst == i) Scalar.zero)) =
          some (getW (forwardStep fn σ delta s).1.signals i) ∧
        getW (forwardStep fn σ delta s).1.processing i = Scalar.zero) := by
  obtain ⟨s', r, hs, _, _, f4, f5, _⟩ := forwardStep_full fn σ delta s hS hP hσ
  rw [hs]
  refine ⟨rfl, f4, fun i hi hit => ?_⟩
  have := f5 i hi hit
  rw [hzero i hi hit] at this
  exact this

end FastSolver

/-- **Translation of one neuron (Kind B: exact arithmetic).**  `processIncomingConnections` for a neuron with fast
    index `t` and incoming links `ls`: the new connections all target `t`, only `biases[t]` changes, and
    Σ_{new connections} signal·weight + biases'[t] = biases[t] + Σ_{l ∈ ls} l.weight·value(l.source), when signals and
    values agree through `neuronLookup` and bias sources have value 1.  (One neuron of what `fval_eq_eval` states for the
    network; see the header on the name.) -/
theorem translation_partial {K : Type} [Scalar K] [CommSemiring K] [ExactArith K]
    (net : Net K) (lk : List (Int × Nat)) (t : Nat) (vals sig : Nat → K)
    (ls : List (NLink K)) (b : List K) (c : List (Fast.FLink K)) (b' : List K) (c' : List (Fast.FLink K))
    (ht : t < b.length)
    (hrun : Fast.procIncoming.links net lk t ls b c = .ok (b', c'))
    (hval : ∀ l ∈ ls, ∀ sn, net.nodes[l.src]? = some sn → (sn.kind == Kind.bias) = true → vals l.src = 1)
    (hsig : ∀ l ∈ ls, ∀ sn sIdx, net.nodes[l.src]? = some sn → Fast.lookupId lk sn.id = some sIdx →
      (sn.kind == Kind.bias) = false → sig sIdx = vals l.src) :
    ∃ new, c' = c ++ new ∧ (∀ n ∈ new, n.dst = t) ∧ b'.length = b.length ∧
      (∀ j, j ≠ t → Fast.getW b' j = Fast.getW b j) ∧
      Fast.tFold sig new 0 + Fast.getW b' t = Fast.getW b t + Fast.linkSum vals ls 0 :=
  Fast.translation_node net lk t vals sig ls b c b' c' ht hrun hval hsig

/-! ## non-vacuity and the negative side, over the exact `Int` scalar -/
section Examples
open GoNeat.ExactInt

/-- nodes: 0 bias, 1 input, 2 hidden, 3 output; links bias→hidden (3), input→hidden (2), hidden→output (1),
    input→output (5, skip connection), bias→output (7); linear activations -/
def ffNet : Net Int :=
  { id := 1
    nodes := [ { id := 1, kind := Kind.bias, act := 17, incoming := [], outgoing := [] },
               { id := 2, kind := Kind.input, act := 17, incoming := [], outgoing := [] },
               { id := 3, kind := Kind.hidden, act := 14,
                 incoming := [ { src := 0, dst := 2, w := 3, recur := false }, { src := 1, dst := 2, w := 2, recur := false } ],
                 outgoing := [] },
               { id := 4, kind := Kind.output, act := 14,
                 incoming := [ { src := 2, dst := 3, w := 1, recur := false }, { src := 1, dst := 3, w := 5, recur := false },
                               { src := 0, dst := 3, w := 7, recur := false } ], outgoing := [] } ]
    inputs := [0, 1], outputs := [3] }

def ffLvl : Nat → Nat := fun i => if i == 2 then 1 else if i == 3 then 2 else 0

example : FFNet ffNet ffLvl = true := by decide +kernel
example : Tight ffNet ffLvl = true := by decide +kernel
/-- the hypotheses of `std_forward` hold on a concrete run: load [10] (bias defaults to 1), 2 = depth steps -/
example : ((loadSensors ffNet [10] (init ffNet)).1.map (·.count)) = [1, 1, 0, 0] := by decide +kernel
example : (forwardSteps ffNet sigmaInt 2 (loadSensors ffNet [10] (init ffNet)).1).2 = (true, none) := by decide +kernel
/-- hidden = 3·1 + 2·10 = 23, output = 23 + 5·10 + 7·1 = 80 -/
example : readOutputs ffNet (forwardSteps ffNet sigmaInt 2 (loadSensors ffNet [10] (init ffNet)).1).1 = [80] := by decide +kernel
example : evalOutputs ffNet sigmaInt (sensFn ffNet [10]) = [some 80] := by decide +kernel
/-- the bias node was loaded with 1 by the second branch of `LoadSensors` -/
example : ((loadSensors ffNet [10] (init ffNet)).1.map (·.activation)) = [1, 10, 0, 0] := by decide +kernel

/-- negative side (why "every neuron is reachable from a sensor"): input 0, dead-end hidden 1 (no incoming link),
    output 2 = hidden·1 + input·1 -/
def deadNet : Net Int :=
  { id := 2
    nodes := [ { id := 1, kind := Kind.input, act := 17, incoming := [], outgoing := [] },
               { id := 2, kind := Kind.hidden, act := 14, incoming := [], outgoing := [] },
               { id := 3, kind := Kind.output, act := 14,
                 incoming := [ { src := 1, dst := 2, w := 1, recur := false }, { src := 0, dst := 2, w := 1, recur := false } ],
                 outgoing := [] } ]
    inputs := [0], outputs := [2] }

/-- the hypothesis fails (the hidden neuron has no incoming link) -/
example : FFNet deadNet (fun i => if i == 2 then 1 else 0) = false := by decide +kernel

/-- activation table with `σ(0) ≠ 0`: code 1 ↦ x + 1 -/
def sigmaShift (a : Nat) (x : Int) : Option Int := if a == 1 then some (x + 1) else sigmaInt a x

def deadNet1 : Net Int :=
  { deadNet with nodes := [ { id := 1, kind := Kind.input, act := 17, incoming := [], outgoing := [] },
                            { id := 2, kind := Kind.hidden, act := 1, incoming := [], outgoing := [] },
                            { id := 3, kind := Kind.output, act := 14,
                              incoming := [ { src := 1, dst := 2, w := 1, recur := false },
                                            { src := 0, dst := 2, w := 1, recur := false } ], outgoing := [] } ] }

/-- dead-end hidden neuron: evaluating each neuron once gives 0+1 = 1 at the hidden node and 5 at the output; the
    standard solver never activates the hidden node and returns 4 -/
theorem dead_end_breaks_equality :
    evalOutputs deadNet1 sigmaShift (sensFn deadNet1 [4]) = [some 5] ∧
      readOutputs deadNet1 (forwardSteps deadNet1 sigmaShift 2 (loadSensors deadNet1 [4] (init deadNet1)).1).1 = [4] := by
  decide +kernel

/-- 1 bias, 1 input, 1 output (linear): output = 2·x + 3·bias -/
def biasNet : Net Int :=
  { id := 3
    nodes := [ { id := 1, kind := Kind.bias, act := 17, incoming := [], outgoing := [] },
               { id := 2, kind := Kind.input, act := 17, incoming := [], outgoing := [] },
               { id := 3, kind := Kind.output, act := 14,
                 incoming := [ { src := 1, dst := 2, w := 2, recur := false }, { src := 0, dst := 2, w := 3, recur := false } ],
                 outgoing := [] } ]
    inputs := [0, 1], outputs := [2] }

def biasFast : Fast.FastNet Int :=
  { nBias := 1, nInput := 1, nOutput := 1, nTotal := 3, acts := [17, 17, 14], biasList := [0, 0, 3],
    conns := [ { src := 1, dst := 2, w := 2 } ] }

def sameFast (a b : Fast.FastNet Int) : Bool :=
  a.nBias == b.nBias && a.nInput == b.nInput && a.nOutput == b.nOutput && a.nTotal == b.nTotal && a.acts == b.acts &&
    a.biasList == b.biasList && a.conns.map (fun c => (c.src, c.dst, c.w)) == b.conns.map (fun c => (c.src, c.dst, c.w))

/-- `biasFast` is what `FastNetworkSolver()` builds from `biasNet` -/
example : (match Fast.ofNet biasNet with | .ok fn => sameFast fn biasFast | .error _ => false) = true := by decide +kernel

/-- the feed-forward value is 2·5 + 3 = 13; the repaired recursive activation returns it, the legacy one
    (`Model/LegacySolver.lean`, code before 203d9f0) returns 10 -/
theorem recursive_legacy_counterexample :
    evalOutputs biasNet sigmaInt (sensFn biasNet [5]) = [some 13] ∧
      Fast.readOutputs biasFast (Fast.recursiveSteps biasFast sigmaInt (Fast.loadSensors biasFast [5] (Fast.init biasFast)).1).1 = [13] ∧
      Fast.readOutputs biasFast (Fast.Legacy.recursiveSteps biasFast sigmaInt (Fast.loadSensors biasFast [5] (Fast.init biasFast)).1).1 = [10] := by
  decide +kernel

/-- the hypotheses of `fast_recursive_fval` hold for `biasFast` -/
example : Fast.FFFast biasFast (fun i => if i == 2 then 1 else 0) :=
  ⟨fun c hc => by simp [biasFast] at hc; subst hc; decide, fun j hj => by simp only [biasFast]; split <;> omega, by decide⟩
example : Fast.fvalNode biasFast sigmaInt (Fast.getW (Fast.loadSensors biasFast [5] (Fast.init biasFast)).1.signals) 2 2
    = some 13 := by decide +kernel
/-- one forward step on the same solver: 2·5 + 3 = 13 -/
example : Fast.readOutputs biasFast (Fast.forwardStep biasFast sigmaInt 0 (Fast.loadSensors biasFast [5] (Fast.init biasFast)).1).1
    = [13] := by decide +kernel

end Examples

end GoNeat.C12
