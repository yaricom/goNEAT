/-
  C16 — the parallel epoch executor is race-free under every schedule and preserves the population guarantees.

  (a) `lockset_drf`            no valid trace (= no schedule, any number of threads, any length) of a program that
                               follows the locking discipline contains a data race            [Proofs/ParallelDRF]
      `access_table_disciplined`  the REGENERATED table of shared-memory accesses of the goroutine body
                               (`Gen/Access.lean`, rewritten from the Go sources on every run) follows the committed
                               protection classes / ownership table — re-proved by evaluation on every run
      `table_discipline_sound` a trace whose worker accesses are instances of table rows (holding the locks the rows
                               claim) and whose main-thread accesses are before the fork / after the join is
                               `Disciplined`; with `lockset_drf`: `table_drf`
      `generated_table_drf`    … for the regenerated table: no conforming valid trace has a race
  (b) same guarantees, three files:
      here                     `interleaved_consistent`: the registry protocol alone (snapshot · fetch-add · store) over the
                               small abstract model of Model/RegistryPar.lean - for every interleaving of the micro-steps
                               of any number of threads: issued numbers pairwise distinct and above the base counters,
                               every number denotes one connection, every node id one role     [Proofs/RegistryPar]
      Props/C16Par.lean        the executor itself: the goroutines as programs over the real registry (Model/ParEpoch.lean),
                               any scheduler, any order of arrival.  `par_mutation_wf`, `par_mutation_consistent`,
                               `par_species_quota`, `parEpoch_guarantees`, `parEpochs_guarantees`: IF an epoch returns, it
                               gives what the sequential one gives (C01, C02, C03); `nonatomic_eq_atomic`,
                               `goroutine_eq_sequential`: run alone, a goroutine is the sequential model
                               [Proofs/ParFrame … ParFrameEpoch: frame lemmas, rely/guarantee logic, soundness, join]
      Props/C16NoError.lean    … and it DOES return: `parEpoch_no_error`, `parEpochs_no_error` for every execution,
                               `execution_exists`                                              [Proofs/ParNoError …]
      The abstract model says of its registry what `par_mutation_consistent` says of the real one (its invariant is the
      counter part of `GInv`, Proofs/ParFrameSound.lean); it is the model DESIGN section 3 and Appendix C describe, stated here because it can be
      read in one sitting.  What is claimed of the executor rests on C16Par and C16NoError.
  Unchanged code before repair e5dce51 (F8): `legacy_table_not_disciplined`, `legacy_innovations_race`.
-/
import GoNeat.Proofs.ParallelDRF
import GoNeat.Proofs.RegistryPar
import GoNeat.Spec.AccessExpect
import GoNeat.Gen.Access

namespace GoNeat.C16
open GoNeat.Par GoNeat.AccessTable

/-- In EVERY valid trace — every schedule, any number of threads, any length — if every access is serial (main thread,
    before the fork / after the join) or follows the protection class of its location (one common mutex held /
    thread-owned / read-only / atomic-only), no two conflicting accesses are unordered by happens-before. -/
theorem lockset_drf {L M : Type} [DecidableEq M] (cls : L → LocClass M) (tr : Trace L M)
    (hv : Valid tr) (hd : Disciplined cls tr) : ∀ i j, ¬ Race tr i j :=
  Par.lockset_drf cls tr hv hd

/-- the regenerated access table (`Gen/Access.lean`) against the committed expectations: the obligation, and what it means
    for the three pieces of shared registry state.  One statement, because the three facts filter the same rows by the
    same location names and the kernel shares that work only inside one declaration; the named theorems are its parts. -/
theorem access_table :
    AccessExpect.obligation Gen.accesses Gen.fieldWrites Gen.fieldReads Gen.externalCalls Gen.unrecognised = true ∧
    ((Gen.accesses.filter (·.loc == "genetics.Population.innovations")).all
        (fun a => a.kind != .atomic && a.holds "genetics.Population.mutex") = true ∧
      (Gen.accesses.filter (·.loc == "genetics.Population.innovations")).any (·.kind == .wr) = true) ∧
    ((Gen.accesses.filter (fun a => a.loc == "genetics.Population.nextInnovNum" || a.loc == "genetics.Population.nextNodeId")).all
        (fun a => a.prot == .atomic) = true ∧
      (Gen.accesses.filter (fun a => a.loc == "genetics.Population.nextInnovNum" || a.loc == "genetics.Population.nextNodeId")).length ≥ 2) := by
  decide +kernel

/-- the obligation on the regenerated access table: nothing unrecognised, every access of `Population` state /
    package-level / captured variables follows its protection class, every field write goes to a fresh or
    species-owned object covered by the committed table, every external callee is on the justified list -/
theorem access_table_disciplined :
    AccessExpect.obligation Gen.accesses Gen.fieldWrites Gen.fieldReads Gen.externalCalls Gen.unrecognised = true :=
  access_table.1

theorem innovations_guarded :
    (Gen.accesses.filter (·.loc == "genetics.Population.innovations")).all
      (fun a => a.kind != .atomic && a.holds "genetics.Population.mutex") = true ∧
    (Gen.accesses.filter (·.loc == "genetics.Population.innovations")).any (·.kind == .wr) = true :=
  access_table.2.1

theorem counters_atomic :
    (Gen.accesses.filter (fun a => a.loc == "genetics.Population.nextInnovNum" || a.loc == "genetics.Population.nextNodeId")).all
      (fun a => a.prot == .atomic) = true ∧
    (Gen.accesses.filter (fun a => a.loc == "genetics.Population.nextInnovNum" || a.loc == "genetics.Population.nextNodeId")).length ≥ 2 :=
  access_table.2.2

def toLocClass : SharedClass → LocClass String
  | .guarded m => .guarded m
  | .readOnly => .readOnly
  | .atomicOnly => .atomicOnly

def kindOf : Op String String → Option AccKind
  | .rd _ => some .rd
  | .wr _ => some .wr
  | .atomic _ => some .atomic
  | _ => none

/-- "the trace is an execution of the program the table was extracted from" — the assumption that ties the static
    table to dynamic traces (soundness of the extractor and of its lock analysis; fork/join shape of the executor):
    every access is either *serial* (made by the main goroutine while every other thread is already joined or not yet
    forked: everything `NextEpoch` does before the `go` statements and after `wg.Wait()`), or an instance of a table
    row — the table covers the goroutine bodies AND the part of the forking function that runs concurrently with
    them (the `for … { go … }` loop up to `wg.Wait()`) — holding every mutex the row claims -/
structure Conforms (rows : List Access) (tr : Trace String String) : Prop where
  access : ∀ (k : Nat) (e : Event String String) (l : String), tr[k]? = some e → e.op.loc? = some l →
      Serial tr k e ∨
      ∃ r ∈ rows, r.loc = l ∧ kindOf e.op = some r.kind ∧ ∀ m, r.holds m = true → Holds tr k e.tid m

theorem table_discipline_sound (classOf : String → SharedClass) (rows : List Access) (tr : Trace String String)
    (hs : sharedDiscipline classOf rows = true) (hc : Conforms rows tr) :
    Disciplined (fun l => toLocClass (classOf l)) tr := by
  intro k e he
  rw [accessOk_iff]
  intro l hl
  rcases hc.access k e l he hl with hser | ⟨r, hr, hloc, hk, hh⟩
  · exact Or.inl hser
  · right
    have hok : rowOk (classOf l) r = true := by
      simpa [hloc] using List.all_eq_true.mp hs r hr
    -- the row has the kind of the access; its class then asks of the row what `ClassOk` asks of the access
    cases hc' : classOf l with
    | guarded m =>
      simp only [hc', rowOk, Bool.and_eq_true] at hok
      simpa only [ClassOk, hc', toLocClass] using hh m hok.2
    | readOnly | atomicOnly =>
      simp only [hc', rowOk, Bool.and_eq_true, beq_iff_eq] at hok
      rw [hok.1] at hk
      simp only [ClassOk, hc', toLocClass]
      cases hop : e.op <;> simp [hop, kindOf, Op.isWrite, Op.isAtomic] at hk ⊢

/-- a disciplined table: no conforming valid trace has a race on `Population` state / package-level variables -/
theorem table_drf (classOf : String → SharedClass) (rows : List Access) (tr : Trace String String)
    (hs : sharedDiscipline classOf rows = true) (hv : Valid tr) (hc : Conforms rows tr) : ∀ i j, ¬ Race tr i j :=
  Par.lockset_drf _ tr hv (table_discipline_sound classOf rows tr hs hc)

/-- … instantiated with the regenerated table and the committed classes -/
theorem generated_table_drf (tr : Trace String String) (hv : Valid tr) (hc : Conforms Gen.accesses tr) :
    ∀ i j, ¬ Race tr i j := by
  refine table_drf AccessExpect.classOf Gen.accesses tr ?_ hv hc
  have h := access_table_disciplined
  simp only [AccessExpect.obligation, disciplined, Bool.and_eq_true] at h
  exact h.1.1.2

/-- non-vacuity of `lockset_drf`: a 22-event trace (two workers taking the mutex in turn, atomics, owned and
    read-only locations, serial accesses of main before the fork and after the join) is valid and disciplined -/
example : Valid exTrace ∧ Disciplined exCls exTrace ∧ ∀ i j, ¬ Race exTrace i j :=
  ⟨exTrace_valid, exTrace_disciplined, exTrace_race_free⟩

/-- … and the definitions can be violated: an undisciplined valid trace with a race -/
example : Valid racyTrace ∧ Race racyTrace 2 3 := ⟨racyTrace_valid, racyTrace_race⟩

/-! ### the defect repaired by e5dce51 (F8): `Innovations()` read the slice header without the mutex -/

/-- the rows of `Population.innovations` as extracted from the code BEFORE the repair -/
def legacyAccesses : List Access := [
  ⟨"(*genetics.Population).Innovations", "genetics.Population.innovations", .rd, .plain, "neat/genetics/population.go:142"⟩,
  ⟨"(*genetics.Population).StoreInnovation", "genetics.Population.innovations", .rd, .underMutex ["genetics.Population.mutex"], "neat/genetics/population.go:138"⟩,
  ⟨"(*genetics.Population).StoreInnovation", "genetics.Population.innovations", .wr, .underMutex ["genetics.Population.mutex"], "neat/genetics/population.go:138"⟩
]

theorem legacy_table_not_disciplined : sharedDiscipline AccessExpect.classOf legacyAccesses = false := by decide +kernel

/-- … and no choice of a protection class repairs it -/
theorem legacy_table_no_class (c : SharedClass) : sharedDiscipline (fun _ => c) legacyAccesses = false := by
  cases c with
  | guarded m => simp [sharedDiscipline, legacyAccesses, rowOk, Access.holds]
  | readOnly | atomicOnly => simp [sharedDiscipline, legacyAccesses, rowOk]

/-- the schedule the race detector reported: goroutine 2 scans `Innovations()` while goroutine 1 is inside
    `StoreInnovation` (mutex held) appending -/
def legacyTrace : Trace String String :=
  [ ⟨0, .fork 1⟩, ⟨0, .fork 2⟩, ⟨1, .acq "mutex"⟩, ⟨2, .rd "innovations"⟩, ⟨1, .wr "innovations"⟩, ⟨1, .rel "mutex"⟩ ]

theorem legacyTrace_valid : Valid legacyTrace := valid_of_validB (by decide +kernel)

/-- C16 counterexample on the unrepaired code: a valid trace with a data race on `Population.innovations` -/
theorem legacy_innovations_race : Valid legacyTrace ∧ Race legacyTrace 3 4 :=
  ⟨legacyTrace_valid, by omega, ⟨2, .rd "innovations"⟩, ⟨1, .wr "innovations"⟩, rfl, rfl,
    ⟨by simp, "innovations", rfl, rfl, Or.inr rfl, by simp [Op.isAtomic]⟩,
    -- no happens-before edge leaves the read at all
    fun h => absurd (srcB_of_hb h) (by decide +kernel)⟩

open GoNeat.RegPar in
/-- For EVERY scheduler list, any number of threads and requests: after running the interleaved micro-steps
    (snapshot of the records · fetch-add nextNode? · fetch-add nextInn* · store) every innovation number in any gene
    denotes one connection and every node id one role (`Functional log`, `Functional nodeLog`); the numbers issued by
    the counters are pairwise distinct and above the epoch's base counters; a number used in a gene is either
    freshly issued or keeps the meaning the registry gave it before the epoch; log and records agree; records only
    grow.  (Two records for the SAME link with different numbers may exist — allowed: see the example in
    Proofs/RegistryPar.lean.) -/
theorem interleaved_consistent (linkOf : Nat → Link) (progs : List (List Req)) (sched : List Nat) (s₀ : Shared)
    (h₀ : RegInv₀ linkOf s₀) :
    let s := (runSched linkOf (initState s₀ progs) sched).shared
    Functional s.log ∧ Functional s.nodeLog ∧
    Functional (s.records.flatMap (Rec.bindings linkOf)) ∧ Functional (s.records.flatMap Rec.nodeBindings) ∧
    s.issuedInn.Nodup ∧ (∀ n ∈ s.issuedInn, s₀.nextInn < n) ∧
    s.issuedNode.Nodup ∧ (∀ n ∈ s.issuedNode, s₀.nextNode < n) ∧
    (∀ b ∈ s.log, b.1 ∈ s.issuedInn ∨ b ∈ s₀.records.flatMap (Rec.bindings linkOf)) ∧
    (∀ b ∈ s.nodeLog, b.1 ∈ s.issuedNode ∨ b ∈ s₀.records.flatMap Rec.nodeBindings) ∧
    (∀ b ∈ s.log, b ∈ s.records.flatMap (Rec.bindings linkOf)) ∧
    (∃ ext, s.records = s₀.records ++ ext) :=
  RegPar.interleaved_consistent linkOf progs sched s₀ h₀

/-- non-vacuity: the initial registry of the worked example satisfies the hypothesis, and in its run two threads
    really do create two records for the same link with different numbers -/
example : RegPar.RegInv₀ RegPar.Example.linkOf RegPar.Example.s₀ := RegPar.Example.regInv₀

end GoNeat.C16
