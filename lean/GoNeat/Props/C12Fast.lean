/-
  C12, second part: the fast solver's forward stepping and relaxation (all steps), the translation
  `Network.FastNetworkSolver()` globally, and the corollary tying the four solver paths to `evalNode`.

  Kind A (every scalar type, exact, same operation order):
  * `fast_forward` - `ForwardSteps(k)`, `k ≥` rank of every output, from a state with clean processing cells (fresh,
    flushed, or after any forward step / relaxation): no error and every output holds `fvalNode`.
    `fast_forward_any_state`: from ANY state (e.g. after `RecursiveSteps`, which leaves the processing cells dirty)
    one more step suffices.
  * `fast_relax` - `Relax(maxSteps, δ)` executes `relaxCount` forward steps (`fast_relax_state`: it leaves exactly the
    state of `ForwardSteps(relaxCount)`), `1 ≤ relaxCount ≤ maxSteps`, result `false` only if all steps were used, and
    every output of rank ≤ `relaxCount` holds `fvalNode`.  `fast_relax_stops`: for `δ > 0` it stops no later than step
    `D + 1` (`D` = largest rank of a neuron) and then reports `true`; needs "`δ < |v - v|` is false" for the finitely
    many neuron values (true in every ordered ring for `δ ≥ 0` - `fast_relax_stops_exact` - and for every finite
    float64).  `fast_relax_nonpos`: `δ ≤ 0` performs exactly one step and reports `true`.
  * `translation_wf` - the translated network is acyclic under the transported ranking, duplicate-free, its neurons
    have rank ≥ 1 and registered activation types: the hypotheses of all fast-solver theorems.
  Hypotheses on the fast network: `FFFast` (ranking), `NoDupConn` (no pair joined twice: then `adjacentMatrix` holds
  the weight of THE connection), neurons have rank ≥ 1 (a neuron whose links all come from bias nodes has no
  connection at all in the fast network but still needs one step).

  Kind B (exact commutative-semiring arithmetic, `[CommSemiring K] [ExactArith K]`):
  * `fval_eq_eval` / `fval_eq_eval_outputs` - `fvalNode (ofNet net) (idx i) = evalNode net i` for every neuron, and at
    output position `p` (fast index `nSensor + p`).
  * `all_solvers_fresh` - the same for fresh instances after `LoadSensors(xs)` on both (Proofs/LoadAgree.lean).
  * `all_solvers_eval` / `all_solvers_outputs` - standard `ForwardSteps`, fast `ForwardSteps`, fast `RecursiveSteps`
    and fast `Relax` (run for at least rank-of-the-output steps) all leave `evalNode` at every output.
-/
import GoNeat.Props.C12
import GoNeat.Proofs.FastFFAll
import GoNeat.Proofs.Translation
import GoNeat.Proofs.LoadAgree
import GoNeat.Proofs.Exact

namespace GoNeat.C12
open GoNeat.SolverSpec

variable {W : Type} [Scalar W]

private theorem lay0 (fn : Fast.FastNet W) (σ : Nat → W → Option W) (lvl : Nat → Nat)
    (hpos : ∀ i, fn.nSensor ≤ i → i < fn.nTotal → 1 ≤ lvl i) (s : Fast.FState W) (sig : Nat → W)
    (hS : s.signals.length = fn.nTotal) (hP : s.processing.length = fn.nTotal)
    (hzero : ∀ i, fn.nSensor ≤ i → i < fn.nTotal → Fast.getW s.processing i = Scalar.zero)
    (hsig : ∀ j, j < fn.nSensor → Fast.getW s.signals j = sig j) : Fast.Lay fn σ sig lvl 0 s :=
  ⟨hS, hP, hzero, hsig, fun i hi hit hl => by have := hpos i hi hit; omega⟩

/-- **Fast forward stepping (Kind A, exact).**  On an acyclic fast network without doubled connections whose neurons
    have rank ≥ 1, from any state with clean processing cells, `ForwardSteps(k)` with `k ≥` the rank of every output
    reports no error (and `true` for `k ≥ 1`, given `0 ≤ 0` on the scalar type - a hypothesis because `Scalar` has no
    order laws; `ForwardSteps` runs `forwardStep` with `delta = 0` and reports `delta ≤ 0`), and every output neuron holds
    `fvalNode` of the current sensor signals. -/
theorem fast_forward (fn : Fast.FastNet W) (σ : Nat → W → Option W) (lvl : Nat → Nat) (hff : Fast.FFFast fn lvl)
    (hnd : Fast.NoDupConn fn) (hpos : ∀ i, fn.nSensor ≤ i → i < fn.nTotal → 1 ≤ lvl i)
    (hσ : ∀ i, fn.nSensor ≤ i → i < fn.nTotal → ∀ x, (σ (fn.acts.getD i 0) x).isSome = true)
    (s : Fast.FState W) (hS : s.signals.length = fn.nTotal) (hP : s.processing.length = fn.nTotal)
    (hzero : ∀ i, fn.nSensor ≤ i → i < fn.nTotal → Fast.getW s.processing i = Scalar.zero)
    (k : Nat) (hk : ∀ j, j < fn.nOutput → lvl (fn.nSensor + j) ≤ k) :
    (Fast.forwardSteps fn σ (k : Int) s).2.2 = none ∧
      (Scalar.le (Scalar.zero : W) Scalar.zero = true → 1 ≤ k → (Fast.forwardSteps fn σ (k : Int) s).2.1 = true) ∧
      ∀ j, j < fn.nOutput →
        Fast.fvalNode fn σ (Fast.getW s.signals) (lvl (fn.nSensor + j) + 1) (fn.nSensor + j) =
          some (Fast.getW (Fast.forwardSteps fn σ (k : Int) s).1.signals (fn.nSensor + j)) := by
  have hall : Fast.FFAll fn σ lvl := ⟨hff, hnd, hpos, hσ⟩
  unfold Fast.forwardSteps
  simp only [Int.toNat_natCast]
  obtain ⟨h1, h2, h3⟩ := Fast.fwdLoop_lay fn σ (Fast.getW s.signals) lvl hall k 0 false s
    (lay0 fn σ lvl hpos s _ hS hP hzero (fun _ _ => rfl))
  rw [Nat.zero_add] at h2
  exact ⟨h1, h3, fun j hj => h2.val _ (by omega) (by have := hff.outs; omega) (hk j hj)⟩

/-- the same from ANY state (processing cells possibly dirty, as `RecursiveSteps` leaves them): the first step cleans
    the cells, so `k + 1` steps suffice -/
theorem fast_forward_any_state (fn : Fast.FastNet W) (σ : Nat → W → Option W) (lvl : Nat → Nat) (hff : Fast.FFFast fn lvl)
    (hnd : Fast.NoDupConn fn) (hpos : ∀ i, fn.nSensor ≤ i → i < fn.nTotal → 1 ≤ lvl i)
    (hσ : ∀ i, fn.nSensor ≤ i → i < fn.nTotal → ∀ x, (σ (fn.acts.getD i 0) x).isSome = true)
    (s : Fast.FState W) (hS : s.signals.length = fn.nTotal) (hP : s.processing.length = fn.nTotal)
    (k : Nat) (hk : ∀ j, j < fn.nOutput → lvl (fn.nSensor + j) ≤ k) :
    (Fast.forwardSteps fn σ ((k + 1 : Nat) : Int) s).2.2 = none ∧
      ∀ j, j < fn.nOutput →
        Fast.fvalNode fn σ (Fast.getW s.signals) (lvl (fn.nSensor + j) + 1) (fn.nSensor + j) =
          some (Fast.getW (Fast.forwardSteps fn σ ((k + 1 : Nat) : Int) s).1.signals (fn.nSensor + j)) := by
  have hall : Fast.FFAll fn σ lvl := ⟨hff, hnd, hpos, hσ⟩
  obtain ⟨s', r, hs, f2, f3, f4, f5, _⟩ := Fast.forwardStep_full fn σ Scalar.zero s hS hP hσ
  unfold Fast.forwardSteps
  simp only [Int.toNat_natCast]
  unfold Fast.fwdLoop
  rw [hs]
  simp only
  obtain ⟨h1, h2, _⟩ := Fast.fwdLoop_lay fn σ (Fast.getW s.signals) lvl hall k 0 r s'
    (lay0 fn σ lvl hpos s' _ f2 f3 (fun i a b => (f5 i a b).2) f4)
  rw [Nat.zero_add] at h2
  exact ⟨h1, fun j hj => h2.val _ (by omega) (by have := hff.outs; omega) (hk j hj)⟩

/-- **Relaxation (Kind A, exact).**  `Relax(maxSteps, δ)` from a clean state executes `m = relaxCount` forward steps,
    `m ≤ maxSteps`, `m ≥ 1` if `maxSteps ≥ 1`; it reports no error, reports `false` only when it used all `maxSteps`
    steps, and every output whose rank is ≤ `m` ("propagating for at least as many steps as the longest path") holds
    `fvalNode`. -/
theorem fast_relax (fn : Fast.FastNet W) (σ : Nat → W → Option W) (lvl : Nat → Nat) (hff : Fast.FFFast fn lvl)
    (hnd : Fast.NoDupConn fn) (hpos : ∀ i, fn.nSensor ≤ i → i < fn.nTotal → 1 ≤ lvl i)
    (hσ : ∀ i, fn.nSensor ≤ i → i < fn.nTotal → ∀ x, (σ (fn.acts.getD i 0) x).isSome = true)
    (s : Fast.FState W) (hS : s.signals.length = fn.nTotal) (hP : s.processing.length = fn.nTotal)
    (hzero : ∀ i, fn.nSensor ≤ i → i < fn.nTotal → Fast.getW s.processing i = Scalar.zero)
    (maxSteps : Nat) (delta : W) :
    (Fast.relax fn σ (maxSteps : Int) delta s).2.2 = none ∧
      Fast.relaxCount fn σ delta maxSteps s ≤ maxSteps ∧
      (1 ≤ maxSteps → 1 ≤ Fast.relaxCount fn σ delta maxSteps s) ∧
      ((Fast.relax fn σ (maxSteps : Int) delta s).2.1 = false → Fast.relaxCount fn σ delta maxSteps s = maxSteps) ∧
      ∀ j, j < fn.nOutput → lvl (fn.nSensor + j) ≤ Fast.relaxCount fn σ delta maxSteps s →
        Fast.fvalNode fn σ (Fast.getW s.signals) (lvl (fn.nSensor + j) + 1) (fn.nSensor + j) =
          some (Fast.getW (Fast.relax fn σ (maxSteps : Int) delta s).1.signals (fn.nSensor + j)) := by
  have hall : Fast.FFAll fn σ lvl := ⟨hff, hnd, hpos, hσ⟩
  unfold Fast.relax
  simp only [Int.toNat_natCast]
  obtain ⟨h1, h2, h3, h4⟩ := Fast.relaxLoop_lay fn σ (Fast.getW s.signals) lvl hall delta maxSteps 0 false s
    (lay0 fn σ lvl hpos s _ hS hP hzero (fun _ _ => rfl))
  rw [Nat.zero_add] at h2
  exact ⟨h1, Fast.relaxCount_le fn σ delta maxSteps s, h4, h3,
    fun j hj hl => h2.val _ (by omega) (by have := hff.outs; omega) hl⟩

/-- `relaxCount` counts forward steps: `Relax(maxSteps, δ)` leaves the state (and error) of `ForwardSteps(relaxCount)` -/
theorem fast_relax_state (fn : Fast.FastNet W) (σ : Nat → W → Option W) (s : Fast.FState W) (maxSteps : Nat) (delta : W) :
    (Fast.relax fn σ (maxSteps : Int) delta s).1 =
        (Fast.forwardSteps fn σ ((Fast.relaxCount fn σ delta maxSteps s : Nat) : Int) s).1 ∧
      (Fast.relax fn σ (maxSteps : Int) delta s).2.2 =
        (Fast.forwardSteps fn σ ((Fast.relaxCount fn σ delta maxSteps s : Nat) : Int) s).2.2 := by
  unfold Fast.relax Fast.forwardSteps
  simp only [Int.toNat_natCast]
  exact Fast.relaxLoop_state fn σ delta maxSteps false false s

/-- **Relaxation stops (Kind A given the self-difference test).**  With `δ > 0` (more exactly: whenever `δ < |v - v|`
    is false for the value `v` of every neuron - a hypothesis because `Scalar` has no law `v - v = 0`; discharged for
    ordered fields in `fast_relax_stops_exact`) `Relax` executes at most `D + 1` steps, `D` = largest neuron rank, and
    if `maxSteps ≥ D + 1` it reports `true`. -/
theorem fast_relax_stops (fn : Fast.FastNet W) (σ : Nat → W → Option W) (lvl : Nat → Nat) (hff : Fast.FFFast fn lvl)
    (hnd : Fast.NoDupConn fn) (hpos : ∀ i, fn.nSensor ≤ i → i < fn.nTotal → 1 ≤ lvl i)
    (hσ : ∀ i, fn.nSensor ≤ i → i < fn.nTotal → ∀ x, (σ (fn.acts.getD i 0) x).isSome = true)
    (s : Fast.FState W) (hS : s.signals.length = fn.nTotal) (hP : s.processing.length = fn.nTotal)
    (hzero : ∀ i, fn.nSensor ≤ i → i < fn.nTotal → Fast.getW s.processing i = Scalar.zero)
    (maxSteps : Nat) (delta : W) (D : Nat) (hD : ∀ i, fn.nSensor ≤ i → i < fn.nTotal → lvl i ≤ D)
    (hδ : ∀ i, fn.nSensor ≤ i → i < fn.nTotal → ∀ v, Fast.fvalNode fn σ (Fast.getW s.signals) (lvl i + 1) i = some v →
      Scalar.lt delta (Scalar.abs (Scalar.sub v v)) = false) :
    Fast.relaxCount fn σ delta maxSteps s ≤ D + 1 ∧
      (D + 1 ≤ maxSteps → (Fast.relax fn σ (maxSteps : Int) delta s).2 = (true, none)) := by
  have hall : Fast.FFAll fn σ lvl := ⟨hff, hnd, hpos, hσ⟩
  have hL := lay0 fn σ lvl hpos s _ hS hP hzero (fun _ _ => rfl)
  obtain ⟨h1, h2⟩ := Fast.relaxLoop_stops fn σ (Fast.getW s.signals) lvl hall delta D hD hδ maxSteps 0 false s hL
  obtain ⟨e1, _⟩ := Fast.relaxLoop_lay fn σ (Fast.getW s.signals) lvl hall delta maxSteps 0 false s hL
  refine ⟨by omega, fun hm => ?_⟩
  unfold Fast.relax
  simp only [Int.toNat_natCast]
  exact Prod.ext (h2 (by omega)) e1

/-- the self-difference test holds in exact ordered-field arithmetic for every `δ ≥ 0` (Kind B) -/
theorem fast_relax_stops_exact {K : Type} [Field K] [LinearOrder K] [IsStrictOrderedRing K] [FloorRing K]
    (fn : Fast.FastNet K) (σ : Nat → K → Option K) (lvl : Nat → Nat) (hff : Fast.FFFast fn lvl)
    (hnd : Fast.NoDupConn fn) (hpos : ∀ i, fn.nSensor ≤ i → i < fn.nTotal → 1 ≤ lvl i)
    (hσ : ∀ i, fn.nSensor ≤ i → i < fn.nTotal → ∀ x, (σ (fn.acts.getD i 0) x).isSome = true)
    (s : Fast.FState K) (hS : s.signals.length = fn.nTotal) (hP : s.processing.length = fn.nTotal)
    (hzero : ∀ i, fn.nSensor ≤ i → i < fn.nTotal → Fast.getW s.processing i = Scalar.zero)
    (maxSteps : Nat) (delta : K) (hd : 0 ≤ delta) (D : Nat) (hD : ∀ i, fn.nSensor ≤ i → i < fn.nTotal → lvl i ≤ D) :
    Fast.relaxCount fn σ delta maxSteps s ≤ D + 1 ∧
      (D + 1 ≤ maxSteps → (Fast.relax fn σ (maxSteps : Int) delta s).2 = (true, none)) :=
  fast_relax_stops fn σ lvl hff hnd hpos hσ s hS hP hzero maxSteps delta D hD (fun _ _ _ v _ => by
    simp only [Exact.lt_eq, Exact.abs_eq, Exact.sub_eq, sub_self, abs_zero, decide_eq_false_iff_not, not_lt]
    exact hd)

/-- **`δ ≤ 0`: exactly one forward step**, result `true` (what the code does: the difference test is skipped) -/
theorem fast_relax_nonpos (fn : Fast.FastNet W) (σ : Nat → W → Option W) (s : Fast.FState W)
    (hS : s.signals.length = fn.nTotal) (hP : s.processing.length = fn.nTotal)
    (hσ : ∀ i, fn.nSensor ≤ i → i < fn.nTotal → ∀ x, (σ (fn.acts.getD i 0) x).isSome = true)
    (delta : W) (hle : Scalar.le delta Scalar.zero = true) (maxSteps : Nat) (hm : 1 ≤ maxSteps) :
    Fast.relax fn σ (maxSteps : Int) delta s = ((Fast.forwardStep fn σ delta s).1, true, none) := by
  unfold Fast.relax
  simp only [Int.toNat_natCast]
  obtain ⟨k, rfl⟩ : ∃ k, maxSteps = k + 1 := ⟨maxSteps - 1, by omega⟩
  exact Fast.relaxLoop_nonpos fn σ delta s hS hP hσ hle k false

/-- **The translated network is well-formed (Kind A).**  For a feed-forward network satisfying `TransWF` (distinct
    ids; outputs list duplicate-free and of output type; every node indexed; sensors without incoming links; no node
    pair joined twice; ranks bounded), whatever `FastNetworkSolver()` returns satisfies all hypotheses of the
    fast-solver theorems under the transported ranking `lvlF`. -/
theorem translation_wf (net : Net W) (σ : Nat → W → Option W) (lvl : Nat → Nat) (hff : FFNet net lvl = true)
    (hwf : Fast.TransWF net lvl = true) (fn : Fast.FastNet W) (hofn : Fast.ofNet net = .ok fn)
    (hσ : ∀ (i : Nat) (nd : NNodeS W), net.nodes[i]? = some nd → nd.isNeuron = true → ∀ x, (σ nd.act x).isSome = true) :
    Fast.FFFast fn (Fast.lvlF net lvl) ∧ Fast.NoDupConn fn ∧
      (∀ i, fn.nSensor ≤ i → i < fn.nTotal → 1 ≤ Fast.lvlF net lvl i) ∧
      (∀ i, fn.nSensor ≤ i → i < fn.nTotal → ∀ x, (σ (fn.acts.getD i 0) x).isSome = true) ∧
      fn.nOutput = net.outputs.length ∧ fn.nTotal = net.nodes.length := by
  have hw := Fast.TransWF_props net lvl hwf
  have hF := Fast.ofNet_facts net hw fn hofn
  have h := Fast.translated_FFAll net σ lvl (Solver.FFNet_props net lvl hff) hw fn hF hσ
  exact ⟨h.ff, h.nd, h.pos, h.tot, hF.nOutput, hF.nTotal⟩

section Exact
variable {K : Type} [Scalar K] [CommSemiring K] [ExactArith K]

/-- **The translation computes the same function (Kind B: exact arithmetic).**  `sens` = sensor values of the network
    (bias nodes valued 1), `sigF` = sensor signals of the fast solver, agreeing on the input nodes through the index
    map `idx` (= `neuronLookup`).  Then for EVERY neuron `i` the feed-forward value of the fast representation at
    `idx i` is the feed-forward value of the network at `i`. -/
theorem fval_eq_eval (net : Net K) (σ : Nat → K → Option K) (lvl : Nat → Nat) (hff : FFNet net lvl = true)
    (hwf : Fast.TransWF net lvl = true) (fn : Fast.FastNet K) (hofn : Fast.ofNet net = .ok fn)
    (hσ : ∀ (i : Nat) (nd : NNodeS K), net.nodes[i]? = some nd → nd.isNeuron = true → ∀ x, (σ nd.act x).isSome = true)
    (sens sigF : Nat → K)
    (hb : ∀ (j : Nat) (nd : NNodeS K), net.nodes[j]? = some nd → nd.kind = Kind.bias → sens j = 1)
    (hs : ∀ (j : Nat) (nd : NNodeS K), net.nodes[j]? = some nd → nd.kind = Kind.input → sigF (Fast.idx net j) = sens j)
    (i : Nat) (nd : NNodeS K) (hi : net.nodes[i]? = some nd) (hn : nd.isNeuron = true) :
    Fast.fvalNode fn σ sigF (lvl i + 1) (Fast.idx net i) = evalNode net σ sens (lvl i + 1) i := by
  have hw := Fast.TransWF_props net lvl hwf
  have hk : nd.kind ≠ Kind.bias := by
    intro h
    simp [NNodeS.isNeuron, h, Kind.bias, Kind.hidden, Kind.output] at hn
  obtain ⟨v, e1, e2⟩ := Fast.fval_eq_eval_aux net σ lvl (Solver.FFNet_props net lvl hff) hw fn hofn hσ sens sigF
    (fun j nd' h1 h2 => hb j nd' h1 (by simpa using h2)) hs i nd
    (Fast.order_covers net hw i (Fast.valid_lt net i nd hi)) hi hk
  rw [e1, e2]

/-- the same at the outputs: output position `p` has fast index `nSensor + p` -/
theorem fval_eq_eval_outputs (net : Net K) (σ : Nat → K → Option K) (lvl : Nat → Nat) (hff : FFNet net lvl = true)
    (hwf : Fast.TransWF net lvl = true) (fn : Fast.FastNet K) (hofn : Fast.ofNet net = .ok fn)
    (hσ : ∀ (i : Nat) (nd : NNodeS K), net.nodes[i]? = some nd → nd.isNeuron = true → ∀ x, (σ nd.act x).isSome = true)
    (sens sigF : Nat → K)
    (hb : ∀ (j : Nat) (nd : NNodeS K), net.nodes[j]? = some nd → nd.kind = Kind.bias → sens j = 1)
    (hs : ∀ (j : Nat) (nd : NNodeS K), net.nodes[j]? = some nd → nd.kind = Kind.input → sigF (Fast.idx net j) = sens j)
    (p : Nat) (hp : p < net.outputs.length) :
    Fast.fvalNode fn σ sigF (lvl (net.outputs[p]) + 1) (fn.nSensor + p) =
        evalNode net σ sens (lvl (net.outputs[p]) + 1) (net.outputs[p]) ∧
      Fast.lvlF net lvl (fn.nSensor + p) = lvl (net.outputs[p]) := by
  have hw := Fast.TransWF_props net lvl hwf
  have hF := Fast.ofNet_facts net hw fn hofn
  obtain ⟨nd, hnd, hk⟩ := hw.outK _ (List.getElem_mem hp)
  have hn : nd.isNeuron = true := by simp [NNodeS.isNeuron, hk]
  have hidx := Fast.idx_output net hw fn hF p hp
  have := fval_eq_eval net σ lvl hff hwf fn hofn hσ sens sigF hb hs _ nd hnd hn
  rw [hidx] at this
  refine ⟨this, ?_⟩
  rw [← hidx]
  exact Fast.lvlF_idx net hw _ (Fast.order_covers net hw _ (Fast.valid_lt net _ nd hnd))

/-- **All four solver paths compute the feed-forward function (Kind B: exact arithmetic).**
    A feed-forward network (`FFNet`, `TransWF`), its translation `fn`; a state `s0` of the standard solver with loaded
    sensors (bias nodes at 1) and a state `sF` of the fast solver with clean processing cells whose input signals agree
    with `s0` through the index map.  For every output `o` (position `p`) there is ONE value `e = evalNode o` with
    * `Network.ForwardSteps(k)`  leaves `e` at `o`                      (`k ≥ 1`, `k ≥` rank of every output),
    * fast `ForwardSteps(k)`     leaves `e` at signal `nSensor + p`,
    * fast `RecursiveSteps`      leaves `e` there,
    * fast `Relax(m, δ)`         leaves `e` there whenever it executed at least rank-of-`o` steps. -/
theorem all_solvers_eval (net : Net K) (σ : Nat → K → Option K) (lvl : Nat → Nat) (hff : FFNet net lvl = true)
    (hwf : Fast.TransWF net lvl = true) (fn : Fast.FastNet K) (hofn : Fast.ofNet net = .ok fn)
    (hσ : ∀ (i : Nat) (nd : NNodeS K), net.nodes[i]? = some nd → nd.isNeuron = true → ∀ x, (σ nd.act x).isSome = true)
    (s0 : Solver.St K) (hlen : s0.length = net.nodes.length)
    (hloaded : ∀ (i : Nat) (nd : NNodeS K), net.nodes[i]? = some nd → nd.isSensor = true → (Solver.get s0 i).count > 0)
    (hbias : ∀ (j : Nat) (nd : NNodeS K), net.nodes[j]? = some nd → nd.kind = Kind.bias → (Solver.get s0 j).activation = 1)
    (sF : Fast.FState K) (hS : sF.signals.length = fn.nTotal) (hP : sF.processing.length = fn.nTotal)
    (hzero : ∀ i, fn.nSensor ≤ i → i < fn.nTotal → Fast.getW sF.processing i = Scalar.zero)
    (hagree : ∀ (j : Nat) (nd : NNodeS K), net.nodes[j]? = some nd → nd.kind = Kind.input →
      Fast.getW sF.signals (Fast.idx net j) = (Solver.get s0 j).activation)
    (k : Nat) (hk1 : 1 ≤ k) (hk : ∀ o ∈ net.outputs, lvl o ≤ k) (m : Nat) (delta : K)
    (p : Nat) (hp : p < net.outputs.length) :
    ∃ e, evalNode net σ (fun i => (Solver.get s0 i).activation) (lvl (net.outputs[p]) + 1) (net.outputs[p]) = some e ∧
      (Solver.get (Solver.forwardSteps net σ (k : Int) s0).1 (net.outputs[p])).activation = e ∧
      Fast.getW (Fast.forwardSteps fn σ (k : Int) sF).1.signals (fn.nSensor + p) = e ∧
      Fast.getW (Fast.recursiveSteps fn σ sF).1.signals (fn.nSensor + p) = e ∧
      (lvl (net.outputs[p]) ≤ Fast.relaxCount fn σ delta m sF →
        Fast.getW (Fast.relax fn σ (m : Int) delta sF).1.signals (fn.nSensor + p) = e) := by
  obtain ⟨w1, w2, w3, w4, w5, _⟩ := translation_wf net σ lvl hff hwf fn hofn hσ
  have hmem : net.outputs[p] ∈ net.outputs := List.getElem_mem hp
  have hstd := (std_forward net σ lvl hff hσ s0 hlen hloaded k hk1 hk).2 _ hmem _ (Nat.le_refl _)
  obtain ⟨hfe, hlv⟩ := fval_eq_eval_outputs net σ lvl hff hwf fn hofn hσ (fun i => (Solver.get s0 i).activation)
    (Fast.getW sF.signals) hbias hagree p hp
  have hpo : p < fn.nOutput := by rw [w5]; exact hp
  have hkF : ∀ j, j < fn.nOutput → Fast.lvlF net lvl (fn.nSensor + j) ≤ k := by
    intro j hj
    rw [w5] at hj
    rw [(fval_eq_eval_outputs net σ lvl hff hwf fn hofn hσ (fun i => (Solver.get s0 i).activation)
      (Fast.getW sF.signals) hbias hagree j hj).2]
    exact hk _ (List.getElem_mem hj)
  have hfw := (fast_forward fn σ _ w1 w2 w3 w4 sF hS hP hzero k hkF).2.2 p hpo
  have hrc := (fast_recursive_fval fn σ _ w1 w4 sF hS hP (by omega)).2 p hpo
  have hrl := (fast_relax fn σ _ w1 w2 w3 w4 sF hS hP hzero m delta).2.2.2.2 p hpo
  rw [hlv, hfe, hstd] at hfw hrc hrl
  exact ⟨_, hstd, rfl, (Option.some.inj hfw).symm, (Option.some.inj hrc).symm, fun hl => (Option.some.inj (hrl hl)).symm⟩

/-- cross-solver equality read through `ReadOutputs`: the standard solver, the fast forward stepping and the fast
    recursive activation return the same output vector -/
theorem all_solvers_outputs (net : Net K) (σ : Nat → K → Option K) (lvl : Nat → Nat) (hff : FFNet net lvl = true)
    (hwf : Fast.TransWF net lvl = true) (fn : Fast.FastNet K) (hofn : Fast.ofNet net = .ok fn)
    (hσ : ∀ (i : Nat) (nd : NNodeS K), net.nodes[i]? = some nd → nd.isNeuron = true → ∀ x, (σ nd.act x).isSome = true)
    (s0 : Solver.St K) (hlen : s0.length = net.nodes.length)
    (hloaded : ∀ (i : Nat) (nd : NNodeS K), net.nodes[i]? = some nd → nd.isSensor = true → (Solver.get s0 i).count > 0)
    (hbias : ∀ (j : Nat) (nd : NNodeS K), net.nodes[j]? = some nd → nd.kind = Kind.bias → (Solver.get s0 j).activation = 1)
    (sF : Fast.FState K) (hS : sF.signals.length = fn.nTotal) (hP : sF.processing.length = fn.nTotal)
    (hzero : ∀ i, fn.nSensor ≤ i → i < fn.nTotal → Fast.getW sF.processing i = Scalar.zero)
    (hagree : ∀ (j : Nat) (nd : NNodeS K), net.nodes[j]? = some nd → nd.kind = Kind.input →
      Fast.getW sF.signals (Fast.idx net j) = (Solver.get s0 j).activation)
    (k : Nat) (hk1 : 1 ≤ k) (hk : ∀ o ∈ net.outputs, lvl o ≤ k) :
    Fast.readOutputs fn (Fast.forwardSteps fn σ (k : Int) sF).1 =
        Solver.readOutputs net (Solver.forwardSteps net σ (k : Int) s0).1 ∧
      Fast.readOutputs fn (Fast.recursiveSteps fn σ sF).1 =
        Solver.readOutputs net (Solver.forwardSteps net σ (k : Int) s0).1 := by
  have hno := (translation_wf net σ lvl hff hwf fn hofn hσ).2.2.2.2.1
  have key := fun p hp => all_solvers_eval net σ lvl hff hwf fn hofn hσ s0 hlen hloaded hbias sF hS hP hzero hagree
    k hk1 hk 0 Scalar.zero p hp
  unfold Fast.readOutputs Solver.readOutputs
  constructor
  · apply List.ext_getElem (by simp [hno])
    intro p h1 h2
    simp only [List.length_map] at h2
    obtain ⟨e, _, a1, a2, _, _⟩ := key p h2
    simp only [List.getElem_map, List.getElem_range]
    rw [a1, a2]
  · apply List.ext_getElem (by simp [hno])
    intro p h1 h2
    simp only [List.length_map] at h2
    obtain ⟨e, _, a1, _, a3, _⟩ := key p h2
    simp only [List.getElem_map, List.getElem_range]
    rw [a1, a3]

/-- **As the property words it (Kind B).**  Fresh network and fresh fast solver built from it, the same input vector
    loaded into both with `LoadSensors` (`InputsCanon`: `net.inputs` holds exactly the sensors, input-type nodes in
    node-table order - then both solvers assign `xs[k]` to the same node): all four paths yield `evalNode` at every
    output. -/
theorem all_solvers_fresh (net : Net K) (σ : Nat → K → Option K) (lvl : Nat → Nat) (hff : FFNet net lvl = true)
    (hwf : Fast.TransWF net lvl = true) (hin : Fast.InputsCanon net = true) (fn : Fast.FastNet K)
    (hofn : Fast.ofNet net = .ok fn)
    (hσ : ∀ (i : Nat) (nd : NNodeS K), net.nodes[i]? = some nd → nd.isNeuron = true → ∀ x, (σ nd.act x).isSome = true)
    (xs : List K) (hxs : xs.length = (Fast.idxOfKind net Kind.input).length)
    (hload : (Solver.loadSensors net xs (Solver.init net)).2 = none)
    (k : Nat) (hk1 : 1 ≤ k) (hk : ∀ o ∈ net.outputs, lvl o ≤ k) (m : Nat) (delta : K)
    (p : Nat) (hp : p < net.outputs.length) :
    (Fast.loadSensors fn xs (Fast.init fn)).2 = none ∧
    ∃ e, evalNode net σ (fun i => (Solver.get (Solver.loadSensors net xs (Solver.init net)).1 i).activation)
        (lvl (net.outputs[p]) + 1) (net.outputs[p]) = some e ∧
      (Solver.get (Solver.forwardSteps net σ (k : Int) (Solver.loadSensors net xs (Solver.init net)).1).1
        (net.outputs[p])).activation = e ∧
      Fast.getW (Fast.forwardSteps fn σ (k : Int) (Fast.loadSensors fn xs (Fast.init fn)).1).1.signals (fn.nSensor + p) = e ∧
      Fast.getW (Fast.recursiveSteps fn σ (Fast.loadSensors fn xs (Fast.init fn)).1).1.signals (fn.nSensor + p) = e ∧
      (lvl (net.outputs[p]) ≤ Fast.relaxCount fn σ delta m (Fast.loadSensors fn xs (Fast.init fn)).1 →
        Fast.getW (Fast.relax fn σ (m : Int) delta (Fast.loadSensors fn xs (Fast.init fn)).1).1.signals (fn.nSensor + p) = e) := by
  have hw := Fast.TransWF_props net lvl hwf
  have hF := Fast.ofNet_facts net hw fn hofn
  obtain ⟨g1, g2, g3, g4, g5, g6, g7⟩ := Fast.load_agree net hw hin fn hF xs hxs hload
  obtain ⟨hl, hc⟩ := Solver.loadSensors_init_loaded net xs hload
  exact ⟨g1, all_solvers_eval net σ lvl hff hwf fn hofn hσ _ hl (fun i nd hi hs => hc i nd hi hs (g5 i nd hi hs))
    (fun j nd hj hkb => by rw [g6 j nd hj hkb, ExactArith.one_eq]) _ g2 g3 (fun i _ _ => g4 i) g7 k hk1 hk m delta p hp⟩

end Exact

/-! ## non-vacuity (exact `Int` scalar; `ffNet`, `ffLvl` from Props/C12.lean: bias, input, hidden, output, a skip
    connection and two bias links) -/
section Examples
open GoNeat.ExactInt

/-- what `FastNetworkSolver()` builds from `ffNet`: index order bias 0, input 1, output 2, hidden 3; the bias links
    3 (→hidden) and 7 (→output) are folded into `biasList` -/
def ffFast : Fast.FastNet Int :=
  { nBias := 1, nInput := 1, nOutput := 1, nTotal := 4, acts := [17, 17, 14, 14], biasList := [0, 0, 7, 3],
    conns := [ { src := 1, dst := 3, w := 2 }, { src := 3, dst := 2, w := 1 }, { src := 1, dst := 2, w := 5 } ] }

example : (match Fast.ofNet ffNet with | .ok fn => sameFast fn ffFast | .error _ => false) = true := by decide +kernel
example : Fast.TransWF ffNet ffLvl = true := by decide +kernel
example : Fast.InputsCanon ffNet = true := by decide +kernel
example : Fast.NoDupConn ffFast := by decide +kernel
/-- the transported ranking: output (index 2) rank 2, hidden (index 3) rank 1 -/
example : (List.range 4).map (Fast.lvlF ffNet ffLvl) = [0, 0, 2, 1] := by decide +kernel
/-- fast forward stepping with k = depth = 2, recursive activation and relaxation give 80 = `evalNode` (Props/C12) -/
example : Fast.readOutputs ffFast (Fast.forwardSteps ffFast sigmaInt 2 (Fast.loadSensors ffFast [10] (Fast.init ffFast)).1).1
    = [80] := by decide +kernel
example : Fast.readOutputs ffFast (Fast.recursiveSteps ffFast sigmaInt (Fast.loadSensors ffFast [10] (Fast.init ffFast)).1).1
    = [80] := by decide +kernel
/-- `Relax(5, δ = 1)`: stops after depth + 1 = 3 steps with result `true` -/
example : Fast.relaxCount ffFast sigmaInt 1 5 (Fast.loadSensors ffFast [10] (Fast.init ffFast)).1 = 3 ∧
    (Fast.relax ffFast sigmaInt 5 1 (Fast.loadSensors ffFast [10] (Fast.init ffFast)).1).2 = (true, none) ∧
    Fast.readOutputs ffFast (Fast.relax ffFast sigmaInt 5 1 (Fast.loadSensors ffFast [10] (Fast.init ffFast)).1).1 = [80] := by
  decide +kernel
/-- `Relax(5, δ = 0)`: one step only - the output still misses the hidden neuron's contribution (57 = 5·10 + 7) -/
example : Fast.relaxCount ffFast sigmaInt 0 5 (Fast.loadSensors ffFast [10] (Fast.init ffFast)).1 = 1 ∧
    Fast.readOutputs ffFast (Fast.relax ffFast sigmaInt 5 0 (Fast.loadSensors ffFast [10] (Fast.init ffFast)).1).1 = [57] := by
  decide +kernel
/-- the two loaded states agree through the index map (hypotheses `hbias`, `hagree` of `all_solvers_eval`) -/
example : ((Solver.loadSensors ffNet [10] (Solver.init ffNet)).1.map (·.activation)) = [1, 10, 0, 0] ∧
    (Fast.loadSensors ffFast [10] (Fast.init ffFast)).1.signals = [1, 10, 0, 0] ∧
    [0, 1, 2, 3].map (Fast.idx ffNet) = [0, 1, 3, 2] := by decide +kernel

end Examples

end GoNeat.C12
