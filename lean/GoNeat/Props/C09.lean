/-
  Property C09 — offspring quotas follow shared fitness and total the population size.

  Kind A (integer logic, no float law): the make-up/fallback step, stolen babies and delta coding conserve the
  total for EVERY outcome of the rounded float computation that precedes them and for every random stream.
  Kind B (exact arithmetic, `Props/C09Exact.lean`): the carry of fractions in `countOffspring`.

  The files of the property:
    Props/C09.lean              this file: conservation of the quota total by fix-up, zero-quota purge, stolen babies, delta coding
    Props/C09Exact.lean         Kind B: the carry of fractions (`countOffspringList_eq`, `countOffspringList_carry`, `quotas_total_exact`)
    Props/C09Prepare.lean       the whole preparation phase: quotas non-negative and totalling exactly `PopSize`
                                (`prepare_quota_total`), hence `PopSize` babies (`prepared_progeny_exact`)
    Props/C09Parents.lean       the parent cut inside one species (`adjustFitness_spec`)
    Props/C09ParentsEpoch.lean  the parent cut over the whole preparation phase (`prepare_parents`); the removal at its end is by
                                mark (`prepare_marked`)
    Props/C09ParentsExact.lean  Kind B: `floor(t*n + 1) = floor(t*n) + 1 ≥ 1`; the adjusted fitness as `clamp (f · factor) / n`
    Proofs/ExpectedChain.lean   the expected offspring survives the stages after its assignment (`prepare_xkeys`, `prepare_orgs`)
    Props/C09Expected.lean      first clause: expected offspring = adjusted fitness / population mean (`prepare_expected`), Kind B
                                proportionality and positivity, the executable predicate `expectedWhy`
    Props/C09QuotaExact.lean    Kind B: the quota facts `QuotaOk` are theorems and insensitive to the order inside a species;
                                ALSO holds `C09.nextEpoch_no_error_exact_perm`, a C02 statement under a C09 name
    Props/C10Perm.lean          holds `C09.prepare_expected_full_perm` (first clause after a re-ordering inside the species)
    Props/C02Perm.lean          the table of which hypotheses a re-ordering breaks (why `QuotaOk` is stated on the re-ordered population)
    Props/C20FillExact.lean     (namespace C20) the Kind B quota facts after `FillPopulationStatistics`
    Proofs/SortLemmas.lean      `goSort` returns a sorted permutation (shared with C02, C10)
-/
import GoNeat.Proofs.PrepareStages

namespace GoNeat.C09
open GoNeat Scalar
variable {W : Type} [Scalar W]

def quotaSum (l : List (Species W)) : Int := (l.map (·.expectedOffspring)).sum

@[simp] theorem quotaSum_nil : quotaSum ([] : List (Species W)) = 0 := rfl
@[simp] theorem quotaSum_cons (s : Species W) (l : List (Species W)) : quotaSum (s :: l) = s.expectedOffspring + quotaSum l := by
  simp [quotaSum]
theorem int_sum_perm {a b : List Int} (h : a.Perm b) : a.sum = b.sum := by
  induction h with
  | nil => rfl
  | cons x _ ih => simp [ih]
  | swap x y l => simp only [List.sum_cons]; omega
  | trans _ _ ih1 ih2 => exact ih1.trans ih2

theorem quotaSum_perm {a b : List (Species W)} (h : a.Perm b) : quotaSum a = quotaSum b :=
  int_sum_perm (h.map _)

theorem assignQuotas_sumA (ss : List (Species W)) (skim : W) (tot : Int) :
    (assignQuotas ss skim tot).2.2 = tot + quotaSum (assignQuotas ss skim tot).1 := by
  induction ss generalizing skim tot with
  | nil => simp [assignQuotas, quotaSum]
  | cons s ss ih =>
    simp only [assignQuotas]
    rw [ih]
    simp only [quotaSum_cons]
    omega

theorem bestQuotaIndex_isSome (ss : List (Species W)) (i : Nat) (mx : Int) (best : Option Nat)
    (h : best.isSome = true ∨ ∃ s ∈ ss, s.expectedOffspring ≥ mx) : (bestQuotaIndex ss i mx best).isSome = true := by
  induction ss generalizing i mx best with
  | nil =>
    rcases h with h | ⟨s, hs, _⟩
    · simpa [bestQuotaIndex] using h
    · cases hs
  | cons s ss ih =>
    unfold bestQuotaIndex
    split
    · exact ih _ _ _ (Or.inl rfl)
    · rename_i hlt
      apply ih
      rcases h with h | ⟨t, ht, hge⟩
      · exact Or.inl h
      · rcases List.mem_cons.mp ht with rfl | ht'
        · exact absurd hge hlt
        · exact Or.inr ⟨t, ht', hge⟩

theorem quotaSum_modify (l : List (Species W)) (b : Nat) (f : Species W → Species W) (s : Species W) (h : l[b]? = some s) :
    quotaSum (l.modify b f) = quotaSum l - s.expectedOffspring + (f s).expectedOffspring := by
  induction l generalizing b with
  | nil => simp at h
  | cons x xs ih =>
    cases b with
    | zero => simp at h; subst h; simp [List.modify]; omega
    | succ b => simp at h; simp [List.modify_succ_cons, ih b h]; omega

theorem quotaSum_zeroed (l : List (Species W)) : quotaSum (l.map (fun s => { s with expectedOffspring := 0 })) = 0 := by
  induction l with
  | nil => rfl
  | cons x xs ih => simp [ih]

/-- **C09 (make-up offspring, Kind A).** Whatever raw quotas the rounded computation produced (all non-negative,
    total `T`): if `T ≤ n` the quotas after the fix-up total exactly the population size `n` — by one extra
    offspring for one species when rounding lost one, by the "population died" fallback when more is missing —
    and if `T ≥ n` nothing is changed. -/
theorem fixupQuotas_total (ss : List (Species W)) (n : Int) (hne : ss ≠ [])
    (hnn : ∀ s ∈ ss, s.expectedOffspring ≥ 0) :
    (quotaSum ss ≤ n → quotaSum (fixupQuotas ss (quotaSum ss) n) = n) ∧
    (quotaSum ss ≥ n → fixupQuotas ss (quotaSum ss) n = ss) := by
  rcases fixupQuotas_cases ss (quotaSum ss) n with ⟨e, h⟩ | ⟨b, s, hs, ⟨h1, e⟩ | ⟨h1, e⟩⟩ <;> rw [e]
  · refine ⟨fun hle => ?_, fun _ => rfl⟩
    rcases h with h | h
    · omega
    · -- the scan finds a species: all quotas are `≥ 0`, the running maximum it starts from
      obtain ⟨s, hs⟩ := List.exists_mem_of_ne_nil ss hne
      have := bestQuotaIndex_isSome ss 0 0 none (.inr ⟨s, hs, hnn s hs⟩)
      rw [h] at this; cases this
  · exact ⟨fun _ => by rw [quotaSum_modify _ b _ _ hs]; simp only; omega, fun _ => by omega⟩
  · refine ⟨fun _ => ?_, fun _ => by omega⟩
    have h0 : quotaSum (ss.map noQuota) = 0 := quotaSum_zeroed ss
    rw [quotaSum_modify _ b _ _ (by rw [List.getElem?_map, hs]; rfl), h0]
    show (0 : Int) - 0 + n = n
    omega

theorem quotaSum_filter_pos (ss : List (Species W)) (hnn : ∀ s ∈ ss, s.expectedOffspring ≥ 0) :
    quotaSum (ss.filter (fun s => s.expectedOffspring > 0)) = quotaSum ss := by
  induction ss with
  | nil => rfl
  | cons x xs ih =>
    have hx := hnn x (by simp)
    have ih' := ih (fun s hs => hnn s (by simp [hs]))
    by_cases hpos : x.expectedOffspring > 0
    · simp [List.filter, hpos, ih']
    · have : x.expectedOffspring = 0 := by omega
      simp [List.filter, ih', this]

/-- **C09 (delta coding, Kind A).** After delta coding the quotas total exactly the population size, and no
    super-champion reservation exceeds its species' quota (a species left with quota 0 aside). -/
theorem deltaCoding_total (sorted sorted' : List (Species W)) (o : EpochOpts W) (h : deltaCoding sorted o = .ok sorted') :
    quotaSum sorted' = o.popSize ∧
    ∀ s ∈ sorted', ∀ t, s.orgs.head? = some t → t.superChampOffspring ≤ s.expectedOffspring ∨ s.expectedOffspring = 0 := by
  have htop : ∀ (s : Species W) (n : Int) (t : Org W), (crown s n).orgs.head? = some t →
      t.superChampOffspring ≤ (crown s n).expectedOffspring := by
    intro s n t ht
    cases hso : s.orgs with
    | nil => simp [crown, setTopOrg, hso] at ht
    | cons o1 os => simp [crown, setTopOrg, hso] at ht; subst ht; exact Int.le_refl _
  refine ⟨?_, deltaCoding_all (P := fun _ => True)
    (Q := fun s => ∀ t, s.orgs.head? = some t → t.superChampOffspring ≤ s.expectedOffspring ∨ s.expectedOffspring = 0) h
    (fun s n _ _ t ht => .inl (htop s n t ht)) (fun _ _ _ _ => .inr rfl) (fun _ _ => trivial)⟩
  rcases deltaCoding_ok sorted sorted' o h with ⟨s, rfl, rfl⟩ | ⟨s1, s2, rest, rfl, rfl⟩
  · simp [crown]
  · simp only [quotaSum_cons, quotaSum_zeroed, crown]
    omega

theorem _root_.GoNeat.Steal.conserves {l l' : List (Species W)} {st st' : Int} (h : Steal l st l' st') :
    quotaSum l' + st' = quotaSum l + st := by
  induction h with
  | stop => rfl
  | pass s _ ih => simp only [quotaSum_cons]; omega
  | take s d _ _ hq hst _ ih => simp only [quotaSum_cons]; omega

theorem stealLoop_conserves (bs : Int) (l : List (Species W)) (stolen : Int) :
    quotaSum (stealLoop bs l stolen).1 + (stealLoop bs l stolen).2 = quotaSum l + stolen :=
  (stealLoop_steal bs l stolen).conserves

theorem quota_setTopOrg (s : Species W) (f : Org W → Org W) : (setTopOrg s f).expectedOffspring = s.expectedOffspring := by
  unfold setTopOrg; split <;> rfl

theorem _root_.GoNeat.Give.conserves {blocks : List Int} {l l' : List (Species W)} {st st' : Int}
    (h : Give blocks l st l' st') : quotaSum l' + st' = quotaSum l + st := by
  induction h with
  | stop => rfl
  | pass s _ ih => simp only [quotaSum_cons]; omega
  | gift s b _ _ _ ih =>
    have : (bump s b).expectedOffspring = s.expectedOffspring + b := rfl
    simp only [quotaSum_cons, this]; omega

theorem giveLoop_conserves (o : EpochOpts W) (blocks : List Int) (l l' : List (Species W)) (bi : Nat) (stolen left : Int)
    (rs rs' : List Nat) (h : giveLoop o blocks l bi stolen rs = .ok ((l', left), rs')) :
    quotaSum l' + left = quotaSum l + stolen :=
  (giveLoop_give o blocks l l' bi stolen left rs rs' h).conserves

/-- **C09 (stolen babies, Kind A).** For every sorted species list, every `BabiesStolen ≥ 0` setting and every random
    stream, `giveBabiesToTheBest` only moves offspring between species: the quotas total what they totalled before. -/
theorem giveBabies_conserves (sorted sorted' : List (Species W)) (o : EpochOpts W) (rs rs' : List Nat)
    (hbs : 0 ≤ o.babiesStolen)
    (h : giveBabiesToTheBest sorted o rs = .ok (sorted', rs')) : quotaSum sorted' = quotaSum sorted := by
  obtain ⟨mid, st, l1, left, hs, hg, hl⟩ := giveBabies_ok sorted sorted' o rs rs' h
  have h1 := hs.conserves
  have h2 := hg.conserves
  rw [quotaSum_perm (List.reverse_perm _)] at h1 h2
  have h0 : 0 ≤ left := hg.nonneg (hs.nonneg (Int.le_refl 0))
  rcases hl with ⟨_, rfl⟩ | ⟨_, s, ss, rfl, rfl⟩
  · omega
  · simp only [quotaSum_cons] at h2 ⊢
    omega

end GoNeat.C09
