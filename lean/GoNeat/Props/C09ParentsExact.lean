/-
  Property C09, Kind B: in exact arithmetic the number of parents kept, `floor(survival_thresh*n + 1)`, is
  `floor(survival_thresh*n) + 1`, and at least one for a non-negative threshold; the documented adjustment of a
  member's fitness is `clamp (f · factor) / n` (`adjustedFitness_exact`): never negative, and for `f ≥ 0` and a positive
  age significance a rescaling by a positive number (`adjustedFitness_eq`, used by C10).
-/
import GoNeat.Props.C09Parents
import GoNeat.Proofs.Exact

namespace GoNeat.C09
open GoNeat
variable {K : Type} [Field K] [LinearOrder K] [IsStrictOrderedRing K] [FloorRing K]

theorem numParents_exact (o : EpochOpts K) (n : Nat) : numParents o n = ⌊o.survivalThresh * (n : K)⌋ + 1 := by
  unfold numParents
  simp only [Exact.floorInt_eq, Exact.add_eq, Exact.mul_eq, Exact.ofInt_eq, Exact.one_eq, Int.cast_natCast]
  exact Int.floor_add_one _

theorem numParents_pos (o : EpochOpts K) (n : Nat) (h : 0 ≤ o.survivalThresh) : 1 ≤ numParents o n := by
  rw [numParents_exact]
  have : 0 ≤ ⌊o.survivalThresh * (n : K)⌋ := Int.floor_nonneg.mpr (mul_nonneg h (Nat.cast_nonneg n))
  omega

omit [LinearOrder K] [IsStrictOrderedRing K] [FloorRing K] in
theorem mul_ite_one {c : Prop} [Decidable c] (a b : K) : (if c then a * b else a) = a * (if c then b else 1) := by
  split <;> simp

/-- what a member's raw fitness is multiplied by before the clamp: ×0.01 in a stagnant species, × age significance in a
    young one -/
noncomputable def factor (o : EpochOpts K) (s : Species K) : K :=
  (if ageDebt o s ≥ 1 then Scalar.ofDec 1 2 else 1) * (if s.age ≤ 10 then o.ageSignificance else 1)

/-- the documented adjustment in exact arithmetic: scale, replace a negative value by 0.0001, share -/
theorem adjustedFitness_exact (o : EpochOpts K) (s : Species K) (f : K) :
    adjustedFitness o s f =
      (if f * factor o s < 0 then Scalar.ofDec 1 4 else f * factor o s) / (s.orgs.length : K) := by
  unfold adjustedFitness factor ageDebt
  simp only [Exact.mul_eq, Exact.lt_eq, Exact.zero_eq, Exact.div_eq, Exact.ofInt_eq, Int.cast_natCast,
    decide_eq_true_eq]
  -- the two scalings are conditional factors
  rw [mul_ite_one, mul_ite_one, mul_assoc]

/-- negative values are replaced by 0.0001 before the sharing -/
theorem adjustedFitness_nonneg (o : EpochOpts K) (s : Species K) (f : K) : 0 ≤ adjustedFitness o s f := by
  rw [adjustedFitness_exact]
  refine div_nonneg ?_ (Nat.cast_nonneg _)
  split
  · exact (Exact.ofDec_pos 4).le
  · exact le_of_not_gt ‹_›

theorem factor_pos (o : EpochOpts K) (s : Species K) (ha : 0 < o.ageSignificance) : 0 < factor o s := by
  refine mul_pos ?_ ?_ <;> split
  exacts [Exact.ofDec_pos 2, one_pos, ha, one_pos]

/-- for non-negative fitness the clamp does nothing: a rescaling by a positive number -/
theorem adjustedFitness_eq (o : EpochOpts K) (s : Species K) (f : K) (hf : 0 ≤ f) (ha : 0 < o.ageSignificance) :
    adjustedFitness o s f = f * (factor o s / (s.orgs.length : K)) := by
  rw [adjustedFitness_exact, if_neg (not_lt.mpr (mul_nonneg hf (factor_pos o s ha).le)), mul_div_assoc]

end GoNeat.C09
