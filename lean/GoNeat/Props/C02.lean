/-
  Property C02 — an epoch conserves population size and keeps species a partition.
  Kind A: every theorem holds for every scalar type, random stream, registry and option setting.

  Shape: "if `nextEpoch` returns a population then …".  That it does return for valid input is
  `nextEpoch_no_error` (Props/C02NoError.lean), which rests on C09 (quotas total the population size) and on C01
  (operators do not fail on well-formed genomes; `SharedHead` excludes the known finding K1).
-/
import GoNeat.Proofs.EpochFrame

namespace GoNeat.C02
open GoNeat Scalar
variable {W : Type} [Scalar W]

@[simp] theorem orgUids_nil : orgUids ([] : List (Species W)) = [] := rfl
@[simp] theorem orgUids_cons (s : Species W) (ss : List (Species W)) : orgUids (s :: ss) = s.orgs.map (·.uid) ++ orgUids ss := by
  simp [orgUids]

theorem speciateOne_uids (o : EpochOpts W) (p p' : Pop W) (org : Org W) (h : speciateOne o p org = .ok p') :
    (orgUids p'.species).Perm (org.uid :: orgUids p.species) ∧ p'.organisms = p.organisms ∧ p'.nextUid = p.nextUid := by
  obtain ⟨h1, h2, h3, _⟩ := speciateOne_perm h
  rw [orgUids_eq, orgUids_eq]
  exact ⟨h1.map _, h2, h3⟩

theorem speciateLoop_uids (o : EpochOpts W) (p p' : Pop W) (orgs : List (Org W)) (h : speciateLoop o p orgs = .ok p') :
    (orgUids p'.species).Perm (orgs.map (·.uid) ++ orgUids p.species) ∧ p'.organisms = p.organisms ∧ p'.nextUid = p.nextUid := by
  obtain ⟨h1, h2, h3, _⟩ := speciateLoop_perm h
  rw [orgUids_eq, orgUids_eq, ← List.map_append]
  exact ⟨h1.map _, h2, h3⟩

theorem purgeOrAgeLoop_uids (ss : List (Species W)) (k : Int) :
    orgUids (purgeOrAgeLoop ss k) = orgUids ss := by
  rw [orgUids_eq, orgUids_eq, orgsOf_purgeOrAgeLoop, renumber_map (fun _ => rfl)]

theorem purgeOrAgeLoop_nonempty (ss : List (Species W)) (k : Int) : ∀ s ∈ purgeOrAgeLoop ss k, s.orgs ≠ [] := by
  intro s' hs'
  obtain ⟨s, _, hne, k', rfl⟩ := purgeOrAgeLoop_mem hs'
  cases hso : s.orgs with
  | nil => exact absurd hso hne
  | cons a as => simp [renumber]

/-- ages after the turnover: every surviving species is exactly one generation older, except that a species
    founded during this turnover (or at construction: flag `isNovel`) keeps its age and loses the flag -/
theorem purgeOrAgeLoop_ages (ss : List (Species W)) (k : Int) :
    ∀ s' ∈ purgeOrAgeLoop ss k, ∃ s ∈ ss, s'.id = s.id ∧ s'.isNovel = false ∧
      s'.age = (if s.isNovel then s.age else s.age + 1) := by
  intro s' hs'
  obtain ⟨s, hs, _, k', rfl⟩ := purgeOrAgeLoop_mem hs'
  exact ⟨s, hs, rfl, rfl, rfl⟩

theorem purgeOld_uids (p : Pop W) :
    orgUids (purgeOldGeneration p).species = (orgUids p.species).filter (fun u => !p.organisms.contains u) := by
  rw [orgUids_eq, orgUids_eq, orgsOf_purgeOld, List.filter_map]
  rfl

/-- **C02 (finalisation).** After `finalizeReproduction`: the population's organism list is exactly the
    concatenation of the species' member lists (every organism belongs to exactly one species, which lists it);
    no species is empty; the survivors are those organisms that were not part of the old generation; ages step as
    the property says; the innovation records are forgotten. -/
theorem finalize_spec (p : Pop W) :
    let p' := finalizeReproduction p
    p'.organisms = orgUids p'.species ∧
    (∀ s ∈ p'.species, s.orgs ≠ []) ∧
    orgUids p'.species = (orgUids p.species).filter (fun u => !p.organisms.contains u) ∧
    (∀ s' ∈ p'.species, ∃ s ∈ p.species, s'.id = s.id ∧ s'.isNovel = false ∧ s'.age = (if s.isNovel then s.age else s.age + 1)) ∧
    p'.reg.records = [] ∧ p'.lastSpecies = p.lastSpecies := by
  intro p'
  simp only [p', finalizeReproduction, purgeOrAgeSpecies]
  refine ⟨by simp [orgUids], purgeOrAgeLoop_nonempty _ _, ?_, ?_, trivial, rfl⟩
  · rw [purgeOrAgeLoop_uids, purgeOld_uids]
  · intro s' hs'
    obtain ⟨s, hs, h1, h2, h3⟩ := purgeOrAgeLoop_ages _ _ s' hs'
    unfold purgeOldGeneration at hs
    simp only [List.mem_map] at hs
    obtain ⟨s0, hs0, rfl⟩ := hs
    exact ⟨s0, hs0, h1, h2, h3⟩

theorem reproduceAll_uids (o : EpochOpts W) (gen : Int) (sorted ss : List (Species W)) (reg reg' : Reg W) (uid uid' : Nat)
    (acc babies : List (Org W)) (rs rs' : List Nat)
    (h : reproduceAll o gen sorted ss reg uid acc rs = .ok ((babies, reg', uid'), rs'))
    (hacc : ∀ u ∈ acc.map (·.uid), u < uid) (hnd : (acc.map (·.uid)).Nodup) :
    (babies.map (·.uid)).Nodup ∧ (∀ u ∈ babies.map (·.uid), u < uid') ∧
    (∀ u ∈ babies.map (·.uid), u ∈ acc.map (·.uid) ∨ uid ≤ u) := by
  obtain ⟨n, e, _, rfl⟩ := reproduceAll_consecutive o gen sorted ss reg reg' uid uid' acc babies rs rs' h
  obtain ⟨_, hnd', hnew⟩ := block_perm (.refl ((List.range n).map (· + uid)))
  rw [e]
  refine ⟨List.nodup_append.mpr ⟨hnd, hnd', fun x hx y hy e' => ?_⟩, fun v hv => ?_, fun v hv => ?_⟩
  · exact Nat.lt_irrefl _ (Nat.lt_of_lt_of_le (e' ▸ hacc x hx) (hnew y hy).1)
  · exact (List.mem_append.mp hv).elim (fun h' => Nat.lt_of_lt_of_le (hacc v h') (Nat.le_add_right _ _)) fun h' => (hnew v h').2
  · exact (List.mem_append.mp hv).imp id fun h' => (hnew v h').1

/-- the partition argument: babies whose allocation ids are at or above a bound `k` on the old organism list are
    speciated into a population that lists all its members; after finalisation exactly the babies are left -/
theorem speciateLoop_finalize (o : EpochOpts W) (q p2 : Pop W) (babies : List (Org W)) (k : Nat)
    (hlisted : ∀ u ∈ orgUids q.species, u ∈ q.organisms) (hbelow : ∀ u ∈ q.organisms, u < k)
    (hfresh : ∀ u ∈ babies.map (·.uid), k ≤ u) (hsp : speciateLoop o q babies = .ok p2) :
    (finalizeReproduction p2).organisms.Perm (babies.map (·.uid)) := by
  obtain ⟨l, hl, e⟩ := join_babies (fun x hx => hlisted _ (orgUids_eq q.species ▸ List.mem_map_of_mem hx))
    (fun b hb hm => Nat.lt_irrefl _ (Nat.lt_of_lt_of_le (hbelow _ hm) (hfresh _ (List.mem_map_of_mem hb)))) hsp
  rw [(orgsOf_finalize p2).2, e, renumber_map (fun _ => rfl)]
  exact hl.map _

/-- **C02 (size, partition, freshness).** If the reproduction phase returns, then after finalisation the
    population holds exactly the configured number of organisms; each of them is listed by exactly one species
    (the organism list is the duplicate-free concatenation of the species' member lists); no species is empty;
    and none of them belonged to the previous generation. -/
theorem reproduce_finalize_popInv (o : EpochOpts W) (gen : Int) (p1 p2 : Pop W) (ex : ExecState) (rs rs' : List Nat)
    (hinv : UidInv p1) (h : reproducePhase o gen p1 ex rs = .ok (p2, rs')) :
    let p3 := finalizeReproduction p2
    p3.organisms.length = o.popSize ∧ p3.organisms.Nodup ∧ p3.organisms = orgUids p3.species ∧
    (∀ s ∈ p3.species, s.orgs ≠ []) ∧ (∀ u ∈ p3.organisms, u ∉ p1.organisms) := by
  obtain ⟨babies, reg, uid, t⟩ := reproducePhase_renewal h
  obtain ⟨a1, a2, a3, a5, _⟩ := t.popInv hinv
  exact ⟨a1, a2, a3, (finalize_spec p2).2.1, fun u hu hmem => Nat.lt_irrefl _ (Nat.lt_of_lt_of_le (hinv.below _ hmem) (a5 u hu))⟩

end GoNeat.C02
