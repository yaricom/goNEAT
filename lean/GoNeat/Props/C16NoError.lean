/-
  C16 + C02, clause "turning over an epoch SUCCEEDS WITHOUT ERROR" - for the PARALLEL executor.

  `C02.nextEpoch_no_error` proves the clause for the sequential executor; `parEpoch_guarantees` (Props/C16Par.lean) says
  what holds IF `parEpoch` returns.  Here: under the hypotheses of the sequential theorem the parallel model never returns
  a model error that stands for a Go error or panic - for EVERY scheduler list, any number of species goroutines, any
  random numbers per goroutine, any order of arrival.

    `parEpoch_no_error`        one epoch: `parEpoch o gen p ps rs ≠ .error (.error msg)` for every `msg`
    `parEpoch_model_errors`    the same without the execution hypothesis: the ONLY model errors `parEpoch` can return are
                               the two that mean "this `ParSchedule` is not an execution of the Go program", and it returns
                               them only if `IsExecution` is false
    `execution_exists`         for every prepared population and all streams there IS a scheduler list (and an order of
                               arrival) that is an execution; `execution_extends`: every longer scheduler list is one too
    `parEpoch_popOk`           the population hypotheses hold again for the population returned (with `PopC03` of C03)
    `parEpochs_no_error`       any number of parallel epochs with arbitrary evaluations in between

  ## Results that are NOT errors of the implementation (and how they are treated)

  | result of `parEpoch`                                  | meaning                                              | treatment |
  |-------------------------------------------------------|------------------------------------------------------|-----------|
  | `.error .outOfRandom`                                 | a finite test stream (the main one or a goroutine's) ran out; Go's source is infinite | outside the statement, exactly as in `nextEpoch_no_error` |
  | `.error (.error "par:goroutineNotFinished")`          | the scheduler list ended before a goroutine whose result is read had returned | excluded by `IsExecution` |
  | `.error (.error "par:arrivalNotAPermutation")`        | `arrival` drops, repeats or invents a goroutine index | excluded by `IsExecution` |

  `IsExecution o gen p ps rs` (decidable): after `ps.sched` every species goroutine has returned, and `ps.arrival` is a
  permutation of the goroutine indices.  Why this is not a restriction on Go runs: `reproduce` starts one goroutine per
  species with `wg.Add(1)`/`defer wg.Done()`, a closer goroutine does `wg.Wait(); close(resChan)`, and the main goroutine
  `range`s over `resChan` - the loop ends only after the close, i.e. after every goroutine has returned (the Go scheduler
  does not starve a runnable goroutine forever; a goroutine performs finitely many registry operations - `finish_thread`),
  and an unbuffered/buffered channel delivers every value sent exactly once.  A `ParSchedule` that violates this does not
  describe a run.  The hypothesis is satisfiable for EVERY input (`execution_exists`) and stable under longer scheduler
  lists (`execution_extends`).

  Every genuine error exit (`.error (.error msg)` with any other `msg`: the whole inventory of Props/C02NoError.lean -
  `panic:index`, `panic:intn-nonpositive`, `genesis:*`, `noGenes`, `wrongGeneCreated`, `dup:*`, `progenySizeMismatch`,
  `reproduceEmptySpecies`, `noOrganismsToSpeciate`, `compatThresholdZero`, the crossover exits …) is PROVED unreachable.

  ## How interference is handled
  A goroutine's error exits depend on the shared registry only through the records of a snapshot: a link record found
  there dictates a trait index (`traitAt g inn.traitNum`).  Rely: every record of every snapshot names a valid trait index;
  guarantee: every record stored does (all genomes have the common trait count).  `PSafe` (Proofs/ParNoError.lean) is the
  thread-local obligation with this rely, with the counters' answers universally quantified; `runSched_safe`: the pair
  survives every pick of every scheduler.  The genome a goroutine mutates is a duplicate or crossover child of genomes of
  the PREPARED population (never of another baby), so its well-formedness comes from the sequential closure lemmas for the
  prepared pool alone.  The size check: each goroutine delivers exactly its quota (`Delivers`), the quotas total `PopSize`
  (C09 `prepare_quota_total` under `QuotaOk`), `arrival` is a permutation.
  Kind A; the float facts (`FloatFacts`: `UnitMulLe`, `PickLaw`) and `QuotaOk` are the same explicit hypotheses as in the
  sequential theorem (proved for exact arithmetic in Props/C02NoErrorExact.lean).
-/
import GoNeat.Proofs.ParNoErrorEpoch
import GoNeat.Props.C02NoError
import GoNeat.Props.C16Par

set_option linter.unusedSectionVars false

namespace GoNeat.C16
open GoNeat Scalar GoNeat.NoErr GoNeat.C01 GoNeat.C02 GoNeat.C03
variable {W : Type} [Scalar W]

/-- **C16 / C02, "succeeds without error", one epoch of the parallel executor.**  Under the hypotheses of the sequential
    theorem (`Hyp S o p`, the two float facts), for every stream of 63-bit raw values of the main goroutine and of every
    species goroutine, and for every `ParSchedule` that is an execution (all goroutines returned, each result delivered
    once): `parEpoch` never returns a model error. -/
theorem parEpoch_no_error (hff : FloatFacts W) (S : List Nat) (o : EpochOpts W) (p : Pop W) (h : Hyp S o p) (gen : Int)
    (ps : ParSchedule) (hstreams : ∀ s ∈ ps.streams, Valid s) :
    ∀ rs, Valid rs → IsExecution o gen p ps rs → ∀ msg, parEpoch o gen p ps rs ≠ .error (.error msg) :=
  fun rs hv hex msg => (parEpoch_core hff.unitMul hff.pick S o p h gen ps hstreams rs hv).ne hex msg

/-- **the only model errors of `parEpoch` are the two "not an execution" results** - for EVERY `ParSchedule`, execution or
    not: if `parEpoch` returns `.error (.error msg)` then the schedule is not an execution and `msg` is one of the two
    messages that say so.  No goroutine and no sequential phase ever fails. -/
theorem parEpoch_model_errors (hff : FloatFacts W) (S : List Nat) (o : EpochOpts W) (p : Pop W) (h : Hyp S o p) (gen : Int)
    (ps : ParSchedule) (hstreams : ∀ s ∈ ps.streams, Valid s) (rs : List Nat) (hv : Valid rs) (msg : String)
    (he : parEpoch o gen p ps rs = .error (.error msg)) :
    ¬ IsExecution o gen p ps rs ∧ (msg = "par:goroutineNotFinished" ∨ msg = "par:arrivalNotAPermutation") := by
  have := parEpoch_core hff.unitMul hff.pick S o p h gen ps hstreams rs hv
  rw [he] at this
  exact this

/-- **whatever a species goroutine has returned under whatever schedule, it is not a model error** (the core: no error
    in any single thread under arbitrary interference), and a value is its quota of babies of the common trait shape -/
theorem par_goroutine_no_error (hff : FloatFacts W) (S : List Nat) (o : EpochOpts W) (ha : ActOk o.mopts) (gen : Int) (p1 : Pop W)
    (ex : ExecState) (streams : List (List Nat)) (hstreams : ∀ s ∈ streams, Valid s) (sched : List Nat)
    (hne1 : ∀ s ∈ p1.species, s.orgs ≠ [])
    (hsne : (ex.sortedIds.filterMap (fun i => p1.species.find? (·.id == i))) ≠ [])
    (henv : PoolEnv S p1.reg (genomesOfPop p1)) (t : Nat) (r : BRes W)
    (hdone : (runSched ({ reg := p1.reg, threads := speciesThreads o gen p1 ex streams } : PState W (BRes W)) sched).threads[t]?
        = some (.done r)) :
    (∀ msg, r ≠ .error (.error msg)) ∧
    ∀ bs uid rs', r = .ok ((bs, uid), rs') → bs.length = quotaOf p1 t ∧ ∀ b ∈ bs, shape b.genome = S := by
  have hend := runSched_safe sched (speciesThreads_safe hff.unitMul hff.pick o ha gen p1 ex streams hstreams S hne1 hsne henv)
  have hr : OkV (Delivers S (quotaOf p1 t)) True r := (hend.2 t _ hdone).result
  refine ⟨fun msg => hr.ne msg, ?_⟩
  intro bs uid rs' e
  subst e
  exact hr.1

/-- **an execution exists for every input**: whatever the prepared population and the goroutines' streams, some scheduler
    list lets every goroutine return (a goroutine performs finitely many registry operations whatever the others do) -/
theorem execution_exists (o : EpochOpts W) (gen : Int) (p1 : Pop W) (ex : ExecState) (streams : List (List Nat)) :
    ∃ sched arrival, PhaseExec o gen p1 ex ⟨streams, sched, arrival⟩ := by
  obtain ⟨sched, hs⟩ := exists_complete_schedule
    ({ reg := p1.reg, threads := speciesThreads o gen p1 ex streams } : PState W (BRes W))
  exact ⟨sched, List.range (speciesThreads o gen p1 ex streams).length, hs, List.Perm.refl _⟩

/-- … and every LONGER scheduler list is an execution too ("the scheduler list is long enough") -/
theorem execution_extends (o : EpochOpts W) (gen : Int) (p1 : Pop W) (ex : ExecState) (streams : List (List Nat))
    (sched more arrival : List Nat) (h : PhaseExec o gen p1 ex ⟨streams, sched, arrival⟩) :
    PhaseExec o gen p1 ex ⟨streams, sched ++ more, arrival⟩ := by
  refine ⟨?_, h.2⟩
  intro q hq
  simp only at hq
  rw [runSched_append] at hq
  obtain ⟨t, ht, rfl⟩ := List.getElem_of_mem hq
  have ht' : t < (runSched ({ reg := p1.reg, threads := speciesThreads o gen p1 ex streams } : PState W (BRes W)) sched).threads.length := by
    rw [runSched_length] at ht; exact ht
  obtain ⟨a, ha⟩ := done_of_result (h.1 _ (List.getElem_mem ht'))
  have := runSched_done_stable more _ t a (by rw [List.getElem?_eq_getElem ht', ha])
  rw [List.getElem?_eq_getElem ht] at this
  simp only [Option.some.injEq] at this
  rw [this]; rfl

/-- **the population hypotheses are an invariant of the parallel executor**: they hold again for the population `parEpoch`
    returns, together with C03's `PopC03` for an extended history (which `parEpoch_guarantees` needs to re-establish the
    C01 pool invariant under interleaving) -/
theorem parEpoch_popOk (hff : FloatFacts W) (S : List Nat) (o : EpochOpts W) (p : Pop W) (h : Hyp S o p) (gen : Int)
    (ps : ParSchedule) (hstreams : ∀ s ∈ ps.streams, Valid s) (rs rs' : List Nat) (hv : Valid rs) (p' : Pop W)
    (H : List (Genome W)) (hc : PopC03 H p) (he : parEpoch o gen p ps rs = .ok (p', rs')) :
    PopOk S o p' ∧ Valid rs' ∧ ∃ H', Ext H H' ∧ PopC03 H' p' := by
  obtain ⟨⟨a1, a2, a3, a4, _, _, hu', hs'⟩, ⟨_, hpool⟩, H', hext, hc', _, _⟩ :=
    parEpoch_guarantees [] H o gen p p' ps rs rs' h.pop.uid h.pop.spid (by simpa using h.pop.pool) hc (by simp) he
  have hcore := parEpoch_core hff.unitMul hff.pick S o p h gen ps hstreams rs hv
  rw [he] at hcore
  exact ⟨.of_newborn hu' hs' a1 a2 (a3 ▸ .refl _) a4 hcore.1 hpool hc'.norec, hcore.2, H', hext, hc'⟩

/-- along the run: the C09 quota facts hold in every generation reached (as `C02.QuotaAlong`), and every generation's
    `ParSchedule` is an execution (decidable along the run) -/
def ParAlong (o : EpochOpts W) : List (ParSchedule × (Pop W → Pop W)) → Int → Pop W → List Nat → Prop
  | [], _, _, _ => True
  | (ps, ev) :: rest, gen, p, rs =>
    QuotaOk o (ev p) ∧ IsExecution o gen (ev p) ps rs ∧
    match parEpoch o gen (ev p) ps rs with
    | .error _ => True
    | .ok (p', rs') => ParAlong o rest (gen + 1) p' rs'

instance decParAlong (o : EpochOpts W) : (runs : List (ParSchedule × (Pop W → Pop W))) → (gen : Int) → (p : Pop W) → (rs : List Nat) →
    Decidable (ParAlong o runs gen p rs)
  | [], _, _, _ => isTrue trivial
  | (ps, ev) :: rest, gen, p, rs =>
    if h1 : QuotaOk o (ev p) ∧ IsExecution o gen (ev p) ps rs then
      match h : parEpoch o gen (ev p) ps rs with
      | .error e => isTrue ⟨h1.1, h1.2, by rw [h]; trivial⟩
      | .ok (p', rs') =>
        match decParAlong o rest (gen + 1) p' rs' with
        | isTrue h2 => isTrue ⟨h1.1, h1.2, by rw [h]; exact h2⟩
        | isFalse h2 => isFalse (fun hh => h2 (by have h3 := hh.2.2; rw [h] at h3; exact h3))
    else isFalse (fun hh => h1 ⟨hh.1, hh.2.1⟩)

theorem evalOk_id : EvalOk (fun (p : Pop W) => p) :=
  fun p => ⟨⟨rfl, rfl, rfl, rfl⟩, rfl, GenomesSub.refl _⟩

theorem evalOk_seq {ev : Pop W → Pop W} (he : EvalOk ev) (q : Pop W) : C02.EvalOk q (ev q) :=
  have ⟨hsh, hreg, hsub⟩ := he q
  ⟨hsh, genomesOfPop_sub hsub, hreg⟩

/-- **C16 / C02, "succeeds without error", any number of epochs of the parallel executor** with arbitrary evaluations in
    between: from a population that satisfies the population hypotheses of the sequential theorem (`PopOk`) and C03's
    `PopC03`, whatever the schedules, the goroutines' random numbers and the orders of arrival are (as long as each is an
    execution), no generation ever returns a model error. -/
theorem parEpochs_no_error (hff : FloatFacts W) (S : List Nat) (o : EpochOpts W) (ho : OptsOk o)
    (runs : List (ParSchedule × (Pop W → Pop W))) (hev : ∀ r ∈ runs, EvalOk r.2)
    (hstreams : ∀ r ∈ runs, ∀ s ∈ r.1.streams, Valid s) :
    ∀ (H : List (Genome W)) (gen : Int) (p : Pop W) (rs : List Nat), Valid rs → PopOk S o p → PopC03 H p →
      ParAlong o runs gen p rs → ∀ msg, parEpochs o runs gen p rs ≠ .error (.error msg) := by
  induction runs with
  | nil => intro H gen p rs _ _ _ _ msg h; simp [parEpochs] at h
  | cons r rest ih =>
    intro H gen p rs hv hp hc hq msg
    obtain ⟨ps, ev⟩ := r
    have hev1 := hev (ps, ev) List.mem_cons_self
    have hyp : Hyp S o (ev p) := ⟨ho, popOk_eval S o p (ev p) hp (evalOk_seq hev1 p), hq.1⟩
    have hstr1 := hstreams (ps, ev) List.mem_cons_self
    have hne := parEpoch_no_error hff S o (ev p) hyp gen ps hstr1 rs hv hq.2.1
    have hq2 := hq.2.2
    unfold parEpochs
    split
    · next e he => intro h; cases h; exact hne msg he
    · next p' rs' he =>
      rw [he] at hq2
      obtain ⟨hp', hv', H', _, hc'⟩ := parEpoch_popOk hff S o (ev p) hyp gen ps hstr1 rs rs' hv p' H (hc.eval hev1) he
      exact ih (fun r hr => hev r (List.mem_cons_of_mem _ hr)) (fun r hr => hstreams r (List.mem_cons_of_mem _ hr))
        H' (gen + 1) p' rs' hv' hp' hc' hq2 msg

section NonVacuity
open GoNeat.ExactInt
attribute [local instance] intScalar

/-- the float facts hold for the toy scalar (every unit draw is 0) -/
theorem exFloatFacts : FloatFacts Int := C02.floatFacts_int

/-- the concrete parallel epoch of Props/C16Par.lean (`eo`, `popE`, `psE`: two species goroutines whose registry operations
    alternate, the second result arrives first) satisfies every hypothesis of `parEpoch_no_error` (trait shape `[1, 1]`),
    including C03's `PopC03` for `parEpochs_no_error` (`exParInv`) … -/
theorem exHypE : Hyp [1, 1] eo popE := by decide +kernel

theorem exExecE : IsExecution eo 1 popE psE (List.replicate 30 2) := by decide +kernel

example : Hyp [1, 1] eo popE ∧ (∀ s ∈ psE.streams, Valid s) ∧ Valid (List.replicate 30 2) ∧
    IsExecution eo 1 popE psE (List.replicate 30 2) := ⟨exHypE, by decide, by decide, exExecE⟩

/-- … and the epoch returns four organisms in two species -/
example : (popSummary (parEpoch eo 1 popE psE (List.replicate 30 2))).map (fun r => (r.1.map (·.take 2), r.2.1)) =
    some ([[1, 6], [1, 7], [2, 4], [2, 5]], [6, 7, 4, 5]) := by decide +kernel

example : ∀ msg, parEpoch eo 1 popE psE (List.replicate 30 2) ≠ .error (.error msg) :=
  parEpoch_no_error exFloatFacts [1, 1] eo popE exHypE 1 psE (by decide) _ (by decide) exExecE

def errMsg {β : Type} : Except Stop β → Option String
  | .error (.error m) => some m
  | _ => none

/-! With the toy scalar every unit draw is 0, so in the epoch above no baby gets a structural mutation and no goroutine
    touches the registry.  A second instance in which they do: every baby gets an add-link mutation asking for a recurrent
    link (`recurOnlyProb = 1`), the goroutines' raw streams steer `rand.Intn` to an open pair, and the registry operations
    `Innovations()` · `NextInnovationNumber()` · `StoreInnovation` of the two goroutines alternate. -/

def eoR : EpochOpts Int :=
  { eo with mutateAddNodeProb := 0, mutateAddLinkProb := 100, mopts := { C01.mo with recurOnlyProb := 1 } }

def streamR : List Nat := (List.range 60).map (fun i => (i % 4) <<< 32)

/-- snapshot·snapshot·NextInn·NextInn·store·store; the second goroutine's result arrives first -/
def psR : ParSchedule := ⟨[streamR, streamR], [0, 1, 0, 1, 0, 1], [1, 0]⟩

theorem exHypR : Hyp [1, 1] eoR popE := by decide +kernel

theorem exStreamsR : ∀ s ∈ psR.streams, Valid s := by decide +kernel

/-- two generations: in the second one only species 2 is left (one goroutine), all four babies are its offspring -/
def runsR : List (ParSchedule × (Pop Int → Pop Int)) :=
  [(psR, fun p => p), (⟨[streamR], (List.range 40).map (· % 2), [0]⟩, fun p => p)]

/-- the run of `eoR` on `popE` under `psR`, and its continuation by a second generation (`runsR`): the schedule is an
    execution, what the epoch returns, the hypothesis `ParAlong` of the two-generation run, what that run returns.  One
    statement, because all four evaluate the same first epoch and the kernel shares it only inside one declaration. -/
theorem exRunR :
    IsExecution eoR 1 popE psR (List.replicate 30 2) ∧
    popSummary (parEpoch eoR 1 popE psR (List.replicate 30 2)) =
      some ([[1, 6, 0, 1, 2, 4, 5, 6, 8, 0, 1, 2, 3, 4], [1, 7, 1, 1, 2, 4, 5, 6, 0, 1, 2, 3, 4],
             [2, 4, 2, 1, 2, 4, 5, 7, 9, 0, 1, 2, 3, 4], [2, 5, 3, 1, 2, 4, 5, 7, 0, 1, 2, 3, 4]],
            [6, 7, 4, 5], [9, 5, 8]) ∧
    ParAlong eoR runsR 1 popE (List.replicate 30 2) ∧
    popSummary (parEpochs eoR runsR 1 popE (List.replicate 30 2)) =
      some ([[2, 8, 0, 1, 2, 4, 5, 7, 10, 0, 1, 2, 3, 4], [2, 9, 1, 1, 2, 4, 5, 7, 9, 0, 1, 2, 3, 4],
             [2, 10, 2, 1, 2, 4, 5, 7, 9, 0, 1, 2, 3, 4], [2, 11, 3, 1, 2, 4, 5, 7, 9, 0, 1, 2, 3, 4]],
            [8, 9, 10, 11], [10, 5, 12]) := by
  decide +kernel

theorem exExecR : IsExecution eoR 1 popE psR (List.replicate 30 2) := exRunR.1

example : Hyp [1, 1] eoR popE ∧ (∀ s ∈ psR.streams, Valid s) ∧ IsExecution eoR 1 popE psR (List.replicate 30 2) :=
  ⟨exHypR, exStreamsR, exExecR⟩

/-- the first baby of each species gets a new recurrent link: numbers 8 and 9 (the counter ends at 9) -/
example : popSummary (parEpoch eoR 1 popE psR (List.replicate 30 2)) =
    some ([[1, 6, 0, 1, 2, 4, 5, 6, 8, 0, 1, 2, 3, 4], [1, 7, 1, 1, 2, 4, 5, 6, 0, 1, 2, 3, 4],
           [2, 4, 2, 1, 2, 4, 5, 7, 9, 0, 1, 2, 3, 4], [2, 5, 3, 1, 2, 4, 5, 7, 0, 1, 2, 3, 4]],
          [6, 7, 4, 5], [9, 5, 8]) := exRunR.2.1

example : ∀ msg, parEpoch eoR 1 popE psR (List.replicate 30 2) ≠ .error (.error msg) :=
  parEpoch_no_error exFloatFacts [1, 1] eoR popE exHypR 1 psR exStreamsR _ (by decide) exExecR

/-- a scheduler list that stops before the goroutines have stored their records is NOT an execution, and the model says so
    with the excluded result; likewise an order of arrival that forgets a goroutine -/
example : ¬ IsExecution eoR 1 popE ⟨psR.streams, [0, 1, 0, 1], [1, 0]⟩ (List.replicate 30 2) ∧
    errMsg (parEpoch eoR 1 popE ⟨psR.streams, [0, 1, 0, 1], [1, 0]⟩ (List.replicate 30 2)) = some "par:goroutineNotFinished" ∧
    ¬ IsExecution eoR 1 popE ⟨psR.streams, psR.sched, [1]⟩ (List.replicate 30 2) ∧
    errMsg (parEpoch eoR 1 popE ⟨psR.streams, psR.sched, [1]⟩ (List.replicate 30 2)) = some "par:arrivalNotAPermutation" := by
  decide +kernel

/-! every hypothesis of `parEpochs_no_error` holds for the two-generation run (`PopC03` is `exParInv.c03`) -/
theorem exStreamsRuns : ∀ r ∈ runsR, ∀ s ∈ r.1.streams, Valid s := by decide +kernel

theorem exAlongR : ParAlong eoR runsR 1 popE (List.replicate 30 2) := exRunR.2.2.1

example : PopOk [1, 1] eoR popE ∧ OptsOk eoR ∧ (∀ r ∈ runsR, ∀ s ∈ r.1.streams, Valid s) ∧
    ParAlong eoR runsR 1 popE (List.replicate 30 2) := ⟨exHypR.pop, exHypR.opts, exStreamsRuns, exAlongR⟩

example : popSummary (parEpochs eoR runsR 1 popE (List.replicate 30 2)) =
    some ([[2, 8, 0, 1, 2, 4, 5, 7, 10, 0, 1, 2, 3, 4], [2, 9, 1, 1, 2, 4, 5, 7, 9, 0, 1, 2, 3, 4],
           [2, 10, 2, 1, 2, 4, 5, 7, 9, 0, 1, 2, 3, 4], [2, 11, 3, 1, 2, 4, 5, 7, 9, 0, 1, 2, 3, 4]],
          [8, 9, 10, 11], [10, 5, 12]) := exRunR.2.2.2

example : ∀ msg, parEpochs eoR runsR 1 popE (List.replicate 30 2) ≠ .error (.error msg) :=
  parEpochs_no_error exFloatFacts [1, 1] eoR exHypR.opts runsR
    (fun r hr => by
      simp only [runsR, List.mem_cons, List.not_mem_nil, or_false] at hr
      rcases hr with rfl | rfl <;> exact evalOk_id)
    exStreamsRuns [ev1, ev2] 1 popE _ (by decide) exHypR.pop exParInv.c03 exAlongR

end NonVacuity

end GoNeat.C16
