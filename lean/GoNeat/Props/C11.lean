/-
  C11 - a phenotype network expresses exactly the enabled part of its genome, and the network's graph view and
  counts report exactly this structure.

  Kind A: the weight type `W` is arbitrary (`[DecidableEq W]` only to state equalities as Bool); no arithmetic.
  Model: Model/Genesis.lean (`Genome.Genesis`, the gonum adapters of network_graph.go incl. the control-node
  branches of `edgeBetween`, `NodeCount`/`LinkCount`/`Complexity`).  Specification on the GENOME (ids only, no
  indices, no search loops): Spec/Genesis.lean.  Helper lemmas: Proofs/Genesis.lean, Proofs/GraphView.lean, Proofs/GraphViewMod.lean.

  Shape of the result: (1) `Genesis` of a well-formed genome yields a network that `expresses` it; (2) on ANY
  network that `expresses` a well-formed genome (in particular the one dumped from the implementation) the
  graph-view queries answer what the genome-level specification says.  Hypotheses, all decidable and evaluated by
  the driver on the real inputs:
    `GenomeOk g`            - node ids pairwise different, every gene endpoint / module wire names a genome node,
                              control-node ids fresh;
    `enabledMods g = []`    - `edge_spec`, `hasEdgeBetween_spec`, `from_to_spec`, `absent_id`, `phenotype_graph_view` of THIS
                              file are stated for genomes without enabled module.  They are the no-module instances of
                              `edge_spec_modular`, `hasEdgeBetween_spec_modular`, `from_to_spec_modular`,
                              `absent_id_modular`, `phenotype_graph_view_modular` (Props/C11Mod.lean: any number of
                              enabled modules, same lemmas of Proofs/GraphViewMod.lean) - cite those.  The proofs of
                              `edge_spec` and `hasEdgeBetween_spec` do not use the hypothesis; `from_to_spec` uses it to
                              do without `GenomeOk`, `absent_id` to read "no node id" as "no id of the graph".
                              `ctrl_overlap_legacy_counterexample`: the pre-513f15a code was wrong with modules.
-/
import GoNeat.Proofs.Genesis
import GoNeat.Proofs.GraphViewMod
import GoNeat.Model.LegacyGenesis

namespace GoNeat.C11
open GoNeat GoNeat.Genesis

variable {W : Type}

section
variable [DecidableEq W]

/-- C11, first sentence: the phenotype of a well-formed genome has one node per genome node (same id, role,
    activation type, same order), inputs and outputs in genome order, at every node exactly the links of the ENABLED
    genes that end / start there (endpoints, weight, recurrence flag, gene order) - a disabled gene contributes
    nothing -, and one control node per enabled module wired to its listed inputs and outputs -/
theorem genesis_expresses (g : Genome W) (netId : Int) (net : Net W) (hok : GenomeOk g = true)
    (h : genesis g netId = .ok net) : expresses g netId net = true :=
  (expressed_iff g netId net).mpr (genesis_expressed ((ok_iff g).mp hok) h)

theorem genesis_structure (g : Genome W) (netId : Int) (net : Net W) (hok : GenomeOk g = true)
    (h : genesis g netId = .ok net) :
    net.id = netId ∧
    nodeTriples net.nodes = g.nodes.map (fun n => (n.id, n.kind, n.act)) ∧
    net.inputs = positions (fun n => n.kind == Kind.input || n.kind == Kind.bias) g.nodes 0 ∧
    net.outputs = positions (fun n => n.kind == Kind.output) g.nodes 0 ∧
    (∀ nd ∈ net.nodes, nd.incoming.map (elink net) = linksInto g nd.id ∧ nd.outgoing.map (elink net) = linksOutOf g nd.id) ∧
    nodeTriples net.ctrl = (enabledMods g).map (fun m => (m.ctrl.id, m.ctrl.kind, m.ctrl.act)) ∧
    (∀ p ∈ net.ctrl.zip (enabledMods g), p.1.incoming.map (elink net) = modIns p.2 ∧ p.1.outgoing.map (elink net) = modOuts p.2) :=
  let hx := genesis_expressed ((ok_iff g).mp hok) h
  ⟨hx.id, hx.triples, hx.inputs, hx.outputs, hx.links, hx.ctrlTriples, hx.ctrlLinks⟩

/-- a well-formed genome with at least one gene and an output node is always expressed; the only refusals are
    "no genes" and "no outputs" -/
theorem genesis_total (g : Genome W) (netId : Int) (hok : GenomeOk g = true) (hg : g.genes.isEmpty = false)
    (ho : g.nodes.any (fun n => n.kind == Kind.output) = true) : ∃ net, genesis g netId = .ok net :=
  Genesis.genesis_total ((ok_iff g).mp hok) netId hg ho

end

/-- disabled genes contribute nothing to the phenotype (the hypothesis: a gene remains, else `Genesis` refuses with
    "no genes") -/
theorem genesis_ignores_disabled (g : Genome W) (netId : Int) (h : (g.genes.filter (·.en)).isEmpty = false) :
    genesis { g with genes := g.genes.filter (·.en) } netId = genesis g netId := by
  have hg : g.genes.isEmpty = false := by
    cases hgs : g.genes with
    | nil => simp [hgs] at h
    | cons a l => rfl
  unfold genesis
  simp only [h, hg, linkGenes_filter]

/-- `NodeCount`, `LinkCount`, `Complexity` of the phenotype, for every genome `Genesis` accepts -/
theorem genesis_counts (g : Genome W) (netId : Int) (net : Net W) (h : genesis g netId = .ok net) :
    nodeCount net = specNodeCount g ∧ linkCount net = specLinkCount g ∧
      complexity net = specNodeCount g + specLinkCount g := by
  obtain ⟨h1, h2⟩ := genesis_counts' h
  unfold complexity specNodeCount specLinkCount enabledMods enabledGenes
  exact ⟨h1, h2, by rw [h1, h2]⟩

/-- a newly inserted enabled gene shows in the phenotype: the network built AFTER `geneInsert` (what an add-link
    baby is evaluated with since 585232e) has exactly one link more than the one built before -/
theorem new_gene_adds_a_link (g : Genome W) (x : Gene W) (netId : Int) (stale fresh : Net W) (hx : x.en = true)
    (hs : genesis g netId = .ok stale) (hf : addLinkPhenotype g x netId = .ok fresh) :
    linkCount fresh = linkCount stale + 1 ∧ nodeCount fresh = nodeCount stale := by
  obtain ⟨h1, h2⟩ := genesis_counts' hs
  obtain ⟨h3, h4⟩ := genesis_counts' hf
  simp only at h3 h4
  rw [h1, h2, h3, h4]
  unfold geneInsert
  rw [filter_insertAt_length (·.en) g.genes _ x hx]
  omega

section
variable [DecidableEq W]

/-- `Node(id)` and `Nodes()`, modules included: the node (id, role, activation) of the genome node or enabled
    control node with that id; nil for every other id -/
theorem node_spec (g : Genome W) (netId : Int) (net : Net W) (hx : expresses g netId net = true) (u : Int) :
    node? net u = specNode g u ∧ nodeIds net = specNodes g :=
  ⟨node_spec' ((expressed_iff g netId net).mp hx) u, nodes_spec' ((expressed_iff g netId net).mp hx)⟩

/-- `Edge` / `WeightedEdge` / `Weight` / `HasEdgeFromTo` for ALL ordered pairs of ids: the edge returned is the
    first enabled gene `u → v` (its endpoints, weight, recurrence flag); nil / (·, false) / false exactly when no
    enabled gene `u → v` exists - in particular for a disabled gene and when `u` or `v` is no node id -/
theorem edge_spec (g : Genome W) (netId : Int) (net : Net W) (hok : GenomeOk g = true)
    (hx : expresses g netId net = true) (hm : enabledMods g = []) (u v : Int) :
    (edge? net u v).map (elink net) = specEdge g u v ∧
    weight? net u v = (specEdge g u v).map (·.w) ∧
    hasEdgeFromTo net u v = specHasEdge g u v :=
  edge_spec' ((ok_iff g).mp hok) ((expressed_iff g netId net).mp hx) u v

/-- `HasEdgeBetween(x, y)` is the symmetric closure of `HasEdgeFromTo` -/
theorem hasEdgeBetween_spec (g : Genome W) (netId : Int) (net : Net W) (hok : GenomeOk g = true)
    (hx : expresses g netId net = true) (hm : enabledMods g = []) (u v : Int) :
    hasEdgeBetween net u v = (specHasEdge g u v || specHasEdge g v u) :=
  hasEdgeBetween_spec' ((ok_iff g).mp hok) ((expressed_iff g netId net).mp hx) u v

/-- `From(id)` / `To(id)`: exactly the targets (sources) of the enabled genes leaving (entering) the node, in gene
    order; empty for an id that is no node id -/
theorem from_to_spec (g : Genome W) (netId : Int) (net : Net W) (hx : expresses g netId net = true)
    (hm : enabledMods g = []) (u : Int) : fromIds net u = specFrom g u ∧ toIds net u = specTo g u :=
  have hM : ModsOk (nodeIds' g) (enabledMods g) := hm ▸ modsOk_nil _
  ⟨from_spec_mod hM ((expressed_iff g netId net).mp hx) u, to_spec_mod hM ((expressed_iff g netId net).mp hx) u⟩

/-- an id that is no node id: every query reports nil / empty / false -/
theorem absent_id (g : Genome W) (netId : Int) (net : Net W) (hok : GenomeOk g = true)
    (hx : expresses g netId net = true) (hm : enabledMods g = []) (u : Int) (hu : u ∉ nodeIds' g) :
    node? net u = none ∧ fromIds net u = [] ∧ toIds net u = [] ∧
    ∀ v, edge? net u v = none ∧ edge? net v u = none ∧ weight? net u v = none ∧ weight? net v u = none ∧
      hasEdgeFromTo net u v = false ∧ hasEdgeFromTo net v u = false ∧ hasEdgeBetween net u v = false ∧
      hasEdgeBetween net v u = false :=
  absent_id' ((ok_iff g).mp hok) ((expressed_iff g netId net).mp hx) u (by simpa [specNodes, hm] using hu)

theorem phenotype_graph_view (g : Genome W) (netId : Int) (net : Net W) (hok : GenomeOk g = true)
    (h : genesis g netId = .ok net) (hm : enabledMods g = []) (u v : Int) :
    node? net u = specNode g u ∧ nodeIds net = specNodes g ∧
    (edge? net u v).map (elink net) = specEdge g u v ∧ weight? net u v = (specEdge g u v).map (·.w) ∧
    hasEdgeFromTo net u v = specHasEdge g u v ∧
    hasEdgeBetween net u v = (specHasEdge g u v || specHasEdge g v u) ∧
    fromIds net u = specFrom g u ∧ toIds net u = specTo g u := by
  have hx := genesis_expresses g netId net hok h
  obtain ⟨e1, e2, e3⟩ := edge_spec g netId net hok hx hm u v
  exact ⟨(node_spec g netId net hx u).1, (node_spec g netId net hx u).2, e1, e2, e3,
    hasEdgeBetween_spec g netId net hok hx hm u v, (from_to_spec g netId net hx hm u).1, (from_to_spec g netId net hx hm u).2⟩

end

section Examples

private def nd (id : Int) (kind : Kind) : Node := { id := id, kind := kind, act := 5, trait := none }
private def gene (inn src dst : Int) (w : Nat) (en recur : Bool) : Gene Nat :=
  { inn := inn, src := src, dst := dst, recur := recur, w := w, mnum := 0, en := en, trait := none }

/-- bias 1, input 2, output 3, hidden 4 and 5; genes: enabled, disabled, recurrent, self-loop -/
private def plain : Genome Nat :=
  { id := 1, traits := [], nodes := [nd 1 Kind.bias, nd 2 Kind.input, nd 3 Kind.output, nd 4 Kind.hidden, nd 5 Kind.hidden],
    genes := [gene 1 1 4 11 true false, gene 2 2 4 12 false false, gene 3 4 3 13 true false, gene 4 4 4 14 true true,
              gene 5 3 4 15 true true, gene 6 5 3 16 false false, gene 7 2 5 17 true false] }

/-- the same with an enabled module 10 (reads 4, writes 5) and a disabled module 11 -/
private def modular : Genome Nat :=
  { plain with modules :=
      [{ inn := 8, mnum := 0, en := true, ctrl := nd 10 Kind.hidden, ins := [⟨4, 21, false, none⟩], outs := [⟨5, 22, false, none⟩] },
       { inn := 9, mnum := 0, en := false, ctrl := nd 11 Kind.hidden, ins := [⟨1, 23, false, none⟩], outs := [⟨3, 24, false, none⟩] }] }

/-- module 10 reads node 4 and writes nodes 4 and 5 -/
private def overlap : Genome Nat :=
  { plain with modules :=
      [{ inn := 8, mnum := 0, en := true, ctrl := nd 10 Kind.hidden, ins := [⟨4, 21, false, none⟩],
         outs := [⟨4, 22, false, none⟩, ⟨5, 23, false, none⟩] }] }

private def netOf (g : Genome Nat) : Net Nat :=
  match genesis g 7 with
  | .ok n => n
  | .error _ => { id := 0, nodes := [], inputs := [], outputs := [] }

/-- non-vacuity: the hypotheses of the theorems hold on concrete genomes with disabled, recurrent and self-loop genes
    and modules -/
example : GenomeOk plain = true ∧ enabledMods plain = [] ∧ (genesis plain 7).isOk = true ∧
    expresses plain 7 (netOf plain) = true ∧ nodeCount (netOf plain) = 5 ∧ linkCount (netOf plain) = 5 := by decide +kernel
example : GenomeOk modular = true ∧ expresses modular 7 (netOf modular) = true ∧
    nodeCount (netOf modular) = 6 ∧ linkCount (netOf modular) = 7 ∧ complexity (netOf modular) = 13 := by decide +kernel
/-- queries on the plain genome: enabled gene 4→3 (weight 13), disabled gene 5→3, recurrent 3→4, self-loop 4→4,
    absent id 9 -/
example : weight? (netOf plain) 4 3 = some 13 ∧ hasEdgeFromTo (netOf plain) 5 3 = false ∧
    hasEdgeBetween (netOf plain) 5 3 = false ∧ hasEdgeFromTo (netOf plain) 3 4 = true ∧
    hasEdgeFromTo (netOf plain) 4 4 = true ∧ hasEdgeBetween (netOf plain) 5 2 = true ∧
    hasEdgeFromTo (netOf plain) 5 2 = false ∧ node? (netOf plain) 9 = none ∧ fromIds (netOf plain) 9 = [] ∧
    fromIds (netOf plain) 4 = [some 3, some 4] ∧ toIds (netOf plain) 4 = [some 1, some 4, some 3] ∧
    edge? (netOf plain) 9 4 = none := by decide +kernel
example : node? (netOf modular) 10 = some (10, Kind.hidden, 5) ∧ node? (netOf modular) 11 = none ∧
    fromIds (netOf modular) 4 = [some 3, some 4, some 10] ∧ fromIds (netOf modular) 10 = [some 5] ∧
    hasEdgeFromTo (netOf modular) 4 10 = true ∧ hasEdgeFromTo (netOf modular) 10 5 = true ∧
    hasEdgeFromTo (netOf modular) 10 4 = false ∧ hasEdgeBetween (netOf modular) 10 4 = true := by decide +kernel

/-- the repaired control-node branch: a module that reads AND writes node 4 - the edge `10 → 4` is found -/
example : GenomeOk overlap = true ∧ expresses overlap 7 (netOf overlap) = true ∧
    fromIds (netOf overlap) 10 = [some 4, some 5] ∧ specHasEdge overlap 10 4 = true ∧
    hasEdgeFromTo (netOf overlap) 10 4 = true ∧ weight? (netOf overlap) 10 4 = some 22 ∧
    hasEdgeFromTo (netOf overlap) 4 10 = true ∧ weight? (netOf overlap) 4 10 = some 21 ∧
    hasEdgeFromTo (netOf overlap) 10 5 = true ∧ hasEdgeBetween (netOf overlap) 10 4 = true := by decide +kernel

/-- the pre-513f15a `edgeBetween` (Model/LegacyGenesis.lean) violates C11: the phenotype is expressed correctly and
    `From(10)` lists node 4, but the directed edge query `10 → 4` is denied - the search returned at the matching
    INPUT wire without looking at the output wires - while the specification has the edge (`10 → 5` is found) -/
theorem ctrl_overlap_legacy_counterexample :
    GenomeOk overlap = true ∧ expresses overlap 7 (netOf overlap) = true ∧
    fromIds (netOf overlap) 10 = [some 4, some 5] ∧ specHasEdge overlap 10 4 = true ∧
    Legacy.hasEdgeFromTo (netOf overlap) 10 4 = false ∧ Legacy.weight? (netOf overlap) 10 4 = none ∧
    Legacy.hasEdgeFromTo (netOf overlap) 10 5 = true := by decide +kernel

/-- the gene `mutateAddLink` adds: 5 → 4 -/
private def newGene : Gene Nat := gene 8 5 4 18 true false

private def netOfE (r : Except Stop (Net Nat)) : Net Nat :=
  match r with
  | .ok n => n
  | .error _ => { id := 0, nodes := [], inputs := [], outputs := [] }

/-- the pre-585232e phenotype of an add-link baby (built before the insert) violates C11: it does not express the
    mutated genome - the new link 5 → 4 is missing - whereas the repaired one does -/
theorem stale_phenotype_legacy_counterexample :
    GenomeOk { plain with genes := geneInsert plain.genes newGene } = true ∧
    expresses { plain with genes := geneInsert plain.genes newGene } 7 (netOfE (Legacy.addLinkPhenotype plain newGene 7)) = false ∧
    hasEdgeFromTo (netOfE (Legacy.addLinkPhenotype plain newGene 7)) 5 4 = false ∧
    linkCount (netOfE (Legacy.addLinkPhenotype plain newGene 7)) = 5 ∧
    expresses { plain with genes := geneInsert plain.genes newGene } 7 (netOfE (addLinkPhenotype plain newGene 7)) = true ∧
    hasEdgeFromTo (netOfE (addLinkPhenotype plain newGene 7)) 5 4 = true ∧
    linkCount (netOfE (addLinkPhenotype plain newGene 7)) = 6 := by decide +kernel

end Examples

end GoNeat.C11
