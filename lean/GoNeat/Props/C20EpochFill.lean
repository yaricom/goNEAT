/-
  Property C20 over the real population steps, for evaluators that RE-ORDER the organisms inside the species.

  Every evaluator shipped with goNEAT (/repo/examples/*) ends with `Generation.FillPopulationStatistics(pop)`, which
  sorts every species' organism list in place before `NextEpoch` runs.  Such an evaluator satisfies `C02.EvalOkPerm`, the
  hypothesis of Props/C20Epoch.lean (2)/(3) (it may assign fitness values AND permute the organisms inside each species;
  no genome, the registry, `organisms`, the counters and the species' ids / ages / flags are untouched), and not
  `C02.EvalOk`, which fixes the ORDER of the organisms inside each species and whose statements are the instances
  through `C02.EvalOk.toPerm`.  This file proves the first and shows the second on a run.

  Which hypotheses of the C01 / C02 / C09 / C10 epoch theorems a within-species permutation breaks: see the table in
  the header of Props/C02Perm.lean.  Summary: NONE of the single-epoch hypotheses (`UidInv`, `SpIdInv`, `PopOk`,
  `PoolOk`, ids `Nodup`, `ScZero`, `RefsOkPop`) - they are membership / permutation statements already; the only
  order-sensitive hypothesis is the evaluator relation `SameShape` ⊆ `EvalOk` / `EvalKeeps` of the multi-epoch
  theorems and of C20 (2)/(3).  `QuotaOk` (rounded quota computation) is a fact about the population that enters the
  epoch and is stated on it (here: on `gl.after`, the population the evaluator returned - already re-ordered).

  * `fill_speciesPerm`            `FillPopulationStatistics` is a `SpeciesPerm`
  * `nextEpoch_popInv_fill`, `nextEpoch_no_error_fill`, `nextEpoch_popOk_fill`
                                  the C02 epoch theorems for `(fillPopulationStatistics p).2` from the hypotheses on `p`
  * `evalOkPerm_fill`             `fitnessEval` followed by `FillPopulationStatistics` (`fillEval`) satisfies `EvalOkPerm`
  * a run with such an evaluator: `exRunFill_view` and the instantiated conclusions of (2) and (3)
  Kind A.
-/
import GoNeat.Model.ExperimentFill
import GoNeat.Props.C20Epoch
import GoNeat.Props.C19Gen

set_option linter.unusedSectionVars false

namespace GoNeat.C20
open GoNeat GoNeat.Experiment GoNeat.C01 GoNeat.C02 GoNeat.NoErr Scalar GoNeat.GenStatsModel
variable {W : Type} [Scalar W]

/-- **what `Generation.FillPopulationStatistics` does to the population is a `SpeciesPerm`** (C19Gen `fill_population`
    in the form the C02 theorems take) -/
theorem fill_speciesPerm (solved : Bool) (ch0 : Option (Org W)) (p p' : Pop W) (st : GenStats W)
    (h : fillFrom solved ch0 p = .ok (st, p')) : SpeciesPerm p p' := by
  obtain ⟨_, hp', _⟩ := C19.fillFrom_spec solved ch0 p p' st h
  subst hp'
  exact ⟨rfl, forall₂_map_self C19.sortSpecies (fun s => ⟨rfl, C10.sortOrgsDesc_perm s.orgs⟩) p.species⟩

/-- **C02 (one whole epoch) after `FillPopulationStatistics`**: the hypotheses of `C02.nextEpoch_popInv` on `p` give
    its conclusions for `NextEpoch` run on the population the recording call left -/
theorem nextEpoch_popInv_fill (o : EpochOpts W) (gen : Int) (p q p' : Pop W) (st : GenStats W) (rs rs' : List Nat)
    (hu : UidInv p) (hs : SpIdInv p) (hf : fillPopulationStatistics p = .ok (st, q))
    (h : nextEpoch o gen q rs = .ok (p', rs')) :
    (p'.organisms.length = o.popSize ∧ p'.organisms.Nodup ∧ p'.organisms = orgUids p'.species ∧
     (∀ s ∈ p'.species, s.orgs ≠ []) ∧ (∀ u ∈ p'.organisms, u ∉ p.organisms) ∧ (genomeIds p'.species).Nodup) ∧
    UidInv p' ∧ SpIdInv p' :=
  nextEpoch_popInv_perm o gen p q p' rs rs' hu hs (fill_speciesPerm false none p q st hf).sameShape h

/-- **C02 "succeeds without error" after `FillPopulationStatistics`**: `PopOk` on `p` (the quota facts on the
    population that enters the epoch) -/
theorem nextEpoch_no_error_fill (hff : FloatFacts W) (S : List Nat) (o : EpochOpts W) (p q : Pop W) (st : GenStats W)
    (ho : OptsOk o) (hp : PopOk S o p) (hf : fillPopulationStatistics p = .ok (st, q)) (hq : QuotaOk o q) (gen : Int) :
    ∀ rs, Valid rs → ∀ msg, nextEpoch o gen q rs ≠ .error (.error msg) :=
  nextEpoch_no_error_perm hff S o p q ho hp (fill_speciesPerm false none p q st hf).evalOkPerm hq gen

theorem nextEpoch_popOk_fill (hff : FloatFacts W) (S : List Nat) (o : EpochOpts W) (p q : Pop W) (st : GenStats W)
    (ho : OptsOk o) (hp : PopOk S o p) (hf : fillPopulationStatistics p = .ok (st, q)) (hq : QuotaOk o q) (gen : Int)
    (rs rs' : List Nat) (hv : Valid rs) (p' : Pop W) (he : nextEpoch o gen q rs = .ok (p', rs')) : PopOk S o p' :=
  nextEpoch_popOk_perm hff S o p q ho hp (fill_speciesPerm false none p q st hf).evalOkPerm hq gen rs rs' hv p' he

/-- **an evaluator written as the shipped ones - assign fitness values, then `FillPopulationStatistics` - satisfies
    `EvalOkPerm`** (it does NOT satisfy `EvalOk`: `exRunFill_view` shows the member order changing) -/
theorem evalOkPerm_fill (fit : Nat → Nat → Org W → W) (solved : Nat → Nat → Pop W → Bool) (t g : Nat) (q : Pop W) :
    EvalOkPerm q (fillEval fit solved t g q).pop := by
  have h1 := (evalOk_fitnessEval fit solved t g q).toPerm
  unfold fillEval
  simp only
  split
  · next st p' hf => exact h1.trans (fill_speciesPerm _ _ _ p' st hf).evalOkPerm
  · exact h1

example (c : Ctl) (o : EpochOpts W) (g0 : Genome W) (eval : Nat → Nat → Pop W → EvalResult W)
    (hw : WFT g0) (hm : g0.modules = []) (hev : ∀ t g q, EvalOk q (eval t g q).pop)
    (rs rs' : List Nat) (out : RealOut W) (h : executeReal c o g0 eval rs = .ok (out, rs')) :
    ∀ tl ∈ out.log, ∀ gl ∈ tl.gens,
      EvalInv o g0 gl.pop ∧ ∀ x ∈ genomesOfPop gl.pop, WFT x ∧ Retains g0 x ∧ genesisErr x = none ∧ SharedHead x g0 :=
  executeReal_evaluated_inv c o g0 eval hw hm hev rs rs' out h

example (hff : FloatFacts W) (c : Ctl) (o : EpochOpts W) (g0 : Genome W) (eval : Nat → Nat → Pop W → EvalResult W)
    (ho : OptsOk o) (hw : WFT g0) (hm : g0.modules = []) (hev : ∀ t g q, EvalOk q (eval t g q).pop)
    (rs rs' : List Nat) (hv : Valid rs) (out : RealOut W) (h : executeReal c o g0 eval rs = .ok (out, rs'))
    (hq : ∀ tl ∈ out.log, ∀ gl ∈ tl.gens, QuotaOk o gl.after) (hver : ∀ t, c.verifyOk t = true)
    (hopt : c.hasOptions = true) (hex : c.execOk = true) :
    (out.result.err ≠ some .epochFailed ∧ out.result.err ≠ some .spawnFailed ∧
      ∀ tl ∈ out.log, ∀ gl ∈ tl.gens, PopOk (shape g0) o gl.pop) ∧
    ((out.result.err = none ∧ out.result.trials.length = c.runs) ∨ out.result.err = some .cancelled ∨
      ∃ t g, out.result.err = some (.evalFailed t g) ∧ (inducedScript c out.log).evalRes t g = .fail) :=
  ⟨executeReal_no_epoch_error hff c o g0 eval ho hw hm hev rs rs' hv out h hq hver,
   executeReal_ends hff c o g0 eval ho hw hm hev rs rs' hv out h hq hver hopt hex⟩

/-! ### non-vacuity: the run of Props/C20Epoch.lean with an evaluator that calls `FillPopulationStatistics`

Same options, start genome, stream and fitness function as `exRun`; the evaluator is `fillEval`.  Inside each species the
fitness grows with the allocation id, so the recording call REVERSES every member list: the populations that enter
`NextEpoch` are not the ones `EvalOk` admits. -/
section NonVacuity
open GoNeat.ExactInt
attribute [local instance] intScalar

def exEvalFill : Nat → Nat → Pop Int → EvalResult Int :=
  fillEval (fun t g x => 8 * (((x.uid % 3 : Nat) : Int) + 1) + t + g) (fun t g _ => t == 1 && g == 0)

def exRunFill : R (RealOut Int) := executeReal exCtl exOpts C01.ev1 exEvalFill exStream

/-- the run returns: events, result, the quota facts at every population the evaluator returned, and - per evaluator
    call - `Organisms`, the member ids of the species as handed over and as the evaluator left them (re-ordered) -/
theorem exRunFill_view :
    (match exRunFill with
     | .ok (out, _) =>
       decide (out.events = [.started 0, .eval 0 0 0 0, .epoch 0 0, .evaluated 0 0, .eval 0 1 0 1, .epoch 0 1, .evaluated 0 1,
                             .finished 0, .started 1, .eval 1 0 1 0, .evaluated 1 0, .finished 1]) &&
       decide (out.result = ⟨[⟨0, [⟨0, 0, false⟩, ⟨1, 0, false⟩]⟩, ⟨1, [⟨0, 1, true⟩]⟩], none⟩) &&
       decide (∀ tl ∈ out.log, ∀ gl ∈ tl.gens, QuotaOk exOpts gl.after) &&
       decide (out.log.map (fun (tl : TrialLog Int) => tl.gens.map (fun (gl : GenLog Int) =>
           (gl.pop.organisms, gl.pop.species.map (fun (s : Species Int) => s.orgs.map Org.uid),
            gl.after.species.map (fun (s : Species Int) => s.orgs.map Org.uid)))) =
         [[([0, 1, 2], [[0, 1, 2]], [[2, 1, 0]]), ([3, 4, 5], [[3, 4, 5]], [[5, 4, 3]])], [([0, 1, 2], [[0, 1, 2]], [[2, 1, 0]])]])
     | .error _ => false) = true := by decide +kernel

/-- the member ids of the freshly spawned population before and after the first evaluator call differ (kernel evaluation) -/
theorem exFill_first_view :
    (match spawn exOpts C01.ev1 exStream with
     | .ok (p, _) => decide ((exEvalFill 0 0 p).pop.species.map (fun (s : Species Int) => s.orgs.map Org.uid) ≠
                             p.species.map (fun (s : Species Int) => s.orgs.map Org.uid))
     | .error _ => false) = true := by decide +kernel

/-- the first evaluator call of this run violates the order-preserving hypothesis `EvalOk` (the member ids in order differ) … -/
example : ∃ p rs1, spawn exOpts C01.ev1 exStream = .ok (p, rs1) ∧ ¬ EvalOk p (exEvalFill 0 0 p).pop := by
  have hview := exFill_first_view
  cases hsp : spawn exOpts C01.ev1 exStream with
  | error e => rw [hsp] at hview; cases hview
  | ok v =>
    obtain ⟨p, rs1⟩ := v
    rw [hsp] at hview
    simp only [decide_eq_true_eq] at hview
    refine ⟨p, rs1, rfl, fun h => hview ?_⟩
    have := congrArg (List.map (fun k => k.2.map (·.1))) h.1.2.2.2
    simpa [List.map_map, Function.comp_def, ukey] using this

/-- … while every hypothesis of `executeReal_ends_perm` / `executeReal_no_epoch_error_perm` /
    `executeReal_evaluated_inv_perm` holds of it, and the conclusions are instantiated: the run completes both trials
    without error, and each of the three populations handed to the evaluator satisfies `PopOk` and `EvalInv` -/
example : ∃ out rs', exRunFill = .ok (out, rs') ∧ out.result.err = none ∧ out.result.trials.length = 2 ∧
    (out.log.map (fun (tl : TrialLog Int) => tl.gens.length)) = [2, 1] ∧
    (∀ tl ∈ out.log, ∀ gl ∈ tl.gens, PopOk (shape C01.ev1) exOpts gl.pop ∧ EvalInv exOpts C01.ev1 gl.pop) := by
  have hview := exRunFill_view
  cases hrun : exRunFill with
  | error e => rw [hrun] at hview; cases hview
  | ok v =>
    obtain ⟨out, rs'⟩ := v
    rw [hrun] at hview
    simp only [Bool.and_eq_true, decide_eq_true_eq] at hview
    obtain ⟨⟨⟨_, hres⟩, hq⟩, hlog⟩ := hview
    have hw := ev1_wft
    have hev : ∀ t g q, EvalOkPerm q (exEvalFill t g q).pop := fun t g q => evalOkPerm_fill _ _ t g q
    have hopts := exOpts_ok
    have hvs := exStream_valid
    have hno := executeReal_no_epoch_error_perm floatFacts_int exCtl exOpts C01.ev1 exEvalFill hopts hw rfl hev exStream rs'
      hvs out hrun hq (fun _ => rfl)
    have hinv := executeReal_evaluated_inv_perm exCtl exOpts C01.ev1 exEvalFill hw rfl hev exStream rs' out hrun
    have _hends := executeReal_ends_perm floatFacts_int exCtl exOpts C01.ev1 exEvalFill hopts hw rfl hev exStream rs'
      hvs out hrun hq (fun _ => rfl) rfl rfl
    refine ⟨out, rs', rfl, by rw [hres], by rw [hres]; rfl, ?_, fun tl htl gl hgl => ⟨hno.2.2 tl htl gl hgl, (hinv tl htl gl hgl).1⟩⟩
    have := congrArg (List.map (fun l => l.length)) hlog
    simpa [List.map_map, Function.comp_def] using this

end NonVacuity

end GoNeat.C20
