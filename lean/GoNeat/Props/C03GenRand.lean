/-
  Property C03 for the random constructors `newGenomeRand` / `NewPopulationRandom` (Model/GenomeRand.lean).  Kind A: for
  every scalar type, ALL parameters and ALL random streams.

  `genomeRand_randShape`              every genome the model of `newGenomeRand(_, in, out, n, maxHidden, …)` returns with
                                      `n ≤ maxHidden` satisfies `RandShape in out maxHidden`: innovation numbers below
                                      total², node ids at most total
  `genomeRand_pool_consistent`        any pool of such genomes (same `in, out, maxHidden`; any ids, `n`, flags,
                                      probabilities, options, streams) is consistent: the binding of a gene is the
                                      `cellBind` of its matrix cell (`randomGenome_binds`), and a cell is determined by
                                      its number (`cellBind_inj`)
  `genomeRand_counters_inv`           so the counters `NewPopulationRandom` sets give the invariant for such a pool:
                                      `random_counters_inv` (Props/C03.lean) with its hypotheses `RandShape`,
                                      `ConsistentGenes`, `ConsistentRoles` proved
  `newPopulationRandom_counters_inv`  the population the model of `NewPopulationRandom` returns is in the C03 state
                                      `PopC03`, the hypothesis of `epoch_inv` / `epochs_inv`
-/
import GoNeat.Proofs.GenomeRand
import GoNeat.Proofs.EpochRegistry
import GoNeat.Props.C03
import GoNeat.Props.C01GenRand

set_option linter.unusedSectionVars false

namespace GoNeat.C03
open GoNeat Scalar GoNeat.GenRand
variable {W : Type} [Scalar W]

/-- `g` is a result of the model of `newGenomeRand(_, in, out, n, maxHidden, …)` for some `n ≤ maxHidden` -/
def RandomGenome (nIn nOut mH : Nat) (g : Genome W) : Prop :=
  ∃ (newId : Int) (n : Nat) (recurrent : Bool) (linkProb : W) (o : MutOpts W) (rs rs' : List Nat),
    n ≤ mH ∧ newGenomeRand newId nIn nOut n mH recurrent linkProb o rs = .ok (g, rs')

/-- binding of the gene in cell (column `1+i`, row `1+j`) of a `T × T` connection matrix -/
def cellBind (T i j : Nat) : Bind := (((i * T + j : Nat) : Int), ((1 + j : Nat) : Int), ((1 + i : Nat) : Int), !decide (1 + i > 1 + j))

theorem cellBind_inj (T i j i' j' : Nat) (hj : j < T) (hj' : j' < T) (h : (cellBind T i j).1 = (cellBind T i' j').1) :
    cellBind T i j = cellBind T i' j' := by
  simp only [cellBind] at h
  have h' : i * T + j = i' * T + j' := by exact_mod_cast h
  -- the row is the remainder, the column the quotient
  have hjj : j = j' := by
    have := congrArg (· % T) h'
    simpa only [Nat.mul_add_mod_of_lt hj, Nat.mul_add_mod_of_lt hj'] using this
  subst hjj
  rw [Nat.eq_of_mul_eq_mul_right (Nat.zero_lt_of_lt hj) (Nat.add_right_cancel h')]

theorem cell_lt {T i j : Nat} (hi : i < T) (hj : j < T) : i * T + j < T * T :=
  Nat.lt_of_lt_of_le (Nat.add_lt_add_left hj _) (Nat.succ_mul i T ▸ Nat.mul_le_mul_right T hi)

theorem randomGenome_binds {nIn nOut mH : Nat} {g : Genome W} (h : RandomGenome nIn nOut mH g) :
    ∀ x ∈ g.genes, ∃ i j, i < nIn + nOut + mH ∧ j < nIn + nOut + mH ∧ geneBind x = cellBind (nIn + nOut + mH) i j := by
  obtain ⟨newId, n, recurrent, linkProb, o, rs, rs', hn, h⟩ := h
  intro x hx
  obtain ⟨i, j, hi, hj, hf⟩ := (newGenomeRand_facts h).1.cells x hx
  refine ⟨i, j, hi, hj, ?_⟩
  unfold geneBind cellBind
  rw [hf.inn, hf.src, hf.dst, hf.recur]

/-- **C03 (newGenomeRand, numbering scheme).** `RandShape in out maxHidden` holds of every genome the model returns (with
    `n ≤ maxHidden`): innovation numbers are below `(in+out+maxHidden)²`, node ids at most `in+out+maxHidden`. -/
theorem genomeRand_randShape (newId : Int) (nIn nOut n mH : Nat) (recurrent : Bool) (linkProb : W) (o : MutOpts W)
    (rs rs' : List Nat) (g : Genome W) (hn : n ≤ mH)
    (h : newGenomeRand newId nIn nOut n mH recurrent linkProb o rs = .ok (g, rs')) :
    RandShape (nIn : Int) (nOut : Int) (mH : Int) g := by
  refine ⟨fun x hx => ?_, fun m hm => (C01.genomeRand_roles newId nIn nOut n mH recurrent linkProb o rs rs' g hn h m hm).2.1⟩
  obtain ⟨i, j, hi, hj, hf⟩ := (newGenomeRand_facts h).1.cells x hx
  rw [hf.inn]
  exact_mod_cast cell_lt hi hj

/-- **C03 (pool of random genomes).** Any collection of genomes made by `newGenomeRand` with the same `(in, out, maxHidden)`
    - whatever their ids, `n ≤ maxHidden`, recurrence switches, link probabilities, options and random streams - is
    consistent: an innovation number denotes the same link, a node id the same role, in all of them. -/
theorem genomeRand_pool_consistent (nIn nOut mH : Nat) (gs : List (Genome W)) (h : ∀ g ∈ gs, RandomGenome nIn nOut mH g) :
    ConsistentGenes gs ∧ ConsistentRoles gs := by
  constructor
  · intro a ha b hb hab
    obtain ⟨g1, hg1, ha⟩ := List.mem_flatMap.mp ha
    obtain ⟨x, hx, rfl⟩ := List.mem_map.mp ha
    obtain ⟨g2, hg2, hb⟩ := List.mem_flatMap.mp hb
    obtain ⟨y, hy, rfl⟩ := List.mem_map.mp hb
    obtain ⟨i, j, _, hj, e1⟩ := randomGenome_binds (h g1 hg1) x hx
    obtain ⟨i', j', _, hj', e2⟩ := randomGenome_binds (h g2 hg2) y hy
    rw [e1, e2] at hab ⊢
    exact cellBind_inj _ i j i' j' hj hj' hab
  · intro a ha b hb hab
    obtain ⟨g1, hg1, ha⟩ := List.mem_flatMap.mp ha
    obtain ⟨x, hx, rfl⟩ := List.mem_map.mp ha
    obtain ⟨g2, hg2, hb⟩ := List.mem_flatMap.mp hb
    obtain ⟨y, hy, rfl⟩ := List.mem_map.mp hb
    obtain ⟨id1, n1, r1, p1, o1, s1, s1', hn1, h1⟩ := h g1 hg1
    obtain ⟨id2, n2, r2, p2, o2, s2, s2', hn2, h2⟩ := h g2 hg2
    have k1 := (C01.genomeRand_roles id1 nIn nOut n1 mH r1 p1 o1 s1 s1' g1 hn1 h1 x hx).2.2.1
    have k2 := (C01.genomeRand_roles id2 nIn nOut n2 mH r2 p2 o2 s2 s2' g2 hn2 h2 y hy).2.2.1
    simp only [nodeRole] at hab ⊢
    rw [k1, k2, hab]

/-- **C03 (NewPopulationRandom counters, hypothesis discharged).** For any pool of genomes made by the model of `newGenomeRand`
    with the same `(in, out, maxHidden)` the counters `randomCounters` that `NewPopulationRandom` sets give the invariant:
    `random_counters_inv` with its hypotheses `RandShape`, `ConsistentGenes`, `ConsistentRoles` proved instead of assumed. -/
theorem genomeRand_counters_inv (nIn nOut mH : Nat) (gs : List (Genome W)) (h : ∀ g ∈ gs, RandomGenome nIn nOut mH g) :
    Inv ({ records := [], nextInn := (randomCounters (nIn : Int) nOut mH).2, nextNode := (randomCounters (nIn : Int) nOut mH).1 } : Reg W) gs :=
  random_counters_inv (nIn : Int) (nOut : Int) (mH : Int) gs
    (fun g hg => by
      obtain ⟨id, n, r, p, o, s, s', hn, hh⟩ := h g hg
      exact genomeRand_randShape id nIn nOut n mH r p o s s' g hn hh)
    (genomeRand_pool_consistent nIn nOut mH gs h).1 (genomeRand_pool_consistent nIn nOut mH gs h).2

theorem randomOrgs_made (o : EpochOpts W) (nIn nOut mH : Nat) (recurrent : Bool) (linkProb : W) (k : Nat) (count : Int) (uid : Nat)
    (rs rs' : List Nat) (orgs : List (Org W)) (h : randomOrgs o nIn nOut mH recurrent linkProb k count uid rs = .ok (orgs, rs')) :
    ∀ org ∈ orgs, RandomGenome nIn nOut mH org.genome := by
  induction k generalizing count uid rs rs' orgs with
  | zero => simp only [randomOrgs, Except.ok.injEq, Prod.mk.injEq] at h; obtain ⟨rfl, _⟩ := h; intro _ h; cases h
  | succ k ih =>
    unfold randomOrgs at h
    split at h
    · cases h
    · rename_i n rs1 hn
      split at h
      · cases h
      · rename_i g rs2 hg
        split at h
        · cases h
        · rename_i rest rs3 hrest
          simp only [Except.ok.injEq, Prod.mk.injEq] at h
          obtain ⟨rfl, _⟩ := h
          intro org horg
          rcases List.mem_cons.mp horg with rfl | horg
          · exact ⟨count, n, recurrent, linkProb, o.mopts, rs1, rs2, Nat.le_of_lt (C04.intn_lt mH rs rs1 n hn), hg⟩
          · exact ih _ _ _ _ _ hrest org horg

/-- **C03 (NewPopulationRandom).** Whenever the model of `NewPopulationRandom(in, out, maxHidden, recurrent, linkProb, opts)`
    returns a population `p` - for all parameters, options and random streams - `p` is in the C03 state `PopC03 H p` for the
    history `H` = the genomes of its organisms: `Inv` holds for its registry (counters `in+out+maxHidden+1` and
    `(in+out+maxHidden)²+1`, no records) and `H`, and every organism's bindings are in `H`.  This is the hypothesis of
    `epoch_inv` / `epochs_inv`: a run that starts from a random population keeps C03 for any number of generations. -/
theorem newPopulationRandom_counters_inv (o : EpochOpts W) (nIn nOut mH : Nat) (recurrent : Bool) (linkProb : W)
    (rs rs' : List Nat) (p : Pop W) (h : newPopulationRandom o nIn nOut mH recurrent linkProb rs = .ok (p, rs')) :
    ∃ H : List (Genome W), (∀ g ∈ H, RandomGenome nIn nOut mH g) ∧ PopC03 H p ∧
      p.reg.nextNode = (randomCounters (nIn : Int) nOut mH).1 ∧ p.reg.nextInn = (randomCounters (nIn : Int) nOut mH).2 := by
  unfold newPopulationRandom at h
  split at h
  · cases h
  · split at h
    · cases h
    · rename_i orgs rs1 hloop
      simp only at h
      split at h
      · cases h
      · rename_i p' hsp
        simp only [Except.ok.injEq, Prod.mk.injEq] at h
        obtain ⟨rfl, _⟩ := h
        have hmade := randomOrgs_made o nIn nOut mH recurrent linkProb _ _ _ _ _ _ hloop
        have hH : ∀ g ∈ orgs.map (·.genome), RandomGenome nIn nOut mH g := fun g hg => by
          obtain ⟨org, horg, rfl⟩ := List.mem_map.mp hg
          exact hmade org horg
        have hin : ∀ x ∈ orgs, AllB (· ∈ binds (orgs.map (·.genome))) (· ∈ roles (orgs.map (·.genome))) x.genome :=
          fun x hx => GenomeIn.of_mem (List.mem_map_of_mem hx)
        obtain ⟨c1, r1⟩ := speciateLoop_all o _ p' orgs (speciate_ok hsp).2 (fun s hs => by cases hs) hin
        have hreg : p'.reg = ({ records := [], nextInn := (randomCounters (nIn : Int) nOut mH).2,
                                nextNode := (randomCounters (nIn : Int) nOut mH).1 } : Reg W) := by
          rw [r1]; simp only [randomCounters]; congr 1 <;> (push_cast; rfl)
        have hinv := genomeRand_counters_inv nIn nOut mH (orgs.map (·.genome)) hH
        exact ⟨_, hH, ⟨hreg ▸ hinv, c1, by rw [r1]⟩, by rw [hreg], by rw [hreg]⟩

section Examples
open GoNeat.ExactInt

/-- the model of `newGenomeRand` returns genomes for `(in, out, maxHidden) = (2, 1, 1)` with `n = 0` and `n = 1`; the pool of
    both satisfies the hypothesis of `genomeRand_counters_inv`, and the conclusion is confirmed by evaluation -/
example : (match newGenomeRand 1 2 1 0 1 true (1 : Int) C01.moR C01.rsR, newGenomeRand 2 2 1 1 1 false (1 : Int) C01.moR C01.rsR with
  | .ok (g1, _), .ok (g2, _) =>
    decide (g1.genes.length = 3) && decide (g2.genes.length = 5) &&
    decide (Inv ({ records := [], nextInn := 17, nextNode := 5 } : Reg Int) [g1, g2]) && decide (RandShape 2 1 1 g1) && decide (RandShape 2 1 1 g2)
  | _, _ => false) = true := by decide +kernel

end Examples

end GoNeat.C03
