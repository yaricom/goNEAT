/-
  Property C08 — speciation puts each organism in its nearest compatible species.

  Kind A over a strict weak order: the theorems hold for every scalar type whose `<` (as the model's
  `Scalar.lt`) is irreflexive, transitive and negatively transitive on the distances involved — true for
  float64 distances that are not NaN (never-NaN is C07) and for every ordered field — and whose distances are
  below the `math.MaxFloat64` sentinel the search starts from (`Scalar.maxVal`; the hypotheses `hfin` here, `finiteAt` in Props/C08Epoch.lean).

  WARNING for whoever combines C08 with a Kind B result: the ordered-field instance `exactScalar` (Proofs/Exact.lean) has
  `maxVal := 0`, a field having no largest element.  There "below the sentinel" means negative, which a distance is not
  (C07 `compatLinear_nonneg`), so `hfin` cannot be met and the theorems of this property say nothing; and the MODEL's search, which starts
  from `maxVal`, never selects a species in that instance: every organism founds a species of its own.  C08 is about
  the float64 and the integer instance (`ExactInt`, `maxVal = 2^1023`); the Kind B epoch theorems (C09, C10 over a field)
  are about that degenerate speciation.
-/
import GoNeat.Model.Population
import GoNeat.Proofs.EpochSteps
import GoNeat.Proofs.OrderLaws

namespace GoNeat.C08
open GoNeat Scalar
variable {W : Type} [Scalar W]

/-- the search of `Population.speciate` over the list of distances to the representatives
    (`none` = species without organisms, skipped by the code) -/
def scan (thr : W) : List (Option W) → Nat → Option Nat → W → Option Nat
  | [], _, best, _ => best
  | none :: ds, i, best, bv => scan thr ds (i + 1) best bv
  | some c :: ds, i, best, bv =>
    if lt c thr && lt c bv then scan thr ds (i + 1) (some i) c else scan thr ds (i + 1) best bv

def dists (o : EpochOpts W) (g : Genome W) (species : List (Species W)) : List (Option W) :=
  species.map (fun s => s.orgs.head?.map (fun rep => compatibility o.compat g rep.genome))

theorem bestCompatible_eq_scan (o : EpochOpts W) (g : Genome W) (species : List (Species W)) (i : Nat) (best : Option Nat) (bv : W) :
    bestCompatible o g species i best bv = scan o.compatThreshold (dists o g species) i best bv := by
  induction species generalizing i best bv with
  | nil => rfl
  | cons s ss ih =>
    unfold bestCompatible dists
    cases h : s.orgs.head? with
    | none => simp only [List.map_cons, h, Option.map_none, scan]; exact ih _ _ _
    | some rep =>
      simp only [List.map_cons, h, Option.map_some, scan]
      split
      · exact ih _ _ _
      · exact ih _ _ _

theorem dists_getElem (o : EpochOpts W) (g : Genome W) (ss : List (Species W)) (j : Nat) (c : W) :
    (dists o g ss)[j]? = some (some c) ↔
      ∃ s rep, ss[j]? = some s ∧ s.orgs.head? = some rep ∧ compatibility o.compat g rep.genome = c := by
  unfold dists
  simp only [List.getElem?_map, Option.map_eq_some_iff, exists_and_left]

/-- the part of the search that needs no order law -/
theorem scan_within (thr : W) (ds : List (Option W)) (i : Nat) (best : Option Nat) (bv : W) (b : Nat)
    (h : scan thr ds i best bv = some b) :
    best = some b ∨ (i ≤ b ∧ ∃ c, ds[b - i]? = some (some c) ∧ lt c thr = true) := by
  induction ds generalizing i best bv with
  | nil => exact .inl h
  | cons d ds ih =>
    have lift : (i + 1 ≤ b ∧ ∃ c, ds[b - (i + 1)]? = some (some c) ∧ lt c thr = true) →
        (i ≤ b ∧ ∃ c, (d :: ds)[b - i]? = some (some c) ∧ lt c thr = true) := by
      rintro ⟨hle, c, h1, h2⟩
      refine ⟨by omega, c, ?_, h2⟩
      rw [show b - i = (b - (i + 1)) + 1 by omega, List.getElem?_cons_succ]
      exact h1
    cases d with
    | none => exact (ih _ _ _ h).imp_right lift
    | some c =>
      simp only [scan] at h
      split at h
      · next hc =>
        rcases ih _ _ _ h with h' | h'
        · cases h'
          exact .inr ⟨Nat.le_refl _, c, by simp, (Bool.and_eq_true_iff.mp hc).1⟩
        · exact .inr (lift h')
      · exact (ih _ _ _ h).imp_right lift

theorem getElem?_snoc {α} {l : List α} {d x : α} {j : Nat} (h : (l ++ [d])[j]? = some x) :
    l[j]? = some x ∨ (j = l.length ∧ d = x) := by
  by_cases hj : j < l.length
  · exact .inl (List.getElem?_append_left hj ▸ h)
  · rw [List.getElem?_append_right (by omega), List.getElem?_singleton] at h
    split at h
    · exact .inr ⟨by omega, Option.some.inj h⟩
    · cases h

/-- invariant of the scan: what `best`/`bv` say about the distances seen so far (`seen` = positions `base …`) -/
structure Inv (thr : W) (seen : List (Option W)) (base : Nat) (best : Option Nat) (bv : W) : Prop where
  none_case : best = none → ∀ c, some c ∈ seen → lt c thr = false
  some_case : ∀ i, best = some i → base ≤ i ∧ seen[i - base]? = some (some bv) ∧ lt bv thr = true ∧
      (∀ j c, seen[j]? = some (some c) → lt c thr = true → lt c bv = false ∧ (j < i - base → lt bv c = true))

theorem Inv.snoc_keep {thr : W} {seen : List (Option W)} {base : Nat} {best : Option Nat} {bv : W}
    (hinv : Inv thr seen base best bv) (d : Option W)
    (hd : ∀ c, d = some c → (best = none → lt c thr = false) ∧ (lt c thr = true → lt c bv = false)) :
    Inv thr (seen ++ [d]) base best bv := by
  refine ⟨?_, ?_⟩
  · intro hb c hc
    rcases List.mem_append.mp hc with h | h
    · exact hinv.none_case hb c h
    · exact (hd c (List.mem_singleton.mp h).symm).1 hb
  · intro i hb
    obtain ⟨h1, h2, h3, h4⟩ := hinv.some_case i hb
    have hlt := (List.getElem?_eq_some_iff.mp h2).1
    refine ⟨h1, by rw [List.getElem?_append_left hlt]; exact h2, h3, ?_⟩
    intro j c hj hc
    rcases getElem?_snoc hj with hj | ⟨rfl, hcc⟩
    · exact h4 j c hj hc
    · exact ⟨(hd c hcc).2 hc, fun h => by omega⟩

/-- where negative transitivity is needed: the earlier compatible distances, not below the old best, are strictly above
    the new one -/
theorem Inv.snoc_take (hw : StrictWeak W) {thr : W} {seen : List (Option W)} {base : Nat} {best : Option Nat} {bv : W}
    (hinv : Inv thr seen base best bv) (c : W) (hthr : lt c thr = true) (hbv : lt c bv = true) :
    Inv thr (seen ++ [some c]) base (some (base + seen.length)) c := by
  refine ⟨nofun, ?_⟩
  intro i hi
  cases hi
  have hidx : base + seen.length - base = seen.length := by omega
  refine ⟨by omega, by rw [hidx, List.getElem?_append_right (Nat.le_refl _)]; simp, hthr, ?_⟩
  intro j c' hj hc'
  rcases getElem?_snoc hj with hj | ⟨rfl, hcc⟩
  · cases hb : best with
    | none => rw [hinv.none_case hb c' (List.mem_of_getElem? hj)] at hc'; cases hc'
    | some i0 =>
      obtain ⟨hmin, _⟩ := (hinv.some_case i0 hb).2.2.2 j c' hj hc'
      refine ⟨?_, fun _ => (hw.weak c bv c' hbv).resolve_right (by rw [hmin]; exact Bool.false_ne_true)⟩
      cases hlt : lt c' c with
      | false => rfl
      | true => rw [hw.trans c' c bv hlt hbv] at hmin; cases hmin
  · cases hcc
    exact ⟨hw.irrefl _, fun h => by omega⟩

theorem scan_spec (hw : StrictWeak W) (thr : W) (ds : List (Option W)) (seen : List (Option W)) (base : Nat)
    (best : Option Nat) (bv : W) (hinv : Inv thr seen base best bv)
    (hfin : best = none → ∀ c, some c ∈ ds → lt c thr = true → lt c bv = true) :
    ∃ bv', Inv thr (seen ++ ds) base (scan thr ds (base + seen.length) best bv) bv' := by
  induction ds generalizing seen best bv with
  | nil => exact ⟨bv, by simpa [scan] using hinv⟩
  | cons d ds ih =>
    -- one step either takes `d`, a distance below the threshold and below the best so far, or leaves the state alone
    by_cases take : ∃ c, d = some c ∧ lt c thr = true ∧ lt c bv = true
    · obtain ⟨c, rfl, hthr, hbv⟩ := take
      have := ih (seen ++ [some c]) (some (base + seen.length)) c (hinv.snoc_take hw c hthr hbv) nofun
      simpa [scan, hthr, hbv, List.append_assoc, Nat.add_assoc] using this
    · have hstep : scan thr (d :: ds) (base + seen.length) best bv = scan thr ds (base + seen.length + 1) best bv := by
        cases d with
        | none => rfl
        | some c => exact if_neg fun hc => take ⟨c, rfl, Bool.and_eq_true_iff.mp hc⟩
      have hkeep : Inv thr (seen ++ [d]) base best bv := by
        refine hinv.snoc_keep d fun c hd => ⟨fun hb => ?_, fun hthr => ?_⟩
        · cases hthr : lt c thr with
          | false => rfl
          | true => exact absurd ⟨c, hd, hthr, hfin hb c (by simp [hd]) hthr⟩ take
        · cases hbv : lt c bv with
          | false => rfl
          | true => exact absurd ⟨c, hd, hthr, hbv⟩ take
      have := ih (seen ++ [d]) best bv hkeep (fun hb c hc => hfin hb c (List.mem_cons_of_mem _ hc))
      rw [hstep]
      simpa [List.append_assoc, Nat.add_assoc] using this

/-- **C08 (search).** The species chosen for an arriving organism, if any, is the *first* species attaining the
    minimal distance among those whose representative is closer than the threshold; none is chosen exactly when
    no representative is closer than the threshold. -/
theorem bestCompatible_spec (hw : StrictWeak W) (o : EpochOpts W) (g : Genome W) (species : List (Species W))
    (hfin : ∀ c, some c ∈ dists o g species → lt c maxVal = true) :
    let ds := dists o g species
    match bestCompatible o g species 0 none maxVal with
    | none => ∀ c, some c ∈ ds → lt c o.compatThreshold = false
    | some i => ∃ d, ds[i]? = some (some d) ∧ lt d o.compatThreshold = true ∧
        ∀ j c, ds[j]? = some (some c) → lt c o.compatThreshold = true → lt c d = false ∧ (j < i → lt d c = true) := by
  intro ds
  rw [bestCompatible_eq_scan]
  have hinv0 : Inv o.compatThreshold ([] : List (Option W)) 0 none maxVal :=
    ⟨(by intro _ c hc; cases hc), (by intro i h; cases h)⟩
  obtain ⟨bv', hinv⟩ := scan_spec hw o.compatThreshold ds [] 0 none maxVal hinv0 (fun _ c hc _ => hfin c hc)
  simp only [List.length_nil, Nat.add_zero, List.nil_append] at hinv
  cases hres : scan o.compatThreshold ds 0 none maxVal with
  | none => simp only; rw [hres] at hinv; exact hinv.none_case rfl
  | some i =>
    simp only
    rw [hres] at hinv
    obtain ⟨_, h2, h3, h4⟩ := hinv.some_case i rfl
    exact ⟨bv', by simpa using h2, h3, fun j c hj hc => by simpa using h4 j c hj hc⟩

/-- **C08 (placement).** `speciateOne` either appends the organism to the species found by the search, leaving
    everything else untouched, or founds a new species with the fresh id `lastSpecies + 1` whose only member —
    and representative — is the organism. -/
theorem speciateOne_spec (o : EpochOpts W) (p p' : Pop W) (org : Org W) (h : speciateOne o p org = .ok p') :
    (∃ i, (p.species.isEmpty = false ∧ bestCompatible o org.genome p.species 0 none maxVal = some i) ∧
          p'.species = p.species.modify i (fun s => { s with orgs := s.orgs ++ [org] }) ∧ p'.lastSpecies = p.lastSpecies) ∨
    ((p.species.isEmpty = true ∨ bestCompatible o org.genome p.species 0 none maxVal = none) ∧
      p'.lastSpecies = p.lastSpecies + 1 ∧
      ∃ s, p'.species = p.species ++ [s] ∧ s.id = p.lastSpecies + 1 ∧ s.orgs = [org] ∧ s.age = 1 ∧ s.isNovel = true) := by
  rcases speciateOne_ok h with ⟨i, hg, rfl⟩ | ⟨s, hid, hage, hnov, horgs, hg, rfl⟩
  · exact .inl ⟨i, hg, rfl, rfl⟩
  · exact .inr ⟨hg, rfl, s, rfl, hid, horgs, hage, hnov⟩

end GoNeat.C08
