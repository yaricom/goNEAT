/-
  Property C07, Kind B: statements in exact ordered-field arithmetic (`exactScalar`).
  The rounded float64 evaluation is outside these theorems (trusted base); the correspondence check compares
  the implementation with the formula numerically on every run.
-/
import GoNeat.Props.C07
import GoNeat.Proofs.Exact

namespace GoNeat.C07
open GoNeat
variable {K : Type} [Field K] [LinearOrder K] [IsStrictOrderedRing K] [FloorRing K]

/-- the float counters of the linear walk agree with the ghost counters, and the accumulated |Δ mutation number|
    is non-negative -/
def LinInv (a : LinAcc K) : Prop :=
  a.numDisjoint = (a.cnt.disjoint : K) ∧ a.numExcess = (a.cnt.excess : K) ∧ a.numMatching = (a.cnt.matching : K) ∧
    0 ≤ a.mutDiffTotal

theorem linWalk_inv (xs ys : List (Gene K)) (a : LinAcc K) (h : LinInv a) : LinInv (linWalk xs ys a) := by
  fun_induction linWalk xs ys a with
  | case1 a => exact h
  | case2 y ys a ih => apply ih; obtain ⟨h1, h2, h3, h4⟩ := h; exact ⟨h1, by simp [h2], h3, h4⟩
  | case3 x xs a ih => apply ih; obtain ⟨h1, h2, h3, h4⟩ := h; exact ⟨h1, by simp [h2], h3, h4⟩
  | case4 x xs y ys a heq ih =>
    apply ih; obtain ⟨h1, h2, h3, h4⟩ := h; exact ⟨h1, h2, by simp [h3], add_nonneg h4 (abs_nonneg _)⟩
  | case5 x xs y ys a hne hlt ih => apply ih; obtain ⟨h1, h2, h3, h4⟩ := h; exact ⟨by simp [h1], h2, h3, h4⟩
  | case6 x xs y ys a hne hnlt ih => apply ih; obtain ⟨h1, h2, h3, h4⟩ := h; exact ⟨by simp [h1], h2, h3, h4⟩

theorem compatLinearAcc_inv (g og : Genome K) : LinInv (compatLinearAcc g og) :=
  linWalk_inv _ _ _ (by simp [LinInv, LinAcc.init])

theorem compatLinear_eq_cnt (o : CompatOpts K) (g og : Genome K) :
    compatLinear o g og =
      o.disjointCoeff * ((compatLinearAcc g og).cnt.disjoint : K) + o.excessCoeff * ((compatLinearAcc g og).cnt.excess : K) +
        (if 0 < (compatLinearAcc g og).cnt.matching then
          o.mutdiffCoeff * ((compatLinearAcc g og).mutDiffTotal / ((compatLinearAcc g og).cnt.matching : K)) else 0) := by
  obtain ⟨h1, h2, h3, _⟩ := compatLinearAcc_inv g og
  unfold compatLinear
  simp only [Exact.gt_eq, Exact.zero_eq, Exact.add_eq, Exact.mul_eq, Exact.div_eq, h1, h2, h3, Nat.cast_pos,
    decide_eq_true_eq]
  split
  · rfl
  · rw [add_zero]

/-- the walk is its own mirror image: swapping the genomes gives the same accumulator (exact arithmetic:
    `|a - b| = |b - a|`) -/
theorem linWalk_symm (xs ys : List (Gene K)) (a : LinAcc K) : linWalk xs ys a = linWalk ys xs a := by
  fun_induction linWalk xs ys a with
  | case1 a => rw [linWalk]
  | case2 y ys a ih => conv => rhs; rw [linWalk]
                       exact ih
  | case3 x xs a ih => conv => rhs; rw [linWalk]
                       exact ih
  | case4 x xs y ys a heq ih =>
    conv => rhs; rw [linWalk]
    simp only [heq, ↓reduceIte]
    rw [ih]
    simp only [Exact.abs_eq, Exact.sub_eq, abs_sub_comm]
  | case5 x xs y ys a hne hlt ih =>
    conv => rhs; rw [linWalk]
    have h1 : ¬ y.inn = x.inn := fun h => hne h.symm
    have h2 : ¬ y.inn < x.inn := by omega
    simp only [h1, h2, ↓reduceIte]
    exact ih
  | case6 x xs y ys a hne hnlt ih =>
    conv => rhs; rw [linWalk]
    have h1 : ¬ y.inn = x.inn := fun h => hne h.symm
    have h2 : y.inn < x.inn := by omega
    simp only [h1, h2, ↓reduceIte]
    exact ih

/-- **C07 (linear method, exact arithmetic): the NEAT formula.**
    `compat = c_D·D + c_E·E + c_M·W̄` with `W̄ = (Σ|Δmut|)/M`, and the last term absent when no gene matches
    (no division is executed then — the guard added by the repair). `E, D, M` are the specification counts. -/
theorem compatLinear_formula (o : CompatOpts K) (g og : Genome K) (hg : GenesSorted g.genes) (ho : GenesSorted og.genes) :
    let c := specCounts (inns g.genes) (inns og.genes)
    let T := (compatLinearAcc g og).mutDiffTotal
    compatLinear o g og =
      o.disjointCoeff * (c.disjoint : K) + o.excessCoeff * (c.excess : K) +
        (if 0 < c.matching then o.mutdiffCoeff * (T / (c.matching : K)) else 0) := by
  intro c T
  rw [compatLinear_eq_cnt, compatLinear_counts g og hg ho]

/-- **C07: symmetric** (linear method, exact arithmetic) -/
theorem compatLinear_symm (o : CompatOpts K) (g og : Genome K) : compatLinear o g og = compatLinear o og g := by
  unfold compatLinear compatLinearAcc
  rw [linWalk_symm]

/-- **C07: never negative** for non-negative coefficients (linear method, exact arithmetic) -/
theorem compatLinear_nonneg (o : CompatOpts K) (g og : Genome K)
    (hd : 0 ≤ o.disjointCoeff) (he : 0 ≤ o.excessCoeff) (hm : 0 ≤ o.mutdiffCoeff) : 0 ≤ compatLinear o g og := by
  rw [compatLinear_eq_cnt]
  apply add_nonneg (add_nonneg (mul_nonneg hd (Nat.cast_nonneg _)) (mul_nonneg he (Nat.cast_nonneg _)))
  split
  · exact mul_nonneg hm (div_nonneg (compatLinearAcc_inv g og).2.2.2 (Nat.cast_nonneg _))
  · exact le_refl 0

theorem linWalk_self_mutDiff (xs : List (Gene K)) (a : LinAcc K) :
    (linWalk xs xs a).mutDiffTotal = a.mutDiffTotal := by
  induction xs generalizing a with
  | nil => simp [linWalk]
  | cons x xs ih =>
    rw [linWalk]
    simp only [↓reduceIte]
    rw [ih]
    simp

/-- **C07: zero for a genome against itself or its exact duplicate** (linear method, exact arithmetic) -/
theorem compatLinear_self (o : CompatOpts K) (g : Genome K) (hg : GenesSorted g.genes) : compatLinear o g g = 0 := by
  have hf := compatLinear_formula o g g hg hg
  simp only at hf
  rw [hf]
  have hc := linear_counts_self g hg
  rw [compatLinear_counts g g hg hg] at hc
  have hT : (compatLinearAcc g g).mutDiffTotal = 0 := by
    unfold compatLinearAcc; rw [linWalk_self_mutDiff]; simp [LinAcc.init]
  rw [hc, hT]
  simp

end GoNeat.C07
