/-
  Property C01 for the random constructor `newGenomeRand` (Model/GenomeRand.lean).  Kind A: every theorem holds for
  every scalar type `W` with `[Scalar W]`, for ALL parameters `(newId, in, out, n, maxHidden, recurrent, linkProb, opts)`
  and ALL random streams: whenever the model returns a genome, the genome has the stated shape.

  The only hypothesis that occurs is `n ≤ maxHidden` (for the clauses about the node list): with `n > maxHidden` the
  hidden ids `in+1..in+n` run into the output ids `in+maxHidden+1..` and node ids are NOT unique
  (`genomeRand_nodes_clash`, machine-checked); `NewPopulationRandom` calls with `n = rand.Intn(maxHidden) < maxHidden`.
  A random genome need not have a gene (`genomeRand_may_be_empty`: `linkProb = 0`), so `WF` proper (which demands one)
  holds exactly when the gene list is non-empty (`genomeRand_wf`, `genomeRand_genes_empty_iff`).
-/
import GoNeat.Proofs.GenomeRand
import GoNeat.Proofs.ScalarInt
import GoNeat.Spec.GenomeRand

set_option linter.unusedSectionVars false

namespace GoNeat.C01
open GoNeat Scalar GoNeat.GenRand
variable {W : Type} [Scalar W]

section
variable (newId : Int) (nIn nOut n mH : Nat) (recurrent : Bool) (linkProb : W) (o : MutOpts W) (rs rs' : List Nat) (g : Genome W)

/-- **C01 (newGenomeRand, nodes).** Nodes are listed strictly ascending by id, hence ids are unique (needs `n ≤ maxHidden`). -/
theorem genomeRand_nodes_sorted (hn : n ≤ mH) (h : newGenomeRand newId nIn nOut n mH recurrent linkProb o rs = .ok (g, rs')) :
    NodesSorted g.nodes ∧ (nodeIds g).Nodup := by
  have hs := (newGenomeRand_facts h).1.nodesSorted hn
  refine ⟨hs, ?_⟩
  unfold nodeIds NodesSorted at *
  rw [List.nodup_iff_pairwise_ne, List.pairwise_map]
  exact hs.imp (fun {a b} hab => by omega)

/-- **C01 (newGenomeRand, roles).** Node ids lie in `1..in+out+maxHidden`, the role is a function of the id alone
    (`randKind`: `1..in-1` input, `in` bias, `in+1..in+maxHidden` hidden, above output) and every node points to trait 1. -/
theorem genomeRand_roles (hn : n ≤ mH) (h : newGenomeRand newId nIn nOut n mH recurrent linkProb o rs = .ok (g, rs')) :
    RandRoles (nIn : Int) (nOut : Int) (mH : Int) g := by
  intro x hx
  obtain ⟨ht, hk⟩ := (newGenomeRand_facts h).1.nodesFact x hx
  unfold randKind
  rcases hk with ⟨a, b, c⟩ | ⟨a, b, c⟩ | ⟨a, b, c⟩
  · refine ⟨a, by omega, ?_, ht⟩
    rw [c]
    by_cases he : x.id = (nIn : Int)
    · rw [if_pos he, if_neg (by omega), if_pos he]
    · rw [if_neg he, if_pos (by omega)]
  · refine ⟨by omega, by omega, ?_, ht⟩
    rw [c, if_neg (by omega), if_neg (by omega), if_pos (by omega)]
  · refine ⟨by omega, by omega, ?_, ht⟩
    rw [c, if_neg (by omega), if_neg (by omega), if_neg (by omega)]

/-- **C01 (newGenomeRand, an output exists)** when `out ≥ 1`. -/
theorem genomeRand_hasOutput (ho : 1 ≤ nOut) (h : newGenomeRand newId nIn nOut n mH recurrent linkProb o rs = .ok (g, rs')) :
    HasOutput g :=
  (newGenomeRand_facts h).1.hasOutput ho

/-- **C01 (newGenomeRand, endpoints).** Every gene endpoint is a node of the genome. -/
theorem genomeRand_endpoints (h : newGenomeRand newId nIn nOut n mH recurrent linkProb o rs = .ok (g, rs')) :
    EndpointsOwned g := by
  intro x hx
  obtain ⟨i, j, _, _, hf⟩ := (newGenomeRand_facts h).1.cells x hx
  exact ⟨hf.srcIn, hf.dstIn⟩

/-- **C01 (newGenomeRand, no link into a sensor).** No gene ends in an input or bias node. -/
theorem genomeRand_noSensorTarget (h : newGenomeRand newId nIn nOut n mH recurrent linkProb o rs = .ok (g, rs')) :
    NoSensorTarget g := by
  intro x hx m hm hid
  have F := (newGenomeRand_facts h).1
  obtain ⟨i, j, _, _, hf⟩ := F.cells x hx
  have hin := hf.inM
  simp only [RandDims.inMatrix, randDims, Bool.and_eq_true] at hin
  have hgt : 1 + i > nIn := of_decide_eq_true hin.1.1
  have hd := hf.dst
  obtain ⟨_, hk⟩ := F.nodesFact m hm
  rcases hk with ⟨a, b, c⟩ | ⟨a, b, c⟩ | ⟨a, b, c⟩
  · omega
  · simp [Node.isSensor, c, Kind.hidden, Kind.input, Kind.bias]
  · simp [Node.isSensor, c, Kind.output, Kind.input, Kind.bias]

/-- **C01 (newGenomeRand, gene order).** Genes are listed strictly ascending by innovation number. -/
theorem genomeRand_genes_sorted (h : newGenomeRand newId nIn nOut n mH recurrent linkProb o rs = .ok (g, rs')) :
    GenesSorted g.genes :=
  (newGenomeRand_facts h).1.genesSorted

/-- **C01 (newGenomeRand, matrix cells).** A gene `src→dst` sits in the cell (column `dst`, row `src`) of the
    `total × total` connection matrix, `total = in+out+maxHidden`; its innovation number is the index of that cell,
    `(dst-1)·total + (src-1)`; it is flagged recurrent exactly when `dst ≤ src`; it is enabled, its mutation number is its
    weight and it points to trait 1.  (`weq` is any reflexive comparison of scalars: the driver uses bit equality.) -/
theorem genomeRand_cells (weq : W → W → Bool) (hw : ∀ a, weq a a = true)
    (h : newGenomeRand newId nIn nOut n mH recurrent linkProb o rs = .ok (g, rs')) :
    RandCells weq ((nIn + nOut + mH : Nat) : Int) g := by
  intro x hx
  obtain ⟨i, j, hi, hj, hf⟩ := (newGenomeRand_facts h).1.cells x hx
  have h1 := hf.src
  have h2 := hf.dst
  have h3 := hf.inn
  refine ⟨by omega, by omega, by omega, by omega, ?_, ?_, hf.en, by rw [hf.mnum]; exact hw _, hf.trait⟩
  · rw [h1, h2, h3]
    have e1 : (((1 + i : Nat) : Int) - 1) = (i : Int) := by omega
    have e2 : (((1 + j : Nat) : Int) - 1) = (j : Int) := by omega
    rw [e1, e2]
    exact_mod_cast rfl
  · rw [hf.recur, h1, h2]
    by_cases hc : 1 + i > 1 + j
    · simp only [hc, decide_true, Bool.not_true]
      exact (decide_eq_false (by omega)).symm
    · simp only [hc, decide_false, Bool.not_false]
      exact (decide_eq_true (by omega)).symm

/-- **C01 (newGenomeRand, one gene per ordered pair).** No two genes join the same ordered pair of nodes (the matrix
    position determines the pair) - a fortiori no two genes are the same link (`LinksDistinct`). -/
theorem genomeRand_pairs_distinct (h : newGenomeRand newId nIn nOut n mH recurrent linkProb o rs = .ok (g, rs')) :
    PairsDistinct g.genes ∧ LinksDistinct g.genes := by
  have hs := genomeRand_genes_sorted newId nIn nOut n mH recurrent linkProb o rs rs' g h
  have hc := genomeRand_cells newId nIn nOut n mH recurrent linkProb o rs rs' g (fun _ _ => true) (fun _ => rfl) h
  have key : PairsDistinct g.genes := by
    unfold PairsDistinct
    unfold GenesSorted at hs
    refine hs.imp_of_mem (fun {a b} ha hb hlt heq => ?_)
    simp only [Prod.mk.injEq] at heq
    obtain ⟨_, _, _, _, ia, _⟩ := hc a ha
    obtain ⟨_, _, _, _, ib, _⟩ := hc b hb
    rw [ia, ib, heq.1, heq.2] at hlt
    exact Int.lt_irrefl _ hlt
  refine ⟨key, ?_⟩
  unfold LinksDistinct
  unfold PairsDistinct at key
  exact key.imp (fun {a b} hne heq => hne (by
    simp only [Gene.link, Prod.mk.injEq] at heq
    simp only [Prod.mk.injEq]; exact ⟨heq.1, heq.2.1⟩))

/-- **C01 (newGenomeRand, traits).** The genome owns exactly the dummy trait 1 (with `NumTraitParams` zero parameters), has no
    module, and every trait reference - of every node and every gene - is trait 1. -/
theorem genomeRand_traits (h : newGenomeRand newId nIn nOut n mH recurrent linkProb o rs = .ok (g, rs')) :
    g.traits = [{ id := 1, params := List.replicate numTraitParams zero }] ∧ RandTrait g ∧ TraitRefsOwned g ∧
      TraitsConsecutive g ∧ (∀ x ∈ g.genes, x.trait = some 1) ∧ (∀ m ∈ g.nodes, m.trait = some 1) ∧ g.id = newId := by
  have F := (newGenomeRand_facts h).1
  have hg : ∀ x ∈ g.genes, x.trait = some 1 := fun x hx => by
    obtain ⟨i, j, _, _, hf⟩ := F.cells x hx; exact hf.trait
  have hm : ∀ m ∈ g.nodes, m.trait = some 1 := fun m hm => (F.nodesFact m hm).1
  have hids : traitIds g = [1] := by unfold traitIds; rw [F.traits]; rfl
  refine ⟨F.traits, ⟨hids, by rw [F.modules]; rfl⟩, ⟨fun x hx => ?_, fun m hm' => ?_⟩, ?_, hg, hm, F.id⟩
  · rw [hg x hx]; unfold TraitRefOk; simp only [hids]; decide
  · rw [hm m hm']; unfold TraitRefOk; simp only [hids]; decide
  · unfold TraitsConsecutive; rw [F.traits]; simp only [traitIds, F.traits]; rfl

/-- **C01 (newGenomeRand).** All clauses of `WF` other than "has a gene" and "has an output". -/
theorem genomeRand_wfCore (hn : n ≤ mH) (h : newGenomeRand newId nIn nOut n mH recurrent linkProb o rs = .ok (g, rs')) :
    WFCore g :=
  { genesSorted := genomeRand_genes_sorted newId nIn nOut n mH recurrent linkProb o rs rs' g h
    linksDistinct := (genomeRand_pairs_distinct newId nIn nOut n mH recurrent linkProb o rs rs' g h).2
    nodesSorted := (genomeRand_nodes_sorted newId nIn nOut n mH recurrent linkProb o rs rs' g hn h).1
    endpoints := genomeRand_endpoints newId nIn nOut n mH recurrent linkProb o rs rs' g h
    traitRefs := (genomeRand_traits newId nIn nOut n mH recurrent linkProb o rs rs' g h).2.2.1
    noSensorTarget := genomeRand_noSensorTarget newId nIn nOut n mH recurrent linkProb o rs rs' g h
    traits := (genomeRand_traits newId nIn nOut n mH recurrent linkProb o rs rs' g h).2.2.2.1 }

/-- **C01 (newGenomeRand, well-formed iff it has a gene).** With `n ≤ maxHidden` and `out ≥ 1` the returned genome is
    well-formed (`WF`, the pool invariant of C01) exactly when its gene list is not empty. -/
theorem genomeRand_wf (hn : n ≤ mH) (ho : 1 ≤ nOut) (h : newGenomeRand newId nIn nOut n mH recurrent linkProb o rs = .ok (g, rs')) :
    WF g ↔ g.genes ≠ [] :=
  ⟨fun w => w.hasGene, fun hg =>
    (genomeRand_wfCore newId nIn nOut n mH recurrent linkProb o rs rs' g hn h).wf hg
      (genomeRand_hasOutput newId nIn nOut n mH recurrent linkProb o rs rs' g ho h)⟩

/-- **C01 (newGenomeRand, when there is no gene).** Exact characterisation: with `cm` the connection matrix drawn from the
    first `total²` values of `rand.Float64() < linkProb`, the gene list is empty iff no cell `(col, row)` with its bit set
    passes the guard of the Go code: `col > in`, `col` and `row` are ids of existing nodes (`≤ in+n` or `≥ in+maxHidden+1`),
    and `col > row` unless `recurrent`. -/
theorem genomeRand_genes_empty_iff (h : newGenomeRand newId nIn nOut n mH recurrent linkProb o rs = .ok (g, rs')) :
    ∃ cm rs1, drawMatrix linkProb ((nIn + nOut + mH) * (nIn + nOut + mH)) rs = .ok (cm, rs1) ∧
      cm.length = (nIn + nOut + mH) * (nIn + nOut + mH) ∧
      (g.genes = [] ↔ ∀ i j, i < nIn + nOut + mH → j < nIn + nOut + mH →
        ¬ (cm[i * (nIn + nOut + mH) + j]? = some true ∧ (randDims nIn nOut n mH).inMatrix (1 + i) (1 + j) = true ∧
           (1 + i > 1 + j ∨ recurrent = true))) := by
  obtain ⟨_, cm, rs1, hcm, he⟩ := newGenomeRand_facts h
  exact ⟨cm, rs1, hcm, drawMatrix_length _ _ _ _ _ hcm, he⟩

/-- **C01 (newGenomeRand, `recurrent = false`).** No gene is flagged recurrent and every gene runs from a smaller to a
    larger node id. -/
theorem genomeRand_nonrecurrent (hr : recurrent = false)
    (h : newGenomeRand newId nIn nOut n mH recurrent linkProb o rs = .ok (g, rs')) :
    ∀ x ∈ g.genes, x.recur = false ∧ x.src < x.dst := by
  intro x hx
  obtain ⟨i, j, _, _, hf⟩ := (newGenomeRand_facts h).1.cells x hx
  have ha := hf.allowed
  rw [hr] at ha
  have hgt : 1 + i > 1 + j := by
    rcases ha with ha | ha
    · exact ha
    · cases ha
  refine ⟨by rw [hf.recur]; simp [hgt], ?_⟩
  rw [hf.src, hf.dst]; omega

end

/-! ### non-vacuity and the negative facts, machine-checked on concrete runs (exact scalar type `Int`) -/

section Examples
open GoNeat.ExactInt

/-- options with the single activator 4 (no roulette draw) -/
def moR : MutOpts Int := ⟨0, 5, [4], [1], 0, 0, 0, 0, 0, 0, 0, 0, 0⟩

/-- the raw stream is irrelevant for `Int` (`ofUnit63 = 0`: every `Float64()` is 0) except for `RandSign` (parity) -/
def rsR : List Nat := List.replicate 40 1

/-- `in = 2, out = 1, n = 1, maxHidden = 1`, `linkProb = 1` (0 < 1: every bit set), recurrent: the model returns a genome;
    all hypotheses used above (`n ≤ maxHidden`, `out ≥ 1`) hold, it has genes, so it is `WF` -/
example : (match newGenomeRand 7 2 1 1 1 true (1 : Int) moR rsR with
  | .ok (g, _) => decide (WF g) && decide (g.genes.length = 8) && decide (nodeIds g = [1, 2, 3, 4]) &&
                  decide (g.genes.map (fun x => (x.inn, x.src, x.dst, x.recur)) =
                    [(8, 1, 3, false), (9, 2, 3, false), (10, 3, 3, true), (11, 4, 3, true),
                     (12, 1, 4, false), (13, 2, 4, false), (14, 3, 4, false), (15, 4, 4, true)])
  | _ => false) = true := by decide +kernel

/-- the same call with `recurrent = false`: only the five forward genes -/
example : (match newGenomeRand 7 2 1 1 1 false (1 : Int) moR rsR with
  | .ok (g, _) => decide (WF g) && decide (g.genes.map (fun x => (x.inn, x.src, x.dst, x.recur)) =
                    [(8, 1, 3, false), (9, 2, 3, false), (12, 1, 4, false), (13, 2, 4, false), (14, 3, 4, false)])
  | _ => false) = true := by decide +kernel

/-- **non-emptiness is NOT guaranteed**: with `linkProb = 0` the model returns a genome without any gene (which therefore is
    not `WF`), although all other clauses hold -/
theorem genomeRand_may_be_empty :
    (match newGenomeRand 7 2 1 1 1 true (0 : Int) moR rsR with
     | .ok (g, _) => decide (g.genes = []) && decide (¬ WF g) && decide (WFCore g) && decide (HasOutput g)
     | _ => false) = true := by decide +kernel

/-- **`n ≤ maxHidden` is necessary for unique node ids**: `n = 2 > maxHidden = 1` lists node id 4 twice (hidden and output) -/
theorem genomeRand_nodes_clash :
    (match newGenomeRand 7 2 1 2 1 true (0 : Int) moR rsR with
     | .ok (g, _) => decide (nodeIds g = [1, 2, 3, 4, 4]) && decide (¬ NodesSorted g.nodes)
     | _ => false) = true := by decide +kernel

end Examples

end GoNeat.C01
