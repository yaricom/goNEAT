/-
  Property C09, the parent cut: fitness adjustment applies the documented per-organism formula, sorts the species
  by adjusted fitness, and marks for elimination exactly the organisms ranked floor(survival_thresh*n + 1) or
  lower; removing the marked organisms leaves exactly the top floor(survival_thresh*n)+1 of the sorted species.
  Kind A (the threshold expression is the code's own float expression; that floor(t*n + 1) = floor(t*n) + 1 is
  exact-arithmetic reasoning).
-/
import GoNeat.Props.C10Sort
import GoNeat.Proofs.PrepareStages

namespace GoNeat.C09
open GoNeat Scalar
variable {W : Type} [Scalar W]

/-- the number of parents kept in a species of `n` organisms: the code's `math.Floor(SurvivalThresh*n + 1.0)` -/
def numParents (o : EpochOpts W) (n : Nat) : Int := floorInt (add (mul o.survivalThresh (ofInt n)) one)

/-- the documented adjustment of one organism's fitness: ×0.01 for a stagnant species, × age significance for a young
    one, negative ↦ 0.0001, then shared among the `n` members -/
def adjustedFitness (o : EpochOpts W) (s : Species W) (f : W) : W :=
  let debt0 := (s.age - s.ageOfLastImprovement + 1) - o.dropOffAge
  let debt := if debt0 = 0 then 1 else debt0
  let f1 := if debt ≥ 1 then mul f (ofDec 1 2) else f
  let f2 := if s.age ≤ 10 then mul f1 o.ageSignificance else f1
  let f3 := if lt f2 zero then ofDec 1 4 else f2
  div f3 (ofInt s.orgs.length)

theorem adjustOrg_eq (o : EpochOpts W) (s : Species W) (x : Org W) :
    adjustOrg (ageDebt o s) s.age o s.orgs.length x =
      { x with originalFitness := x.fitness, fitness := adjustedFitness o s x.fitness } := rfl

/-- **C09 (fitness sharing and parent cut).** `adjustFitness` on a species without pre-marked organisms:
    * every organism keeps its identity, records its raw fitness as original fitness and gets the documented adjusted
      fitness (stagnation penalty ×0.01 iff age−lastImproved+1−dropOff ≥ 1 with the 0 ↦ 1 quirk, youth boost iff age ≤ 10,
      negative ↦ 0.0001, divided by the species size);
    * the members are a permutation of the old ones, ordered so that no member is fitter than the first one;
    * exactly the organisms ranked `numParents` or lower are marked: the unmarked ones are the first `numParents` of the
      sorted list. -/
theorem adjustFitness_spec (hw : C08.StrictWeak W) (he : C10.EqLaw W) (o : EpochOpts W) (s s' : Species W)
    (h : adjustFitness o s = .ok s') (hun : ∀ x ∈ s.orgs, x.toEliminate = false) :
    let adjusted := s.orgs.map (fun x => { x with originalFitness := x.fitness, fitness := adjustedFitness o s x.fitness })
    let sorted := sortOrgsDesc adjusted
    sorted.Perm adjusted ∧
    (∀ top rest, sorted = top :: rest → ∀ x ∈ adjusted, lt top.fitness x.fitness = false) ∧
    s'.orgs.map (·.uid) = sorted.map (·.uid) ∧
    (s'.orgs.filter (fun x => !x.toEliminate)).map (·.uid) = (sorted.take (numParents o s.orgs.length).toNat).map (·.uid) ∧
    s'.id = s.id ∧ s'.age = s.age := by
  intro adjusted sorted
  obtain ⟨a, m, _, rfl⟩ := adjustFitness_ok o s s' h
  have hso : adjustedOrgs o s = sorted := by
    unfold adjustedOrgs
    exact congrArg sortOrgsDesc (List.map_congr_left (fun x _ => adjustOrg_eq o s x))
  simp only [hso]
  have hun' : ∀ x ∈ sorted, x.toEliminate = false := by
    intro x hx
    have : x ∈ adjusted := (C10.sortOrgsDesc_perm adjusted).mem_iff.mp hx
    obtain ⟨y, hy, rfl⟩ := List.mem_map.mp this
    exact hun y hy
  refine ⟨C10.sortOrgsDesc_perm adjusted, ?_, ?_, ?_, trivial, trivial⟩
  · intro t r ht x hx
    exact (C10.sortOrgsDesc_head_fittest hw he adjusted t r ht x hx).2
  · exact markOrgs_map (k := (·.uid)) (fun _ _ _ => rfl) _ _ _
  · have := filter_unmarked_markOrgs (numParents o s.orgs.length) sorted 0 hun'
    simpa [numParents] using this

end GoNeat.C09
