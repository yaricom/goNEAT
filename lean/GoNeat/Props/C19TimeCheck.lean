/-
  C19 / C20, time aggregates: the MODEL's answers pass the executable predicates the driver evaluates on the
  implementation's answers (Spec/ExpTime.lean): `latestWhy_model`, `avgWhy_model`.
-/
import GoNeat.Props.C19Time
import GoNeat.Spec.ExpTime

namespace GoNeat.C19
open GoNeat GoNeat.ExpTime GoNeat.ExpTimeSpec

theorem latestWhy_model (what : String) (ts : List Int) : latestWhy what ts (latest ts) = "" := by
  obtain ⟨h0, hub, hat⟩ := latest_spec ts
  unfold latestWhy
  have h1 : ts.any (fun x => decide (latest ts < x)) = false :=
    List.any_eq_false.mpr fun x hx => by have := hub x hx; simp; omega
  rw [h1]
  have h2 : ¬ (latest ts < zeroTime) := by omega
  simp only [Bool.false_eq_true, if_false, h2]
  rcases hat with hz | hm
  · simp [hz]
  · have : ts.contains (latest ts) = true := by simpa using hm
    simp
    intro _; exact hm

theorem avgWhy_model (what : String) (ds : List Int) : avgWhy what ds (avgOf ds) = "" := by
  unfold avgWhy
  by_cases he : ds = []
  · subst he; rfl
  · obtain ⟨hpos, hneg⟩ := avgOf_rem ds he
    rw [total] at hpos hneg
    rw [if_neg (by simpa using he), if_pos]
    simp only [ge_iff_le, Bool.or_eq_true, Bool.and_eq_true, decide_eq_true_eq]
    omega

end GoNeat.C19
