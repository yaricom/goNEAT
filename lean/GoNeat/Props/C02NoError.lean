/-
  Property C02, clause "turning over an epoch SUCCEEDS WITHOUT ERROR".

  `nextEpoch_no_error`  : under `Hyp S o p` (decidable) and the two float facts, for every stream of 63-bit raw values
                          `nextEpoch o gen p rs` is never `.error (.error msg)` (running out of a finite stream,
                          `.error .outOfRandom`, is outside the statement — DESIGN §2.3).
  `nextEpoch_popOk`     : the population part of `Hyp` holds again for the population returned.
  `runEpochs_no_error`  : any number of evaluated generations.

  Kind A: every scalar type `W`, every stream, registry, option setting.  Float arithmetic enters only through
  hypotheses that are stated explicitly (see the table) and proved for exact arithmetic in Props/C02NoErrorExact.lean.

  ## Inventory of the `.error (.error "…")` exits reachable from `nextEpoch`, and what rules each out

  | exit (Model file)                                             | ruled out by                                                          |
  |---------------------------------------------------------------|-----------------------------------------------------------------------|
  | Rand.intn "panic:intn-nonpositive" (Rand)                     | n > 0 at every call: non-empty species / gene / node / trait lists    |
  |   – Intn(len(s.Organisms))            reproduceOne            | `PopOk.nonempty` + `prepare_parents` + `OptsOk.parents` (numParents≥1)|
  |   – Intn(len(g.Traits)), Intn(len(g.Genes)), Intn(len(Nodes)) | `WF.traits`, `WF.hasGene`, `WF.hasOutput` (C01 pool invariant)        |
  |   – Intn(nodesLen − firstNonSensor)   pickDistinct/pickPair   | `WF.hasOutput` (an output is not a sensor: `takeWhile_lt`)            |
  |   – Intn(len(disconnectedSensors))    mutateConnectSensors    | guarded by the code (`isEmpty` test)                                  |
  |   – Intn(len(shorter.Genes))          mateSinglePoint         | `WF.hasGene` of both parents                                          |
  | "panic:index" s.orgs[k]?, genes[k]?, traits[k]?, nodes[i]?    | `intn_lt` (C04): the draw is below the length (`safe_intn`)           |
  | "panic:index" traitAt g inn.traitNum (registry record)        | invariant `RecTraits`: recorded trait index < common trait count      |
  | "panic:index" traitAt g 0                mutateAddNode        | `WF.traits` (≥ 1 trait)                                               |
  | "panic:index" pickOtherSpecies sorted[idx]                    | float fact `PickLaw` + sorted species list non-empty (`safe_prepare`) |
  | "panic:index" sp.orgs.head? (interspecies mate)               | species non-empty after the preparation phase (as first row)          |
  | "panic:index" / "reproduceEmptySpecies"  reproduceSpecies     | species non-empty after the preparation phase (as first row)          |
  | "panic:index" adjustFitness (empty species)                   | `PopOk.nonempty` (C02 `nextEpoch_popInv` re-establishes it)           |
  | "panic:index" prepare: sorted = [] / best.orgs = []           | quotas total PopSize ≥ 1 after the fix-up (`purgeZero_nonempty`, C09) |
  | "panic:index" deltaCoding, giveBabiesToTheBest                | the same + keys preserved (`Give.bare`, `Steal.bare`)                 |
  | "progenySizeMismatch"                    reproducePhase       | C09 `prepared_progeny_exact` under `QuotaOk` (float fact, observed)   |
  | "noOrganismsToSpeciate"                  speciate             | PopSize ≥ 1 babies                                                    |
  | "compatThresholdZero"                    speciateOne          | `OptsOk.compat`                                                       |
  | "dup:missingInNode/OutNode/Module…"      Genome.duplicate     | `WFT` + no modules (`C01.duplicate_wf`, `C06.duplicate_exact`)        |
  | "noGenes", "genesis:noGenes/noOutputs", "noTraits",           | `WF.hasGene`, `WF.hasOutput`, `WF.traits` of the genome at that point |
  |   "noTraitsOrGenes", "noTraitsOrNodes"   mutators             |   of the chain (`Like.basic`; for a child: C01 closure + `SharedHead`)|
  | "wrongGeneCreated"                       mutateAddLink        | `WF.nodesSorted`: two different positions have different node ids     |
  | "noActivators", "activatorProbsMismatch", "rouletteFailed"    | `OptsOk.acts` (`ActOk`) + float fact `UnitMulLe`                      |
  | "model:modular", "traitCountMismatch"    matePrologue         | no modules; equal trait ids (`NodeLineage`, C01)                      |
  | "traitParamsCountMismatch"               traitAvg             | invariant `PopOk.shaped`: one trait shape `S` for the whole population|
  | "panic:index" mateTraits, childTraitRef  crossovers           | `WF.traits` (consecutive ids) + `WF.traitRefs` + equal trait ids      |
  | "model:danglingEndpoint"                 addChosen            | `WF.endpoints` of both parents                                        |

  Known finding K1 (single-point crossover may return a gene-less child, whose later mutation / genesis fails) is
  excluded by `SharedHead`, which is part of the C01 pool invariant and holds in every population spawned from one
  genome; it is NOT excluded for `NewPopulationRandom` / hand-written populations (see DESIGN §3 C01, known_findings).

  ## Why each hypothesis is an invariant of real runs, or what float fact it stands for
  * `PopOk` : `uid, spid, size, perm, nodup, nonempty` — `nextEpoch_popInv`; `pool` — `C01.nextEpoch_closed`
    (established by `spawn_poolOk`); `unmarked`, `shaped` — babies are created unmarked and inherit the trait shape
    (`safe_nextEpoch_core`); `recs` — `finalizeReproduction` clears the records.  All re-established: `nextEpoch_popOk`.
  * `OptsOk.parents` : `floor(survival_thresh·n + 1) ≥ 1`; in exact arithmetic from `survival_thresh ≥ 0`
    (`C09.numParents_pos`); for float64 a monotonicity fact of rounding.
  * `QuotaOk` : raw quotas non-negative, raw total ≤ PopSize — the C09 hypotheses (`prepare_quota_total`); exact
    arithmetic: the raw total is exactly PopSize (C09Exact); the `epoch` op of the check reports any implementation
    error on a valid population as a C02 violation, which observes this fact on every generated case.
  * `FloatFacts` : `UnitMulLe` (f·t ≤ t for a draw f ∈ [0,1), t ≥ 0) and `PickLaw` (0 ≤ floor(f/4·n) < n);
    both hold in exact arithmetic (C02NoErrorExact) and for float64 by monotonicity of rounding (trusted, observed).
-/
import GoNeat.Proofs.NoErrorEpoch
import GoNeat.Proofs.NoErrorSpawn

set_option linter.unusedSectionVars false

namespace GoNeat.C02
open GoNeat Scalar GoNeat.NoErr GoNeat.C01
variable {W : Type} [Scalar W]

structure FloatFacts (W : Type) [Scalar W] : Prop where
  unitMul : UnitMulLe W
  pick : PickLaw W

/-- **C02, "succeeds without error", one epoch.** -/
theorem nextEpoch_no_error (hff : FloatFacts W) (S : List Nat) (o : EpochOpts W) (p : Pop W) (h : Hyp S o p) (gen : Int) :
    ∀ rs, Valid rs → ∀ msg, nextEpoch o gen p rs ≠ .error (.error msg) :=
  fun rs hv msg => (safe_nextEpoch_core hff.unitMul hff.pick S o p h gen rs hv).ne msg

theorem _root_.GoNeat.NoErr.PopOk.of_newborn {S : List Nat} {o : EpochOpts W} {p' : Pop W} (hu : UidInv p') (hs : SpIdInv p')
    (a1 : p'.organisms.length = o.popSize) (a2 : p'.organisms.Nodup) (a3 : (orgUids p'.species).Perm p'.organisms)
    (a4 : ∀ s ∈ p'.species, s.orgs ≠ []) (hnew : ∀ x ∈ allOrgs p', Newborn S x)
    (hpool : PoolOk p'.reg ([] ++ genomesOfPop p')) (hrec : p'.reg.records = []) : PopOk S o p' := by
  refine ⟨hu, hs, a1, a3, a2, a4, fun x hx => (hnew x hx).2, by simpa using hpool, ?_, ?_⟩
  · intro i hi; rw [hrec] at hi; cases hi
  · intro g hg
    obtain ⟨s, hs, x, hx, rfl⟩ := mem_genomesOfPop.mp hg
    exact (hnew x (mem_allOrgs.mpr ⟨s, hs, hx⟩)).1

/-- **the population hypotheses are an invariant**: they hold again for the population `NextEpoch` returns -/
theorem nextEpoch_popOk (hff : FloatFacts W) (S : List Nat) (o : EpochOpts W) (p : Pop W) (h : Hyp S o p) (gen : Int)
    (rs rs' : List Nat) (hv : Valid rs) (p' : Pop W) (he : nextEpoch o gen p rs = .ok (p', rs')) : PopOk S o p' := by
  obtain ⟨⟨a1, a2, a3, a4, _, _⟩, hu', hs'⟩ := nextEpoch_popInv o gen p p' rs rs' h.pop.uid h.pop.spid he
  exact .of_newborn hu' hs' a1 a2 (a3 ▸ .refl _) a4 ((safe_nextEpoch_core hff.unitMul hff.pick S o p h gen rs hv).post he)
    (nextEpoch_closed [] o gen p p' rs rs' (by simpa using h.pop.pool) he) (nextEpoch_records o gen p p' rs rs' he)

/-- what an evaluation between two epochs may do: assign fitness values and the like (`SameShape`: same organisms,
    marks, species ids, ages, flags), touch no genome and not the registry -/
def EvalOk (q q' : Pop W) : Prop :=
  SameShape q q' ∧ (∀ g ∈ genomesOfPop q', g ∈ genomesOfPop q) ∧ q'.reg = q.reg

/-- the C09 quota facts hold in every generation this run reaches (decidable along the run; it is what the
    `epoch` op of the check observes) -/
def QuotaAlong (o : EpochOpts W) : List (Pop W → Pop W) → Int → Pop W → List Nat → Prop
  | [], _, _, _ => True
  | ev :: evs, gen, p, rs =>
    QuotaOk o (ev p) ∧
    match nextEpoch o gen (ev p) rs with
    | .error _ => True
    | .ok (p', rs') => QuotaAlong o evs (gen + 1) p' rs'

/-- what an evaluation between two epochs may do: assign fitness values and the like AND re-order the organisms
    inside each species (`SameShapePerm`), touch no genome and not the registry.  `EvalOk` is the special case that
    keeps the order (`EvalOk.toPerm`). -/
def EvalOkPerm (q q' : Pop W) : Prop :=
  SameShapePerm q q' ∧ (∀ g ∈ genomesOfPop q', g ∈ genomesOfPop q) ∧ q'.reg = q.reg

theorem EvalOk.toPerm {q q' : Pop W} (h : EvalOk q q') : EvalOkPerm q q' := ⟨h.1.toPerm, h.2.1, h.2.2⟩

theorem EvalOkPerm.refl (p : Pop W) : EvalOkPerm p p := ⟨SameShapePerm.refl p, fun _ h => h, rfl⟩

theorem EvalOkPerm.trans {p q r : Pop W} (h1 : EvalOkPerm p q) (h2 : EvalOkPerm q r) : EvalOkPerm p r :=
  ⟨h1.1.trans h2.1, fun g hg => h1.2.1 g (h2.2.1 g hg), h2.2.2.trans h1.2.2⟩

theorem pool_evalPerm {X : List (Genome W)} {q q' : Pop W} (hp : PoolOk q.reg (X ++ genomesOfPop q)) (he : EvalOkPerm q q') :
    PoolOk q'.reg (X ++ genomesOfPop q') := by
  obtain ⟨_, hg, hreg⟩ := he
  rw [hreg]
  exact hp.mono_right hg

theorem SameShapePerm.unmarked {p q : Pop W} (h : SameShapePerm p q) (hun : ∀ x ∈ allOrgs p, x.toEliminate = false) :
    ∀ x ∈ allOrgs q, x.toEliminate = false := by
  intro x hx
  obtain ⟨s', hs', hxs⟩ := mem_allOrgs.mp hx
  obtain ⟨s, hs, _, hp⟩ := forall₂_mem_right h.2.2.2 s' hs'
  have hm : (x.uid, x.toEliminate) ∈ mkey s' := List.mem_map_of_mem (f := fun x => (x.uid, x.toEliminate)) hxs
  obtain ⟨y, hy, hyx⟩ := List.mem_map.mp (hp.mem_iff.mp hm)
  have := hun y (mem_allOrgs.mpr ⟨s, hs, hy⟩)
  simp only [Prod.mk.injEq] at hyx
  rw [← hyx.2]; exact this

theorem popOk_evalPerm (S : List Nat) (o : EpochOpts W) (q q' : Pop W) (h : PopOk S o q) (he : EvalOkPerm q q') : PopOk S o q' := by
  obtain ⟨hsh, hg, hreg⟩ := he
  obtain ⟨hu', hs'⟩ := sameShapePerm_inv q q' hsh h.uid h.spid
  have h1 := hsh.1
  exact ⟨hu', hs', by rw [h1]; exact h.size, by rw [h1]; exact hsh.uids.trans h.perm, by rw [h1]; exact h.nodup,
    hsh.nonempty h.nonempty, hsh.unmarked h.unmarked, by rw [hreg]; exact h.pool.subset hg, by rw [hreg]; exact h.recs,
    fun g hg' => h.shaped g (hg g hg')⟩

theorem popOk_eval (S : List Nat) (o : EpochOpts W) (q q' : Pop W) (h : PopOk S o q) (he : EvalOk q q') : PopOk S o q' :=
  popOk_evalPerm S o q q' h he.toPerm

/-- **C02 "succeeds without error", any number of epochs, evaluations may re-order inside the species** -/
theorem runEpochs_no_error_perm (hff : FloatFacts W) (S : List Nat) (o : EpochOpts W) (ho : OptsOk o)
    (evs : List (Pop W → Pop W)) (hev : ∀ ev ∈ evs, ∀ q, EvalOkPerm q (ev q)) (gen : Int) (p : Pop W) (rs : List Nat)
    (hv : Valid rs) (hp : PopOk S o p) (hq : QuotaAlong o evs gen p rs) :
    ∀ msg, runEpochs o evs gen p rs ≠ .error (.error msg) := by
  induction evs generalizing gen p rs with
  | nil => intro msg h; simp [runEpochs] at h
  | cons ev evs ih =>
    intro msg
    have hyp : Hyp S o (ev p) := ⟨ho, popOk_evalPerm S o p (ev p) hp (hev ev (by simp) p), hq.1⟩
    have hne := nextEpoch_no_error hff S o (ev p) hyp gen rs hv
    have hq2 := hq.2
    unfold runEpochs
    split
    · next e he => intro h; cases h; exact hne msg he
    · next p' rs' he =>
      rw [he] at hq2
      exact ih (fun e he' => hev e (by simp [he'])) (gen + 1) p' rs'
        ((nextEpoch_det o gen (ev p)).valid hv he)
        (nextEpoch_popOk hff S o (ev p) hyp gen rs rs' hv p' he) hq2 msg

/-- **C02, "succeeds without error", any number of consecutive epochs** with arbitrary evaluations in between -/
theorem runEpochs_no_error (hff : FloatFacts W) (S : List Nat) (o : EpochOpts W) (ho : OptsOk o)
    (evs : List (Pop W → Pop W)) (hev : ∀ ev ∈ evs, ∀ q, EvalOk q (ev q)) (gen : Int) (p : Pop W) (rs : List Nat)
    (hv : Valid rs) (hp : PopOk S o p) (hq : QuotaAlong o evs gen p rs) :
    ∀ msg, runEpochs o evs gen p rs ≠ .error (.error msg) :=
  runEpochs_no_error_perm hff S o ho evs (fun ev h q => (hev ev h q).toPerm) gen p rs hv hp hq

/-- **a population spawned from a well-formed non-modular genome satisfies `PopOk`** with the trait shape of that genome:
    together with `nextEpoch_popOk` the population hypotheses hold in every generation of a run that starts with
    `NewPopulation` -/
theorem spawn_popOk (o : EpochOpts W) (g : Genome W) (rs rs' : List Nat) (p : Pop W) (hw : WFT g) (hm : g.modules = [])
    (h : spawn o g rs = .ok (p, rs')) : PopOk (shape g) o p := by
  obtain ⟨hu, hs, hsize, hperm⟩ := spawn_inv o g p rs rs' h
  obtain ⟨_, orgs, lastNode, nextInn, hloop, _, _, _, hsl⟩ := spawn_ok h
  have horgs := (speciateLoop_orgs o _ _ _ hsl).1
  have horg := spawnLoop_orgs g (refsOk_of_wft hw hm) o.popSize 0 0 orgs rs rs' hloop
  refine .of_newborn hu hs hsize ?_ hperm (speciateLoop_nonempty o _ p orgs hsl (by intro s hs'; cases hs')) (fun x hx => ?_)
    ((spawn_poolOk o g rs rs' p hw hm h).subset (fun x hx => List.mem_append_right _ hx)) (spawn_reg o g rs rs' p h).1
  · rw [(speciateLoop_uids o _ p orgs hsl).2.1]
    show (orgs.map (·.uid)).Nodup
    rw [spawnLoop_uids g o.popSize 0 0 orgs rs rs' hloop]
    exact range_shift_nodup _ _
  · rcases horgs x hx with h0 | h0
    · simp [allOrgs] at h0
    · exact (horg x h0).symm

instance (p : Pop W) : Decidable (UidInv p) :=
  if h : (∀ u ∈ orgUids p.species, u ∈ p.organisms) ∧ (∀ u ∈ p.organisms, u < p.nextUid) then isTrue ⟨h.1, h.2⟩
  else isFalse (fun w => h ⟨w.1, w.2⟩)

instance (p : Pop W) : Decidable (SpIdInv p) :=
  if h : (p.species.map (·.id)).Nodup ∧ (∀ s ∈ p.species, s.id ≤ p.lastSpecies) then isTrue ⟨h.1, h.2⟩
  else isFalse (fun w => h ⟨w.1, w.2⟩)

instance (o : EpochOpts W) : Decidable (OptsOk o) :=
  if h : 1 ≤ o.popSize ∧ 0 ≤ o.babiesStolen ∧ eq o.compatThreshold zero = false ∧ ActOk o.mopts ∧
      (∀ n, n ≤ o.popSize → 1 ≤ C09.numParents o n) then isTrue ⟨h.1, h.2.1, h.2.2.1, h.2.2.2.1, h.2.2.2.2⟩
  else isFalse (fun w => h ⟨w.1, w.2, w.3, w.4, w.5⟩)

instance (S : List Nat) (o : EpochOpts W) (p : Pop W) : Decidable (PopOk S o p) :=
  if h : UidInv p ∧ SpIdInv p ∧ p.organisms.length = o.popSize ∧ (orgUids p.species).Perm p.organisms ∧ p.organisms.Nodup ∧
      (∀ s ∈ p.species, s.orgs ≠ []) ∧ (∀ x ∈ allOrgs p, x.toEliminate = false) ∧ PoolOk p.reg (genomesOfPop p) ∧
      RecTraits S.length p.reg ∧ (∀ g ∈ genomesOfPop p, shape g = S)
  then isTrue ⟨h.1, h.2.1, h.2.2.1, h.2.2.2.1, h.2.2.2.2.1, h.2.2.2.2.2.1, h.2.2.2.2.2.2.1, h.2.2.2.2.2.2.2.1,
    h.2.2.2.2.2.2.2.2.1, h.2.2.2.2.2.2.2.2.2⟩
  else isFalse (fun w => h ⟨w.1, w.2, w.3, w.4, w.5, w.6, w.7, w.8, w.9, w.10⟩)

instance (S : List Nat) (o : EpochOpts W) (p : Pop W) : Decidable (Hyp S o p) :=
  if h : OptsOk o ∧ PopOk S o p ∧ QuotaOk o p then isTrue ⟨h.1, h.2.1, h.2.2⟩ else isFalse (fun w => h ⟨w.1, w.2, w.3⟩)

section NonVacuity
open GoNeat.ExactInt
attribute [local instance] intScalar

/-- options for `tinyPop` (Props/C02Epoch.lean): three organisms, two species -/
def tinyOpts : EpochOpts Int :=
  { popSize := 3, dropOffAge := 15, ageSignificance := 1, survivalThresh := 0, babiesStolen := 0, compatThreshold := 3,
    compat := { disjointCoeff := 1, excessCoeff := 1, mutdiffCoeff := 1, linear := true },
    mutateOnlyProb := 1, mutateAddNodeProb := 1, mutateAddLinkProb := 1, mutateConnectSensors := 1,
    interspeciesMateRate := 1, mateMultipointProb := 1, mateMultipointAvgProb := 1, mateSinglepointProb := 1,
    mateOnlyProb := 1, mopts := C01.mo }

/-- a concrete population and option setting satisfy every hypothesis of `nextEpoch_no_error` (trait shape `[0]`:
    one trait without parameters) -/
example : Hyp [0] tinyOpts tinyPop := by decide

/-- the float facts hold for the toy instance (every draw is 0) -/
theorem floatFacts_int : FloatFacts Int :=
  ⟨fun x t _ _ h => by simpa [Scalar.le, Scalar.mul, Scalar.ofUnit63, Scalar.zero, intScalar] using h,
   fun x n _ hn _ => by simp [Scalar.floorInt, Scalar.mul, Scalar.div, Scalar.ofUnit63, Scalar.ofInt]; omega⟩

example : FloatFacts Int := floatFacts_int

end NonVacuity

end GoNeat.C02
