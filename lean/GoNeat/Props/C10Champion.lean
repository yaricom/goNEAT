/-
  Property C10, the library's own champion queries (Model/Champion.lean): what `Species.FindChampion` (public) and
  `Species.findChampion` (sort in place, first element) return, and that they name the same organism - the one whose
  genome `nextEpoch` preserves (`C10.nextEpoch_keeps_fittest`).

  Kind A (every scalar type whose `<` is a strict weak order - `C08.StrictWeak`; `==` as equivalence of that order
  where the two-key `Organisms.Less` is involved - `EqLaw`):
    `findLoop_spec`              the running-maximum loop: either nothing exceeds the start value, or the result is the
                                 FIRST organism that no organism of the list exceeds (every earlier one is strictly less);
    `findChampionPublic_none_iff`  `FindChampion` answers nil exactly when no member's fitness exceeds -1.0
                                 (an empty species, or a species whose members all sit at or below -1: OBSERVATION - the
                                 start value -1.0 makes the query blind below it);
    `findChampionPublic_spec`    otherwise it answers a member whose fitness exceeds -1 and that no member exceeds, the first such;
    `findChampionSort_spec`      `findChampion` answers the head of the re-sorted list: a member no member exceeds, and
                                 leaves the species a permutation of itself; `findChampionSort_error_iff`: index panic
                                 exactly on the empty species;
    `findChampion_agree`         members pairwise different in fitness, all above -1: both queries answer the same organism;
    `checkChampionChildDamaged_spec`.
  Kind B (exact ordered field) is in Props/C10ChampionExact.lean.
-/
import GoNeat.Model.Champion
import GoNeat.Props.C10Sort
import GoNeat.Proofs.RunningBest

namespace GoNeat.C10
open GoNeat Scalar Champion

variable {W : Type} [Scalar W]

/-- the loop of `FindChampion` is the scan of Proofs/RunningBest.lean on the pair (`champFitness`, `champion`) -/
theorem findLoop_eq_keepBest (l : List (Org W)) (mx : W) (ch : Option (Org W)) :
    findLoop l mx ch =
      (keepBest (fun s t : W × Option (Org W) => lt s.1 t.1 = true) (fun o => (o.fitness, some o)) (mx, ch) l).2 := by
  induction l generalizing mx ch with
  | nil => rfl
  | cons o os ih =>
    rw [findLoop, keepBest_cons, Scalar.gt]
    split <;> exact ih _ _

theorem findLoop_spec (hw : C08.StrictWeak W) (l : List (Org W)) (mx : W) (ch : Option (Org W)) :
    (findLoop l mx ch = ch ∧ ∀ x ∈ l, lt mx x.fitness = false) ∨
    (∃ pre y post, l = pre ++ y :: post ∧ findLoop l mx ch = some y ∧ lt mx y.fitness = true ∧
      (∀ x ∈ pre, lt x.fitness y.fitness = true) ∧ (∀ x ∈ post, lt y.fitness x.fitness = false)) := by
  rw [findLoop_eq_keepBest]
  rcases keepBest_first (R := fun s t : W × Option (Org W) => lt s.1 t.1 = true) (inj := fun o => (o.fitness, some o))
      (fun _ _ _ => hw.trans _ _ _) (fun _ _ _ => hw.weak _ _ _) (mx, ch) l with
    ⟨he, hall⟩ | ⟨pre, y, post, hl, he, hy, hpre, hpost⟩
  · exact Or.inl ⟨congrArg Prod.snd he, fun x hx => Bool.eq_false_iff.mpr (hall x hx)⟩
  · exact Or.inr ⟨pre, y, post, hl, congrArg Prod.snd he, hy, hpre, fun x hx => Bool.eq_false_iff.mpr (hpost x hx)⟩

theorem findChampionPublic_none_iff (hw : C08.StrictWeak W) (s : Species W) :
    findChampionPublic s = none ↔ ∀ x ∈ s.orgs, lt (minusOne : W) x.fitness = false := by
  unfold findChampionPublic
  rcases findLoop_spec hw s.orgs (minusOne : W) none with ⟨hr, hall⟩ | ⟨pre, y, post, hl, hr, hly, _, _⟩
  · exact ⟨fun _ => hall, fun _ => hr⟩
  · constructor
    · intro h; rw [hr] at h; cases h
    · intro h
      have : y ∈ s.orgs := by rw [hl]; simp
      rw [h y this] at hly; cases hly

theorem findChampionPublic_spec (hw : C08.StrictWeak W) (s : Species W) (y : Org W)
    (h : findChampionPublic s = some y) :
    y ∈ s.orgs ∧ lt (minusOne : W) y.fitness = true ∧ (∀ x ∈ s.orgs, lt y.fitness x.fitness = false) ∧
    ∃ pre post, s.orgs = pre ++ y :: post ∧ ∀ x ∈ pre, lt x.fitness y.fitness = true := by
  unfold findChampionPublic at h
  rcases findLoop_spec hw s.orgs (minusOne : W) none with ⟨hr, _⟩ | ⟨pre, y', post, hl, hr, hly, hpre, hpost⟩
  · rw [hr] at h; cases h
  · rw [hr] at h
    cases h
    refine ⟨by rw [hl]; simp, hly, ?_, pre, post, hl, hpre⟩
    intro x hx
    rw [hl] at hx
    rcases List.mem_append.mp hx with hx | hx
    · exact lt_asymm hw _ _ (hpre x hx)
    · rcases List.mem_cons.mp hx with rfl | hx
      · exact hw.irrefl _
      · exact hpost x hx

theorem findChampionSort_error_iff (s : Species W) :
    (∃ e, findChampionSort s = .error e) ↔ s.orgs = [] := by
  rw [← sortOrgsDesc_eq_nil, findChampionSort]
  cases sortOrgsDesc s.orgs with
  | nil => exact ⟨fun _ => rfl, fun _ => ⟨_, rfl⟩⟩
  | cons t r => exact ⟨by rintro ⟨_, ⟨⟩⟩, fun h => nomatch h⟩

theorem findChampionSort_spec (hw : C08.StrictWeak W) (he : EqLaw W) (s s' : Species W) (top : Org W)
    (h : findChampionSort s = .ok (top, s')) :
    s'.orgs = sortOrgsDesc s.orgs ∧ s'.orgs.head? = some top ∧ s'.orgs.Perm s.orgs ∧ top ∈ s.orgs ∧
    { s' with orgs := s.orgs } = s ∧
    ∀ x ∈ s.orgs, orgLess top x = false ∧ lt top.fitness x.fitness = false := by
  unfold findChampionSort at h
  cases hs : sortOrgsDesc s.orgs with
  | nil => rw [hs] at h; cases h
  | cons t r =>
    rw [hs] at h
    simp only [Except.ok.injEq, Prod.mk.injEq] at h
    obtain ⟨rfl, rfl⟩ := h
    have hp := sortOrgsDesc_perm s.orgs
    rw [hs] at hp
    refine ⟨rfl, rfl, hp, hp.subset (by simp), rfl, ?_⟩
    exact sortOrgsDesc_head_fittest hw he s.orgs t r hs

theorem findChampion_agree (hw : C08.StrictWeak W) (he : EqLaw W) (s s' : Species W) (top : Org W)
    (hd : ∀ a ∈ s.orgs, ∀ b ∈ s.orgs, a = b ∨ lt a.fitness b.fitness = true ∨ lt b.fitness a.fitness = true)
    (hpos : ∀ x ∈ s.orgs, lt (minusOne : W) x.fitness = true)
    (h : findChampionSort s = .ok (top, s')) : findChampionPublic s = some top := by
  obtain ⟨_, _, _, htop, _, hmax⟩ := findChampionSort_spec hw he s s' top h
  cases hp : findChampionPublic s with
  | none =>
    have := (findChampionPublic_none_iff hw s).mp hp top htop
    rw [hpos top htop] at this; cases this
  | some y =>
    obtain ⟨hy, _, hymax, _⟩ := findChampionPublic_spec hw s y hp
    rcases hd y hy top htop with rfl | h1 | h1
    · rfl
    · rw [hymax top htop] at h1; cases h1
    · rw [(hmax y hy).2] at h1; cases h1

theorem checkChampionChildDamaged_spec (o : Org W) :
    checkChampionChildDamaged o = true ↔ o.isPopChampionChild = true ∧ lt o.fitness o.highestFitness = true := by
  simp [checkChampionChildDamaged, gt]

theorem size_eq (s : Species W) : size s = s.orgs.length := rfl

/-! non-vacuity over the exact integer scalar: a species whose members differ in fitness, queried both ways -/
section NonVacuity
open GoNeat.ExactInt

private def g0 : Genome Int := { id := 1, traits := [], nodes := [], genes := [], modules := [] }
private def mkOrg (u : Nat) (f : Int) : Org Int :=
  { uid := u, fitness := f, genome := g0, expectedOffspring := 0, generation := 0, originalFitness := 0, highestFitness := 0 }
private def sp0 : Species Int :=
  { id := 1, age := 1, maxFitnessEver := 0, expectedOffspring := 0, isNovel := false,
    orgs := [mkOrg 0 3, mkOrg 1 7, mkOrg 2 5], ageOfLastImprovement := 0 }

example : (findChampionPublic sp0).map (·.uid) = some 1 := by decide
example : (match findChampionSort sp0 with | .ok (t, s') => some (t.uid, s'.orgs.map (·.uid)) | .error _ => none) = some (1, [1, 2, 0]) := by
  decide
/-- blind below -1.0: a species whose members all have fitness -2 has no public champion, but a sorted one -/
example : findChampionPublic { sp0 with orgs := [mkOrg 0 (-2), mkOrg 1 (-2)] } = none := by decide
end NonVacuity

end GoNeat.C10
