/-
  Property C05 — structural and parametric mutations change exactly what they document.
  Kind A: every theorem holds for every scalar type `W`, every random stream `rs` and every registry.
  Shape: "for every stream, if the mutator returns `ok` then the before/after relation holds".
-/
import GoNeat.Proofs.MutateLemmas

namespace GoNeat.C05
open GoNeat Scalar MutateLemmas
variable {W : Type} [Scalar W]

/-- everything of a gene except weight and mutation number -/
def Gene.core (x : Gene W) : Int × Int × Int × Bool × Bool × Option Int := (x.inn, x.src, x.dst, x.recur, x.en, x.trait)
def Gene.skel (x : Gene W) : Int × Int × Int × Bool := (x.inn, x.src, x.dst, x.recur)

theorem linkWeightsLoop_core (power rate : W) (mt : WeightMutator) (severe : Bool) (gc ep : W)
    (genes : List (Gene W)) (num : W) (rs : List Nat) (genes' : List (Gene W)) (rs' : List Nat)
    (h : linkWeightsLoop power rate mt severe gc ep genes num rs = .ok (genes', rs')) :
    genes'.map Gene.core = genes.map Gene.core ∧ ∀ x ∈ genes', x.mnum = x.w := by
  induction genes generalizing num rs genes' rs' with
  | nil => simp [linkWeightsLoop] at h; obtain ⟨rfl, _⟩ := h; simp
  | cons x xs ih =>
    unfold linkWeightsLoop at h
    simp only at h
    split at h
    · cases h
    · rename_i gp cgp rs1 _
      split at h
      · cases h
      · rename_i su rs2 _
        split at h
        · cases h
        · rename_i w' rs4 _
          split at h
          · cases h
          · rename_i xs' rs5 hrec
            simp only [Except.ok.injEq, Prod.mk.injEq] at h
            obtain ⟨rfl, rfl⟩ := h
            obtain ⟨h1, h2⟩ := ih _ _ _ _ hrec
            refine ⟨by simp [Gene.core, h1], ?_⟩
            intro y hy
            rcases List.mem_cons.mp hy with rfl | hy'
            · rfl
            · exact h2 y hy'

/-- **C05 (weights).** `mutateLinkWeights` never changes the node set, traits, gene endpoints, innovation
    numbers, recurrence/enabled flags or trait references; it only rewrites weights, and every mutation number
    mirrors its weight afterwards. -/
theorem mutateLinkWeights_paramOnly (g g' : Genome W) (power rate : W) (mt : WeightMutator) (rs rs' : List Nat)
    (h : mutateLinkWeights g power rate mt rs = .ok (g', rs')) :
    g'.id = g.id ∧ g'.nodes = g.nodes ∧ g'.traits = g.traits ∧ g'.modules = g.modules ∧
    g'.genes.map Gene.core = g.genes.map Gene.core ∧ ∀ x ∈ g'.genes, x.mnum = x.w := by
  unfold mutateLinkWeights at h
  split at h
  · cases h
  · split at h
    · cases h
    · simp only at h
      split at h
      · cases h
      · rename_i genes rs2 hl
        simp only [Except.ok.injEq, Prod.mk.injEq] at h
        obtain ⟨rfl, _⟩ := h
        obtain ⟨h1, h2⟩ := linkWeightsLoop_core _ _ _ _ _ _ _ _ _ _ _ hl
        exact ⟨rfl, rfl, rfl, rfl, h1, h2⟩

theorem reenableFirst_spec (genes : List (Gene W)) :
    (genes.all (·.en) = true ∧ reenableFirst genes = genes) ∨
    ∃ pre x post, genes = pre ++ x :: post ∧ pre.all (·.en) = true ∧ x.en = false ∧
      reenableFirst genes = pre ++ { x with en := true } :: post := by
  induction genes with
  | nil => left; simp [reenableFirst]
  | cons y ys ih =>
    by_cases hy : y.en = true
    · rcases ih with ⟨hall, heq⟩ | ⟨pre, x, post, hg, hpre, hx, hr⟩
      · left; simp [reenableFirst, hy, hall, heq]
      · right
        refine ⟨y :: pre, x, post, by simp [hg], by simp [hy, hpre], hx, ?_⟩
        simp [reenableFirst, hy, hr]
    · right
      have hy' : y.en = false := by simpa using hy
      exact ⟨[], y, ys, by simp, by simp, hy', by simp [reenableFirst, hy']⟩

theorem reenableFirst_map {β} (p : Gene W → β) (hp : ∀ x : Gene W, p { x with en := true } = p x) (genes : List (Gene W)) :
    (reenableFirst genes).map p = genes.map p := by
  rw [reenableFirst_eq]; exact modify_map_of_eq _ _ _ _ hp

theorem reenableFirst_length (l : List (Gene W)) : (reenableFirst l).length = l.length := by
  rw [reenableFirst_eq]; exact setEnabledAt_length ..

theorem mutateGeneReEnable_ok {g g' : Genome W} (h : mutateGeneReEnable g = .ok g') :
    g' = { g with genes := setEnabledAt g.genes (g.genes.findIdx (fun x => !x.en)) true } := by
  unfold mutateGeneReEnable at h
  split at h <;> cases h
  rw [reenableFirst_eq]

/-- **C05 (re-enable).** `mutateGeneReEnable` enables only the first disabled gene; nodes, traits, endpoints,
    innovation numbers, weights untouched. -/
theorem mutateGeneReEnable_spec (g g' : Genome W) (h : mutateGeneReEnable g = .ok g') :
    g'.nodes = g.nodes ∧ g'.traits = g.traits ∧ g'.modules = g.modules ∧ g'.genes = reenableFirst g.genes :=
  mutateGeneReEnable_ok h ▸ ⟨rfl, rfl, rfl, (reenableFirst_eq _).symm⟩

/-- a source node "keeps an outlet": some enabled gene leaves it -/
def HasOutlet (genes : List (Gene W)) (s : Int) : Prop := ∃ x ∈ genes, x.src = s ∧ x.en = true

/-- one toggle step keeps every outlet: the guard guarantees another enabled gene with the same source -/
theorem toggle_step_outlets (genes : List (Gene W)) (k : Nat) (gene : Gene W) (hk : genes[k]? = some gene)
    (hguard : genes.any (fun c => c.src == gene.src && c.en && c.inn != gene.inn) = true)
    (s : Int) (h : HasOutlet genes s) : HasOutlet (setEnabledAt genes k false) s := by
  obtain ⟨x, hx, hs, he⟩ := h
  obtain ⟨i, hi⟩ := List.getElem?_of_mem hx
  by_cases hik : k = i
  · subst hik
    -- the outlet is the gene being disabled: use the guard's witness, which sits at another index
    have hxg : x = gene := by rw [hk] at hi; exact (Option.some.inj hi).symm
    subst hxg
    obtain ⟨c, hc, hcond⟩ := List.any_eq_true.mp hguard
    simp only [Bool.and_eq_true, beq_iff_eq, bne_iff_ne, ne_eq] at hcond
    obtain ⟨⟨hcs, hce⟩, hcn⟩ := hcond
    obtain ⟨j, hj⟩ := List.getElem?_of_mem hc
    have hjk : ¬ k = j := by
      intro hkj; subst hkj; rw [hk] at hj; exact hcn (by rw [← Option.some.inj hj])
    have : (setEnabledAt genes k false)[j]? = some c := by rw [setEnabledAt_getElem?]; simp [hjk, hj]
    exact ⟨c, List.mem_of_getElem? this, by rw [hcs, hs], hce⟩
  · have : (setEnabledAt genes k false)[i]? = some x := by rw [setEnabledAt_getElem?]; simp [hik, hi]
    exact ⟨x, List.mem_of_getElem? this, hs, he⟩

/-- `times` rounds of toggle-enable are a chain of single steps, each disabling an enabled gene from whose source another
    enabled gene leaves: whatever is reflexive, transitive and kept by such a step relates input and output -/
theorem mutateToggleEnable_ind (R : Genome W → Genome W → Prop) (refl : ∀ g, R g g)
    (trans : ∀ {a b c : Genome W}, R a b → R b c → R a c)
    (step : ∀ (g : Genome W) (k : Nat) (gene : Gene W), g.genes[k]? = some gene → gene.en = true →
      g.genes.any (fun c => c.src == gene.src && c.en && c.inn != gene.inn) = true →
      R g { g with genes := setEnabledAt g.genes k false })
    {times : Nat} {g g' : Genome W} {rs rs' : List Nat} (h : mutateToggleEnable g times rs = .ok (g', rs')) : R g g' := by
  induction times generalizing g rs with
  | zero =>
    unfold mutateToggleEnable at h
    split at h
    · cases h
    · cases h; exact refl _
  | succ n ih =>
    unfold mutateToggleEnable at h
    split at h
    · cases h
    · split at h
      · cases h
      · split at h
        · cases h
        · rename_i gene hk
          simp only at h
          split at h
          · rename_i hcond
            simp only [Bool.and_eq_true] at hcond
            exact trans (step g _ gene hk hcond.1 hcond.2) (ih h)
          · exact ih h

/-- **C05 (toggle-enable).** For every number of rounds and every stream: the node set, traits, gene endpoints
    and innovation numbers are untouched, and every node that had an enabled outgoing gene still has one
    (toggle-enable never disables the last enabled gene leaving a node). -/
theorem mutateToggleEnable_spec (times : Nat) (g g' : Genome W) (rs rs' : List Nat)
    (h : mutateToggleEnable g times rs = .ok (g', rs')) :
    g'.nodes = g.nodes ∧ g'.traits = g.traits ∧ g'.modules = g.modules ∧
    g'.genes.map Gene.skel = g.genes.map Gene.skel ∧ ∀ s, HasOutlet g.genes s → HasOutlet g'.genes s :=
  mutateToggleEnable_ind
    (fun g g' : Genome W => g'.nodes = g.nodes ∧ g'.traits = g.traits ∧ g'.modules = g.modules ∧
      g'.genes.map Gene.skel = g.genes.map Gene.skel ∧ ∀ s, HasOutlet g.genes s → HasOutlet g'.genes s)
    (fun _ => ⟨rfl, rfl, rfl, rfl, fun _ h => h⟩)
    (fun h1 h2 => ⟨h2.1.trans h1.1, h2.2.1.trans h1.2.1, h2.2.2.1.trans h1.2.2.1, h2.2.2.2.1.trans h1.2.2.2.1,
      fun s hs => h2.2.2.2.2 s (h1.2.2.2.2 s hs)⟩)
    (fun g k gene hk _ hguard => ⟨rfl, rfl, rfl, modify_map_of_eq _ _ _ _ (fun _ => rfl),
      toggle_step_outlets g.genes k gene hk hguard⟩) h

theorem findOpenLink_spec (g : Genome W) (fns : Nat) (doRecur : Bool) (tries : Nat) (last : Option (Node × Node))
    (rs rs' : List Nat) (n1 n2 : Node)
    (h : findOpenLink g fns doRecur tries last rs = .ok ((some (n1, n2), true), rs')) :
    n1 ∈ g.nodes ∧ n2 ∈ g.nodes ∧ n2.isSensor = false ∧
    ∀ y ∈ g.genes, ¬ (y.src = n1.id ∧ y.dst = n2.id ∧ y.recur = doRecur) := by
  obtain ⟨m1, m2, hp, hm⟩ := findOpenLink_found g fns doRecur tries last _ rs rs' h
  cases hp
  exact hm

/-- **C05 (add-link).** A successful add-link mutation adds exactly one gene (inserted in innovation order)
    between two existing nodes; the new gene duplicates no existing link, does not end in a sensor and is
    enabled; nodes, traits and all other genes are untouched. Holds for every stream and every registry
    (empty, matching, non-matching). -/
theorem mutateAddLink_spec (g g' : Genome W) (reg reg' : Reg W) (o : MutOpts W) (rs rs' : List Nat)
    (h : mutateAddLink g reg o rs = .ok ((g', reg', true), rs')) :
    ∃ gene : Gene W, g'.genes = geneInsert g.genes gene ∧ g'.nodes = g.nodes ∧ g'.traits = g.traits ∧ g'.modules = g.modules ∧
      gene.en = true ∧ (∃ n1 ∈ g.nodes, n1.id = gene.src) ∧ (∃ n2 ∈ g.nodes, n2.id = gene.dst ∧ n2.isSensor = false) ∧
      ∀ y ∈ g.genes, ¬ (y.src = gene.src ∧ y.dst = gene.dst ∧ y.recur = gene.recur) := by
  rcases mutateAddLink_cases h with ⟨hres, _⟩ | ⟨_, n1, hn1, n2, hn2, r, hsens, hno, ht⟩
  · cases hres
  · obtain ⟨x, rfl, hs, hd, hr, hen, _⟩ := ht.gene
    rw [← hs, ← hd, ← hr] at hno
    exact ⟨x, rfl, rfl, rfl, rfl, hen, ⟨n1, hn1, hs.symm⟩, ⟨n2, hn2, hd.symm, hsens⟩, hno⟩

structure AddNodeRel (g g' : Genome W) : Prop where
  witness : ∃ (k : Nat) (old : Gene W) (n : Node) (i1 i2 : Int),
    g.genes[k]? = some old ∧ old.en = true ∧
    (∀ s, nodeById g.nodes old.src = some s → s.kind ≠ Kind.bias) ∧
    n.kind = Kind.hidden ∧
    g'.nodes = nodeInsert g.nodes n ∧
    g'.genes = geneInsert (geneInsert (setEnabledAt g.genes k false)
        { inn := i1, src := old.src, dst := n.id, recur := old.recur, w := one, mnum := zero, en := true, trait := old.trait })
        { inn := i2, src := n.id, dst := old.dst, recur := false, w := old.w, mnum := zero, en := true, trait := old.trait }
  traits : g'.traits = g.traits
  modules : g'.modules = g.modules

/-- **C05 (add-node).** A successful add-node mutation disables exactly one previously enabled gene a→b of
    weight w (whose source is not a bias node), adds one new hidden node n and exactly two new enabled genes:
    a→n of weight 1 keeping the old recurrence flag and n→b of weight w, non-recurrent; nothing else changes.
    For every stream, every registry (the innovation numbers and node id come from a matching record or from
    the counters) and every option setting. -/
theorem mutateAddNode_spec (g g' : Genome W) (reg reg' : Reg W) (o : MutOpts W) (rs rs' : List Nat)
    (h : mutateAddNode g reg o rs = .ok ((g', reg', true), rs')) : AddNodeRel g g' := by
  obtain ⟨k, old, n, i1, i2, act, tr0, hold, hsp, rfl, _⟩ := (mutateAddNode_cases h).split
  obtain ⟨hen, hbias⟩ := (splittable_iff g old).mp hsp
  exact ⟨⟨k, old, _, i1, i2, hold, hen, hbias, rfl, rfl, rfl⟩, rfl, rfl⟩

/-- **C05 (random trait).** only the parameters of one trait change -/
theorem mutateRandomTrait_paramOnly (g g' : Genome W) (o : MutOpts W) (rs rs' : List Nat)
    (h : mutateRandomTrait g o rs = .ok (g', rs')) :
    g'.nodes = g.nodes ∧ g'.genes = g.genes ∧ g'.modules = g.modules ∧ g'.traits.map (·.id) = g.traits.map (·.id) := by
  unfold mutateRandomTrait at h
  split at h
  · cases h
  · split at h
    · cases h
    · split at h
      · cases h
      · rename_i t ht
        split at h
        · cases h
        · simp only [Except.ok.injEq, Prod.mk.injEq] at h
          obtain ⟨rfl, _⟩ := h
          refine ⟨rfl, rfl, rfl, ?_⟩
          exact set_map_id g.traits _ t _ (fun t => t.id) ht rfl

/-- `times` rounds of link-trait mutation are a chain of single steps, each pointing one gene at a trait of the genome -/
theorem mutateLinkTrait_ind (R : Genome W → Genome W → Prop) (refl : ∀ g, R g g)
    (trans : ∀ {a b c : Genome W}, R a b → R b c → R a c)
    (step : ∀ (g : Genome W) (t : Int) (k : Nat) (tr : Option Int), traitAt g t = .ok tr →
      R g { g with genes := g.genes.modify k (fun x => { x with trait := tr }) })
    {times : Nat} {g g' : Genome W} {rs rs' : List Nat} (h : mutateLinkTrait g times rs = .ok (g', rs')) : R g g' := by
  induction times generalizing g rs with
  | zero =>
    unfold mutateLinkTrait at h
    split at h
    · cases h
    · cases h; exact refl _
  | succ n ih =>
    unfold mutateLinkTrait at h
    split at h
    · cases h
    · split at h
      · cases h
      · split at h
        · cases h
        · split at h
          · cases h
          · rename_i tr htr
            exact trans (step g _ _ tr htr) (ih h)

theorem mutateNodeTrait_ind (R : Genome W → Genome W → Prop) (refl : ∀ g, R g g)
    (trans : ∀ {a b c : Genome W}, R a b → R b c → R a c)
    (step : ∀ (g : Genome W) (t : Int) (k : Nat) (tr : Option Int), traitAt g t = .ok tr →
      R g { g with nodes := g.nodes.modify k (fun n => { n with trait := tr }) })
    {times : Nat} {g g' : Genome W} {rs rs' : List Nat} (h : mutateNodeTrait g times rs = .ok (g', rs')) : R g g' := by
  induction times generalizing g rs with
  | zero =>
    unfold mutateNodeTrait at h
    split at h
    · cases h
    · cases h; exact refl _
  | succ n ih =>
    unfold mutateNodeTrait at h
    split at h
    · cases h
    · split at h
      · cases h
      · split at h
        · cases h
        · split at h
          · cases h
          · rename_i tr htr
            exact trans (step g _ _ tr htr) (ih h)

/-- **C05 (link trait).** only trait references of genes change -/
theorem mutateLinkTrait_paramOnly (times : Nat) (g g' : Genome W) (rs rs' : List Nat)
    (h : mutateLinkTrait g times rs = .ok (g', rs')) :
    g'.nodes = g.nodes ∧ g'.traits = g.traits ∧ g'.modules = g.modules ∧
    g'.genes.map Gene.skel = g.genes.map Gene.skel ∧ g'.genes.map (·.en) = g.genes.map (·.en) ∧
    g'.genes.map (·.w) = g.genes.map (·.w) :=
  mutateLinkTrait_ind
    (fun g g' : Genome W => g'.nodes = g.nodes ∧ g'.traits = g.traits ∧ g'.modules = g.modules ∧
      g'.genes.map Gene.skel = g.genes.map Gene.skel ∧ g'.genes.map (·.en) = g.genes.map (·.en) ∧
      g'.genes.map (·.w) = g.genes.map (·.w))
    (fun _ => ⟨rfl, rfl, rfl, rfl, rfl, rfl⟩)
    (fun h1 h2 => ⟨h2.1.trans h1.1, h2.2.1.trans h1.2.1, h2.2.2.1.trans h1.2.2.1, h2.2.2.2.1.trans h1.2.2.2.1,
      h2.2.2.2.2.1.trans h1.2.2.2.2.1, h2.2.2.2.2.2.trans h1.2.2.2.2.2⟩)
    (fun _ _ _ _ _ => ⟨rfl, rfl, rfl, modify_map_of_eq _ _ _ _ (fun _ => rfl), modify_map_of_eq _ _ _ _ (fun _ => rfl),
      modify_map_of_eq _ _ _ _ (fun _ => rfl)⟩) h

/-- **C05 (node trait).** only trait references of nodes change: ids, roles and activation types stay -/
theorem mutateNodeTrait_paramOnly (times : Nat) (g g' : Genome W) (rs rs' : List Nat)
    (h : mutateNodeTrait g times rs = .ok (g', rs')) :
    g'.genes = g.genes ∧ g'.traits = g.traits ∧ g'.modules = g.modules ∧
    g'.nodes.map (fun n => (n.id, n.kind, n.act)) = g.nodes.map (fun n => (n.id, n.kind, n.act)) :=
  mutateNodeTrait_ind
    (fun g g' : Genome W => g'.genes = g.genes ∧ g'.traits = g.traits ∧ g'.modules = g.modules ∧
      g'.nodes.map (fun n => (n.id, n.kind, n.act)) = g.nodes.map (fun n => (n.id, n.kind, n.act)))
    (fun _ => ⟨rfl, rfl, rfl, rfl⟩)
    (fun h1 h2 => ⟨h2.1.trans h1.1, h2.2.1.trans h1.2.1, h2.2.2.1.trans h1.2.2.1, h2.2.2.2.trans h1.2.2.2⟩)
    (fun _ _ _ _ _ => ⟨rfl, rfl, rfl, modify_map_of_eq _ _ _ _ (fun _ => rfl)⟩) h

/-- a 3-node genome with the one gene 1→2; the executed examples of C05 are in Props/C05More.lean (on `cutOff`) -/
def tiny : Genome Int :=
  { id := 1, traits := [⟨1, []⟩],
    nodes := [⟨1, Kind.input, 4, none⟩, ⟨2, Kind.output, 4, none⟩, ⟨3, Kind.hidden, 4, none⟩],
    genes := [⟨1, 1, 2, false, 0, 0, true, none⟩] }

end GoNeat.C05
