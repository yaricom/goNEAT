/-
  Property C10 — the champion of every sizeable species survives the epoch unchanged.
  Kind A: for every scalar type, every random stream, every registry and all option settings.

  The files of the property (the end-to-end statement to cite is `nextEpoch_keeps_champion` of C10Epoch, not the step below):
    Props/C10.lean              this file: `Species.reproduce` makes an unmodified copy of the species' first organism when the
                                quota exceeds five and the reservation does not exceed the quota (`reproduce_has_champion`)
    Props/C10Sort.lean          the sort step: the first organism after `sort.Sort(sort.Reverse(..))` is one no member exceeds
                                (`sortOrgsDesc_head_fittest`)
    Props/C10Exact.lean         Kind B: the adjusted fitness is a monotone rescaling of the raw one inside a species, so that
                                first organism has the greatest raw fitness (`champion_is_fittest`)
    Proofs/ChampionChain.lean   the preparation phase read for C10: reservation ≤ quota (`prepare_sc_le`), the head of the adjusted
                                species (`adjustFitness_head`); from the babies to the next generation (`reproduce_finalize_has_copy`)
    Props/C10Epoch.lean         the whole epoch and whole runs, Kind A and B; the executable predicates `championWhy`,
                                `fittestWhy`; concrete epochs
    Props/C10Perm.lean          the same after a re-ordering inside the species (`nextEpoch_keeps_champion_perm`,
                                `runEpochs_keeps_champions_perm` applied); ALSO holds, under their fixed names,
                                `C09.prepare_expected_full_perm` and `C01.nextEpoch_closed_perm`
    Props/C10Champion.lean      the library's own queries `FindChampion` / `findChampion` (Model/Champion.lean)
    Props/C10ChampionExact.lean Kind B: `FindChampion` names the organism whose genome the epoch preserves
                                (`nextEpoch_keeps_findChampion`)
    Props/C10ChampionCheck.lean the model's answers pass the executable predicates of Spec/Champion.lean
    Props/C10SpeciesMax.lean    supporting: `ComputeMaxAndAvgFitness` and the species order `ByOrganismFitness`
    Props/C20FillExact.lean     (namespace C20) `FillPopulationStatistics` is an admissible evaluation for the run theorem
                                (`C20.evalKeepsPerm_fill`)
    Proofs/SortLemmas.lean      `goSort` returns a sorted permutation (shared with C02, C09)
-/
import GoNeat.Proofs.ReproCases
import GoNeat.Props.C06

namespace GoNeat.C10
open GoNeat Scalar
variable {W : Type} [Scalar W]

/-- organism `b` carries an unmodified copy of the genome of `champ` (equal in every genetic respect, own id) -/
def IsCopy (champ b : Org W) : Prop := ∃ id, b.genome = { champ.genome with id := id }

theorem reproduceOne_appends (o : EpochOpts W) (gen : Int) (s : Species W) (sorted : List (Species W)) (champ : Org W)
    (count : Int) (st st' : ReproState W) (rs rs' : List Nat)
    (h : reproduceOne o gen s sorted champ count st rs = .ok (st', rs')) :
    ∃ b, st'.babies = st.babies ++ [b] := by
  obtain ⟨_, _, _, _, _, _, _, _, hb, _⟩ := reproduceOne_baby h
  exact ⟨_, hb⟩

theorem reproduceOne_super (o : EpochOpts W) (gen : Int) (s : Species W) (sorted : List (Species W)) (champ : Org W)
    (count : Int) (st st' : ReproState W) (rs rs' : List Nat) (hsc : st.superChamp > 0)
    (hrefs : C06.RefsOk champ.genome)
    (h : reproduceOne o gen s sorted champ count st rs = .ok (st', rs')) :
    st'.superChamp = st.superChamp - 1 ∧ st'.champCloneDone = st.champCloneDone ∧
    (st.superChamp = 1 → ∃ b, st'.babies = st.babies ++ [b] ∧ IsCopy champ b) := by
  obtain ⟨pl, rs1, hp, hm⟩ := reproduceOne_ok h
  rw [planBaby_super rs hsc, C06.duplicate_exact champ.genome count hrefs] at hp
  cases hp
  rw [makeBaby] at hm
  split at hm
  · cases hm
  · rename_i g1 reg1 ms rs2 hmut
    cases hm
    refine ⟨rfl, rfl, fun h1 => ?_⟩
    rw [superMutated_last o _ _ _ (by omega)] at hmut
    cases hmut
    exact ⟨_, rfl, count, rfl⟩

theorem reproduceOne_clone (o : EpochOpts W) (gen : Int) (s : Species W) (sorted : List (Species W)) (champ : Org W)
    (count : Int) (st st' : ReproState W) (rs rs' : List Nat) (hsc : ¬ st.superChamp > 0)
    (hdone : st.champCloneDone = false) (hq : s.expectedOffspring > 5) (hrefs : C06.RefsOk champ.genome)
    (h : reproduceOne o gen s sorted champ count st rs = .ok (st', rs')) :
    ∃ b, st'.babies = st.babies ++ [b] ∧ IsCopy champ b := by
  obtain ⟨pl, rs1, hp, hm⟩ := reproduceOne_ok h
  rw [planBaby_clone rs hsc hdone hq, C06.duplicate_exact champ.genome count hrefs] at hp
  cases hp
  cases hm
  exact ⟨_, rfl, count, rfl⟩

/-- the loop: a copy of the champion is among the babies at the end provided the loop still has to pass the
    iteration where the super-champion counter stands at one, or the clone branch is still open -/
theorem reproduceLoop_has_copy (o : EpochOpts W) (gen : Int) (s : Species W) (sorted : List (Species W)) (champ : Org W)
    (hrefs : C06.RefsOk champ.genome) (n : Nat) (count : Int) (st st' : ReproState W) (rs rs' : List Nat)
    (h : reproduceLoop o gen s sorted champ n count st rs = .ok (st', rs'))
    (hpre : (∃ b ∈ st.babies, IsCopy champ b) ∨ (1 ≤ st.superChamp ∧ st.superChamp ≤ n) ∨
            (st.superChamp ≤ 0 ∧ st.champCloneDone = false ∧ s.expectedOffspring > 5 ∧ 1 ≤ n)) :
    ∃ b ∈ st'.babies, IsCopy champ b := by
  have hend := reproduceLoop_induct (I := fun k st => (∃ b ∈ st.babies, IsCopy champ b) ∨
      (1 ≤ st.superChamp ∧ st.superChamp ≤ k) ∨
      (st.superChamp ≤ 0 ∧ st.champCloneDone = false ∧ s.expectedOffspring > 5 ∧ 1 ≤ k)) ?_ h hpre
  · rcases hend with h1 | ⟨h1, h2⟩ | ⟨_, _, _, h4⟩
    · exact h1
    · omega
    · omega
  · intro k count st rs st1 rs1 hpre hone
    obtain ⟨b1, hb1⟩ := reproduceOne_appends _ _ _ _ _ _ _ _ _ _ hone
    rcases hpre with ⟨b, hb, hcopy⟩ | ⟨h1, h2⟩ | ⟨h1, h2, h3, _⟩
    · left; exact ⟨b, by rw [hb1]; simp [hb], hcopy⟩
    · obtain ⟨hdec, _, hlast⟩ := reproduceOne_super _ _ _ _ _ _ _ _ _ _ (by omega) hrefs hone
      by_cases heq : st.superChamp = 1
      · left
        obtain ⟨b, hb, hc⟩ := hlast heq
        exact ⟨b, by rw [hb]; simp, hc⟩
      · right; left; omega
    · left
      obtain ⟨b, hb, hc⟩ := reproduceOne_clone _ _ _ _ _ _ _ _ _ _ (by omega) h2 h3 hrefs hone
      exact ⟨b, by rw [hb]; simp, hc⟩

/-- `reproduce_has_champion` with the reservation bounded from above only (a non-positive reservation takes the
    champion-clone branch) -/
theorem reproduceSpecies_has_copy (o : EpochOpts W) (gen : Int) (s : Species W) (sorted : List (Species W)) (reg reg' : Reg W)
    (uid uid' : Nat) (babies : List (Org W)) (champ : Org W) (rs rs' : List Nat)
    (hchamp : s.orgs.head? = some champ) (hrefs : C06.RefsOk champ.genome)
    (hq : s.expectedOffspring > 5) (hsc : champ.superChampOffspring ≤ s.expectedOffspring)
    (h : reproduceSpecies o gen s sorted reg uid rs = .ok ((babies, reg', uid'), rs')) :
    ∃ b ∈ babies, IsCopy champ b := by
  obtain ⟨champ', st, hc, hloop, rfl, _, _⟩ := reproduceSpecies_ok h
  cases hchamp.symm.trans hc
  apply reproduceLoop_has_copy o gen s sorted champ hrefs _ _ _ _ _ _ hloop
  dsimp only
  have hn : (s.expectedOffspring.toNat : Int) = s.expectedOffspring := Int.toNat_of_nonneg (by omega)
  by_cases h0 : 1 ≤ champ.superChampOffspring
  · right; left; exact ⟨h0, by omega⟩
  · right; right; exact ⟨by omega, rfl, hq, by omega⟩

/-- **C10.** For every species whose offspring quota exceeds five (with the super-champion reservation not above
    the quota — established by stolen babies and delta coding: C09, `prepare_sc_le`) the babies returned by
    `Species.reproduce` contain an unmodified copy of the genome of the species' first organism, the champion
    (head of the species after the fitness sort). -/
theorem reproduce_has_champion (o : EpochOpts W) (gen : Int) (s : Species W) (sorted : List (Species W)) (reg reg' : Reg W)
    (uid uid' : Nat) (babies : List (Org W)) (champ : Org W) (rs rs' : List Nat)
    (hchamp : s.orgs.head? = some champ) (hrefs : C06.RefsOk champ.genome)
    (hq : s.expectedOffspring > 5) (hsc : 0 ≤ champ.superChampOffspring ∧ champ.superChampOffspring ≤ s.expectedOffspring)
    (h : reproduceSpecies o gen s sorted reg uid rs = .ok ((babies, reg', uid'), rs')) :
    ∃ b ∈ babies, IsCopy champ b :=
  reproduceSpecies_has_copy o gen s sorted reg reg' uid uid' babies champ rs rs' hchamp hrefs hq hsc.2 h

end GoNeat.C10
