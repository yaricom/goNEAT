/-
  Property C08, END TO END over the whole epoch `nextEpoch` = prepare ; reproduce ; speciate the babies ; finalise,
  and over `spawn`.

  Ghost information: the placement log of Model/SpeciateLog.lean (`speciateLoopLog`: per arriving organism the population
  it arrived at and the organism), proved to compute exactly `speciateLoop` (`speciateLoopLog_result`).

  Kind A (every scalar type, stream, registry, option setting; no order law):
    `speciateLoopLog_structure`   what one `speciate` call leaves, position by position: every species is an old species
                                  with the arrivals that joined it appended, or a species founded by an arrival with the
                                  arrivals that joined it behind the founder; each joiner was within the threshold of the
                                  species' first organism — which is still the first organism afterwards;
    `nextEpoch_speciates_babies`  the stages of `nextEpoch` with the babies (in order of creation) and the intermediate
                                  population as explicit witnesses: exactly one `speciate` call, then the purge;
    `nextEpoch_placed`            every organism of the new generation is the founder of a species founded during this
                                  turnover (fresh id above the old `LastSpecies`, still its first organism) or joined a
                                  species whose representative at that moment — an old-generation organism (first organism
                                  of the prepared species, removed only afterwards) or the founder baby — was within the
                                  threshold;
    `spawn_placed`                the same for `spawn`, starting from an empty species list.
  Kind A over a strict weak order (`StrictWeak`, as the per-call theorems of Props/C08.lean):
    `placeTarget_nearest`, `nextEpoch_placed_nearest` each placement follows the nearest-compatible rule of `bestCompatible_spec`
                                  at the species list of that moment.
-/
import GoNeat.Model.SpeciateLog
import GoNeat.Spec.Placed
import GoNeat.Props.C08Batch
import GoNeat.Props.C02Epoch
import GoNeat.Proofs.ChampionChain

namespace GoNeat.C08
open GoNeat Scalar
variable {W : Type} [Scalar W]

theorem speciateLoopLog_result (o : EpochOpts W) (p : Pop W) (orgs : List (Org W)) :
    (match speciateLoopLog o p orgs with
     | .ok (q, _) => Except.ok q
     | .error e => .error e) = speciateLoop o p orgs := by
  induction orgs generalizing p with
  | nil => rfl
  | cons org rest ih =>
    unfold speciateLoopLog speciateLoop
    cases speciateOne o p org with
    | error e => rfl
    | ok p1 =>
      simp only
      rw [← ih p1]
      cases speciateLoopLog o p1 rest with
      | error e => rfl
      | ok r => rfl

theorem speciateLoop_of_log (o : EpochOpts W) (p p' : Pop W) (orgs : List (Org W)) (log : List (Pop W × Org W))
    (h : speciateLoopLog o p orgs = .ok (p', log)) : speciateLoop o p orgs = .ok p' := by
  rw [← speciateLoopLog_result, h]

theorem log_of_speciateLoop (o : EpochOpts W) (p p' : Pop W) (orgs : List (Org W))
    (h : speciateLoop o p orgs = .ok p') : ∃ log, speciateLoopLog o p orgs = .ok (p', log) := by
  rw [← speciateLoopLog_result] at h
  cases hl : speciateLoopLog o p orgs with
  | error e => rw [hl] at h; cases h
  | ok r =>
    obtain ⟨q, log⟩ := r
    rw [hl] at h
    simp only [Except.ok.injEq] at h
    exact ⟨log, by rw [h]⟩

def LogChain (o : EpochOpts W) : Pop W → List (Pop W × Org W) → Pop W → Prop
  | p, [], p' => p' = p
  | p, (q, b) :: rest, p' => q = p ∧ ∃ p1, speciateOne o p b = .ok p1 ∧ LogChain o p1 rest p'

theorem speciateLoopLog_ok (o : EpochOpts W) (p p' : Pop W) (orgs : List (Org W)) (log : List (Pop W × Org W))
    (h : speciateLoopLog o p orgs = .ok (p', log)) : LogChain o p log p' ∧ log.map (·.2) = orgs := by
  induction orgs generalizing p log with
  | nil =>
    simp only [speciateLoopLog, Except.ok.injEq, Prod.mk.injEq] at h
    obtain ⟨rfl, rfl⟩ := h
    exact ⟨rfl, rfl⟩
  | cons org rest ih =>
    unfold speciateLoopLog at h
    split at h
    · cases h
    · next p1 h1 =>
      split at h
      · cases h
      · next q log' hrest =>
        simp only [Except.ok.injEq, Prod.mk.injEq] at h
        obtain ⟨rfl, rfl⟩ := h
        obtain ⟨a, b⟩ := ih p1 log' hrest
        exact ⟨⟨rfl, p1, h1, a⟩, by rw [List.map_cons, b]⟩

theorem speciateLoopLog_chain (o : EpochOpts W) (p p' : Pop W) (orgs : List (Org W)) (log : List (Pop W × Org W))
    (h : speciateLoopLog o p orgs = .ok (p', log)) : LogChain o p log p' :=
  (speciateLoopLog_ok o p p' orgs log h).1

theorem speciateLoopLog_orgs (o : EpochOpts W) (p p' : Pop W) (orgs : List (Org W)) (log : List (Pop W × Org W))
    (h : speciateLoopLog o p orgs = .ok (p', log)) : log.map (·.2) = orgs :=
  (speciateLoopLog_ok o p p' orgs log h).2

theorem placeTarget_of_join (o : EpochOpts W) (p : Pop W) (org : Org W) (i : Nat) (he : p.species.isEmpty = false)
    (hb : bestCompatible o org.genome p.species 0 none maxVal = some i) : placeTarget o p org = some i := by
  unfold placeTarget; rw [he]; exact hb

theorem placeTarget_of_found (o : EpochOpts W) (p : Pop W) (org : Org W)
    (h : p.species.isEmpty = true ∨ bestCompatible o org.genome p.species 0 none maxVal = none) : placeTarget o p org = none := by
  unfold placeTarget
  rcases h with h | h
  · rw [h]; rfl
  · split
    · rfl
    · exact h

/-- organism `y` arrived (log entry `(q, y)`) when the species now at position `j` was at position `j` of `q` with the
    first organism `rep` that `s'` still has, `rep` was within the threshold, and the search chose position `j` -/
def JoinedAt (o : EpochOpts W) (log : List (Pop W × Org W)) (j : Nat) (s' : Species W) (y : Org W) : Prop :=
  ∃ q, (q, y) ∈ log ∧ placeTarget o q y = some j ∧ ∃ sq rep, q.species[j]? = some sq ∧ sq.id = s'.id ∧
    sq.orgs.head? = some rep ∧ s'.orgs.head? = some rep ∧
    lt (compatibility o.compat y.genome rep.genome) o.compatThreshold = true

/-- organism `f` arrived (log entry `(q, f)`) when no species was chosen, and founded `s'` with the fresh id
    `q.lastSpecies + 1`, above `base` -/
def FoundedAt (o : EpochOpts W) (log : List (Pop W × Org W)) (base : Int) (s' : Species W) (f : Org W) : Prop :=
  ∃ q, (q, f) ∈ log ∧ placeTarget o q f = none ∧ s'.id = q.lastSpecies + 1 ∧ base ≤ q.lastSpecies

theorem JoinedAt.mono {o : EpochOpts W} {log : List (Pop W × Org W)} {j : Nat} {s' : Species W} {y : Org W}
    (e : Pop W × Org W) (h : JoinedAt o log j s' y) : JoinedAt o (e :: log) j s' y := by
  obtain ⟨q, hq, r⟩ := h
  exact ⟨q, List.mem_cons_of_mem _ hq, r⟩

theorem speciateLoopLog_structure (o : EpochOpts W) (p p' : Pop W) (orgs : List (Org W)) (log : List (Pop W × Org W))
    (h : speciateLoopLog o p orgs = .ok (p', log)) :
    ∀ j s', p'.species[j]? = some s' →
      (∃ s t, p.species[j]? = some s ∧ s'.id = s.id ∧ s'.orgs = s.orgs ++ t ∧ ∀ y ∈ t, JoinedAt o log j s' y) ∨
      (p.species.length ≤ j ∧ ∃ f t, s'.orgs = f :: t ∧ FoundedAt o log p.lastSpecies s' f ∧ ∀ y ∈ t, JoinedAt o log j s' y) := by
  replace h := speciateLoopLog_chain o p p' orgs log h
  induction log generalizing p with
  | nil =>
    cases h
    intro j s' hj
    exact Or.inl ⟨s', [], hj, rfl, by simp, by intro y hy; cases hy⟩
  | cons e log' ih =>
    obtain ⟨q, org⟩ := e
    obtain ⟨hq, p1, h1, hrest⟩ := h
    obtain rfl := hq.symm
    intro j s' hj
    have hih := ih p1 hrest j s' hj
    -- entries of the rest of the log stay entries; a founder's id stays above the smaller `lastSpecies`
    have hmono : ∀ {t : List (Org W)}, (∀ y ∈ t, JoinedAt o log' j s' y) → ∀ y ∈ t, JoinedAt o ((p, org) :: log') j s' y :=
      fun hj1 y hy => (hj1 y hy).mono _
    have hfmono : ∀ {f : Org W}, p.lastSpecies ≤ p1.lastSpecies → FoundedAt o log' p1.lastSpecies s' f →
        FoundedAt o ((p, org) :: log') p.lastSpecies s' f := by
      rintro f hle ⟨q0, hq0, a, b, c⟩
      exact ⟨q0, List.mem_cons_of_mem _ hq0, a, b, Int.le_trans hle c⟩
    rcases speciateOne_cases o p p1 org h1 with ⟨i, s, rep, ⟨he, hb⟩, hpi, hrep, hlt, hsp, hlast⟩ |
        ⟨hnone, hlast, sn, hsp, hid, horgs, _, _⟩
    · -- the arrival joined the species at position `i`
      have htar := placeTarget_of_join o p org i he hb
      rcases hih with ⟨s1, t1, hs1, hid1, ho1, hj1⟩ | ⟨hlen, f, t, ho, hf, hjn⟩
      · rw [hsp] at hs1
        by_cases hij : i = j
        · subst hij
          rw [List.getElem?_modify_eq, hpi] at hs1
          cases hs1
          refine Or.inl ⟨s, org :: t1, hpi, hid1, by rw [ho1]; simp, ?_⟩
          intro y hy
          rcases List.mem_cons.mp hy with rfl | hy'
          · refine ⟨p, List.mem_cons_self, htar, s, rep, hpi, hid1.symm, hrep, ?_, hlt⟩
            rw [ho1]
            exact head?_append_of_head? _ (head?_append_of_head? _ hrep)
          · exact hmono hj1 y hy'
        · rw [List.getElem?_modify_ne _ _ hij] at hs1
          exact Or.inl ⟨s1, t1, hs1, hid1, ho1, hmono hj1⟩
      · exact Or.inr ⟨by rw [hsp, List.length_modify] at hlen; exact hlen, f, t, ho, hfmono (Int.le_of_eq hlast.symm) hf,
          hmono hjn⟩
    · -- the arrival founded a species
      have htar := placeTarget_of_found o p org hnone
      rcases hih with ⟨s1, t1, hs1, hid1, ho1, hj1⟩ | ⟨hlen, f, t, ho, hf, hjn⟩
      · rw [hsp] at hs1
        rcases getElem?_snoc hs1 with hs1 | ⟨hjl, rfl⟩
        · exact Or.inl ⟨s1, t1, hs1, hid1, ho1, hmono hj1⟩
        · refine Or.inr ⟨by omega, org, t1, by rw [ho1, horgs]; rfl, ?_, hmono hj1⟩
          exact ⟨p, List.mem_cons_self, htar, by rw [hid1, hid], Int.le_refl _⟩
      · exact Or.inr ⟨by rw [hsp] at hlen; simp at hlen; omega, f, t, ho, hfmono (by omega) hf, hmono hjn⟩

/-- the rule of the property for organism `b` arriving at the species list `ss`: `some i` — the species at position `i` has a
    representative within the threshold, no compatible representative is nearer and every EARLIER compatible one is
    strictly farther; `none` — no representative is within the threshold -/
def Nearest (o : EpochOpts W) (ss : List (Species W)) (b : Org W) : Option Nat → Prop
  | none => ∀ s ∈ ss, ∀ rep, s.orgs.head? = some rep →
      lt (compatibility o.compat b.genome rep.genome) o.compatThreshold = false
  | some i => ∃ s rep, ss[i]? = some s ∧ s.orgs.head? = some rep ∧
      lt (compatibility o.compat b.genome rep.genome) o.compatThreshold = true ∧
      ∀ j sj rj, ss[j]? = some sj → sj.orgs.head? = some rj →
        lt (compatibility o.compat b.genome rj.genome) o.compatThreshold = true →
        lt (compatibility o.compat b.genome rj.genome) (compatibility o.compat b.genome rep.genome) = false ∧
        (j < i → lt (compatibility o.compat b.genome rep.genome) (compatibility o.compat b.genome rj.genome) = true)

/-- every distance from `b` to a representative of `ss` is below the sentinel the search starts from (executable) -/
def finiteAt (o : EpochOpts W) (ss : List (Species W)) (b : Org W) : Bool :=
  ss.all (fun s => match s.orgs.head? with
    | none => true
    | some rep => lt (compatibility o.compat b.genome rep.genome) maxVal)

/-- **C08 at the moment of arrival.**  Over a strict weak order, with all distances below the sentinel: the decision taken
    for `b` at population `q` follows the nearest-compatible rule on `q`'s species list. -/
theorem placeTarget_nearest (hw : StrictWeak W) (o : EpochOpts W) (q : Pop W) (b : Org W)
    (hfin : finiteAt o q.species b = true) : Nearest o q.species b (placeTarget o q b) := by
  unfold placeTarget
  split
  · rename_i he
    have : q.species = [] := by simpa using he
    intro s hs; rw [this] at hs; cases hs
  · have hfin' : ∀ c, some c ∈ dists o b.genome q.species → lt c maxVal = true := by
      intro c hc
      obtain ⟨j, hj⟩ := List.getElem?_of_mem hc
      obtain ⟨s, rep, hs, hr, rfl⟩ := (dists_getElem o b.genome q.species j c).mp hj
      have := List.all_eq_true.mp hfin s (List.mem_of_getElem? hs)
      rw [hr] at this
      exact this
    have hs := bestCompatible_spec hw o b.genome q.species hfin'
    simp only at hs
    cases hb : bestCompatible o b.genome q.species 0 none maxVal with
    | none =>
      rw [hb] at hs
      simp only at hs
      intro s hsm rep hrep
      obtain ⟨j, hj⟩ := List.getElem?_of_mem hsm
      exact hs _ (List.mem_of_getElem? ((dists_getElem o b.genome q.species j _).mpr ⟨s, rep, hj, hrep, rfl⟩))
    | some i =>
      rw [hb] at hs
      simp only at hs
      obtain ⟨d, hd, hlt, hmin⟩ := hs
      obtain ⟨s, rep, hsi, hr, rfl⟩ := (dists_getElem o b.genome q.species i d).mp hd
      refine ⟨s, rep, hsi, hr, hlt, ?_⟩
      intro j sj rj hsj hrj hltj
      exact hmin j _ ((dists_getElem o b.genome q.species j _).mpr ⟨sj, rj, hsj, hrj, rfl⟩) hltj

/-- the stages of one turnover with every intermediate value named: `p1` after preparation, the `babies` with the registry
    and allocation counter after reproduction, `p2` after the ONE `speciate` call on the babies (with its placement log),
    `p'` after the final purge -/
structure Stages (o : EpochOpts W) (gen : Int) (p : Pop W) (rs : List Nat) (p1 : Pop W) (ex : ExecState) (rs1 : List Nat)
    (babies : List (Org W)) (reg : Reg W) (uid : Nat) (p2 : Pop W) (log : List (Pop W × Org W)) (p' : Pop W) (rs' : List Nat) : Prop where
  prep : prepareForReproduction o p rs = .ok ((p1, ex), rs1)
  repro : reproduceAll o gen (sortedOf ex p1) p1.species p1.reg p1.nextUid [] rs1 = .ok ((babies, reg, uid), rs')
  size : babies.length = o.popSize
  spec : speciate o { p1 with reg := reg, nextUid := uid } babies = .ok p2
  log : speciateLoopLog o { p1 with reg := reg, nextUid := uid } babies = .ok (p2, log)
  fin : p' = finalizeReproduction p2

/-- `blocks` are the lists `reproduceSpecies` returns for the species `ss` one after the other (registry, allocation
    counter and stream threaded through), ending in `fin` -/
def ReproBlocks (o : EpochOpts W) (gen : Int) (sorted : List (Species W)) :
    List (Species W) → Reg W → Nat → List Nat → List (List (Org W)) → Reg W × Nat × List Nat → Prop
  | [], reg, uid, rs, blocks, fin => blocks = [] ∧ fin = (reg, uid, rs)
  | s :: ss, reg, uid, rs, blocks, fin =>
    ∃ bs reg1 uid1 rs1 rest, reproduceSpecies o gen s sorted reg uid rs = .ok ((bs, reg1, uid1), rs1) ∧
      blocks = bs :: rest ∧ ReproBlocks o gen sorted ss reg1 uid1 rs1 rest fin

theorem reproduceAll_blocks (o : EpochOpts W) (gen : Int) (sorted ss : List (Species W)) (reg reg' : Reg W) (uid uid' : Nat)
    (acc babies : List (Org W)) (rs rs' : List Nat)
    (h : reproduceAll o gen sorted ss reg uid acc rs = .ok ((babies, reg', uid'), rs')) :
    ∃ blocks, ReproBlocks o gen sorted ss reg uid rs blocks (reg', uid', rs') ∧ babies = acc ++ blocks.flatten := by
  -- whatever blocks the species still to reproduce will return, put after those returned so far they describe the whole run
  have key := reproduceAll_induct (I := fun rest r u a s => ∀ later fin, ReproBlocks o gen sorted rest r u s later fin →
    ∃ blocks, ReproBlocks o gen sorted ss reg uid rs blocks fin ∧ acc ++ blocks.flatten = a ++ later.flatten) ?_ h
    (fun later fin hl => ⟨later, hl, rfl⟩)
  · obtain ⟨blocks, hb, e⟩ := key [] (reg', uid', rs') ⟨rfl, rfl⟩
    exact ⟨blocks, hb, by simpa using e.symm⟩
  · intro s rest _ r u a s0 bs r1 u1 s1 hI hs later fin hl
    obtain ⟨blocks, hb, e⟩ := hI (bs :: later) fin ⟨bs, r1, u1, s1, later, hs, rfl, hl⟩
    exact ⟨blocks, hb, by rw [e, List.flatten_cons, List.append_assoc]⟩

/-- **C08 over the epoch: the epoch hands the babies to `speciate` once, in order of creation.**  If
    `nextEpoch o gen p rs` returns `(p', rs')` then there are: the prepared population `p1`; the list `babies` that
    `reproduceAll` returned — the concatenation `blocks.flatten`, in the order of `p1.species`, of the lists each species'
    `reproduce` returned, carrying the consecutive allocation ids `p1.nextUid, p1.nextUid + 1, …` (allocation = creation);
    the population `p2` that exactly one call `speciate o {p1 with reg, nextUid} babies` returned, with its placement
    log (one entry per baby, in that order); and `p' = finalizeReproduction p2` (purgeOldGeneration, purgeOrAgeSpecies,
    forgetting the innovation records). -/
theorem nextEpoch_speciates_babies (o : EpochOpts W) (gen : Int) (p p' : Pop W) (rs rs' : List Nat)
    (h : nextEpoch o gen p rs = .ok (p', rs')) :
    ∃ p1 ex rs1 babies reg uid p2 log blocks, Stages o gen p rs p1 ex rs1 babies reg uid p2 log p' rs' ∧
      ReproBlocks o gen (sortedOf ex p1) p1.species p1.reg p1.nextUid rs1 blocks (reg, uid, rs') ∧
      babies = blocks.flatten ∧
      babies.map (·.uid) = (List.range o.popSize).map (· + p1.nextUid) ∧
      log.map (·.2) = babies := by
  obtain ⟨p1, ex, rs1, babies, reg, uid, p2, hprep, t⟩ := nextEpoch_renewal h
  have hsp : speciate o { p1 with reg := reg, nextUid := uid } babies = .ok p2 := by
    unfold speciate
    rw [if_neg (by simpa using t.ne), t.spec]
  obtain ⟨log, hlog⟩ := log_of_speciateLoop o _ _ _ t.spec
  obtain ⟨blocks, hblocks, hflat⟩ := reproduceAll_blocks o gen _ _ _ _ _ _ _ _ _ _ t.repro
  exact ⟨p1, ex, rs1, babies, reg, uid, p2, log, blocks, ⟨hprep, t.repro, t.size, hsp, hlog, t.fin⟩, hblocks,
    by simpa using hflat, t.ids.1, speciateLoopLog_orgs o _ _ _ _ hlog⟩

omit [Scalar W] in
theorem finalize_shape (p2 : Pop W) : ∀ s' ∈ (finalizeReproduction p2).species,
    ∃ (j : Nat) (s2 : Species W) (k : Int), p2.species[j]? = some s2 ∧ s'.id = s2.id ∧
      s'.orgs = renumber (s2.orgs.filter (fun o => !p2.organisms.contains o.uid)) k := by
  intro s' hs'
  have hs'' : s' ∈ purgeOrAgeLoop (purgeOldGeneration p2).species 0 := hs'
  obtain ⟨s, hs, _, k, rfl⟩ := purgeOrAgeLoop_mem hs''
  unfold purgeOldGeneration at hs
  obtain ⟨s2, hs2, rfl⟩ := List.mem_map.mp hs
  obtain ⟨j, hj⟩ := List.getElem?_of_mem hs2
  exact ⟨j, s2, k, hj, rfl, rfl⟩

/-- baby `b` (log entry `(q, b)`) is organism `x` of the new generation (genome id renumbered by the final purge); at its
    arrival the search chose position `i` of `q.species`, holding the species with id `sid`, whose first organism at that
    moment, `rep`, was within the threshold -/
def JoinedE (o : EpochOpts W) (babies : List (Org W)) (log : List (Pop W × Org W)) (sid : Int) (i : Nat) (rep x : Org W) : Prop :=
  ∃ q b, (q, b) ∈ log ∧ b ∈ babies ∧ x = { b with genome := { b.genome with id := x.genome.id } } ∧
    placeTarget o q b = some i ∧ ∃ sq, q.species[i]? = some sq ∧ sq.id = sid ∧ sq.orgs.head? = some rep ∧
    lt (compatibility o.compat b.genome rep.genome) o.compatThreshold = true

/-- baby `f` (log entry `(q, f)`) found no species at its arrival and founded the species with the fresh id `sid` -/
def FounderE (o : EpochOpts W) (babies : List (Org W)) (log : List (Pop W × Org W)) (sid : Int) (f : Org W) : Prop :=
  ∃ q, (q, f) ∈ log ∧ f ∈ babies ∧ placeTarget o q f = none ∧ sid = q.lastSpecies + 1

/-- `JoinedAt` to `JoinedE` through the final purge: `old` are the members the species had before, `t` the arrivals -/
theorem joinedE_of_at {o : EpochOpts W} {babies : List (Org W)} {log : List (Pop W × Org W)} {j : Nat} {s2 : Species W}
    {sid : Int} {rep : Org W} {listed : List Nat} {old t : List (Org W)} {k : Int}
    (hbaby : ∀ q b, (q, b) ∈ log → b ∈ babies) (hold : ∀ y ∈ old, y.uid ∈ listed)
    (hj : ∀ y ∈ t, JoinedAt o log j s2 y) (hh : s2.orgs.head? = some rep) (hid : s2.id = sid) :
    ∀ x ∈ renumber ((old ++ t).filter (fun o => !listed.contains o.uid)) k, JoinedE o babies log sid j rep x := by
  intro x hx
  obtain ⟨y, hy, e⟩ := renumber_mem hx
  obtain ⟨hy1, hy2⟩ := List.mem_filter.mp hy
  rcases List.mem_append.mp hy1 with hyo | hyt
  · simp [hold y hyo] at hy2
  · obtain ⟨q, hq, htar, sq, rep', hsq, hsqid, hrep, hhead, hlt⟩ := hj y hyt
    rw [hh] at hhead
    cases hhead
    exact ⟨q, y, hq, hbaby q y hq, e, htar, sq, hsq, hsqid.trans hid, hrep, hlt⟩

/-- **C08 over the epoch, species by species.**  Let `p` be a consistently allocated population (`UidInv`) with unique
    species ids and let the turnover run through the stages `st` (`nextEpoch_speciates_babies` provides them whenever
    `nextEpoch` returns).  Then every species `s'` of the new population is
    * a SURVIVOR: the species at some position `i` of the prepared population `p1` has the same id; its first organism
      `rep` is an old-generation organism (listed in `p1.organisms`, which `purgeOldGeneration` removes only afterwards), and
      EVERY organism of `s'` is a baby that joined position `i` when `rep` was the representative there and within the
      threshold; or
    * FOUNDED during this turnover, with an id above the `LastSpecies` the turnover started with and a position beyond the old
      list: its first organism is the founder baby `f` (no species was chosen at `f`'s arrival; fresh id
      `lastSpecies + 1` of that moment), and every other organism is a baby that joined that position when `f` was the
      representative and within the threshold.
    For every scalar type, stream, registry and option setting. -/
theorem nextEpoch_species_placed (o : EpochOpts W) (gen : Int) (p p' p1 p2 : Pop W) (ex : ExecState) (rs rs1 rs' : List Nat)
    (babies : List (Org W)) (reg : Reg W) (uid : Nat) (log : List (Pop W × Org W))
    (hu : C02.UidInv p) (hnd : (p.species.map (·.id)).Nodup)
    (st : Stages o gen p rs p1 ex rs1 babies reg uid p2 log p' rs') :
    ∀ s' ∈ p'.species,
      (∃ i s1 rep, p1.species[i]? = some s1 ∧ s1.id = s'.id ∧ s1.orgs.head? = some rep ∧ rep.uid ∈ p1.organisms ∧
        ∀ x ∈ s'.orgs, JoinedE o babies log s'.id i rep x) ∨
      (p.lastSpecies < s'.id ∧ ∃ i f x0 t', p1.species.length ≤ i ∧ s'.orgs = x0 :: t' ∧
        x0 = { f with genome := { f.genome with id := x0.genome.id } } ∧ FounderE o babies log s'.id f ∧
        ∀ x ∈ t', JoinedE o babies log s'.id i f x) := by
  have hu1 := (C02.prepare_uidInv o p p1 ex rs rs1 hnd hu st.prep).1
  have hlast : p1.lastSpecies = p.lastSpecies := (C02.prepare_spec o p p1 ex rs rs1 hnd st.prep).1
  have hheads := C10.reproduceAll_heads o gen _ _ _ _ _ _ _ _ _ _ st.repro
  have hloop := speciateLoop_of_log o _ _ _ _ st.log
  have t : Renewal o gen p1 ex rs1 babies reg uid p2 p' rs' := ⟨st.repro, st.size, (speciate_ok st.spec).1, hloop, st.fin⟩
  have horg : p2.organisms = p1.organisms := (speciateLoop_perm hloop).2.1
  have hlogorgs := speciateLoopLog_orgs o _ _ _ _ st.log
  have hstruct := speciateLoopLog_structure o _ p2 babies log st.log
  have hbaby : ∀ q b, (q, b) ∈ log → b ∈ babies := by
    intro q b hqb
    rw [← hlogorgs]; exact List.mem_map.mpr ⟨(q, b), hqb, rfl⟩
  have hnew : ∀ b ∈ babies, b.uid ∉ p2.organisms := fun b hb => horg ▸ t.fresh hu1 b hb
  have hold : ∀ s1 ∈ p1.species, ∀ y ∈ s1.orgs, y.uid ∈ p2.organisms := fun s1 hs1 y hy =>
    horg ▸ hu1.listed _ (C02.orgUids_eq p1.species ▸ List.mem_map_of_mem (mem_orgsOf.mpr ⟨s1, hs1, hy⟩))
  intro s' hs'
  rw [st.fin] at hs'
  obtain ⟨j, s2, k, hj, hid, ho⟩ := finalize_shape p2 s' hs'
  rcases hstruct j s2 hj with ⟨s1, t, hs1, hid1, ho1, hjoin⟩ | ⟨hlen, f, t, hof, hfound, hjoin⟩
  · -- a species surviving from the old generation
    left
    have hs1' : p1.species[j]? = some s1 := hs1
    have hs1m := List.mem_of_getElem? hs1'
    obtain ⟨c, hc⟩ := hheads s1 hs1m
    have hh : s2.orgs.head? = some c := by rw [ho1]; exact head?_append_of_head? _ hc
    refine ⟨j, s1, c, hs1', by rw [hid, hid1], hc, by rw [← horg]; exact hold s1 hs1m c (List.mem_of_mem_head? hc), ?_⟩
    rw [ho, ho1]
    exact joinedE_of_at hbaby (hold s1 hs1m) hjoin hh hid.symm
  · -- a species founded during this turnover
    right
    obtain ⟨q0, hq0, htar0, hid0, hbase⟩ := hfound
    have hbase' : p1.lastSpecies ≤ q0.lastSpecies := hbase
    have hlen' : p1.species.length ≤ j := hlen
    have hfb := hbaby q0 f hq0
    have hfnew := hnew f hfb
    have hidgt : p.lastSpecies < s'.id := by rw [hid, hid0, ← hlast]; omega
    have hfilter : s2.orgs.filter (fun o => !p2.organisms.contains o.uid) =
        f :: t.filter (fun o => !p2.organisms.contains o.uid) := by
      rw [hof, List.filter_cons_of_pos]; simpa using hfnew
    rw [hfilter] at ho
    have ho' : s'.orgs = { f with genome := { f.genome with id := k } } ::
        renumber (t.filter (fun o => !p2.organisms.contains o.uid)) (k + 1) := by
      rw [ho]; rfl
    refine ⟨hidgt, j, f, _, _, hlen', ho', rfl, ⟨q0, hq0, hfb, htar0, by rw [hid, hid0]⟩, ?_⟩
    exact joinedE_of_at (old := []) hbaby (fun _ h => absurd h List.not_mem_nil) hjoin (by rw [hof]; rfl) hid.symm

/-- how organism `x` of species `s'` of the new generation got there: it is baby `b` (genome id renumbered by the final
    purge) with log entry `(q, b)`, and either
    * FOUNDER: no species was chosen at `q`; `s'` carries the fresh id `q.lastSpecies + 1`, above the `LastSpecies` the
      turnover started with, and `x` is still the first organism of `s'`; or
    * JOINED: the search chose position `i` of `q.species`, holding the species with the id of `s'`, whose first organism
      at that moment, `rep`, was within the threshold; and `rep` is
        - an OLD-GENERATION organism: the first organism of the species at the same position `i` of the prepared
          population `p1`, listed in `p1.organisms` (what `purgeOldGeneration` removes afterwards), or
        - the FOUNDER baby of `s'` (a species founded during this turnover, beyond the old list), which is still the first
          organism of `s'` (genome id renumbered). -/
def PlacedInEpoch (o : EpochOpts W) (p p1 : Pop W) (babies : List (Org W)) (log : List (Pop W × Org W))
    (s' : Species W) (x : Org W) : Prop :=
  ∃ q b, (q, b) ∈ log ∧ b ∈ babies ∧ x = { b with genome := { b.genome with id := x.genome.id } } ∧
    ((placeTarget o q b = none ∧ s'.id = q.lastSpecies + 1 ∧ p.lastSpecies < s'.id ∧ s'.orgs.head? = some x) ∨
     (∃ i sq rep, placeTarget o q b = some i ∧ q.species[i]? = some sq ∧ sq.id = s'.id ∧ sq.orgs.head? = some rep ∧
        lt (compatibility o.compat b.genome rep.genome) o.compatThreshold = true ∧
        ((∃ s1, p1.species[i]? = some s1 ∧ s1.id = s'.id ∧ s1.orgs.head? = some rep ∧ rep.uid ∈ p1.organisms) ∨
         (p.lastSpecies < s'.id ∧ rep ∈ babies ∧ p1.species.length ≤ i ∧
           ∃ x0, s'.orgs.head? = some x0 ∧ x0 = { rep with genome := { rep.genome with id := x0.genome.id } }))))

/-- **C08 over the epoch, organism by organism.**  Under the hypotheses of `nextEpoch_species_placed`, EVERY organism
    of EVERY species of the new population was placed as `PlacedInEpoch` says: founder of a species founded during this
    turnover with a fresh id, or joined a species whose representative at that moment (an old-generation organism, or the
    founder baby) was within the threshold. -/
theorem nextEpoch_placed (o : EpochOpts W) (gen : Int) (p p' p1 p2 : Pop W) (ex : ExecState) (rs rs1 rs' : List Nat)
    (babies : List (Org W)) (reg : Reg W) (uid : Nat) (log : List (Pop W × Org W))
    (hu : C02.UidInv p) (hnd : (p.species.map (·.id)).Nodup)
    (st : Stages o gen p rs p1 ex rs1 babies reg uid p2 log p' rs') :
    ∀ s' ∈ p'.species, ∀ x ∈ s'.orgs, PlacedInEpoch o p p1 babies log s' x := by
  intro s' hs' x hx
  rcases nextEpoch_species_placed o gen p p' p1 p2 ex rs rs1 rs' babies reg uid log hu hnd st s' hs' with
    ⟨i, s1, rep, h1, h2, h3, h4, hall⟩ | ⟨hgt, i, f, x0, t', hlen, ho, hx0, ⟨q0, hq0, hfb, htar0, hid0⟩, hall⟩
  · obtain ⟨q, b, hq, hb, e, htar, sq, hsq, hsqid, hrep, hlt⟩ := hall x hx
    exact ⟨q, b, hq, hb, e, Or.inr ⟨i, sq, rep, htar, hsq, hsqid, hrep, hlt, Or.inl ⟨s1, h1, h2, h3, h4⟩⟩⟩
  · rw [ho] at hx
    rcases List.mem_cons.mp hx with rfl | hx'
    · exact ⟨q0, f, hq0, hfb, hx0, Or.inl ⟨htar0, hid0, hgt, by rw [ho]; rfl⟩⟩
    · obtain ⟨q, b, hq, hb, e, htar, sq, hsq, hsqid, hrep, hlt⟩ := hall x hx'
      exact ⟨q, b, hq, hb, e, Or.inr ⟨i, sq, f, htar, hsq, hsqid, hrep, hlt,
        Or.inr ⟨hgt, hfb, hlen, x0, by rw [ho]; rfl, hx0⟩⟩⟩

/-- **C08 over the epoch, with the nearest-compatible rule.**  Over a strict weak order, with all distances met by the
    search below its sentinel: every organism `x` of the new generation is a baby `b` whose placement — at the species list
    `q.species` of the moment of its arrival — followed the rule of `bestCompatible_spec` (`Nearest`): it joined the FIRST
    species attaining the minimal distance among the representatives within the threshold, the species having the id of
    the species that holds `x` now; or no representative was within the threshold and it founded the species that holds
    it now, with a fresh id above the old `LastSpecies`, of which it still is the first organism. -/
theorem nextEpoch_placed_nearest (hw : StrictWeak W) (o : EpochOpts W) (gen : Int) (p p' p1 p2 : Pop W) (ex : ExecState)
    (rs rs1 rs' : List Nat) (babies : List (Org W)) (reg : Reg W) (uid : Nat) (log : List (Pop W × Org W))
    (hu : C02.UidInv p) (hnd : (p.species.map (·.id)).Nodup)
    (st : Stages o gen p rs p1 ex rs1 babies reg uid p2 log p' rs')
    (hfin : ∀ e ∈ log, finiteAt o e.1.species e.2 = true) :
    ∀ s' ∈ p'.species, ∀ x ∈ s'.orgs, ∃ q b, (q, b) ∈ log ∧ x = { b with genome := { b.genome with id := x.genome.id } } ∧
      Nearest o q.species b (placeTarget o q b) ∧
      match placeTarget o q b with
      | none => s'.id = q.lastSpecies + 1 ∧ p.lastSpecies < s'.id ∧ s'.orgs.head? = some x
      | some i => ∃ sq, q.species[i]? = some sq ∧ sq.id = s'.id := by
  intro s' hs' x hx
  obtain ⟨q, b, hq, _, e, hcase⟩ := nextEpoch_placed o gen p p' p1 p2 ex rs rs1 rs' babies reg uid log hu hnd st s' hs' x hx
  refine ⟨q, b, hq, e, placeTarget_nearest hw o q b (hfin _ hq), ?_⟩
  rcases hcase with ⟨h1, h2, h3, h4⟩ | ⟨i, sq, rep, h1, h2, h3, _⟩
  · rw [h1]; exact ⟨h2, h3, h4⟩
  · rw [h1]; exact ⟨sq, h2, h3⟩

/-- **C08 for `spawn`.**  If `spawn o g rs` returns `p`, then `p` is the result of exactly one `speciate` call on the spawned
    organisms `orgs` (in order of creation) into a population `p0` WITHOUT species and `LastSpecies = 0`; every species of `p`
    was founded by one of them (`FoundedAt`: no species chosen at its arrival, fresh id), which is its first organism, and
    every other member joined when that founder was within the threshold (`JoinedAt`). -/
theorem spawn_placed (o : EpochOpts W) (g : Genome W) (p : Pop W) (rs rs' : List Nat) (h : spawn o g rs = .ok (p, rs')) :
    ∃ orgs p0 log, spawnLoop g o.popSize 0 0 rs = .ok (orgs, rs') ∧ p0.species = [] ∧ p0.lastSpecies = 0 ∧
      speciate o p0 orgs = .ok p ∧ speciateLoopLog o p0 orgs = .ok (p, log) ∧ log.map (·.2) = orgs ∧
      ∀ j s', p.species[j]? = some s' →
        ∃ f t, s'.orgs = f :: t ∧ FoundedAt o log 0 s' f ∧ ∀ y ∈ t, JoinedAt o log j s' y := by
  obtain ⟨_, orgs, lastNode, nextInn, hloop, _, _, hne, hl⟩ := spawn_ok h
  obtain ⟨log, hlog⟩ := log_of_speciateLoop o _ _ _ hl
  refine ⟨orgs, _, log, hloop, rfl, rfl, ?_, hlog, speciateLoopLog_orgs o _ _ _ _ hlog, ?_⟩
  · unfold speciate
    rw [if_neg (by simpa using hne)]
    exact hl
  · intro j s' hj
    rcases speciateLoopLog_structure o _ _ _ _ hlog j s' hj with ⟨s, t, hs, _⟩ | ⟨_, r⟩
    · simp at hs
    · exact r

theorem log_nearest (hw : StrictWeak W) (o : EpochOpts W) (log : List (Pop W × Org W))
    (hfin : ∀ e ∈ log, finiteAt o e.1.species e.2 = true) :
    ∀ e ∈ log, Nearest o e.1.species e.2 (placeTarget o e.1 e.2) :=
  fun e he => placeTarget_nearest hw o e.1 e.2 (hfin e he)

theorem compat_congr_left (c : CompatOpts W) (g1 g2 g' : Genome W) (h : g1.genes = g2.genes) :
    compatibility c g1 g' = compatibility c g2 g' := by
  obtain ⟨i1, t1, n1, ge1, m1⟩ := g1
  obtain ⟨i2, t2, n2, ge2, m2⟩ := g2
  simp only at h
  subst h
  rfl

theorem compat_congr_right (c : CompatOpts W) (g g1 g2 : Genome W) (h : g1.genes = g2.genes) :
    compatibility c g g1 = compatibility c g g2 := by
  obtain ⟨i1, t1, n1, ge1, m1⟩ := g1
  obtain ⟨i2, t2, n2, ge2, m2⟩ := g2
  simp only at h
  subst h
  rfl

theorem genes_of_renum (x b : Org W) (e : x = { b with genome := { b.genome with id := x.genome.id } }) :
    x.genome.genes = b.genome.genes := by rw [e]

/-- the species of `p` are still at their positions in `q`, with the first organisms they had (`speciateOne` appends to
    a species or adds one at the end, so this holds from any population of a `speciate` call to any later one) -/
def RepsKept (p q : Pop W) : Prop :=
  ∀ (j : Nat) (s : Species W) (r : Org W), p.species[j]? = some s → s.orgs.head? = some r →
    ∃ sj : Species W, q.species[j]? = some sj ∧ sj.orgs.head? = some r

theorem RepsKept.step {o : EpochOpts W} {p p1 : Pop W} {org : Org W} (h : speciateOne o p org = .ok p1) : RepsKept p p1 := by
  intro j s r hs hr
  rcases speciateOne_spec o p p1 org h with ⟨i, _, hsp, _⟩ | ⟨_, _, sn, hsp, _⟩
  · rw [hsp]
    by_cases hij : i = j
    · subst hij
      rw [List.getElem?_modify_eq, hs]
      exact ⟨_, rfl, head?_append_of_head? _ hr⟩
    · rw [List.getElem?_modify_ne _ _ hij]
      exact ⟨s, hs, hr⟩
  · rw [hsp, List.getElem?_append_left (List.getElem?_eq_some_iff.mp hs).1]
    exact ⟨s, hs, hr⟩

theorem LogChain.ext {o : EpochOpts W} {p p' : Pop W} {log : List (Pop W × Org W)} (h : LogChain o p log p') :
    ∀ e ∈ log, RepsKept p e.1 := by
  induction log generalizing p with
  | nil => intro e he; cases he
  | cons e0 log' ih =>
    obtain ⟨q, org⟩ := e0
    obtain ⟨hq, p1, h1, hrest⟩ := h
    obtain rfl := hq.symm
    intro e he j s r hs hr
    rcases List.mem_cons.mp he with rfl | he'
    · exact ⟨s, hs, hr⟩
    · obtain ⟨s1, hs1, hr1⟩ := RepsKept.step h1 j s r hs hr
      exact ih hrest e he' j s1 r hs1 hr1

/-- the nearest rule at the moment of arrival (`q`), read against the species list `ap` the `speciate` call started from:
    `ap`'s species are at their positions in `q` with their first organisms (`hext`); `x` and `rep'` are the arrival and
    the representative as the new generation holds them (genome ids renumbered) -/
theorem oldOk_of_nearest (o : EpochOpts W) (ap q : Pop W) (b x rep rep' : Org W) (sq : Species W) (i i' : Nat)
    (hx : x.genome.genes = b.genome.genes) (hr' : rep'.genome.genes = rep.genome.genes)
    (hext : RepsKept ap q)
    (hn : Nearest o q.species b (some i)) (hsq : q.species[i]? = some sq) (hrep : sq.orgs.head? = some rep)
    (hi : ∀ j, j < ap.species.length → ¬ i' ≤ j → j < i) :
    PopSpec.oldOk o ap x rep' i' = true := by
  obtain ⟨s0, rep0, hs0, hrep0, _, hmin⟩ := hn
  rw [hsq] at hs0
  cases hs0
  rw [hrep] at hrep0
  cases hrep0
  unfold PopSpec.oldOk
  rw [List.all_eq_true]
  intro j hj
  have hjl := List.mem_range.mp hj
  cases hsj : ap.species[j]? with
  | none => rfl
  | some s =>
    simp only
    cases hr : s.orgs.head? with
    | none => rfl
    | some r =>
      simp only
      obtain ⟨sj, hsj', hrj⟩ := hext j s r hsj hr
      have e1 : ∀ g', compatibility o.compat x.genome g' = compatibility o.compat b.genome g' :=
        fun g' => compat_congr_left _ _ _ _ hx
      unfold PopSpec.within
      simp only [e1, compat_congr_right o.compat b.genome rep'.genome rep.genome hr']
      cases hlt : lt (compatibility o.compat b.genome r.genome) o.compatThreshold with
      | false => rfl
      | true =>
        obtain ⟨h1, h2⟩ := hmin j sj r hsj' hrj hlt
        rw [h1]
        simp only [Bool.not_true, Bool.false_or, Bool.not_false, Bool.true_and]
        by_cases hle : i' ≤ j
        · simp [hle]
        · simp [hle, h2 (hi j hjl hle)]

theorem founderOk_of_nearest (o : EpochOpts W) (ap q : Pop W) (b x : Org W)
    (hx : x.genome.genes = b.genome.genes)
    (hext : RepsKept ap q)
    (hn : Nearest o q.species b none) : PopSpec.founderOk o ap x = true := by
  unfold PopSpec.founderOk
  rw [List.all_eq_true]
  intro s hs
  obtain ⟨j, hj⟩ := List.getElem?_of_mem hs
  cases hr : s.orgs.head? with
  | none => rfl
  | some r =>
    simp only
    obtain ⟨sj, hsj', hrj⟩ := hext j s r hj hr
    have := hn sj (List.mem_of_getElem? hsj') r hrj
    unfold PopSpec.within
    rw [compat_congr_left _ _ _ _ hx, this]; rfl

theorem speciesPlacedOk_model (hw : StrictWeak W) (o : EpochOpts W) (gen : Int) (p p' p1 p2 : Pop W) (ex : ExecState)
    (rs rs1 rs' : List Nat) (babies : List (Org W)) (reg : Reg W) (uid : Nat) (log : List (Pop W × Org W))
    (hu : C02.UidInv p) (hnd : (p.species.map (·.id)).Nodup)
    (st : Stages o gen p rs p1 ex rs1 babies reg uid p2 log p' rs')
    (hfin : ∀ e ∈ log, finiteAt o e.1.species e.2 = true) :
    ∀ s' ∈ p'.species, PopSpec.speciesPlacedOk o p1 s' = true := by
  have hextAll : ∀ e ∈ log, RepsKept (W := W) { p1 with reg := reg, nextUid := uid } e.1 :=
    (speciateLoopLog_chain o { p1 with reg := reg, nextUid := uid } p2 babies log st.log).ext
  have hlast : p1.lastSpecies = p.lastSpecies := (C02.prepare_spec o p p1 ex rs rs1 hnd st.prep).1
  -- a joiner passes the check against the organism `r` that the representative it joined has become
  have hjoined : ∀ {sid i rep x} (r : Org W) (i' : Nat), JoinedE o babies log sid i rep x → r.genome.genes = rep.genome.genes →
      (∀ j, j < p1.species.length → ¬ i' ≤ j → j < i) → (PopSpec.within o x r && PopSpec.oldOk o p1 x r i') = true := by
    rintro sid i rep x r i' ⟨q, b, hq, _, e, htar, sq, hsq, _, hrep, hlt⟩ hr hi
    have hg := genes_of_renum x b e
    have hn := placeTarget_nearest hw o q b (hfin _ hq)
    rw [htar] at hn
    rw [Bool.and_eq_true]
    refine ⟨?_, oldOk_of_nearest o p1 q b x rep r sq i i' hg hr (hextAll (q, b) hq) hn hsq hrep hi⟩
    unfold PopSpec.within
    rw [compat_congr_left _ _ _ _ hg, compat_congr_right _ _ _ _ hr]
    exact hlt
  intro s' hs'
  unfold PopSpec.speciesPlacedOk
  rcases nextEpoch_species_placed o gen p p' p1 p2 ex rs rs1 rs' babies reg uid log hu hnd st s' hs' with
    ⟨i, s1, rep, h1, h2, h3, _, hall⟩ | ⟨hgt, i, f, x0, t', hlen, ho, hx0, ⟨q0, hq0, hfb, htar0, hid0⟩, hall⟩
  · apply Bool.or_eq_true_iff.mpr
    left
    rw [List.any_eq_true]
    refine ⟨i, List.mem_range.mpr (List.getElem?_eq_some_iff.mp h1).1, ?_⟩
    simp only [h1, h2, h3, beq_self_eq_true, Bool.true_and]
    rw [List.all_eq_true]
    exact fun x hx => hjoined rep i (hall x hx) rfl (fun j _ h => by omega)
  · apply Bool.or_eq_true_iff.mpr
    right
    rw [Bool.and_eq_true]
    refine ⟨by simp only [decide_eq_true_eq]; rw [hlast]; exact hgt, ?_⟩
    rw [ho]
    simp only
    rw [Bool.and_eq_true]
    have hgf := genes_of_renum x0 f hx0
    constructor
    · have hn := placeTarget_nearest hw o q0 f (hfin _ hq0)
      rw [htar0] at hn
      exact founderOk_of_nearest o p1 q0 f x0 hgf (hextAll (q0, f) hq0) hn
    · rw [List.all_eq_true]
      exact fun y hy => hjoined x0 _ (hall y hy) hgf (fun j hj _ => by omega)

/-- **C08 over the epoch: the model's epoch passes `PopSpec.placedWhy`** — the predicate the driver evaluates on the
    implementation's populations (after preparation / after the epoch).  Over a strict weak order with all distances met
    by the search below its sentinel. -/
theorem placedWhy_model (hw : StrictWeak W) (o : EpochOpts W) (gen : Int) (p p' p1 p2 : Pop W) (ex : ExecState)
    (rs rs1 rs' : List Nat) (babies : List (Org W)) (reg : Reg W) (uid : Nat) (log : List (Pop W × Org W))
    (hu : C02.UidInv p) (hnd : (p.species.map (·.id)).Nodup)
    (st : Stages o gen p rs p1 ex rs1 babies reg uid p2 log p' rs')
    (hfin : ∀ e ∈ log, finiteAt o e.1.species e.2 = true) : PopSpec.placedWhy o p1 p' = "" := by
  have hk := speciesPlacedOk_model hw o gen p p' p1 p2 ex rs rs1 rs' babies reg uid log hu hnd st hfin
  unfold PopSpec.placedWhy
  split
  · rename_i s' hfind
    exfalso
    have hs := List.mem_of_find?_eq_some hfind
    have hp := List.find?_some hfind
    rw [hk s' hs] at hp
    simp at hp
  · rfl

/-! ### non-vacuity: a concrete turnover over the toy integer scalar in which a baby joins the surviving species, another
    founds a new species, and a third joins that new species -/

/-- executable replay of the stages: (prepared population, new population, placement log) -/
def epochLog (o : EpochOpts W) (gen : Int) (p : Pop W) (rs : List Nat) : Option (Pop W × Pop W × List (Pop W × Org W)) :=
  match prepareForReproduction o p rs with
  | .error _ => none
  | .ok ((p1, ex), rs1) =>
    match reproduceAll o gen (sortedOf ex p1) p1.species p1.reg p1.nextUid [] rs1 with
    | .error _ => none
    | .ok ((babies, reg, uid), _) =>
      match speciateLoopLog o { p1 with reg := reg, nextUid := uid } babies with
      | .error _ => none
      | .ok (p2, log) => some (p1, finalizeReproduction p2, log)

theorem epochLog_of_stages (o : EpochOpts W) (gen : Int) (p p' p1 p2 : Pop W) (ex : ExecState) (rs rs1 rs' : List Nat)
    (babies : List (Org W)) (reg : Reg W) (uid : Nat) (log : List (Pop W × Org W))
    (st : Stages o gen p rs p1 ex rs1 babies reg uid p2 log p' rs') : epochLog o gen p rs = some (p1, p', log) := by
  unfold epochLog
  rw [st.prep]
  simp only
  rw [st.repro]
  simp only
  rw [st.log, st.fin]

/-- every distance the search met during the turnover was below its sentinel (the decidable hypothesis `hfin`) -/
def epochFinite (o : EpochOpts W) (gen : Int) (p : Pop W) (rs : List Nat) : Bool :=
  match epochLog o gen p rs with
  | some (_, _, log) => log.all (fun e => finiteAt o e.1.species e.2)
  | none => false

section NonVacuity
open GoNeat.ExactInt
attribute [local instance] intScalar

theorem strictWeak_int : StrictWeak Int := C10.int_order_laws.1

/-- PopSize 4, threshold 3, distance = difference of the mutation numbers of the single gene; offspring are unmodified
    copies of a randomly chosen parent (all mutation probabilities zero) -/
def xOpts : EpochOpts Int :=
  { popSize := 4, dropOffAge := 15, ageSignificance := 1, survivalThresh := 1, babiesStolen := 0, compatThreshold := 3,
    compat := ⟨1, 1, 1, false⟩, mutateOnlyProb := 100, mutateAddNodeProb := 0, mutateAddLinkProb := 0,
    mutateConnectSensors := 0, interspeciesMateRate := 0, mateMultipointProb := 0, mateMultipointAvgProb := 0,
    mateSinglepointProb := 0, mateOnlyProb := 0,
    mopts := { recurOnlyProb := 0, newLinkTries := 3, activators := [4], activatorProbs := [1], traitMutationPower := 0,
               traitParamMutProb := 0, weightMutPower := 0, mutateRandomTraitProb := 0, mutateLinkTraitProb := 0,
               mutateNodeTraitProb := 0, mutateLinkWeightsProb := 0, mutateToggleEnableProb := 0,
               mutateGeneReenableProb := 0 } }

def xG (id : Int) (m : Int) : Genome Int :=
  { id := id, traits := [⟨1, [0]⟩], nodes := [⟨1, Kind.input, 4, some 1⟩, ⟨2, Kind.output, 4, some 1⟩],
    genes := [⟨1, 1, 2, false, m, m, true, some 1⟩] }

def xOrg (uid : Nat) (fit m : Int) : Org Int :=
  { uid := uid, fitness := fit, genome := xG uid m, expectedOffspring := 0, generation := 1, originalFitness := 0,
    highestFitness := 0 }

/-- one species (id 1) of four organisms with mutation numbers 0, 10, 1, 11; its representative is organism 0 -/
def xPop : Pop Int :=
  { species := [{ id := 1, age := 3, maxFitnessEver := 0, expectedOffspring := 0, isNovel := false, ageOfLastImprovement := 0,
                  orgs := [xOrg 0 8 0, xOrg 1 8 10, xOrg 2 8 1, xOrg 3 8 11] }],
    organisms := [0, 1, 2, 3], lastSpecies := 1, highestFitness := 0, epochsHighestLastChanged := 0,
    reg := { records := [], nextInn := 1, nextNode := 2 }, nextUid := 4 }

/-- the parents drawn are organisms 1, 0, 3, 2 in this order -/
def stX : List Nat := (List.range 200).map (fun i => (i % 4) <<< 32)

/-- a population, species by species: (species id, [(allocation id, genome id, mutation numbers)]); `[]` on error -/
def xView (r : R (Pop Int)) : List (Int × List (Nat × Int × List Int)) :=
  match r with
  | .ok (q, _) => q.species.map (fun (s : Species Int) =>
      (s.id, s.orgs.map (fun (x : Org Int) => (x.uid, x.genome.id, x.genome.genes.map (fun (g : Gene Int) => g.mnum)))))
  | .error _ => []

/-- the placement log: (ids of the species at the moment of arrival, allocation id of the baby, decision) -/
def xLogView (o : EpochOpts Int) (l : Option (Pop Int × Pop Int × List (Pop Int × Org Int))) : List (List Int × Nat × Option Nat) :=
  match l with
  | some (_, _, log) => log.map (fun e => (e.1.species.map (fun (s : Species Int) => s.id), e.2.uid, placeTarget o e.1 e.2))
  | none => []

/-- one statement, because all of its parts evaluate the same turnover and the kernel shares it only inside one declaration -/
theorem exX_run :
    epochFinite xOpts 1 xPop stX = true ∧
    (xView (nextEpoch xOpts 1 xPop stX) = [(1, [(5, 0, [0]), (7, 1, [1])]), (2, [(4, 2, [10]), (6, 3, [11])])] ∧
      xLogView xOpts (epochLog xOpts 1 xPop stX) =
        [([1], 4, none), ([1, 2], 5, some 0), ([1, 2], 6, some 1), ([1, 2], 7, some 0)]) ∧
    (epochLog xOpts 1 xPop stX).map (fun r => PopSpec.placedWhy xOpts r.1 r.2.1) = some "" ∧
    ((epochLog xOpts 1 xPop stX).map (fun r => PopSpec.placedWhy xOpts r.1
        { r.2.1 with species := r.2.1.species.map (fun s =>
            if s.id = 1 then { s with orgs := s.orgs ++ [xOrg 6 0 11] } else { s with orgs := s.orgs.take 1 }) }) ≠ some "" ∧
      (epochLog xOpts 1 xPop stX).map (fun r => PopSpec.placedWhy xOpts r.1
        { r.2.1 with species := r.2.1.species.map (fun s =>
            if s.id = 2 then { s with orgs := [xOrg 4 0 2] } else s) }) ≠ some "") := by decide +kernel

theorem exX_hyps : C02.UidInv xPop ∧ (xPop.species.map (·.id)).Nodup ∧ epochFinite xOpts 1 xPop stX = true :=
  ⟨⟨by decide, by decide⟩, by decide, exX_run.1⟩

/-- baby 4 (mutation number 10, distance 10 from the representative) FOUNDS species 2 with the fresh id
    `lastSpecies + 1`; baby 5 (0) JOINS the surviving species 1, whose representative at that moment is the old-generation
    organism 0; baby 6 (11) joins species 2, whose representative is the founder baby 4 (distance 1; distance 11 from the old
    representative); baby 7 (1) joins species 1 (distance 1; distance 9 from baby 4).  The old generation is gone. -/
theorem exX_views :
    xView (nextEpoch xOpts 1 xPop stX) = [(1, [(5, 0, [0]), (7, 1, [1])]), (2, [(4, 2, [10]), (6, 3, [11])])] ∧
    xLogView xOpts (epochLog xOpts 1 xPop stX) =
      [([1], 4, none), ([1, 2], 5, some 0), ([1, 2], 6, some 1), ([1, 2], 7, some 0)] :=
  exX_run.2.1

/-- evaluated by the kernel, independently of `placedWhy_model` -/
example : (epochLog xOpts 1 xPop stX).map (fun r => PopSpec.placedWhy xOpts r.1 r.2.1) = some "" := exX_run.2.2.1

/-- the predicate rejects the turnover once baby 6 (mutation number 11) is moved into species 1, whose representative is at distance 11, or
    once the founder of species 2 is exchanged for an organism within the threshold of the old representative: it bites -/
example : (epochLog xOpts 1 xPop stX).map (fun r => PopSpec.placedWhy xOpts r.1
      { r.2.1 with species := r.2.1.species.map (fun s =>
          if s.id = 1 then { s with orgs := s.orgs ++ [xOrg 6 0 11] } else { s with orgs := s.orgs.take 1 }) }) ≠ some "" ∧
    (epochLog xOpts 1 xPop stX).map (fun r => PopSpec.placedWhy xOpts r.1
      { r.2.1 with species := r.2.1.species.map (fun s =>
          if s.id = 2 then { s with orgs := [xOrg 4 0 2] } else s) }) ≠ some "" := exX_run.2.2.2

theorem xView_ok {r : R (Pop Int)} (h : xView r ≠ []) : ∃ p' rs', r = .ok (p', rs') := by
  match r, h with
  | .ok (q, rs1), _ => exact ⟨q, rs1, rfl⟩
  | .error _, h => exact absurd rfl h

example : ∃ p' rs' p1 ex rs1 babies reg uid p2 log,
    Stages xOpts 1 xPop stX p1 ex rs1 babies reg uid p2 log p' rs' ∧
    babies.map (·.uid) = [4, 5, 6, 7] ∧ log.map (·.2) = babies ∧
    (∀ s' ∈ p'.species,
      (∃ i s1 rep, p1.species[i]? = some s1 ∧ s1.id = s'.id ∧ s1.orgs.head? = some rep ∧ rep.uid ∈ p1.organisms ∧
        ∀ x ∈ s'.orgs, JoinedE xOpts babies log s'.id i rep x) ∨
      (xPop.lastSpecies < s'.id ∧ ∃ i f x0 t', p1.species.length ≤ i ∧ s'.orgs = x0 :: t' ∧
        x0 = { f with genome := { f.genome with id := x0.genome.id } } ∧ FounderE xOpts babies log s'.id f ∧
        ∀ x ∈ t', JoinedE xOpts babies log s'.id i f x)) ∧
    (∀ e ∈ log, Nearest xOpts e.1.species e.2 (placeTarget xOpts e.1 e.2)) ∧
    PopSpec.placedWhy xOpts p1 p' = "" := by
  obtain ⟨hu, hnd, hfinB⟩ := exX_hyps
  obtain ⟨p', rs', he⟩ := xView_ok (r := nextEpoch xOpts 1 xPop stX) (by rw [exX_views.1]; simp)
  obtain ⟨p1, ex, rs1, babies, reg, uid, p2, log, blocks, st, _, _, huids, hlogb⟩ := nextEpoch_speciates_babies xOpts 1 xPop p' stX rs' he
  have hlog := epochLog_of_stages xOpts 1 xPop p' p1 p2 ex stX rs1 rs' babies reg uid log st
  have hfin : ∀ e ∈ log, finiteAt xOpts e.1.species e.2 = true := by
    unfold epochFinite at hfinB
    rw [hlog] at hfinB
    exact List.all_eq_true.mp hfinB
  have hnu : p1.nextUid = 4 := (C02.prepare_spec xOpts xPop p1 ex stX rs1 hnd st.prep).2.1
  refine ⟨p', rs', p1, ex, rs1, babies, reg, uid, p2, log, st, by rw [huids, hnu]; rfl, hlogb,
    nextEpoch_species_placed xOpts 1 xPop p' p1 p2 ex stX rs1 rs' babies reg uid log hu hnd st,
    log_nearest strictWeak_int xOpts log hfin,
    placedWhy_model strictWeak_int xOpts 1 xPop p' p1 p2 ex stX rs1 rs' babies reg uid log hu hnd st hfin⟩

/-- `spawn`: four copies of one genome (weight-mutation power 1, all draws 0) speciate into one species founded by the first -/
example : ∃ p rs' orgs p0 log, spawn xOpts (xG 0 0) stX = .ok (p, rs') ∧ speciateLoopLog xOpts p0 orgs = .ok (p, log) ∧
    p.species.length = 1 ∧
    ∀ j s', p.species[j]? = some s' →
      ∃ f t, s'.orgs = f :: t ∧ FoundedAt xOpts log 0 s' f ∧ ∀ y ∈ t, JoinedAt xOpts log j s' y := by
  have hv : (xView (spawn xOpts (xG 0 0) stX)).map (fun r => (r.1, r.2.length)) = [(1, 4)] := by decide +kernel
  obtain ⟨p, rs', he⟩ := xView_ok (r := spawn xOpts (xG 0 0) stX) (by intro h0; rw [h0] at hv; cases hv)
  obtain ⟨orgs, p0, log, _, _, _, _, hlog, _, hall⟩ := spawn_placed xOpts (xG 0 0) p stX rs' he
  refine ⟨p, rs', orgs, p0, log, he, hlog, ?_, hall⟩
  rw [he] at hv
  simp only [xView, List.map_map] at hv
  have := congrArg List.length hv
  simpa using this

end NonVacuity

end GoNeat.C08
