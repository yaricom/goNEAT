/-
  Property C09 / C02, Kind B: the quota facts `QuotaOk` that the epoch theorems take as a hypothesis are THEOREMS in
  exact ordered-field arithmetic (`exactScalar`), and their hypotheses do not depend on the order in which a species
  lists its organisms.

  `NoErr.QuotaOk o p` says: the raw quotas (floor + carried fraction, `rawAssign`) computed from the adjusted
  population are non-negative and total at most `PopSize`.  For an arbitrary scalar this is a fact about the rounded
  computation ON `p` (Props/C02Perm.lean, header table: not transferable across a re-ordering, because
  `adjustFitness` re-sorts with a non-stable sort and the mean is summed in list order).  In exact arithmetic:

  * every adjusted fitness is `≥ 0` (`adjustedFitness_nonneg`), so with a positive mean `m` every expected offspring
    `f / m` is `≥ 0`, every raw quota is `≥ 0` (`assignQuotas_nonneg`);
  * the expected offspring of all organisms sum to `(Σ f) / m = (Σ f) / ((Σ f) / n) = n` - sums do not depend on the
    order (`List.Perm.sum_eq`) - so the raw quotas total EXACTLY `n` (`quotas_total_exact`): `rawAssign_exact`.

  The hypotheses (`QuotaHyp`): `Population.Organisms` lists exactly the members of the species, each once; it has
  `PopSize` entries; some organism has a positive documented adjusted fitness (otherwise the code's guard `m == 0`
  fires and the expected offspring are whatever they were before).  All of them are insensitive to a within-species
  permutation (`quotaHyp_perm`), hence `quotaOk_exact_perm`: they hold for `p`, `SpeciesPerm p q` ⊢ `QuotaOk o q`;
  for `q = (FillPopulationStatistics p).2` see Props/C20FillExact.lean `quotaOk_exact_fill`.
-/
import GoNeat.Props.C09Exact
import GoNeat.Props.C09Expected
import GoNeat.Props.C02Perm
import GoNeat.Props.C02NoErrorExact

set_option linter.unusedSectionVars false

namespace GoNeat.C09
open GoNeat GoNeat.NoErr

section Hyps
variable {W : Type} [Scalar W]

/-- some organism of the population has a positive documented adjusted fitness (`C09.adjustedFitness`) -/
def SomePositive (o : EpochOpts W) (p : Pop W) : Prop :=
  ∃ s ∈ p.species, ∃ x ∈ s.orgs, Scalar.lt Scalar.zero (adjustedFitness o s x.fitness) = true

/-- what the exact-arithmetic quota theorem needs of the population that enters the epoch -/
structure QuotaHyp (o : EpochOpts W) (p : Pop W) : Prop where
  perm : p.organisms.Perm (C02.orgUids p.species)
  nodup : (C02.orgUids p.species).Nodup
  size : p.organisms.length = o.popSize
  pos : SomePositive o p

instance (o : EpochOpts W) (p : Pop W) : Decidable (SomePositive o p) := by unfold SomePositive; infer_instance

instance (o : EpochOpts W) (p : Pop W) : Decidable (QuotaHyp o p) :=
  if h : p.organisms.Perm (C02.orgUids p.species) ∧ (C02.orgUids p.species).Nodup ∧ p.organisms.length = o.popSize ∧
      SomePositive o p then isTrue ⟨h.1, h.2.1, h.2.2.1, h.2.2.2⟩
  else isFalse (fun w => h ⟨w.perm, w.nodup, w.size, w.pos⟩)

/-- the documented adjustment reads only the species' age, the age of its last improvement and its SIZE -/
theorem adjustedFitness_perm (o : EpochOpts W) (s s' : Species W) (he : s' = { s with orgs := s'.orgs })
    (hp : s'.orgs.Perm s.orgs) (f : W) : adjustedFitness o s' f = adjustedFitness o s f := by
  unfold adjustedFitness
  rw [hp.length_eq, he]

theorem adjustedValues_perm (o : EpochOpts W) {p q : Pop W} (h : C02.SpeciesPerm p q) :
    (adjustedValues o q).Perm (adjustedValues o p) := by
  unfold adjustedValues
  refine C02.forall₂_flatMap_perm ?_ h.2
  intro s s' r
  obtain ⟨he, hp⟩ := r
  have : (fun x : Org W => adjustedFitness o s' x.fitness) = fun x => adjustedFitness o s x.fitness := by
    funext x; exact adjustedFitness_perm o s s' he hp _
  rw [this]
  exact hp.map _

theorem quotaHyp_perm (o : EpochOpts W) {p q : Pop W} (h : C02.SpeciesPerm p q) (hp : QuotaHyp o p) : QuotaHyp o q := by
  have hu := h.sameShape.uids
  have ho := h.fields.1
  refine ⟨by rw [ho]; exact hp.perm.trans hu.symm, hu.nodup_iff.mpr hp.nodup, by rw [ho]; exact hp.size, ?_⟩
  obtain ⟨s, hs, x, hx, hpos⟩ := hp.pos
  obtain ⟨s', hs', he, hperm⟩ := C02.forall₂_mem_left h.2 s hs
  exact ⟨s', hs', x, hperm.mem_iff.mpr hx, by rw [adjustedFitness_perm o s s' he hperm]; exact hpos⟩

end Hyps

section KindB
variable {K : Type} [Field K] [LinearOrder K] [IsStrictOrderedRing K] [FloorRing K]

theorem sum_map_div {α : Type} (f : α → K) (m : K) (l : List α) :
    (l.map (fun x => f x / m)).sum = (l.map f).sum / m := by
  induction l with
  | nil => simp
  | cons a l ih => simp only [List.map_cons, List.sum_cons, ih, add_div]

theorem countOffspringList_nonneg (es : List K) (hnn : ∀ e ∈ es, 0 ≤ e) (skim : K) (h0 : 0 ≤ skim) (h1 : skim < 1) :
    0 ≤ (countOffspringList es skim 0).1 := by
  rw [countOffspringList_eq es hnn skim h0 h1, Int.zero_add]
  exact Int.floor_nonneg.mpr (add_nonneg h0 (list_sum_ge es hnn).1)

theorem assignQuotas_nonneg (ss : List (Species K)) (hnn : ∀ s ∈ ss, ∀ o ∈ s.orgs, 0 ≤ o.expectedOffspring)
    (skim : K) (h0 : 0 ≤ skim) (h1 : skim < 1) (tot : Int) :
    ∀ s ∈ (assignQuotas ss skim tot).1, 0 ≤ s.expectedOffspring := by
  induction ss generalizing skim tot with
  | nil => exact fun s hs => absurd hs List.not_mem_nil
  | cons a ss ih =>
    have ha := hnn a List.mem_cons_self
    intro s hs
    rw [assignQuotas] at hs
    rcases List.mem_cons.mp hs with rfl | hs
    · exact countOffspringList_nonneg _ (List.forall_mem_map.mpr ha) skim h0 h1
    · rw [countOffspring_eq a ha skim h0 h1] at hs
      exact ih (fun t ht => hnn t (List.mem_cons_of_mem _ ht)) _ (Int.fract_nonneg _) (Int.fract_lt_one _) _ s hs

theorem expectedTotal_setExp (m : K) (hm : m ≠ 0) (ss : List (Species K)) :
    expectedTotal (ss.map (fun s => { s with orgs := s.orgs.map (setExp m) })) =
      ((ss.flatMap (·.orgs)).map (·.fitness)).sum / m := by
  have hs : ∀ s : Species K, ((s.orgs.map (setExp m)).map (·.expectedOffspring)) = s.orgs.map (fun x => x.fitness / m) := by
    intro s
    rw [List.map_map]; apply List.map_congr_left; intro x _
    simp [setExp, hm]
  induction ss with
  | nil => simp [expectedTotal]
  | cons s ss ih =>
    unfold expectedTotal at ih ⊢
    simp only [List.map_cons, List.sum_cons, List.flatMap_cons, List.map_append, List.sum_append, hs, sum_map_div, add_div]
    rw [← ih]

theorem rawAssign_unfold (p1 : Pop K) :
    rawAssign p1 =
      ((assignQuotas (p1.species.map (fun s => { s with orgs := s.orgs.map (setExp (popMean p1)) })) 0 0).1,
       (assignQuotas (p1.species.map (fun s => { s with orgs := s.orgs.map (setExp (popMean p1)) })) 0 0).2.2) := rfl

/-- **C09 (raw quotas of a population, Kind B).**  In exact arithmetic, for an (adjusted) population `p1` whose
    organism list lists exactly the members of its species, whose members have non-negative fitness and whose mean
    fitness is positive: every raw quota is non-negative and the raw quotas total EXACTLY the number of organisms -
    the make-up offspring "for lost floating point precision" is never needed. -/
theorem rawAssign_exact (p1 : Pop K) (hperm : p1.organisms.Perm (C02.orgUids p1.species))
    (hundup : (C02.orgUids p1.species).Nodup) (hnn : ∀ s ∈ p1.species, ∀ x ∈ s.orgs, 0 ≤ x.fitness)
    (hm : 0 < popMean p1) :
    (∀ s ∈ (rawAssign p1).1, 0 ≤ s.expectedOffspring) ∧ (rawAssign p1).2 = (p1.organisms.length : Int) := by
  have hm0 : popMean p1 ≠ 0 := ne_of_gt hm
  set ss2 := p1.species.map (fun s => { s with orgs := s.orgs.map (setExp (popMean p1)) }) with hss2
  have hnn2 : ∀ s ∈ ss2, ∀ x ∈ s.orgs, 0 ≤ x.expectedOffspring := by
    intro s hs x hx
    obtain ⟨s0, hs0, rfl⟩ := List.mem_map.mp hs
    obtain ⟨x0, hx0, rfl⟩ := List.mem_map.mp hx
    have : (setExp (popMean p1) x0).expectedOffspring = x0.fitness / popMean p1 := by simp [setExp, hm0]
    rw [this]
    exact div_nonneg (hnn s0 hs0 x0 hx0) hm.le
  have hol := orgList_perm p1 hperm hundup
  have hmean := popMean_exact p1
  rw [(hol.map _).sum_eq] at hmean
  have hsum : expectedTotal ss2 = ((p1.organisms.length : Int) : K) := by
    -- `(Σ f) / m` with `m = (Σ f) / n ≠ 0`
    rw [hss2, expectedTotal_setExp _ hm0, hmean, Int.cast_natCast]
    exact div_div_cancel₀ fun h0 => hm0 (by rw [hmean, h0, zero_div])
  rw [rawAssign_total, rawAssign_unfold]
  exact ⟨assignQuotas_nonneg ss2 hnn2 0 (le_refl 0) zero_lt_one 0, quotas_total_exact ss2 hnn2 _ hsum⟩

theorem popMeanAdjusted_pos_of (o : EpochOpts K) (p : Pop K) (species1 : List (Species K)) (h : QuotaHyp o p)
    (hadj : adjustAll o p.species = .ok species1) : 0 < popMeanAdjusted o p := by
  obtain ⟨s, hs, x, hx, hpos⟩ := h.pos
  have hmem : adjustedFitness o s x.fitness ∈ adjustedValues o p :=
    List.mem_flatMap.mpr ⟨s, hs, List.mem_map.mpr ⟨x, hx, rfl⟩⟩
  obtain ⟨xa, hxa, e⟩ := List.mem_map.mp ((adjustAll_fitness_perm o _ _ hadj).mem_iff.mpr hmem)
  obtain ⟨sa, hsa, hxs⟩ := List.mem_flatMap.mp hxa
  exact popMeanAdjusted_pos o p species1 (fun u hu => h.perm.mem_iff.mpr hu) h.nodup hadj sa hsa xa hxs
    (e ▸ of_decide_eq_true hpos)

/-- **`QuotaOk` is a theorem in exact arithmetic** (strong form: the raw total is exactly the population size).
    For a population whose organism list lists exactly the members of its species, with `PopSize` entries, in which
    some organism has a positive adjusted fitness: the raw quotas computed from the adjusted population are
    non-negative and total exactly `PopSize`. -/
theorem rawQuotas_exact (o : EpochOpts K) (p : Pop K) (h : QuotaHyp o p) :
    ∀ species1, adjustAll o p.species = .ok species1 →
      (∀ s ∈ (rawAssign ({ p with species := species1 } : Pop K)).1, 0 ≤ s.expectedOffspring) ∧
      (rawAssign ({ p with species := species1 } : Pop K)).2 = (o.popSize : Int) := by
  intro species1 hadj
  have hu1 := C02.adjustAll_uids o _ _ hadj
  have hm := popMeanAdjusted_pos_of o p species1 h hadj
  rw [popMeanAdjusted_ok o p species1 hadj] at hm
  have := rawAssign_exact ({ p with species := species1 } : Pop K) (h.perm.trans hu1.symm) (hu1.nodup_iff.mpr h.nodup)
    (adjustAll_fitness_nonneg o _ _ hadj) hm
  refine ⟨this.1, ?_⟩
  rw [this.2]
  show ((p.organisms.length : Nat) : Int) = _
  rw [h.size]

/-- **C09 / C02 (Kind B): `QuotaOk` holds in exact arithmetic** under order-insensitive hypotheses -/
theorem quotaOk_exact (o : EpochOpts K) (p : Pop K) (h : QuotaHyp o p) : QuotaOk o p := by
  intro species1 hadj
  obtain ⟨a, b⟩ := rawQuotas_exact o p h species1 hadj
  exact ⟨a, by omega⟩

/-- **… and so it holds for every within-species re-ordering `q` of `p`**: the hypotheses on `p`, the quota
    computation (adjust, re-sort, sum, divide, floor and carry) on `q` -/
theorem quotaOk_exact_perm (o : EpochOpts K) (p q : Pop K) (h : QuotaHyp o p) (hpq : C02.SpeciesPerm p q) : QuotaOk o q :=
  quotaOk_exact o q (quotaHyp_perm o hpq h)

theorem rawQuotas_exact_perm (o : EpochOpts K) (p q : Pop K) (h : QuotaHyp o p) (hpq : C02.SpeciesPerm p q) :
    ∀ species1, adjustAll o q.species = .ok species1 →
      (∀ s ∈ (rawAssign ({ q with species := species1 } : Pop K)).1, 0 ≤ s.expectedOffspring) ∧
      (rawAssign ({ q with species := species1 } : Pop K)).2 = (o.popSize : Int) :=
  rawQuotas_exact o q (quotaHyp_perm o hpq h)

/-- **the mean does not depend on the order inside the species** (exact arithmetic; both adjustments succeed, i.e.
    no species is empty) -/
theorem popMeanAdjusted_perm (o : EpochOpts K) (p q : Pop K) (sp sq : List (Species K))
    (hperm : p.organisms.Perm (C02.orgUids p.species)) (hundup : (C02.orgUids p.species).Nodup)
    (hpq : C02.SpeciesPerm p q) (hp : adjustAll o p.species = .ok sp) (hq : adjustAll o q.species = .ok sq) :
    popMeanAdjusted o q = popMeanAdjusted o p := by
  have hu := hpq.sameShape.uids
  have ho := hpq.fields.1
  rw [popMeanAdjusted_is_mean o p sp hperm hundup hp,
    popMeanAdjusted_is_mean o q sq (by rw [ho]; exact hperm.trans hu.symm) (hu.nodup_iff.mpr hundup) hq,
    (adjustedValues_perm o hpq).sum_eq, (adjustedValues_perm o hpq).length_eq]

/-- **C02 "without error" in exact arithmetic, no quota hypothesis, after a within-species re-ordering**: the
    population hypotheses `PopOk` and "some organism has positive adjusted fitness" on `p`; `NextEpoch` runs on any
    within-species re-ordering `q` of `p` (in particular `(FillPopulationStatistics p).2`) and returns no
    implementation error.  No float fact is left as a hypothesis. -/
theorem nextEpoch_no_error_exact_perm (S : List Nat) (o : EpochOpts K) (p q : Pop K) (ho : OptsOk o) (hp : PopOk S o p)
    (hpos : SomePositive o p) (hpq : C02.SpeciesPerm p q) (gen : Int) :
    ∀ rs, Valid rs → ∀ msg, nextEpoch o gen q rs ≠ .error (.error msg) :=
  C02.nextEpoch_no_error_perm C02.floatFacts_exact S o p q ho hp hpq.evalOkPerm
    (quotaOk_exact_perm o p q ⟨hp.perm.symm, hp.perm.nodup_iff.mpr hp.nodup, hp.size, hpos⟩ hpq) gen

/-- **C09 first clause, Kind B, for a re-ordered input** (`expectedWhy_model` with the hypotheses on `p` and the
    preparation phase run on `q`): the population the model's preparation phase returns satisfies the executable
    predicate `PopSpec.expectedWhy` the driver evaluates on the implementation's numbers. -/
theorem expectedWhy_model_perm (o : EpochOpts K) (p q p1 : Pop K) (ex : ExecState) (rs rs' : List Nat)
    (hnd : (p.species.map (·.id)).Nodup) (hu : C02.UidInv p) (hundup : (C02.orgUids p.species).Nodup)
    (hpq : C02.SpeciesPerm p q) (h : prepareForReproduction o q rs = .ok ((p1, ex), rs')) :
    PopSpec.expectedWhy p1 = "" :=
  expectedWhy_model o q p1 ex rs rs' (by rw [hpq.sameShape.ids]; exact hnd) (hpq.sameShape.uidInv hu)
    (hpq.sameShape.uids.nodup_iff.mpr hundup) h

end KindB

section NonVacuity

/-- `qPop` with the two members of species 1 listed in the other order -/
def qPopSwap (f0 f1 f2 : ℚ) : Pop ℚ :=
  { qPop f0 f1 f2 with
    species := [{ id := 1, age := 3, maxFitnessEver := 0, expectedOffspring := 0, isNovel := false, orgs := [qOrg 2 f2, qOrg 0 f0],
                  ageOfLastImprovement := 0 },
                { id := 4, age := 1, maxFitnessEver := 0, expectedOffspring := 0, isNovel := true, orgs := [qOrg 1 f1],
                  ageOfLastImprovement := 0 }] }

theorem qPop_speciesPerm (f0 f1 f2 : ℚ) : C02.SpeciesPerm (qPop f0 f1 f2) (qPopSwap f0 f1 f2) :=
  ⟨rfl, .cons ⟨rfl, List.Perm.swap _ _ _⟩ (.cons ⟨rfl, List.Perm.refl _⟩ .nil)⟩

/-- the hypotheses of `quotaOk_exact_perm` hold for `qPop 1 3 5` (raw fitness 1, 5 | 3; three organisms) -/
theorem qPop_quotaHyp : QuotaHyp qOpts (qPop 1 3 5) := by rw [ratScalar_eq]; decide +kernel

/-- … so the theorem applies to the re-ordered population; evaluated independently: both orders adjust without error
    and give raw total 3 = PopSize -/
example : QuotaOk qOpts (qPopSwap 1 3 5) := quotaOk_exact_perm qOpts _ _ qPop_quotaHyp (qPop_speciesPerm 1 3 5)

example :
    ((adjustAll qOpts (qPop 1 3 5).species).toOption.map
      (fun sp => (rawAssign ({ qPop 1 3 5 with species := sp } : Pop ℚ)).2)) = some 3 ∧
    ((adjustAll qOpts (qPopSwap 1 3 5).species).toOption.map
      (fun sp => (rawAssign ({ qPopSwap 1 3 5 with species := sp } : Pop ℚ)).2)) = some 3 := by
  rw [ratScalar_eq]; decide +kernel

/-- **the positivity hypothesis cannot be dropped**: with all fitness values zero the mean is zero, the code's guard
    leaves the stale expected offspring (7 each) in place and the raw quotas total 21 > 3 - `QuotaOk` is false -/
theorem quotaOk_needs_positive : ¬ QuotaOk qOpts (qPop 0 0 0) ∧ ¬ SomePositive qOpts (qPop 0 0 0) := by
  rw [ratScalar_eq]; decide +kernel

end NonVacuity

end GoNeat.C09
