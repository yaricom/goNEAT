/-
  Property C10 (supporting): `Species.ComputeMaxAndAvgFitness` and the species order `ByOrganismFitness`
  (Model/Champion.lean).  Kind A over any strict weak order:
    `maxAvgLoop_max_spec`        the running maximum: never below its start value, no member exceeds it, and it is the start
                                 value or a member's fitness;
    `computeMax_spec`            hence `max` is 0 or a member's fitness that no member exceeds, and never negative-side
                                 of 0 (OBSERVATION: a species whose members are all negative reports max = 0);
    `speciesFitnessLess_laws`    `ByOrganismFitness.Less` is a strict weak order, so
    `sortSpeciesByFitness_spec`  `sort.Sort(ByOrganismFitness(..))` returns a permutation with non-decreasing maxima and
    `sortSpeciesByFitnessDesc_spec`  the reversed sort one with non-increasing maxima - for every input.
-/
import GoNeat.Model.Champion
import GoNeat.Props.C10Sort
import GoNeat.Proofs.RunningBest

namespace GoNeat.C10
open GoNeat Scalar Champion
variable {W : Type} [Scalar W]

/-- the maximum computed by the loop of `ComputeMaxAndAvgFitness` is the scan of Proofs/RunningBest.lean on the fitness values -/
theorem maxAvgLoop_snd_eq_keepBest (l : List (Org W)) (total mx : W) :
    (maxAvgLoop l total mx).2 = keepBest (fun a b : W => lt a b = true) Org.fitness mx l := by
  induction l generalizing total mx with
  | nil => rfl
  | cons o os ih =>
    rw [maxAvgLoop, keepBest_cons, ih]
    rfl

theorem maxAvgLoop_max_spec (hw : C08.StrictWeak W) (l : List (Org W)) (total mx : W) :
    lt (maxAvgLoop l total mx).2 mx = false ∧ (∀ x ∈ l, lt (maxAvgLoop l total mx).2 x.fitness = false) ∧
    ((maxAvgLoop l total mx).2 = mx ∨ ∃ x ∈ l, (maxAvgLoop l total mx).2 = x.fitness) := by
  rw [maxAvgLoop_snd_eq_keepBest]
  obtain ⟨h1, h2, h3⟩ := keepBest_spec (R := fun a b : W => lt a b = true) (inj := Org.fitness)
    (fun a => Bool.eq_false_iff.mp (hw.irrefl a)) hw.trans mx l
  exact ⟨Bool.eq_false_iff.mpr (h2 mx (Bool.eq_false_iff.mp (hw.irrefl mx))), fun x hx => Bool.eq_false_iff.mpr (h3 x hx), h1⟩

theorem computeMax_spec (hw : C08.StrictWeak W) (s : Species W) :
    lt (computeMaxAndAvgFitness s).1 (zero : W) = false ∧
    (∀ x ∈ s.orgs, lt (computeMaxAndAvgFitness s).1 x.fitness = false) ∧
    ((computeMaxAndAvgFitness s).1 = zero ∨ ∃ x ∈ s.orgs, (computeMaxAndAvgFitness s).1 = x.fitness) := by
  have h := maxAvgLoop_max_spec hw s.orgs (zero : W) zero
  have e : (computeMaxAndAvgFitness s).1 = (maxAvgLoop s.orgs (zero : W) zero).2 := by
    unfold computeMaxAndAvgFitness
    rfl
  rw [e]; exact h

theorem speciesFitnessLess_laws (hw : C08.StrictWeak W) : LessLaws (speciesFitnessLess (W := W)) :=
  (lt_laws hw).comap fun s => (computeMaxAndAvgFitness s).1

theorem sortSpeciesByFitness_spec (hw : C08.StrictWeak W) (l : List (Species W)) :
    (sortSpeciesByFitness l).Perm l ∧
    (sortSpeciesByFitness l).Pairwise (fun a b => lt (computeMaxAndAvgFitness b).1 (computeMaxAndAvgFitness a).1 = false) :=
  ⟨goSort_perm _ l, goSort_sorted _ (speciesFitnessLess_laws hw) l⟩

theorem sortSpeciesByFitnessDesc_spec (hw : C08.StrictWeak W) (l : List (Species W)) :
    (sortSpeciesByFitnessDesc l).Perm l ∧
    (sortSpeciesByFitnessDesc l).Pairwise (fun a b => lt (computeMaxAndAvgFitness a).1 (computeMaxAndAvgFitness b).1 = false) :=
  ⟨goSort_perm _ l, goSort_sorted _ (speciesFitnessLess_laws hw).flip l⟩

end GoNeat.C10
