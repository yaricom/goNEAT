/-
  Property C10, END TO END over the whole epoch `nextEpoch` = prepare ; reproduce ; speciate ; finalise.

  Kind A (every scalar type, stream, registry, option setting):
    `nextEpoch_keeps_champion`  for every species of the prepared population with quota > 5, the population `nextEpoch`
                                returns holds (in a species and in its organism list) an organism whose genome equals the
                                genome of that species' first organism in everything but the id;
    `championWhy_model`         the executable predicate `PopSpec.championWhy` accepts the model's epoch;
    `runEpochs_keeps_champions` the same in every generation of a run with arbitrary evaluations in between.
  The bound "super-champion reservation ≤ quota" that `Species.reproduce` needs is DERIVED from the preparation phase
  (Proofs/ChampionChain.lean, `prepare_sc_le`), not assumed.

  Kind B (exact ordered-field arithmetic):
    `prepared_head_is_fittest`  the first organism of a prepared species is an organism of the ORIGINAL species whose raw
                                fitness no member exceeds (non-negative fitness, positive age significance, non-negative
                                survival threshold);
    `nextEpoch_keeps_fittest`   hence the preserved genome is that of a fittest organism of the original species;
    `fittestWhy_model`          the executable predicate `PopSpec.fittestWhy` accepts the model's epoch.
-/
import GoNeat.Proofs.ChampionChain
import GoNeat.Proofs.MutationCheck
import GoNeat.Props.C10Exact
import GoNeat.Props.C09ParentsExact
import GoNeat.Props.C01
import GoNeat.Spec.PopInv
import GoNeat.Props.C09Expected

namespace GoNeat.C10
open GoNeat Scalar
variable {W : Type} [Scalar W]

/-- no organism enters the epoch with champion clones reserved (every newborn: `reproduce_finalize_allZ`) -/
def ScZero (p : Pop W) : Prop := ∀ s ∈ p.species, ∀ x ∈ s.orgs, x.superChampOffspring = 0
instance (p : Pop W) : Decidable (ScZero p) := by unfold ScZero; infer_instance

instance (g : Genome W) : Decidable (C06.RefsOk g) :=
  if h : TraitRefsOwned g ∧ EndpointsOwned g ∧ (∀ m ∈ g.modules, TraitRefOk g m.ctrl.trait) ∧
      (∀ m ∈ g.modules, (∀ w ∈ m.ins, w.node ∈ nodeIds g) ∧ (∀ w ∈ m.outs, w.node ∈ nodeIds g))
  then isTrue ⟨h.1, h.2.1, h.2.2.1, h.2.2.2⟩ else isFalse (fun r => h ⟨r.1, r.2, r.3, r.4⟩)

/-- every genome's references resolve inside the genome (part of C01 well-formedness; what `Genome.duplicate` needs to
    be exact, C06) -/
def RefsOkPop (p : Pop W) : Prop := ∀ s ∈ p.species, ∀ x ∈ s.orgs, C06.RefsOk x.genome
instance (p : Pop W) : Decidable (RefsOkPop p) := by unfold RefsOkPop; infer_instance

theorem reproducePhase_heads (o : EpochOpts W) (gen : Int) (p1 p2 : Pop W) (ex : ExecState) (rs rs' : List Nat)
    (h : reproducePhase o gen p1 ex rs = .ok (p2, rs')) : ∀ s ∈ p1.species, ∃ champ, s.orgs.head? = some champ := by
  obtain ⟨babies, reg, uid, hall, _⟩ := reproducePhase_ok h
  exact reproduceAll_heads _ _ _ _ _ _ _ _ _ _ _ _ hall

/-- **C10, end to end (Kind A).**  Let `p` be a consistently allocated population (`UidInv`) with unique species ids, whose
    organisms carry no reservation of champion clones (true of every newborn) and whose genomes have resolvable
    references (C01).  If `nextEpoch o gen p rs` returns `p'`, and `p1` is the population the epoch's preparation phase
    `prepareForReproduction o p rs` produced (fitness adjustment, quotas, stolen babies / delta coding, removal of the
    marked organisms), then for EVERY species `s` of `p1` whose offspring quota exceeds five, `s` has a first organism
    `champ` — the champion `Species.reproduce` clones — and some organism `x` of `p'`, member of a species of `p'` and
    listed in `p'.organisms`, carries `champ`'s genome unmodified: equal traits, nodes, genes and modules, own id. -/
theorem nextEpoch_keeps_champion (o : EpochOpts W) (gen : Int) (p p' p1 : Pop W) (ex : ExecState) (rs rs1 rs' : List Nat)
    (hu : C02.UidInv p) (hnd : (p.species.map (·.id)).Nodup) (hz : ScZero p) (hrefs : RefsOkPop p)
    (hprep : prepareForReproduction o p rs = .ok ((p1, ex), rs1))
    (h : nextEpoch o gen p rs = .ok (p', rs')) :
    ∀ s ∈ p1.species, s.expectedOffspring > 5 → ∃ champ, s.orgs.head? = some champ ∧
      ∃ s' ∈ p'.species, ∃ x ∈ s'.orgs, x.uid ∈ p'.organisms ∧ IsCopy champ x := by
  obtain ⟨q1, ex', rs1', p2, hprep', hrep, rfl⟩ := nextEpoch_ok h
  rw [hprep] at hprep'
  simp only [Except.ok.injEq, Prod.mk.injEq] at hprep'
  obtain ⟨⟨rfl, rfl⟩, rfl⟩ := hprep'
  have hu1 := (C02.prepare_uidInv o p p1 ex rs rs1 hnd hu hprep).1
  have hle := prepare_sc_le o p p1 ex rs rs1 hnd hz hprep
  have hgen := (C01.prepare_genomes o p p1 ex rs rs1 hprep).1
  intro s hs hq
  obtain ⟨champ, hc⟩ := reproducePhase_heads o gen p1 p2 ex rs1 rs' hrep s hs
  have hcm := List.mem_of_mem_head? hc
  obtain ⟨s0, hs0, y, hy, e⟩ := hgen s hs champ hcm
  have hr : C06.RefsOk champ.genome := e ▸ hrefs s0 hs0 y hy
  exact ⟨champ, hc, reproduce_finalize_has_copy o gen p1 p2 ex rs1 rs' hu1 hrep s hs champ hc hr hq (hle s hs champ hcm).2⟩

omit [Scalar W] in
/-- an unmodified copy passes the driver's comparison `genomeEqModId` for every reflexive scalar comparison (the driver
    uses bit equality of float64) -/
theorem genomeEqModId_of_isCopy (weq : W → W → Bool) (hweq : ∀ a, weq a a = true) (champ x : Org W) (h : IsCopy champ x) :
    PopSpec.genomeEqModId weq champ.genome x.genome = true := by
  obtain ⟨id, hid⟩ := h
  rw [hid]
  unfold PopSpec.genomeEqModId
  simp only [C05.traitsEq_refl weq hweq, C05.genesEq_refl weq hweq, beq_self_eq_true, Bool.and_self]

/-- **C10: the model's epoch passes `PopSpec.championWhy`** — the predicate the driver evaluates on the implementation's
    populations (after preparation / after the epoch), for every reflexive scalar comparison `weq`. -/
theorem championWhy_model (weq : W → W → Bool) (hweq : ∀ a, weq a a = true)
    (o : EpochOpts W) (gen : Int) (p p' p1 : Pop W) (ex : ExecState) (rs rs1 rs' : List Nat)
    (hu : C02.UidInv p) (hnd : (p.species.map (·.id)).Nodup) (hz : ScZero p) (hrefs : RefsOkPop p)
    (hprep : prepareForReproduction o p rs = .ok ((p1, ex), rs1))
    (h : nextEpoch o gen p rs = .ok (p', rs')) : PopSpec.championWhy weq p1 p' = "" := by
  have hk := nextEpoch_keeps_champion o gen p p' p1 ex rs rs1 rs' hu hnd hz hrefs hprep h
  unfold PopSpec.championWhy
  split
  · rename_i s hfind
    exfalso
    have hs := List.mem_of_find?_eq_some hfind
    have hp := List.find?_some hfind
    simp only [Bool.and_eq_true, decide_eq_true_eq] at hp
    obtain ⟨hq, hm⟩ := hp
    obtain ⟨champ, hc, s', hs', x, hx, _, hcopy⟩ := hk s hs hq
    rw [hc] at hm
    have hany : (PopSpec.allOrgs p').any (fun o => PopSpec.genomeEqModId weq champ.genome o.genome) = true :=
      List.any_eq_true.mpr ⟨x, List.mem_flatMap.mpr ⟨s', hs', hx⟩, genomeEqModId_of_isCopy weq hweq champ x hcopy⟩
    simp only [hany, Bool.not_true] at hm
    cases hm
  · rfl

/-- what identifies an organism through the preparation phase: allocation id, genome, elimination mark -/
def hkey (x : Org W) : Nat × Genome W × Bool := (x.uid, x.genome, x.toEliminate)

/-- **the first organism of a prepared species is the first organism of the species as `adjustFitness` sorted it**
    (same allocation id, same genome) — provided allocation ids are pairwise distinct, no organism enters the epoch marked
    for elimination, and the parent cut keeps at least one organism (`numParents ≥ 1`; C09ParentsExact: true in exact
    arithmetic for a non-negative survival threshold).  Kind A. -/
theorem prepared_head_is_adjusted_head (o : EpochOpts W) (p p1 : Pop W) (ex : ExecState) (rs rs1 : List Nat)
    (hnd : (p.species.map (·.id)).Nodup) (hundup : (C02.orgUids p.species).Nodup)
    (hun : ∀ s ∈ p.species, ∀ x ∈ s.orgs, x.toEliminate = false)
    (hpar : ∀ s ∈ p.species, 1 ≤ C09.numParents o s.orgs.length)
    (hprep : prepareForReproduction o p rs = .ok ((p1, ex), rs1)) :
    ∀ s ∈ p1.species, ∀ champ, s.orgs.head? = some champ →
      ∃ s0 ∈ p.species, s0.id = s.id ∧ ∃ sa top rest, adjustFitness o s0 = .ok sa ∧ sa.orgs = top :: rest ∧
        champ.uid = top.uid ∧ champ.genome = top.genome := by
  obtain ⟨species1, mid, doomed, hadj, hsub, hsp, hdoom⟩ := C09.prepare_marked o p p1 ex rs rs1 hnd hundup hprep
  intro s hs champ hc
  rw [hsp] at hs
  obtain ⟨m, hm, rfl⟩ := List.mem_map.mp hs
  -- `m` has the members of a species `sa` produced by `adjustFitness`, in order, up to the fields `hkey` is blind to
  obtain ⟨sa, hsa, hka⟩ := List.mem_map.mp ((sublist_of_bare_setExp (gkey_bare (k := hkey (W := W)) (fun _ => rfl) (fun _ _ => rfl))
    (gkey_setExp (fun _ _ => rfl)) hsub).subset (List.mem_map_of_mem (f := gkey hkey) hm))
  obtain ⟨s0, hs0, hadj0⟩ := adjustAll_mem o _ _ hadj sa hsa
  obtain ⟨hid, horgs⟩ := Prod.mk.inj hka
  have hc' : (m.orgs.filter (fun x => !doomed.contains x.uid)).head? = some champ := hc
  cases hmo : m.orgs with
  | nil => rw [hmo] at hc'; cases hc'
  | cons tm restm =>
    cases hso : sa.orgs with
    | nil => rw [hmo, hso] at horgs; simp at horgs
    | cons top rest =>
      rw [hmo, hso] at horgs
      simp only [List.map_cons, List.cons.injEq, hkey, Prod.mk.injEq] at horgs
      obtain ⟨⟨e1, e2, e3⟩, _⟩ := horgs
      -- the head of the adjusted species is unmarked, so it is not removed
      obtain ⟨y, hy, _, _, _, hte⟩ := adjustFitness_head o s0 sa top rest hadj0 hso
      have htm : tm.toEliminate = false := by rw [← e3, hte (hpar s0 hs0)]; exact hun s0 hs0 y hy
      have hnd' := (hdoom m hm tm (by rw [hmo]; exact List.mem_cons_self)).1 htm
      rw [hmo, List.filter_cons_of_pos (by rw [hnd']; rfl)] at hc'
      cases hc'
      exact ⟨s0, hs0, (C09.adjustFitness_orgs o s0 sa hadj0).1.symm.trans hid, sa, top, rest, hadj0, hso, e1.symm, e2.symm⟩

section KindB
variable {K : Type} [Field K] [LinearOrder K] [IsStrictOrderedRing K] [FloorRing K]

/-- **C10 (Kind B): the champion of a prepared species is a fittest organism of the ORIGINAL species.**  In exact
    arithmetic, for non-negative raw fitness values, positive age significance and a non-negative survival threshold,
    pairwise distinct allocation ids, unique species ids and no organism marked on entry: the first organism of every
    species left after `prepareForReproduction` has the allocation id and the genome of an organism `y` of the species
    with the same id in the population BEFORE the turnover, and no member of that species has a raw fitness above `y`'s. -/
theorem prepared_head_is_fittest (o : EpochOpts K) (p p1 : Pop K) (ex : ExecState) (rs rs1 : List Nat)
    (hnd : (p.species.map (·.id)).Nodup) (hundup : (C02.orgUids p.species).Nodup)
    (hun : ∀ s ∈ p.species, ∀ x ∈ s.orgs, x.toEliminate = false)
    (hnn : ∀ s ∈ p.species, ∀ x ∈ s.orgs, 0 ≤ x.fitness) (ha : 0 < o.ageSignificance) (hst : 0 ≤ o.survivalThresh)
    (hprep : prepareForReproduction o p rs = .ok ((p1, ex), rs1)) :
    ∀ s ∈ p1.species, ∀ champ, s.orgs.head? = some champ →
      ∃ s0 ∈ p.species, s0.id = s.id ∧ ∃ y ∈ s0.orgs, champ.uid = y.uid ∧ champ.genome = y.genome ∧
        ∀ x ∈ s0.orgs, x.fitness ≤ y.fitness := by
  intro s hs champ hc
  obtain ⟨s0, hs0, hid, sa, top, rest, hadj0, hso, e1, e2⟩ :=
    prepared_head_is_adjusted_head o p p1 ex rs rs1 hnd hundup hun (fun s _ => C09.numParents_pos o _ hst) hprep s hs champ hc
  obtain ⟨y, hy, u1, u2, u3, _⟩ := adjustFitness_head o s0 sa top rest hadj0 hso
  have hmax := (champion_is_fittest o s0 sa top rest hadj0 hso (hnn s0 hs0) ha).2
  exact ⟨s0, hs0, hid, y, hy, e1.trans u1, e2.trans u2, fun x hx => u3 ▸ hmax x hx⟩

/-- **C10, end to end, stated from the population BEFORE the turnover (Kind B).**  Under the hypotheses of
    `nextEpoch_keeps_champion` and `prepared_head_is_fittest`: for every species of the prepared population whose quota
    exceeds five, the species `s0` with the same id in the ORIGINAL population has an organism `y` whose raw fitness no
    member of `s0` exceeds (the fittest organism; unique when the values are distinct) such that the population returned
    by `nextEpoch` holds an organism — in one of its species and in its organism list — carrying `y`'s genome
    unmodified (own id). -/
theorem nextEpoch_keeps_fittest (o : EpochOpts K) (gen : Int) (p p' p1 : Pop K) (ex : ExecState) (rs rs1 rs' : List Nat)
    (hu : C02.UidInv p) (hnd : (p.species.map (·.id)).Nodup) (hundup : (C02.orgUids p.species).Nodup)
    (hz : ScZero p) (hrefs : RefsOkPop p) (hun : ∀ s ∈ p.species, ∀ x ∈ s.orgs, x.toEliminate = false)
    (hnn : ∀ s ∈ p.species, ∀ x ∈ s.orgs, 0 ≤ x.fitness) (ha : 0 < o.ageSignificance) (hst : 0 ≤ o.survivalThresh)
    (hprep : prepareForReproduction o p rs = .ok ((p1, ex), rs1))
    (h : nextEpoch o gen p rs = .ok (p', rs')) :
    ∀ s ∈ p1.species, s.expectedOffspring > 5 →
      ∃ s0 ∈ p.species, s0.id = s.id ∧ ∃ y ∈ s0.orgs, (∀ x ∈ s0.orgs, x.fitness ≤ y.fitness) ∧
        ∃ s' ∈ p'.species, ∃ x ∈ s'.orgs, x.uid ∈ p'.organisms ∧ IsCopy y x := by
  intro s hs hq
  obtain ⟨champ, hc, s', hs', x, hx, hlist, hcopy⟩ :=
    nextEpoch_keeps_champion o gen p p' p1 ex rs rs1 rs' hu hnd hz hrefs hprep h s hs hq
  obtain ⟨s0, hs0, hid, y, hy, _, hg, hmax⟩ :=
    prepared_head_is_fittest o p p1 ex rs rs1 hnd hundup hun hnn ha hst hprep s hs champ hc
  refine ⟨s0, hs0, hid, y, hy, hmax, s', hs', x, hx, hlist, ?_⟩
  obtain ⟨i, hi⟩ := hcopy
  exact ⟨i, by rw [hi, hg]⟩

/-- **C10 (Kind B): the model's epoch passes `PopSpec.fittestWhy`** — the predicate the driver evaluates on the
    implementation's populations before the turnover / after preparation / after the epoch — for every reflexive scalar
    comparison `weq`. -/
theorem fittestWhy_model (weq : K → K → Bool) (hweq : ∀ a, weq a a = true)
    (o : EpochOpts K) (gen : Int) (p p' p1 : Pop K) (ex : ExecState) (rs rs1 rs' : List Nat)
    (hu : C02.UidInv p) (hnd : (p.species.map (·.id)).Nodup) (hundup : (C02.orgUids p.species).Nodup)
    (hz : ScZero p) (hrefs : RefsOkPop p) (hun : ∀ s ∈ p.species, ∀ x ∈ s.orgs, x.toEliminate = false)
    (hnn : ∀ s ∈ p.species, ∀ x ∈ s.orgs, 0 ≤ x.fitness) (ha : 0 < o.ageSignificance) (hst : 0 ≤ o.survivalThresh)
    (hprep : prepareForReproduction o p rs = .ok ((p1, ex), rs1))
    (h : nextEpoch o gen p rs = .ok (p', rs')) : PopSpec.fittestWhy weq p p1 p' = "" := by
  have hk := nextEpoch_keeps_fittest o gen p p' p1 ex rs rs1 rs' hu hnd hundup hz hrefs hun hnn ha hst hprep h
  unfold PopSpec.fittestWhy
  split
  · rename_i s hfind
    exfalso
    have hs := List.mem_of_find?_eq_some hfind
    have hp := List.find?_some hfind
    simp only [Bool.and_eq_true, decide_eq_true_eq] at hp
    obtain ⟨hq, hm⟩ := hp
    obtain ⟨s0, hs0, hid, y, hy, hmax, s', hs', x, hx, _, hcopy⟩ := hk s hs hq
    have hf : p.species.find? (fun b => b.id == s.id) = some s0 := by
      rw [← hid]; exact find_by_own_id p.species hnd s0 hs0
    rw [hf] at hm
    simp only [Bool.and_eq_true, Bool.not_eq_true'] at hm
    have hyf : y ∈ s0.orgs.filter (fun x => s0.orgs.all (fun z => !(Scalar.lt x.fitness z.fitness))) := by
      refine List.mem_filter.mpr ⟨hy, ?_⟩
      rw [List.all_eq_true]
      intro z hz'
      simp only [Exact.lt_eq, Bool.not_eq_true', decide_eq_false_iff_not, not_lt]
      exact hmax z hz'
    have hany : (s0.orgs.filter (fun x => s0.orgs.all (fun z => !(Scalar.lt x.fitness z.fitness)))).any
        (fun champ => (PopSpec.allOrgs p').any (fun o => PopSpec.genomeEqModId weq champ.genome o.genome)) = true :=
      List.any_eq_true.mpr ⟨y, hyf, List.any_eq_true.mpr
        ⟨x, List.mem_flatMap.mpr ⟨s', hs', hx⟩, genomeEqModId_of_isCopy weq hweq y x hcopy⟩⟩
    rw [hany] at hm
    cases hm.2
  · rfl

end KindB

/-- what C10 needs of a population entering an epoch — an invariant of `nextEpoch` (`nextEpoch_champInv`): the C02
    allocation and species-id invariants, no reservation of champion clones, the C01 pool invariant (which contains
    "references resolve") -/
structure ChampInv (p : Pop W) : Prop where
  uid : C02.UidInv p
  spid : C02.SpIdInv p
  sc : ScZero p
  pool : C01.PoolOk p.reg (C01.genomesOfPop p)

theorem refsOk_of_pool (p : Pop W) (h : C01.PoolOk p.reg (C01.genomesOfPop p)) : RefsOkPop p := by
  intro s hs x hx
  have f := h x.genome (C01.mem_genomesOfPop.mpr ⟨s, hs, x, hx, rfl⟩)
  exact ⟨f.wft.wf.traitRefs, f.wft.wf.endpoints, (by rw [f.nomod]; intro m hm; cases hm), (by rw [f.nomod]; intro m hm; cases hm)⟩

/-- the invariant is re-established by every epoch (C02 `nextEpoch_popInv`, C01 `nextEpoch_closed`, newborns carry no
    reservation) -/
theorem nextEpoch_champInv (o : EpochOpts W) (gen : Int) (p p' : Pop W) (rs rs' : List Nat) (hinv : ChampInv p)
    (h : nextEpoch o gen p rs = .ok (p', rs')) : ChampInv p' := by
  obtain ⟨_, hu', hs'⟩ := C02.nextEpoch_popInv o gen p p' rs rs' hinv.uid hinv.spid h
  have hpool := C01.nextEpoch_closed [] o gen p p' rs rs' (by simpa using hinv.pool) h
  refine ⟨hu', hs', ?_, by simpa using hpool⟩
  obtain ⟨p1, ex, rs1, p2, hprep, hrep, rfl⟩ := nextEpoch_ok h
  have hu1 := (C02.prepare_uidInv o p p1 ex rs rs1 hinv.spid.nodup hinv.uid hprep).1
  exact reproduce_finalize_allZ o gen p1 p2 ex rs1 rs' hu1 hrep

/-- what an evaluation between two epochs may do: assign fitness values and the like (`C02.SameShape`), touch no genome,
    not the registry, and reserve no champion clones -/
def EvalKeeps (q q' : Pop W) : Prop :=
  C02.SameShape q q' ∧ (∀ g ∈ C01.genomesOfPop q', g ∈ C01.genomesOfPop q) ∧ q'.reg = q.reg ∧ (ScZero q → ScZero q')

/-- `EvalKeeps` with the order-insensitive shape relation: an evaluation between two epochs may assign fitness values
    and the like AND re-order the organisms inside each species (`C02.SameShapePerm`), touches no genome, not the
    registry, and reserves no champion clones.  `EvalKeeps` is the special case that keeps the order
    (`EvalKeeps.toPerm`); `Generation.FillPopulationStatistics` is an instance (`evalKeepsPerm_of_speciesPerm`). -/
def EvalKeepsPerm (q q' : Pop W) : Prop :=
  C02.SameShapePerm q q' ∧ (∀ g ∈ C01.genomesOfPop q', g ∈ C01.genomesOfPop q) ∧ q'.reg = q.reg ∧ (ScZero q → ScZero q')

theorem EvalKeeps.toPerm {q q' : Pop W} (h : EvalKeeps q q') : EvalKeepsPerm q q' :=
  ⟨h.1.toPerm, h.2.1, h.2.2.1, h.2.2.2⟩

/-- one epoch from `q` with stream `rs` to `q'` keeps the champion of every sizeable species (the statement of
    `nextEpoch_keeps_champion`) -/
def KeepsChampions (o : EpochOpts W) (q : Pop W) (rs : List Nat) (q' : Pop W) : Prop :=
  ∀ p1 ex rs1, prepareForReproduction o q rs = .ok ((p1, ex), rs1) →
    ∀ s ∈ p1.species, s.expectedOffspring > 5 → ∃ champ, s.orgs.head? = some champ ∧
      ∃ s' ∈ q'.species, ∃ x ∈ s'.orgs, x.uid ∈ q'.organisms ∧ IsCopy champ x

theorem champInv_evalPerm (q q' : Pop W) (he : EvalKeepsPerm q q') (h : ChampInv q) : ChampInv q' := by
  obtain ⟨hsh, hg, hreg, hsc⟩ := he
  obtain ⟨hu', hs'⟩ := C02.sameShapePerm_inv q q' hsh h.uid h.spid
  exact ⟨hu', hs', hsc h.sc, by rw [hreg]; exact h.pool.subset hg⟩

/-- **C10 over whole runs, evaluations may re-order inside the species.**  `runEpochs_keeps_champions` with
    `EvalKeepsPerm` in place of `EvalKeeps` (which it implies: `EvalKeeps.toPerm`): starting from a population that
    satisfies the invariant, in EVERY generation of a run of any length - evaluate (assign fitness, re-order the
    species lists as `FillPopulationStatistics` does), turn over, evaluate, turn over, … - the champion of every species
    whose quota exceeds five (the head of the list AFTER the epoch's own sort of the population that entered it) is
    preserved unmodified into the next generation; the invariant holds for every population entering an epoch and for
    the final one, which again holds exactly `PopSize` organisms partitioned into non-empty species. -/
theorem runEpochs_keeps_champions_perm (o : EpochOpts W) (evs : List (Pop W → Pop W)) (gen : Int) (p p' : Pop W) (rs rs' : List Nat)
    (hev : ∀ ev ∈ evs, ∀ q, EvalKeepsPerm q (ev q)) (hinv : ChampInv p)
    (h : C02.runEpochs o evs gen p rs = .ok (p', rs')) :
    ChampInv p' ∧ (runSteps o evs gen p rs).length = evs.length ∧
    (∀ st ∈ runSteps o evs gen p rs, ChampInv st.1 ∧ KeepsChampions o st.1 st.2.1 st.2.2) ∧
    (evs ≠ [] → p'.organisms.length = o.popSize ∧ p'.organisms.Nodup ∧ p'.organisms = C02.orgUids p'.species ∧
      ∀ s ∈ p'.species, s.orgs ≠ []) := by
  obtain ⟨a, b, c, hlast⟩ := C02.runEpochs_steps (o := o) (I := ChampInv) (J := ChampInv) (P := KeepsChampions o)
    (fun ev he q hq => champInv_evalPerm q (ev q) (hev ev he q) hq)
    (fun gen q rs q' rs' hq h1 => ⟨nextEpoch_champInv o gen q q' rs rs' hq h1, fun p1 ex rs1 hprep =>
      nextEpoch_keeps_champion o gen q q' p1 ex rs rs1 rs' hq.uid hq.spid.nodup hq.sc (refsOk_of_pool _ hq.pool) hprep h1⟩)
    hinv h
  refine ⟨a, b, c, fun hne => ?_⟩
  obtain ⟨gen', q, rs0, hq, h1⟩ := hlast hne
  obtain ⟨⟨a1, a2, a3, a4, _⟩, _⟩ := C02.nextEpoch_popInv o gen' q p' rs0 rs' hq.uid hq.spid h1
  exact ⟨a1, a2, a3, a4⟩

/-- **C10 over whole runs.**  Starting from a population that satisfies the invariant, in EVERY generation of a run of
    any length — evaluate, turn over, evaluate, turn over, … with arbitrary evaluations that only assign fitness values —
    the champion of every species whose quota exceeds five is preserved unmodified into the next generation; the
    invariant holds for every population entering an epoch and for the final one, which (C02 `runEpochs_inv`) again
    holds exactly `PopSize` organisms partitioned into non-empty species. -/
theorem runEpochs_keeps_champions (o : EpochOpts W) (evs : List (Pop W → Pop W)) (gen : Int) (p p' : Pop W) (rs rs' : List Nat)
    (hev : ∀ ev ∈ evs, ∀ q, EvalKeeps q (ev q)) (hinv : ChampInv p)
    (h : C02.runEpochs o evs gen p rs = .ok (p', rs')) :
    ChampInv p' ∧ (runSteps o evs gen p rs).length = evs.length ∧
    (∀ st ∈ runSteps o evs gen p rs, ChampInv st.1 ∧ KeepsChampions o st.1 st.2.1 st.2.2) ∧
    (evs ≠ [] → p'.organisms.length = o.popSize ∧ p'.organisms.Nodup ∧ p'.organisms = C02.orgUids p'.species ∧
      ∀ s ∈ p'.species, s.orgs ≠ []) :=
  runEpochs_keeps_champions_perm o evs gen p p' rs rs' (fun ev he q => (hev ev he q).toPerm) hinv h

def setFitness (f : Org W → W) (p : Pop W) : Pop W :=
  { p with species := p.species.map (fun s => { s with orgs := s.orgs.map (fun x => { x with fitness := f x }) }) }

theorem evalKeeps_setFitness (f : Org W → W) (q : Pop W) : EvalKeeps q (setFitness f q) := by
  refine ⟨C02.sameShape_mapOrgs (u := fun x => { x with fitness := f x }) (fun _ => ⟨rfl, rfl⟩) q,
    fun _ hg => C01.genomesOfPop_mapOrgs (u := fun x => { x with fitness := f x }) (fun _ => rfl) q ▸ hg, rfl, ?_⟩
  intro hz s' hs' x' hx'
  obtain ⟨s, hs, rfl⟩ := List.mem_map.mp hs'
  obtain ⟨x, hx, rfl⟩ := List.mem_map.mp hx'
  exact hz s hs x hx

/-! ### non-vacuity: concrete epochs over ℚ (exact arithmetic) satisfy every hypothesis, for each of the three ways the
    preparation phase can end (nothing redistributed / delta coding / stolen babies), and a two-generation run -/
section NonVacuity
open GoNeat.C09 (ratScalar ratScalar_eq qOpts)

/-- after preparation: (species id, quota, [(allocation id, reservation)] of the organisms left as parents); `[]` on error -/
def prepView {W} (r : R (Pop W × ExecState)) : List (Int × Int × List (Nat × Int)) :=
  match r with
  | .ok ((q, _), _) => q.species.map (fun (s : Species W) =>
      (s.id, s.expectedOffspring, s.orgs.map (fun (x : Org W) => (x.uid, x.superChampOffspring))))
  | .error _ => []

/-- a population, one row per organism: (species id, allocation id, [(innovation number, weight)] of the genome);
    `[]` on error -/
def popView {W} (r : R (Pop W)) : List (Int × Nat × List (Int × W)) :=
  match r with
  | .ok (q, _) => q.species.flatMap (fun (s : Species W) =>
      s.orgs.map (fun (x : Org W) => (s.id, x.uid, x.genome.genes.map (fun (g : Gene W) => (g.inn, g.w)))))
  | .error _ => []

/-- the two executable C10 predicates of the driver on the results of the two phases -/
def whyView {W} [Scalar W] (weq : W → W → Bool) (before : Pop W) (r1 : R (Pop W × ExecState)) (r2 : R (Pop W)) :
    Option (String × String) :=
  match r1, r2 with
  | .ok ((p1, _), _), .ok (p', _) => some (PopSpec.championWhy weq p1 p', PopSpec.fittestWhy weq before p1 p')
  | _, _ => none

theorem prepView_ok {W} {r : R (Pop W × ExecState)} (h : prepView r ≠ []) :
    ∃ p1 ex rs1, r = .ok ((p1, ex), rs1) ∧
      prepView r = p1.species.map (fun (s : Species W) => (s.id, s.expectedOffspring, s.orgs.map (fun (x : Org W) => (x.uid, x.superChampOffspring)))) := by
  match r, h with
  | .ok ((q, ex), rs1), _ => exact ⟨q, ex, rs1, rfl, rfl⟩
  | .error _, h => exact absurd rfl h

theorem popView_ok {W} {r : R (Pop W)} (h : popView r ≠ []) : ∃ p' rs', r = .ok (p', rs') := by
  match r, h with
  | .ok (q, rs1), _ => exact ⟨q, rs1, rfl⟩
  | .error _, h => exact absurd rfl h

def qOrg8 (uid : Nat) (f : ℚ) : Org ℚ :=
  { uid := uid, fitness := f, expectedOffspring := 0, generation := 0, originalFitness := 0, highestFitness := 0,
    genome := { id := uid, traits := [⟨1, []⟩], nodes := [⟨1, Kind.input, 4, none⟩, ⟨2, Kind.output, 4, none⟩],
                genes := [⟨1, 1, 2, false, uid, 0, true, none⟩] } }

/-- PopSize 8, survival threshold 1/2, no stolen babies, every organism that is not a champion copy gets an add-node
    mutation -/
def qOpts8 : EpochOpts ℚ := { qOpts with popSize := 8 }

/-- one species of eight organisms with raw fitness 1, 9, 2, 3, …, 7: the fittest is organism 1, whose single gene has
    weight 1 (organism `i`'s gene has weight `i`) -/
def qPop8 : Pop ℚ :=
  { species := [{ id := 1, age := 3, maxFitnessEver := 0, expectedOffspring := 0, isNovel := false,
                  orgs := [qOrg8 0 1, qOrg8 1 9, qOrg8 2 2, qOrg8 3 3, qOrg8 4 4, qOrg8 5 5, qOrg8 6 6, qOrg8 7 7],
                  ageOfLastImprovement := 0 }],
    organisms := [0, 1, 2, 3, 4, 5, 6, 7], lastSpecies := 1, highestFitness := 0, epochsHighestLastChanged := 0,
    reg := { records := [], nextInn := 1, nextNode := 2 }, nextUid := 8 }

/-- the same population long after its last record: delta coding runs -/
def qPop8d : Pop ℚ := { qPop8 with highestFitness := 1000, epochsHighestLastChanged := 30 }

/-- two old species of eight; two babies are stolen -/
def qOpts16 : EpochOpts ℚ := { qOpts with popSize := 16, babiesStolen := 2 }
def qPop16 : Pop ℚ :=
  { species := [{ id := 1, age := 8, maxFitnessEver := 0, expectedOffspring := 0, isNovel := false, ageOfLastImprovement := 7,
                  orgs := [qOrg8 0 10, qOrg8 1 8, qOrg8 2 9, qOrg8 3 3, qOrg8 8 10, qOrg8 9 8, qOrg8 10 9, qOrg8 11 12] },
                { id := 2, age := 8, maxFitnessEver := 0, expectedOffspring := 0, isNovel := false, ageOfLastImprovement := 7,
                  orgs := [qOrg8 4 4, qOrg8 5 5, qOrg8 6 6, qOrg8 7 7, qOrg8 12 4, qOrg8 13 5, qOrg8 14 6, qOrg8 15 7] }],
    organisms := [0, 1, 2, 3, 4, 5, 6, 7, 8, 9, 10, 11, 12, 13, 14, 15], lastSpecies := 2, highestFitness := 0,
    epochsHighestLastChanged := 0, reg := { records := [], nextInn := 1, nextNode := 2 }, nextUid := 16 }

/-- every raw draw is 2^62: every unit draw is 1/2 -/
def st8 : List Nat := List.replicate 200 (2 ^ 62)

/-- the decidable hypotheses of ALL theorems of this file, bundled -/
def AllHyps (o : EpochOpts ℚ) (p : Pop ℚ) : Prop :=
  C02.UidInv p ∧ (p.species.map (·.id)).Nodup ∧ (C02.orgUids p.species).Nodup ∧ ScZero p ∧ RefsOkPop p ∧
  (∀ s ∈ p.species, ∀ x ∈ s.orgs, x.toEliminate = false) ∧ (∀ s ∈ p.species, ∀ x ∈ s.orgs, 0 ≤ x.fitness) ∧
  0 < o.ageSignificance ∧ 0 ≤ o.survivalThresh

theorem exHyps8 : AllHyps qOpts8 qPop8 ∧ AllHyps qOpts8 qPop8d ∧ AllHyps qOpts16 qPop16 := by
  unfold AllHyps
  exact ⟨⟨⟨by decide +kernel, by decide +kernel⟩, by decide +kernel⟩, ⟨⟨by decide +kernel, by decide +kernel⟩, by decide +kernel⟩,
    ⟨⟨by decide +kernel, by decide +kernel⟩, by decide +kernel⟩⟩

/-- the epoch of `qPop8` under `qOpts8`, `st8`: the views of the two phases, and that the executable predicates reject the
    result once the species holding the champion's copy (organism 8) is removed.  One statement, because the three facts
    evaluate the same `nextEpoch qOpts8 1 qPop8 st8` and the kernel shares it only inside one declaration. -/
theorem exA_run :
    prepView (prepareForReproduction qOpts8 qPop8 st8) = [(1, 8, [(1, 0), (7, 0), (6, 0), (5, 0), (4, 0)])] ∧
    popView (nextEpoch qOpts8 1 qPop8 st8) =
      [(2, 8, [(1, 1)]), (3, 9, [(1, 4), (2, 1), (3, 4)]), (4, 10, [(1, 4), (2, 1), (3, 4)]),
            (5, 11, [(1, 4), (2, 1), (3, 4)]), (6, 12, [(1, 4), (2, 1), (3, 4)]), (7, 13, [(1, 4), (2, 1), (3, 4)]),
            (8, 14, [(1, 4), (2, 1), (3, 4)]), (9, 15, [(1, 4), (2, 1), (3, 4)])] ∧
    whyView (fun a b => decide (a = b)) qPop8 (prepareForReproduction qOpts8 qPop8 st8)
      (match nextEpoch qOpts8 1 qPop8 st8 with
       | .ok (q, rs) => .ok ({ q with species := q.species.drop 1 }, rs)
       | .error e => .error e) ≠ some ("", "") := by
  rw [ratScalar_eq]; decide +kernel

/-- **(A) nothing redistributed**: quota 8, no reservation, five parents left (floor(8/2)+1), the first is organism 1 —
    the fittest; in the next generation organism 8 carries its genome (weight 1) unmodified, the seven others are
    mutated offspring of organism 4. -/
theorem exA_views :
    prepView (prepareForReproduction qOpts8 qPop8 st8) = [(1, 8, [(1, 0), (7, 0), (6, 0), (5, 0), (4, 0)])] ∧
    popView (nextEpoch qOpts8 1 qPop8 st8) =
      [(2, 8, [(1, 1)]), (3, 9, [(1, 4), (2, 1), (3, 4)]), (4, 10, [(1, 4), (2, 1), (3, 4)]),
            (5, 11, [(1, 4), (2, 1), (3, 4)]), (6, 12, [(1, 4), (2, 1), (3, 4)]), (7, 13, [(1, 4), (2, 1), (3, 4)]),
            (8, 14, [(1, 4), (2, 1), (3, 4)]), (9, 15, [(1, 4), (2, 1), (3, 4)])] :=
  ⟨exA_run.1, exA_run.2.1⟩

/-- **(B) delta coding**: the champion gets reservation 8 = quota 8 (`prepare_sc_le` holds with equality); the last
    super-champion clone is the exact copy. -/
theorem exB_views :
    prepView (prepareForReproduction qOpts8 qPop8d st8) = [(1, 8, [(1, 8), (7, 0), (6, 0), (5, 0), (4, 0)])] ∧
    (popView (nextEpoch qOpts8 1 qPop8d st8)).map (fun row => (row.2.1, row.2.2)) =
      [(8, [(1, 1)]), (9, [(1, 1)]), (10, [(1, 1)]), (11, [(1, 1)]), (12, [(1, 1)]), (13, [(1, 1)]), (14, [(1, 1)]),
            (15, [(1, 1)])] := by
  rw [ratScalar_eq]; decide +kernel

/-- **(C) stolen babies**: species 1 ends with quota 11 and reservation 2 on its champion (organism 11, raw fitness 12,
    the fittest), species 2 with quota 5 (not above five: no claim); organisms 16–18 of the next generation carry the
    champion's genome (weight 11): two super-champion clones (weight-mutation power 0) and the champion clone. -/
theorem exC_views :
    prepView (prepareForReproduction qOpts16 qPop16 st8) =
      [(1, 11, [(11, 2), (0, 0), (8, 0), (2, 0), (10, 0)]), (2, 5, [(7, 0), (15, 0), (6, 0), (14, 0), (5, 0)])] ∧
    ((popView (nextEpoch qOpts16 1 qPop16 st8)).take 4).map (·.2) =
      [(16, [(1, 11)]), (17, [(1, 11)]), (18, [(1, 11)]), (19, [(1, 10), (2, 1), (3, 10)])] := by
  rw [ratScalar_eq]; decide +kernel

/-- the conclusions of the end-to-end theorems, instantiated for the three epochs: both phases return, a species with
    quota above five exists, and a fittest organism of its original species has an unmodified copy in the next generation -/
theorem exConclusion (o : EpochOpts ℚ) (p : Pop ℚ) (hyp : AllHyps o p)
    (h1 : ∃ e ∈ prepView (prepareForReproduction o p st8), e.2.1 > 5) (h2 : popView (nextEpoch o 1 p st8) ≠ []) :
    ∃ p1 ex rs1 p' rs', prepareForReproduction o p st8 = .ok ((p1, ex), rs1) ∧ nextEpoch o 1 p st8 = .ok (p', rs') ∧
      (∃ s ∈ p1.species, s.expectedOffspring > 5) ∧
      (∀ s ∈ p1.species, s.expectedOffspring > 5 → ∃ s0 ∈ p.species, s0.id = s.id ∧ ∃ y ∈ s0.orgs,
        (∀ x ∈ s0.orgs, x.fitness ≤ y.fitness) ∧ ∃ s' ∈ p'.species, ∃ x ∈ s'.orgs, x.uid ∈ p'.organisms ∧ IsCopy y x) ∧
      PopSpec.championWhy (fun a b => decide (a = b)) p1 p' = "" ∧
      PopSpec.fittestWhy (fun a b => decide (a = b)) p p1 p' = "" := by
  obtain ⟨e, hev, hgt⟩ := h1
  obtain ⟨p1, ex, rs1, hp, hv⟩ := prepView_ok (r := prepareForReproduction o p st8) (by intro h0; rw [h0] at hev; cases hev)
  obtain ⟨p', rs', he⟩ := popView_ok h2
  obtain ⟨hu, hnd, hundup, hz, hrefs, hun, hnn, ha, hst⟩ := hyp
  refine ⟨p1, ex, rs1, p', rs', hp, he, ?_, nextEpoch_keeps_fittest o 1 p p' p1 ex st8 rs1 rs' hu hnd hundup hz hrefs hun hnn ha hst hp he,
    championWhy_model _ (by simp) o 1 p p' p1 ex st8 rs1 rs' hu hnd hz hrefs hp he,
    fittestWhy_model _ (by simp) o 1 p p' p1 ex st8 rs1 rs' hu hnd hundup hz hrefs hun hnn ha hst hp he⟩
  rw [hv] at hev
  obtain ⟨s, hs, rfl⟩ := List.mem_map.mp hev
  exact ⟨s, hs, hgt⟩

theorem exSized :
    ((∃ e ∈ prepView (prepareForReproduction qOpts8 qPop8 st8), e.2.1 > 5) ∧ popView (nextEpoch qOpts8 1 qPop8 st8) ≠ []) ∧
    ((∃ e ∈ prepView (prepareForReproduction qOpts8 qPop8d st8), e.2.1 > 5) ∧ popView (nextEpoch qOpts8 1 qPop8d st8) ≠ []) ∧
    ((∃ e ∈ prepView (prepareForReproduction qOpts16 qPop16 st8), e.2.1 > 5) ∧ popView (nextEpoch qOpts16 1 qPop16 st8) ≠ []) := by
  refine ⟨⟨?_, ?_⟩, ⟨?_, ?_⟩, ⟨?_, ?_⟩⟩
  · rw [exA_views.1]; exact ⟨_, List.mem_cons_self, by decide⟩
  · rw [exA_views.2]; simp
  · rw [exB_views.1]; exact ⟨_, List.mem_cons_self, by decide⟩
  · intro h0; have := exB_views.2; rw [h0] at this; cases this
  · rw [exC_views.1]; exact ⟨_, List.mem_cons_self, by decide⟩
  · intro h0; have := exC_views.2; rw [h0] at this; cases this

example := exConclusion qOpts8 qPop8 exHyps8.1 exSized.1.1 exSized.1.2
example := exConclusion qOpts8 qPop8d exHyps8.2.1 exSized.2.1.1 exSized.2.1.2
example := exConclusion qOpts16 qPop16 exHyps8.2.2 exSized.2.2.1 exSized.2.2.2

theorem whyView_accepts (o : EpochOpts ℚ) (p : Pop ℚ) (hyp : AllHyps o p)
    (h1 : ∃ e ∈ prepView (prepareForReproduction o p st8), e.2.1 > 5) (h2 : popView (nextEpoch o 1 p st8) ≠ []) :
    whyView (fun a b => decide (a = b)) p (prepareForReproduction o p st8) (nextEpoch o 1 p st8) = some ("", "") := by
  obtain ⟨p1, ex, rs1, p', rs', hp, he, _, _, hc, hf⟩ := exConclusion o p hyp h1 h2
  rw [hp, he]
  simp only [whyView, hc, hf]

/-- the executable predicates accept the three model epochs (`championWhy_model` / `fittestWhy_model` through
    `exConclusion`) … -/
example :
    whyView (fun a b => decide (a = b)) qPop8 (prepareForReproduction qOpts8 qPop8 st8) (nextEpoch qOpts8 1 qPop8 st8) = some ("", "") ∧
    whyView (fun a b => decide (a = b)) qPop8d (prepareForReproduction qOpts8 qPop8d st8) (nextEpoch qOpts8 1 qPop8d st8) = some ("", "") ∧
    whyView (fun a b => decide (a = b)) qPop16 (prepareForReproduction qOpts16 qPop16 st8) (nextEpoch qOpts16 1 qPop16 st8) = some ("", "") :=
  ⟨whyView_accepts _ _ exHyps8.1 exSized.1.1 exSized.1.2, whyView_accepts _ _ exHyps8.2.1 exSized.2.1.1 exSized.2.1.2,
   whyView_accepts _ _ exHyps8.2.2 exSized.2.2.1 exSized.2.2.2⟩


/-- … and reject the first epoch once the species holding the copy (organism 8) is removed from the result: the
    predicates bite -/
example :
    whyView (fun a b => decide (a = b)) qPop8 (prepareForReproduction qOpts8 qPop8 st8)
      (match nextEpoch qOpts8 1 qPop8 st8 with
       | .ok (q, rs) => .ok ({ q with species := q.species.drop 1 }, rs)
       | .error e => .error e) ≠ some ("", "") :=
  exA_run.2.2

end NonVacuity

/-! a two-generation run (toy integer scalar, whose speciation keeps the babies in one species; over `exactScalar` the
    sentinel `maxVal = 0` makes every baby found its own species, so no second-generation species exceeds five) -/
section RunExample
open GoNeat.ExactInt
attribute [local instance] intScalar

def iOpts8 : EpochOpts Int :=
  { popSize := 8, dropOffAge := 15, ageSignificance := 1, survivalThresh := 1, babiesStolen := 0, compatThreshold := 3,
    compat := ⟨1, 1, 1, false⟩, mutateOnlyProb := 100, mutateAddNodeProb := 100, mutateAddLinkProb := 0,
    mutateConnectSensors := 0, interspeciesMateRate := 0, mateMultipointProb := 0, mateMultipointAvgProb := 0,
    mateSinglepointProb := 0, mateOnlyProb := 0, mopts := C01.mo }

def iOrg8 (uid : Nat) (fit : Int) : Org Int :=
  { uid := uid, fitness := fit, genome := { C01.ev1 with id := uid }, expectedOffspring := 0, generation := 1,
    originalFitness := 0, highestFitness := 0 }

def iPop8 : Pop Int :=
  { species := [{ id := 1, age := 3, maxFitnessEver := 0, expectedOffspring := 0, isNovel := false, ageOfLastImprovement := 0,
                  orgs := [iOrg8 0 8, iOrg8 1 64, iOrg8 2 16, iOrg8 3 24, iOrg8 4 32, iOrg8 5 40, iOrg8 6 48, iOrg8 7 56] }],
    organisms := [0, 1, 2, 3, 4, 5, 6, 7], lastSpecies := 1, highestFitness := 0, epochsHighestLastChanged := 0,
    reg := { records := [], nextInn := 7, nextNode := 5 }, nextUid := 8 }

def iEval : Pop Int → Pop Int := setFitness (fun x => 8 * (((x.uid % 8 : Nat) : Int) + 1))

def stR : List Nat := List.replicate 400 2

/-- the invariant `runEpochs_keeps_champions` starts from holds (incl. the C01 pool invariant, decided by the kernel) -/
theorem exRun_inv : ChampInv iPop8 := ⟨⟨by decide, by decide⟩, ⟨by decide, by decide⟩, by decide, by decide +kernel⟩

/-- both generations of the run have a species with quota 8 (> 5), and the run returns organisms 16–23 in species 1 -/
theorem exRun_views :
    (runSteps iOpts8 [iEval, iEval] 1 iPop8 stR).map (fun st => prepView (prepareForReproduction iOpts8 st.1 st.2.1)) =
      [[(1, 8, [(7, 0), (6, 0), (5, 0), (4, 0), (3, 0), (2, 0), (1, 0), (0, 0)])],
       [(1, 8, [(15, 0), (14, 0), (13, 0), (12, 0), (11, 0), (10, 0), (9, 0), (8, 0)])]] ∧
    (popView (C02.runEpochs iOpts8 [iEval, iEval] 1 iPop8 stR)).map (fun r => (r.1, r.2.1)) =
      [(1, 16), (1, 17), (1, 18), (1, 19), (1, 20), (1, 21), (1, 22), (1, 23)] := by decide +kernel

/-- the conclusion of `runEpochs_keeps_champions`, instantiated: two epochs ran, and in each the champion of every
    sizeable species was preserved -/
example : ∃ p' rs', C02.runEpochs iOpts8 [iEval, iEval] 1 iPop8 stR = .ok (p', rs') ∧ ChampInv p' ∧
    (runSteps iOpts8 [iEval, iEval] 1 iPop8 stR).length = 2 ∧
    ∀ st ∈ runSteps iOpts8 [iEval, iEval] 1 iPop8 stR, ChampInv st.1 ∧ KeepsChampions iOpts8 st.1 st.2.1 st.2.2 := by
  obtain ⟨p', rs', h⟩ := popView_ok (r := C02.runEpochs iOpts8 [iEval, iEval] 1 iPop8 stR)
    (by intro h0; have := exRun_views.2; rw [h0] at this; cases this)
  obtain ⟨a, b, c, _⟩ := runEpochs_keeps_champions iOpts8 [iEval, iEval] 1 iPop8 p' stR rs'
    (by intro ev hev q
        simp only [List.mem_cons, List.not_mem_nil, or_false, or_self] at hev
        subst hev; exact evalKeeps_setFitness _ q) exRun_inv h
  exact ⟨p', rs', h, a, b, c⟩

end RunExample

end GoNeat.C10
