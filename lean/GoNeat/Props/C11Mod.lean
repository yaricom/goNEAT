/-
  C11, graph view for ANY number of enabled modules: on every network that `expresses` a well-formed genome - modules
  enabled or not, none at all included - `Edge` / `WeightedEdge` / `Weight` / `HasEdgeFromTo` / `HasEdgeBetween` /
  `From` / `To` answer what the genome says.  The theorems of Props/C11.lean that assume `enabledMods g = []` are the
  no-module instances of the ones here; these are the ones to cite.

  Genome-level specification (Spec/Genesis.lean): `dirEdges g` lists the enabled connection genes in gene
  order, then per enabled module (module order) its input wires `node → control node` and its output wires
  `control node → node`, each with the wire's weight and recurrence flag false; `specEdge g u v` is the FIRST entry
  `u → v`, `specHasEdge` says whether there is one (`hasEdge_iff` below spells it out), `specFrom` / `specTo`
  enumerate successors / predecessors including control nodes.

  Hypothesis `GenomeOk g` (decidable, evaluated by the driver on every generated genome): ordinary node ids and the
  control-node ids of ALL modules are pairwise different, every gene endpoint and module wire names an ordinary node.
  Nothing else is needed: a module may list a node several times, as input and as output, modules may share nodes.
  Model: `edgeBetween` as repaired by 513f15a; the pre-repair behaviour is refuted in Props/C11.lean
  (`ctrl_overlap_legacy_counterexample`).  Helper lemmas: Proofs/GraphViewMod.lean.
-/
import GoNeat.Proofs.GraphViewMod
import GoNeat.Props.C11

namespace GoNeat.C11
open GoNeat GoNeat.Genesis

variable {W : Type}

section
variable [DecidableEq W]

/-- `Edge` / `WeightedEdge` / `Weight` / `HasEdgeFromTo` for ALL ordered pairs of ids, modules included: the edge
    returned is the first entry `u → v` of `dirEdges` - the first enabled gene `u → v`, else the first input wire
    `u → ctrl v` resp. output wire `ctrl u → v` of the enabled module with that control node - with its endpoints
    and weight; nil / (·, false) / false exactly when there is none (disabled gene, disabled module, absent id) -/
theorem edge_spec_modular (g : Genome W) (netId : Int) (net : Net W) (hok : GenomeOk g = true)
    (hx : expresses g netId net = true) (u v : Int) :
    (edge? net u v).map (elink net) = specEdge g u v ∧
    weight? net u v = (specEdge g u v).map (·.w) ∧
    hasEdgeFromTo net u v = specHasEdge g u v :=
  edge_spec' ((ok_iff g).mp hok) ((expressed_iff g netId net).mp hx) u v

/-- `HasEdgeBetween(x, y)` is the symmetric closure of `HasEdgeFromTo`, modules included -/
theorem hasEdgeBetween_spec_modular (g : Genome W) (netId : Int) (net : Net W) (hok : GenomeOk g = true)
    (hx : expresses g netId net = true) (u v : Int) :
    hasEdgeBetween net u v = (specHasEdge g u v || specHasEdge g v u) :=
  hasEdgeBetween_spec' ((ok_iff g).mp hok) ((expressed_iff g netId net).mp hx) u v

/-- `From(id)` / `To(id)`, modules included: for an ordinary node the targets (sources) of the enabled genes leaving
    (entering) it in gene order, then the control nodes of the enabled modules that list it as input (output), in
    module order; for the control node of an enabled module its output (input) nodes in wire order; empty for every
    other id -/
theorem from_to_spec_modular (g : Genome W) (netId : Int) (net : Net W) (hok : GenomeOk g = true)
    (hx : expresses g netId net = true) (u : Int) : fromIds net u = specFrom g u ∧ toIds net u = specTo g u :=
  ⟨from_spec_mod (modsOk_of_ok ((ok_iff g).mp hok)) ((expressed_iff g netId net).mp hx) u,
   to_spec_mod (modsOk_of_ok ((ok_iff g).mp hok)) ((expressed_iff g netId net).mp hx) u⟩

end

theorem hasEdge_iff (g : Genome W) (u v : Int) :
    specHasEdge g u v = true ↔
      (∃ x ∈ g.genes, x.en = true ∧ x.src = u ∧ x.dst = v) ∨
      (∃ m ∈ g.modules, m.en = true ∧ m.ctrl.id = v ∧ ∃ w ∈ m.ins, w.node = u) ∨
      (∃ m ∈ g.modules, m.en = true ∧ m.ctrl.id = u ∧ ∃ w ∈ m.outs, w.node = v) := by
  unfold specHasEdge dirEdges enabledGenes enabledMods
  rw [List.any_eq_true]
  constructor
  · rintro ⟨e, he, hp⟩
    simp only [Bool.and_eq_true, beq_iff_eq] at hp
    rcases List.mem_append.mp he with h | h
    · obtain ⟨x, hx, rfl⟩ := List.mem_map.mp h
      obtain ⟨hxg, hxe⟩ := List.mem_filter.mp hx
      simp only [elinkOfGene, Option.some.injEq] at hp
      exact Or.inl ⟨x, hxg, hxe, hp.1, hp.2⟩
    · obtain ⟨m, hm, hem⟩ := List.mem_flatMap.mp h
      obtain ⟨hmg, hme⟩ := List.mem_filter.mp hm
      rcases List.mem_append.mp hem with h1 | h1
      · obtain ⟨w, hw, hs, hd⟩ := mem_modIns h1
        rw [hs, hd] at hp
        simp only [Option.some.injEq] at hp
        exact Or.inr (Or.inl ⟨m, hmg, hme, hp.2, w, hw, hp.1⟩)
      · obtain ⟨w, hw, hs, hd⟩ := mem_modOuts h1
        rw [hs, hd] at hp
        simp only [Option.some.injEq] at hp
        exact Or.inr (Or.inr ⟨m, hmg, hme, hp.1, w, hw, hp.2⟩)
  · rintro (⟨x, hxg, hxe, rfl, rfl⟩ | ⟨m, hmg, hme, rfl, w, hw, rfl⟩ | ⟨m, hmg, hme, rfl, w, hw, rfl⟩)
    · exact ⟨elinkOfGene x, List.mem_append_left _ (List.mem_map.mpr ⟨x, List.mem_filter.mpr ⟨hxg, hxe⟩, rfl⟩),
        by simp [elinkOfGene]⟩
    · refine ⟨⟨some w.node, some m.ctrl.id, w.w, false⟩, List.mem_append_right _ ?_, by simp⟩
      exact List.mem_flatMap.mpr ⟨m, List.mem_filter.mpr ⟨hmg, hme⟩,
        List.mem_append_left _ (List.mem_map.mpr ⟨w, hw, rfl⟩)⟩
    · refine ⟨⟨some m.ctrl.id, some w.node, w.w, false⟩, List.mem_append_right _ ?_, by simp⟩
      exact List.mem_flatMap.mpr ⟨m, List.mem_filter.mpr ⟨hmg, hme⟩,
        List.mem_append_right _ (List.mem_map.mpr ⟨w, hw, rfl⟩)⟩

section
variable [DecidableEq W]

/-- an id that is neither a node id nor the control id of an ENABLED module: every query reports nil / empty / false
    (in particular the control id of a disabled module) -/
theorem absent_id_modular (g : Genome W) (netId : Int) (net : Net W) (hok : GenomeOk g = true)
    (hx : expresses g netId net = true) (u : Int) (hu : u ∉ specNodes g) :
    node? net u = none ∧ fromIds net u = [] ∧ toIds net u = [] ∧
    ∀ v, edge? net u v = none ∧ edge? net v u = none ∧ weight? net u v = none ∧ weight? net v u = none ∧
      hasEdgeFromTo net u v = false ∧ hasEdgeFromTo net v u = false ∧ hasEdgeBetween net u v = false ∧
      hasEdgeBetween net v u = false :=
  absent_id' ((ok_iff g).mp hok) ((expressed_iff g netId net).mp hx) u hu

theorem phenotype_graph_view_modular (g : Genome W) (netId : Int) (net : Net W) (hok : GenomeOk g = true)
    (h : genesis g netId = .ok net) (u v : Int) :
    node? net u = specNode g u ∧ nodeIds net = specNodes g ∧
    (edge? net u v).map (elink net) = specEdge g u v ∧ weight? net u v = (specEdge g u v).map (·.w) ∧
    hasEdgeFromTo net u v = specHasEdge g u v ∧
    hasEdgeBetween net u v = (specHasEdge g u v || specHasEdge g v u) ∧
    fromIds net u = specFrom g u ∧ toIds net u = specTo g u := by
  have hx := genesis_expresses g netId net hok h
  obtain ⟨e1, e2, e3⟩ := edge_spec_modular g netId net hok hx u v
  exact ⟨(node_spec g netId net hx u).1, (node_spec g netId net hx u).2, e1, e2, e3,
    hasEdgeBetween_spec_modular g netId net hok hx u v,
    (from_to_spec_modular g netId net hok hx u).1, (from_to_spec_modular g netId net hok hx u).2⟩

end

section Examples

private def nd (id : Int) (kind : Kind) : Node := { id := id, kind := kind, act := 5, trait := none }
private def gene (inn src dst : Int) (w : Nat) (en recur : Bool) : Gene Nat :=
  { inn := inn, src := src, dst := dst, recur := recur, w := w, mnum := 0, en := en, trait := none }

/-- bias 1, input 2, output 3, hidden 4 and 5, with enabled / disabled / recurrent / self-loop genes; module 10 lists
    node 4 TWICE as input (weights 21, 25) and writes 4 (its own input) and 5; module 12 shares nodes 4 and 5 with it;
    module 11 is disabled -/
private def twoMods : Genome Nat :=
  { id := 1, traits := [],
    nodes := [nd 1 Kind.bias, nd 2 Kind.input, nd 3 Kind.output, nd 4 Kind.hidden, nd 5 Kind.hidden],
    genes := [gene 1 1 4 11 true false, gene 2 2 4 12 false false, gene 3 4 3 13 true false, gene 4 4 4 14 true true,
              gene 5 3 4 15 true true, gene 6 5 3 16 false false, gene 7 2 5 17 true false],
    modules :=
      [{ inn := 8, mnum := 0, en := true, ctrl := nd 10 Kind.hidden,
         ins := [⟨4, 21, false, none⟩, ⟨2, 24, false, none⟩, ⟨4, 25, false, none⟩],
         outs := [⟨4, 22, false, none⟩, ⟨5, 23, false, none⟩] },
       { inn := 9, mnum := 0, en := false, ctrl := nd 11 Kind.hidden, ins := [⟨1, 31, false, none⟩], outs := [⟨3, 32, false, none⟩] },
       { inn := 10, mnum := 0, en := true, ctrl := nd 12 Kind.hidden, ins := [⟨5, 41, false, none⟩, ⟨4, 42, false, none⟩],
         outs := [⟨3, 43, false, none⟩] }] }

private def netOf (g : Genome Nat) : Net Nat :=
  match genesis g 7 with
  | .ok n => n
  | .error _ => { id := 0, nodes := [], inputs := [], outputs := [] }

/-- non-vacuity: the hypotheses hold and every kind of query is exercised on a genome with several modules -/
example : GenomeOk twoMods = true ∧ expresses twoMods 7 (netOf twoMods) = true ∧ (enabledMods twoMods).length = 2 := by
  decide +kernel
example :
    -- wires into / out of control nodes, first weight wins for the doubled input
    weight? (netOf twoMods) 4 10 = some 21 ∧ weight? (netOf twoMods) 10 4 = some 22 ∧
    weight? (netOf twoMods) 2 10 = some 24 ∧ weight? (netOf twoMods) 10 5 = some 23 ∧
    weight? (netOf twoMods) 4 12 = some 42 ∧ weight? (netOf twoMods) 12 3 = some 43 ∧
    -- no wire the other way round, none at the disabled module, none between control nodes
    hasEdgeFromTo (netOf twoMods) 10 2 = false ∧ hasEdgeFromTo (netOf twoMods) 3 12 = false ∧
    hasEdgeFromTo (netOf twoMods) 1 11 = false ∧ hasEdgeFromTo (netOf twoMods) 11 3 = false ∧
    hasEdgeFromTo (netOf twoMods) 10 12 = false ∧ node? (netOf twoMods) 11 = none ∧
    hasEdgeBetween (netOf twoMods) 10 2 = true ∧ hasEdgeBetween (netOf twoMods) 3 12 = true ∧
    hasEdgeBetween (netOf twoMods) 10 12 = false ∧ hasEdgeBetween (netOf twoMods) 11 3 = false ∧
    -- genes are untouched by the modules
    weight? (netOf twoMods) 4 3 = some 13 ∧ hasEdgeFromTo (netOf twoMods) 5 3 = false ∧
    -- successors / predecessors with control nodes
    fromIds (netOf twoMods) 4 = [some 3, some 4, some 10, some 12] ∧ fromIds (netOf twoMods) 10 = [some 4, some 5] ∧
    toIds (netOf twoMods) 4 = [some 1, some 4, some 3, some 10] ∧ toIds (netOf twoMods) 10 = [some 4, some 2, some 4] ∧
    toIds (netOf twoMods) 3 = [some 4, some 12] ∧ fromIds (netOf twoMods) 11 = [] ∧ toIds (netOf twoMods) 11 = [] := by
  decide +kernel

end Examples

end GoNeat.C11
