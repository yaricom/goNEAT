/-
  Property C09, first clause, over the whole preparation phase: after `prepareForReproduction` the expected offspring
  of every organism left as a parent equals its species-shared, age-adjusted fitness divided by the population mean of
  that quantity — the value assigned inside `purgeZeroOffspringSpecies` survives quota assignment, fix-up, the species
  sort, delta coding / stolen babies, the write-back by id and the removal of the marked organisms unchanged
  (preservation chain in Proofs/ExpectedChain.lean).  Kind A: `prepare_expected_full`, `prepare_expected`,
  `prepare_expected_zero_mean`.  Kind B (exact ordered field): proportionality, positivity, the mean as the mean of the
  documented adjusted values, and the executable predicate `PopSpec.expectedWhy` holds of the model's result.
-/
import GoNeat.Proofs.ExpectedChain
import GoNeat.Props.C09ParentsExact
import GoNeat.Proofs.Exact
import GoNeat.Spec.PopInv
import Mathlib.Data.Rat.Floor

namespace GoNeat.C09
open GoNeat Scalar
variable {W : Type} [Scalar W]

/-- the population mean of the shared, age-adjusted fitness as the code computes it: adjust every species
    (`adjustAll`), then `popMean` of the population holding the adjusted species = the left fold
    `((0 + f₁) + f₂) + …` of the adjusted fitness values over `Pop.orgList` (the organisms in `Population.Organisms`
    order), divided by `ofInt (len(Population.Organisms))` -/
def popMeanAdjusted (o : EpochOpts W) (p : Pop W) : W :=
  match adjustAll o p.species with
  | .ok species1 => popMean ({ p with species := species1 } : Pop W)
  | .error _ => zero

theorem popMeanAdjusted_ok (o : EpochOpts W) (p : Pop W) (species1 : List (Species W))
    (h : adjustAll o p.species = .ok species1) :
    popMeanAdjusted o p = popMean ({ p with species := species1 } : Pop W) := by
  unfold popMeanAdjusted; rw [h]

theorem popMeanAdjusted_eq (o : EpochOpts W) (p : Pop W) (species1 : List (Species W)) (h : adjustAll o p.species = .ok species1) :
    popMeanAdjusted o p =
      div ((({ p with species := species1 } : Pop W).orgList).foldl (fun acc x => add acc x.fitness) zero)
        (ofInt ((p.organisms.length : Nat) : Int)) := by
  rw [popMeanAdjusted_ok o p species1 h]; rfl

def adjustedValues (o : EpochOpts W) (p : Pop W) : List W :=
  p.species.flatMap (fun s => s.orgs.map (fun x => adjustedFitness o s x.fitness))

/-- **C09 (what the mean is the mean of, Kind A).** If `Population.Organisms` lists exactly the members of the species,
    each once, the fitness values the code sums for the mean are — up to their order — exactly the documented adjusted
    fitness values of all organisms of the population, and the divisor is their number. -/
theorem mean_values_perm (o : EpochOpts W) (p : Pop W) (species1 : List (Species W))
    (hperm : p.organisms.Perm (C02.orgUids p.species)) (hundup : (C02.orgUids p.species).Nodup)
    (hadj : adjustAll o p.species = .ok species1) :
    ((({ p with species := species1 } : Pop W).orgList).map (·.fitness)).Perm (adjustedValues o p) ∧
    p.organisms.length = (adjustedValues o p).length := by
  have hu1 := C02.adjustAll_uids o _ _ hadj
  have h1 := orgList_perm ({ p with species := species1 } : Pop W) (hperm.trans hu1.symm) (hu1.nodup_iff.mpr hundup)
  have h2 : ((({ p with species := species1 } : Pop W).orgList).map (·.fitness)).Perm (adjustedValues o p) :=
    (h1.map _).trans (adjustAll_fitness_perm o _ _ hadj)
  refine ⟨h2, ?_⟩
  rw [hperm.length_eq]
  simp [adjustedValues, C02.orgUids, List.length_flatMap]

/-- **C09 (expected offspring, whole preparation phase, both cases of the mean).** For every population with unique
    species ids, every stream and option setting: if `prepareForReproduction` returns, every species `s1` it keeps
    stems from the species `s0` with the same id, and every organism `x` left in it stems from an organism `x0` of `s0`
    (same allocation id) such that: `x.originalFitness` is `x0`'s raw fitness, `x.fitness` is the documented adjusted
    value (C09.adjustedFitness: stagnation penalty, youth boost, negative ↦ 0.0001, shared among the members of `s0`),
    and `x.expectedOffspring = x.fitness / m` with `m` the population mean of the adjusted fitness — unless the
    code's guard `m == 0` fires, in which case the expected offspring is left as it was before the turnover. -/
theorem prepare_expected_full (o : EpochOpts W) (p p1 : Pop W) (ex : ExecState) (rs rs' : List Nat)
    (hnd : (p.species.map (·.id)).Nodup) (h : prepareForReproduction o p rs = .ok ((p1, ex), rs')) :
    ∀ s1 ∈ p1.species, ∃ s0 ∈ p.species, s1.id = s0.id ∧ ∀ x ∈ s1.orgs, ∃ x0 ∈ s0.orgs, x.uid = x0.uid ∧
      x.originalFitness = x0.fitness ∧ x.fitness = adjustedFitness o s0 x.originalFitness ∧
      x.expectedOffspring =
        (if eq (popMeanAdjusted o p) zero then x0.expectedOffspring else div x.fitness (popMeanAdjusted o p)) := by
  obtain ⟨species1, hadj, hall⟩ := prepare_orgs o p p1 ex rs rs' hnd h
  have hm := popMeanAdjusted_ok o p species1 hadj
  rw [hm]
  generalize popMean ({ p with species := species1 } : Pop W) = m at hall
  intro s1 hs1
  obtain ⟨sa, hsa, hid1, hmem⟩ := hall s1 hs1
  obtain ⟨s0, hs0, hadj0⟩ := adjustAll_mem o _ _ hadj sa hsa
  obtain ⟨hid, horgs⟩ := adjustFitness_orgs o s0 sa hadj0
  refine ⟨s0, hs0, by rw [hid1, hid], ?_⟩
  intro x hx
  obtain ⟨xa, hxa, hxe⟩ := hmem x hx
  obtain ⟨x0, hx0, e1, e2, e3, e4⟩ := horgs xa hxa
  simp only [okey, Prod.mk.injEq] at hxe
  obtain ⟨k1, k2, k3, k4⟩ := hxe
  obtain ⟨hu, hf, ho⟩ := setExp_okey m xa
  refine ⟨x0, hx0, by rw [k1, hu, e1], by rw [k3, ho, e2], by rw [k3, ho, e2, k2, hf, e3], ?_⟩
  rw [k4, k2, hf]
  unfold setExp
  split
  · exact e4
  · rfl

/-- **C09, first clause (Kind A, every scalar type).** If the population mean `m` of the shared, age-adjusted fitness
    is not (float-)equal to zero, then after `prepareForReproduction` every organism `x` left as a parent has
    `x.expectedOffspring = x.fitness / m`, where `x.fitness` is the documented adjusted value of its raw fitness
    `x.originalFitness` in its species `s0` of the old population, and `x` stems from an organism of `s0` with the same
    allocation id and that raw fitness. -/
theorem prepare_expected (o : EpochOpts W) (p p1 : Pop W) (ex : ExecState) (rs rs' : List Nat)
    (hnd : (p.species.map (·.id)).Nodup) (h : prepareForReproduction o p rs = .ok ((p1, ex), rs'))
    (hm : eq (popMeanAdjusted o p) zero = false) :
    ∀ s1 ∈ p1.species, ∃ s0 ∈ p.species, s1.id = s0.id ∧ ∀ x ∈ s1.orgs,
      x.expectedOffspring = div x.fitness (popMeanAdjusted o p) ∧
      x.fitness = adjustedFitness o s0 x.originalFitness ∧
      ∃ x0 ∈ s0.orgs, x0.uid = x.uid ∧ x0.fitness = x.originalFitness := by
  intro s1 hs1
  obtain ⟨s0, hs0, hid, hx⟩ := prepare_expected_full o p p1 ex rs rs' hnd h s1 hs1
  refine ⟨s0, hs0, hid, ?_⟩
  intro x hxm
  obtain ⟨x0, hx0, e1, e2, e3, e4⟩ := hx x hxm
  rw [hm] at e4
  exact ⟨e4, e3, x0, hx0, e1.symm, e2.symm⟩

/-- **C09, the guard.** If the population mean of the adjusted fitness is (float-)equal to zero, the code skips the
    assignment: every organism left as a parent keeps the expected offspring it had before the turnover. -/
theorem prepare_expected_zero_mean (o : EpochOpts W) (p p1 : Pop W) (ex : ExecState) (rs rs' : List Nat)
    (hnd : (p.species.map (·.id)).Nodup) (h : prepareForReproduction o p rs = .ok ((p1, ex), rs'))
    (hm : eq (popMeanAdjusted o p) zero = true) :
    ∀ s1 ∈ p1.species, ∃ s0 ∈ p.species, s1.id = s0.id ∧ ∀ x ∈ s1.orgs,
      x.fitness = adjustedFitness o s0 x.originalFitness ∧
      ∃ x0 ∈ s0.orgs, x0.uid = x.uid ∧ x0.fitness = x.originalFitness ∧ x.expectedOffspring = x0.expectedOffspring := by
  intro s1 hs1
  obtain ⟨s0, hs0, hid, hx⟩ := prepare_expected_full o p p1 ex rs rs' hnd h s1 hs1
  refine ⟨s0, hs0, hid, ?_⟩
  intro x hxm
  obtain ⟨x0, hx0, e1, e2, e3, e4⟩ := hx x hxm
  rw [hm] at e4
  exact ⟨e3, x0, hx0, e1.symm, e2.symm, e4⟩

section KindB
variable {K : Type} [Field K] [LinearOrder K] [IsStrictOrderedRing K] [FloorRing K]

omit [FloorRing K] in
theorem list_sum_ge (l : List K) (h : ∀ e ∈ l, 0 ≤ e) : 0 ≤ l.sum ∧ ∀ a ∈ l, a ≤ l.sum := by
  induction l with
  | nil => exact ⟨le_refl _, fun a ha => absurd ha List.not_mem_nil⟩
  | cons b l ih =>
    obtain ⟨i1, i2⟩ := ih (fun e he => h e (List.mem_cons_of_mem _ he))
    have hb := h b List.mem_cons_self
    rw [List.sum_cons]
    refine ⟨add_nonneg hb i1, fun a ha => ?_⟩
    rcases List.mem_cons.mp ha with rfl | ha'
    · exact le_add_of_nonneg_right i1
    · exact (i2 a ha').trans (le_add_of_nonneg_left hb)

theorem adjustAll_fitness_nonneg (o : EpochOpts K) (ss species1 : List (Species K)) (hadj : adjustAll o ss = .ok species1) :
    ∀ sa ∈ species1, ∀ xa ∈ sa.orgs, 0 ≤ xa.fitness := by
  intro sa hsa xa hxa
  obtain ⟨s0, _, hadj0⟩ := adjustAll_mem o _ _ hadj sa hsa
  obtain ⟨x0, _, _, _, e3, _⟩ := (adjustFitness_orgs o s0 sa hadj0).2 xa hxa
  rw [e3]; exact adjustedFitness_nonneg o s0 _

theorem popMean_exact (q : Pop K) :
    popMean q = (q.orgList.map (·.fitness)).sum / ((q.organisms.length : Nat) : K) := by
  unfold popMean
  simp only [Exact.div_eq, Exact.ofInt_eq, Exact.add_eq, Exact.zero_eq, Int.cast_natCast]
  rw [List.sum_eq_foldl, List.foldl_map]

theorem orgList_fitness_nonneg (o : EpochOpts K) (p : Pop K) (species1 : List (Species K))
    (hadj : adjustAll o p.species = .ok species1) :
    ∀ e ∈ ({ p with species := species1 } : Pop K).orgList.map (·.fitness), 0 ≤ e := by
  intro e he
  obtain ⟨y, hy, rfl⟩ := List.mem_map.mp he
  obtain ⟨sa, hsa, hya⟩ := orgList_mem _ y hy
  exact adjustAll_fitness_nonneg o _ _ hadj sa hsa y hya

theorem popMeanAdjusted_nonneg (o : EpochOpts K) (p : Pop K) : 0 ≤ popMeanAdjusted o p := by
  unfold popMeanAdjusted
  split
  · rename_i species1 hadj
    rw [popMean_exact]
    exact div_nonneg (list_sum_ge _ (orgList_fitness_nonneg o p species1 hadj)).1 (Nat.cast_nonneg _)
  · exact le_refl _

theorem popMeanAdjusted_pos (o : EpochOpts K) (p : Pop K) (species1 : List (Species K))
    (hl : ∀ u ∈ C02.orgUids p.species, u ∈ p.organisms) (hundup : (C02.orgUids p.species).Nodup)
    (hadj : adjustAll o p.species = .ok species1)
    (sa : Species K) (hsa : sa ∈ species1) (xa : Org K) (hxa : xa ∈ sa.orgs) (hpos : 0 < xa.fitness) :
    0 < popMeanAdjusted o p := by
  have hperm := C02.adjustAll_uids o _ _ hadj
  have hin : xa ∈ ({ p with species := species1 } : Pop K).orgList :=
    mem_orgList ({ p with species := species1 } : Pop K) (fun u hu' => hl u (hperm.subset hu')) (hperm.nodup_iff.mpr hundup) sa hsa xa hxa
  rw [popMeanAdjusted_ok o p species1 hadj, popMean_exact]
  apply div_pos (lt_of_lt_of_le hpos
    ((list_sum_ge _ (orgList_fitness_nonneg o p species1 hadj)).2 _ (List.mem_map_of_mem hin)))
  have hne : p.organisms ≠ [] := by
    intro he
    unfold Pop.orgList at hin
    simp only [he, List.filterMap_nil, List.not_mem_nil] at hin
  have : 0 < p.organisms.length := List.length_pos_iff.mpr hne
  exact_mod_cast this

/-- **C09 (Kind B): the divisor is the population mean of the adjusted fitness.** In exact arithmetic, for a
    population whose organism list lists exactly the members of its species: `m` is the sum of the documented adjusted
    fitness values of all organisms divided by their number. -/
theorem popMeanAdjusted_is_mean (o : EpochOpts K) (p : Pop K) (species1 : List (Species K))
    (hperm : p.organisms.Perm (C02.orgUids p.species)) (hundup : (C02.orgUids p.species).Nodup)
    (hadj : adjustAll o p.species = .ok species1) :
    popMeanAdjusted o p = (adjustedValues o p).sum / ((adjustedValues o p).length : K) := by
  obtain ⟨h1, h2⟩ := mean_values_perm o p species1 hperm hundup hadj
  have hm := popMeanAdjusted_ok o p species1 hadj
  rw [hm, popMean_exact, h1.sum_eq]
  show _ / ((p.organisms.length : Nat) : K) = _
  rw [h2]

theorem prepare_expected_exact (o : EpochOpts K) (p p1 : Pop K) (ex : ExecState) (rs rs' : List Nat)
    (hnd : (p.species.map (·.id)).Nodup) (h : prepareForReproduction o p rs = .ok ((p1, ex), rs')) :
    ∀ s1 ∈ p1.species, ∀ x ∈ s1.orgs, 0 ≤ x.fitness ∧
      (popMeanAdjusted o p ≠ 0 → x.expectedOffspring = x.fitness / popMeanAdjusted o p) ∧
      (C02.UidInv p → (C02.orgUids p.species).Nodup → 0 < x.fitness → 0 < popMeanAdjusted o p) := by
  obtain ⟨species1, hadj, hall⟩ := prepare_orgs o p p1 ex rs rs' hnd h
  intro s1 hs1 x hx
  obtain ⟨sa, hsa, _, hmem⟩ := hall s1 hs1
  obtain ⟨xa, hxa, hxe⟩ := hmem x hx
  simp only [okey, Prod.mk.injEq] at hxe
  obtain ⟨_, k2, _, _⟩ := hxe
  rw [(setExp_okey _ xa).2.1] at k2
  refine ⟨by rw [k2]; exact adjustAll_fitness_nonneg o _ _ hadj sa hsa xa hxa, ?_, ?_⟩
  · intro hm
    obtain ⟨s0, _, _, hx0⟩ := prepare_expected_full o p p1 ex rs rs' hnd h s1 hs1
    obtain ⟨x0, _, _, _, _, e4⟩ := hx0 x hx
    have : Scalar.eq (popMeanAdjusted o p) Scalar.zero = false := by simpa using hm
    rw [this] at e4
    exact e4
  · intro hu hundup hpos
    exact popMeanAdjusted_pos o p species1 hu.listed hundup hadj sa hsa xa hxa (by rw [← k2]; exact hpos)

/-- **C09 (Kind B): one population-wide factor.** If the mean is not zero, the expected offspring of the organisms left
    as parents are proportional to their shared, age-adjusted fitness: `e_x · f_y = e_y · f_x`. -/
theorem prepare_expected_proportional (o : EpochOpts K) (p p1 : Pop K) (ex : ExecState) (rs rs' : List Nat)
    (hnd : (p.species.map (·.id)).Nodup) (h : prepareForReproduction o p rs = .ok ((p1, ex), rs'))
    (hm : popMeanAdjusted o p ≠ 0) :
    ∀ s1 ∈ p1.species, ∀ x ∈ s1.orgs, ∀ s2 ∈ p1.species, ∀ y ∈ s2.orgs,
      x.expectedOffspring * y.fitness = y.expectedOffspring * x.fitness := by
  intro s1 hs1 x hx s2 hs2 y hy
  have hx' := (prepare_expected_exact o p p1 ex rs rs' hnd h s1 hs1 x hx).2.1 hm
  have hy' := (prepare_expected_exact o p p1 ex rs rs' hnd h s2 hs2 y hy).2.1 hm
  rw [hx', hy']; ring

/-- **C09 (Kind B): positive fitness, positive expectation.** With a positive mean, an organism with positive adjusted
    fitness has a positive expected offspring. -/
theorem prepare_expected_pos (o : EpochOpts K) (p p1 : Pop K) (ex : ExecState) (rs rs' : List Nat)
    (hnd : (p.species.map (·.id)).Nodup) (h : prepareForReproduction o p rs = .ok ((p1, ex), rs'))
    (hm : 0 < popMeanAdjusted o p) :
    ∀ s1 ∈ p1.species, ∀ x ∈ s1.orgs, 0 < x.fitness → 0 < x.expectedOffspring := by
  intro s1 hs1 x hx hpos
  rw [(prepare_expected_exact o p p1 ex rs rs' hnd h s1 hs1 x hx).2.1 (ne_of_gt hm)]
  exact div_pos hpos hm

/-- **C09 (Kind B), no side condition on the mean.** For a consistently allocated population with pairwise distinct
    organisms: after the preparation phase an organism with positive adjusted fitness has a positive expected offspring
    (the mean is then positive), and the expected offspring of any two organisms are proportional to their adjusted
    fitness (if the mean is zero, all adjusted fitness values are zero). -/
theorem prepare_expected_all (o : EpochOpts K) (p p1 : Pop K) (ex : ExecState) (rs rs' : List Nat)
    (hnd : (p.species.map (·.id)).Nodup) (hu : C02.UidInv p) (hundup : (C02.orgUids p.species).Nodup)
    (h : prepareForReproduction o p rs = .ok ((p1, ex), rs')) :
    (∀ s1 ∈ p1.species, ∀ x ∈ s1.orgs, 0 < x.fitness → 0 < x.expectedOffspring) ∧
    (∀ s1 ∈ p1.species, ∀ x ∈ s1.orgs, ∀ s2 ∈ p1.species, ∀ y ∈ s2.orgs,
      x.expectedOffspring * y.fitness = y.expectedOffspring * x.fitness) := by
  have hE := prepare_expected_exact o p p1 ex rs rs' hnd h
  constructor
  · intro s1 hs1 x hx hpos
    exact prepare_expected_pos o p p1 ex rs rs' hnd h ((hE s1 hs1 x hx).2.2 hu hundup hpos) s1 hs1 x hx hpos
  · by_cases hm : popMeanAdjusted o p = 0
    · -- zero mean: every adjusted fitness is zero
      have hz : ∀ s1 ∈ p1.species, ∀ x ∈ s1.orgs, x.fitness = 0 := by
        intro s1 hs1 x hx
        obtain ⟨h0, _, h2⟩ := hE s1 hs1 x hx
        rcases eq_or_lt_of_le h0 with e | hlt
        · exact e.symm
        · have := h2 hu hundup hlt
          rw [hm] at this
          exact absurd this (lt_irrefl _)
      intro s1 hs1 x hx s2 hs2 y hy
      rw [hz s1 hs1 x hx, hz s2 hs2 y hy]; ring
    · exact prepare_expected_proportional o p p1 ex rs rs' hnd h hm

theorem expectedWhy_of (p1 : Pop K)
    (hpos : ∀ x ∈ p1.species.flatMap (·.orgs), 0 < x.fitness → 0 < x.expectedOffspring)
    (hprop : ∀ x ∈ p1.species.flatMap (·.orgs), ∀ r ∈ p1.species.flatMap (·.orgs),
      x.expectedOffspring * r.fitness = r.expectedOffspring * x.fitness) :
    PopSpec.expectedWhy p1 = "" := by
  unfold PopSpec.expectedWhy
  simp only
  have h1 : (p1.species.flatMap (·.orgs)).find? (fun x => Scalar.lt Scalar.zero x.fitness && !Scalar.lt Scalar.zero x.expectedOffspring) = none := by
    rw [List.find?_eq_none]
    intro x hx
    simp only [Exact.lt_eq, Exact.zero_eq, Bool.and_eq_true, decide_eq_true_eq, Bool.not_eq_true', decide_eq_false_iff_not,
      not_and, not_not]
    exact hpos x hx
  rw [h1]
  simp only
  split
  · rfl
  · rename_i r hr
    have hrm := List.mem_of_find?_eq_some hr
    have h2 : (p1.species.flatMap (·.orgs)).find? (fun x =>
          Scalar.lt (Scalar.mul (Scalar.ofDec 1 9) (Scalar.add (Scalar.abs (Scalar.mul x.expectedOffspring r.fitness))
            (Scalar.abs (Scalar.mul r.expectedOffspring x.fitness))))
            (Scalar.abs (Scalar.sub (Scalar.mul x.expectedOffspring r.fitness) (Scalar.mul r.expectedOffspring x.fitness)))) = none := by
      rw [List.find?_eq_none]
      intro x hx
      simp only [Exact.lt_eq, Exact.mul_eq, Exact.add_eq, Exact.abs_eq, Exact.sub_eq, decide_eq_true_eq, not_lt]
      rw [hprop x hx r hrm, sub_self, abs_zero]
      exact mul_nonneg (Exact.ofDec_pos 9).le (add_nonneg (abs_nonneg _) (abs_nonneg _))
    rw [h2]

/-- **C09 (Kind B): the model passes the executable predicate.** For a consistently allocated population with pairwise
    distinct organisms and unique species ids, in exact arithmetic, the population returned by the model's preparation
    phase satisfies `PopSpec.expectedWhy` — the predicate the driver evaluates on the implementation's own numbers
    (there with the relative tolerance 1e-9 the predicate allows for float64 rounding; here the two sides are equal). -/
theorem expectedWhy_model (o : EpochOpts K) (p p1 : Pop K) (ex : ExecState) (rs rs' : List Nat)
    (hnd : (p.species.map (·.id)).Nodup) (hu : C02.UidInv p) (hundup : (C02.orgUids p.species).Nodup)
    (h : prepareForReproduction o p rs = .ok ((p1, ex), rs')) :
    PopSpec.expectedWhy p1 = "" := by
  obtain ⟨hp, hq⟩ := prepare_expected_all o p p1 ex rs rs' hnd hu hundup h
  apply expectedWhy_of
  · intro x hx
    obtain ⟨s1, hs1, hx1⟩ := List.mem_flatMap.mp hx
    exact hp s1 hs1 x hx1
  · intro x hx r hr
    obtain ⟨s1, hs1, hx1⟩ := List.mem_flatMap.mp hx
    obtain ⟨s2, hs2, hr2⟩ := List.mem_flatMap.mp hr
    exact hq s1 hs1 x hx1 s2 hs2 r hr2

end KindB

section NonVacuity

/-- `exactScalar ℚ` with the comparisons decided by ℚ's own order instead of classical choice, so that the kernel can
    evaluate the model; it is the same instance (`ratScalar_eq`) -/
@[instance_reducible] noncomputable def ratScalar : Scalar ℚ :=
  { exactScalar ℚ with
    lt := fun a b => decide (a < b), le := fun a b => decide (a ≤ b), eq := fun a b => decide (a = b),
    f32Ge03 := fun x => decide ((3 : ℚ) / 10 ≤ x) }

theorem ratScalar_eq : exactScalar ℚ = ratScalar := by
  unfold exactScalar ratScalar
  congr

def qOpts : EpochOpts ℚ :=
  { popSize := 3, dropOffAge := 15, ageSignificance := 1, survivalThresh := 1 / 2, babiesStolen := 0, compatThreshold := 3,
    compat := { disjointCoeff := 1, excessCoeff := 1, mutdiffCoeff := 1, linear := true },
    mutateOnlyProb := 1, mutateAddNodeProb := 1, mutateAddLinkProb := 1, mutateConnectSensors := 1,
    interspeciesMateRate := 1, mateMultipointProb := 1, mateMultipointAvgProb := 1, mateSinglepointProb := 1,
    mateOnlyProb := 1,
    mopts := { recurOnlyProb := 0, newLinkTries := 3, activators := [4], activatorProbs := [1], traitMutationPower := 0,
               traitParamMutProb := 0, weightMutPower := 0, mutateRandomTraitProb := 1, mutateLinkTraitProb := 1,
               mutateNodeTraitProb := 1, mutateLinkWeightsProb := 1, mutateToggleEnableProb := 1, mutateGeneReenableProb := 1 } }

def qOrg (uid : Nat) (f : ℚ) : Org ℚ :=
  { uid := uid, fitness := f, expectedOffspring := 7, generation := 0, originalFitness := 0, highestFitness := 0,
    genome := { id := uid, traits := [⟨1, []⟩], nodes := [⟨1, Kind.input, 4, none⟩, ⟨2, Kind.output, 4, none⟩],
                genes := [⟨1, 1, 2, false, 0, 0, true, none⟩] } }

/-- two species (ids 1 and 4) with raw fitness values `f0, f2` and `f1`; organism list `[0, 1, 2]` -/
def qPop (f0 f1 f2 : ℚ) : Pop ℚ :=
  { species := [{ id := 1, age := 3, maxFitnessEver := 0, expectedOffspring := 0, isNovel := false, orgs := [qOrg 0 f0, qOrg 2 f2],
                  ageOfLastImprovement := 0 },
                { id := 4, age := 1, maxFitnessEver := 0, expectedOffspring := 0, isNovel := true, orgs := [qOrg 1 f1],
                  ageOfLastImprovement := 0 }],
    organisms := [0, 1, 2], lastSpecies := 4, highestFitness := 0, epochsHighestLastChanged := 0,
    reg := { records := [], nextInn := 1, nextNode := 2 }, nextUid := 3 }

/-- species id and quota of the result -/
def quotasOf {W} (r : R (Pop W × ExecState)) : List (Int × Int) :=
  match r with | .ok ((q, _), _) => q.species.map (fun (s : Species W) => (s.id, s.expectedOffspring)) | .error _ => []

/-- (allocation id, fitness, original fitness, expected offspring) of the organisms left as parents -/
def parentsOf {W} (r : R (Pop W × ExecState)) : List (Nat × W × W × W) :=
  match r with | .ok ((q, _), _) => q.species.flatMap (fun (s : Species W) => s.orgs.map okey) | .error _ => []

theorem ok_of_parents {W} (r : R (Pop W × ExecState)) (h : parentsOf r ≠ []) : ∃ p1 ex rs', r = .ok ((p1, ex), rs') := by
  match r, h with
  | .ok ((q, ex), rs'), _ => exact ⟨q, ex, rs', rfl⟩
  | .error _, h => exact absurd rfl h

/-- the hypotheses shared by all theorems of this file hold for `qPop` -/
example (f0 f1 f2 : ℚ) : ((qPop f0 f1 f2).species.map (·.id)).Nodup ∧ C02.UidInv (qPop f0 f1 f2) ∧
    (C02.orgUids (qPop f0 f1 f2).species).Nodup ∧ (qPop f0 f1 f2).organisms.Perm (C02.orgUids (qPop f0 f1 f2).species) :=
  ⟨by simp [qPop], ⟨by simp [qPop, C02.orgUids, qOrg], by simp [qPop]⟩, by simp [qPop, C02.orgUids, qOrg],
   by simp only [qPop, C02.orgUids, qOrg, List.flatMap_cons, List.flatMap_nil, List.map_cons, List.map_nil, List.cons_append,
        List.nil_append, List.append_nil]
      exact (List.Perm.swap 2 1 []).cons 0⟩

/-- raw fitness 1, 5 (species 1, shared by two: 1/2, 5/2) and 3 (species 4): the preparation phase returns, the mean
    is 2 ≠ 0, all three organisms stay parents with expected offspring 5/4, 1/4, 3/2 (quotas 1 and 2) — and the
    executable predicate accepts the result (evaluated, independently of `expectedWhy_model`) -/
example :
    (∃ p1 ex rs', prepareForReproduction qOpts (qPop 1 3 5) [] = .ok ((p1, ex), rs')) ∧
    popMeanAdjusted qOpts (qPop 1 3 5) = 2 ∧ Scalar.eq (popMeanAdjusted qOpts (qPop 1 3 5)) Scalar.zero = false ∧
    0 < popMeanAdjusted qOpts (qPop 1 3 5) ∧
    quotasOf (prepareForReproduction qOpts (qPop 1 3 5) []) = [(1, 1), (4, 2)] ∧
    parentsOf (prepareForReproduction qOpts (qPop 1 3 5) []) = [(2, 5 / 2, 5, 5 / 4), (0, 1 / 2, 1, 1 / 4), (1, 3, 3, 3 / 2)] ∧
    PopSpec.expectedWhy (match prepareForReproduction qOpts (qPop 1 3 5) [] with | .ok ((q, _), _) => q | .error _ => qPop 1 3 5) = "" := by
  have hm : popMeanAdjusted qOpts (qPop 1 3 5) = 2 := by rw [ratScalar_eq]; decide +kernel
  -- the three observations of the result, evaluated together
  have hv : (quotasOf (prepareForReproduction qOpts (qPop 1 3 5) []),
      parentsOf (prepareForReproduction qOpts (qPop 1 3 5) []),
      PopSpec.expectedWhy (match prepareForReproduction qOpts (qPop 1 3 5) [] with | .ok ((q, _), _) => q | .error _ => qPop 1 3 5)) =
      ([(1, 1), (4, 2)], [(2, 5 / 2, 5, 5 / 4), (0, 1 / 2, 1, 1 / 4), (1, 3, 3, 3 / 2)], "") := by
    rw [ratScalar_eq]; decide +kernel
  simp only [Prod.mk.injEq] at hv
  obtain ⟨hq, hp, hw⟩ := hv
  refine ⟨ok_of_parents _ (by rw [hp]; simp), hm, ?_, by rw [hm]; norm_num, hq, hp, hw⟩
  rw [hm]; simp

/-- all raw fitness values zero: the preparation phase returns, the mean is zero, the guard fires and every organism keeps
    the (stale) expected offspring 7 it came with — the quotas are then computed from those stale values (14 and 7) -/
example :
    (∃ p1 ex rs', prepareForReproduction qOpts (qPop 0 0 0) [] = .ok ((p1, ex), rs')) ∧
    Scalar.eq (popMeanAdjusted qOpts (qPop 0 0 0)) Scalar.zero = true ∧
    quotasOf (prepareForReproduction qOpts (qPop 0 0 0) []) = [(1, 14), (4, 7)] ∧
    parentsOf (prepareForReproduction qOpts (qPop 0 0 0) []) = [(0, 0, 0, 7), (2, 0, 0, 7), (1, 0, 0, 7)] := by
  have hv : (quotasOf (prepareForReproduction qOpts (qPop 0 0 0) []), parentsOf (prepareForReproduction qOpts (qPop 0 0 0) [])) =
      ([(1, 14), (4, 7)], [(0, 0, 0, 7), (2, 0, 0, 7), (1, 0, 0, 7)]) := by
    rw [ratScalar_eq]; decide +kernel
  simp only [Prod.mk.injEq] at hv
  obtain ⟨hq, hp⟩ := hv
  refine ⟨ok_of_parents _ (by rw [hp]; simp), ?_, hq, hp⟩
  rw [ratScalar_eq]; decide +kernel

end NonVacuity

end GoNeat.C09
