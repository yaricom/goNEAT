/-
  Property C09, Kind B: the carry of fractional offspring in exact ordered-field arithmetic (`exactScalar`).
  float64 rounding of the same computation is outside these theorems; the integer fix-up that follows it is
  proved for every outcome in `Props/C09.lean`.

  The idea: the whole part of carry + Σ expected offspring goes to the count, the fraction is the new carry
  (`countOffspringList_eq`, `assignQuotas_eq`); conservation, the bounds on the carry and the exact total follow.
-/
import GoNeat.Props.C09
import GoNeat.Proofs.Exact

namespace GoNeat.C09
open GoNeat
variable {K : Type} [Field K] [LinearOrder K] [IsStrictOrderedRing K] [FloorRing K]

theorem fmod1_nonneg (x : K) (h : 0 ≤ x) : (Scalar.fmod1 x : K) = Int.fract x := by
  show (if 0 ≤ x then Int.fract x else -(Int.fract (-x))) = Int.fract x
  simp [h]

/-- a summand and its fractional part differ by an integer: the floor of the sum moves by it, the fractional part stays -/
theorem floor_add_fract_right (a x : K) : ⌊a + Int.fract x⌋ = ⌊a + x⌋ - ⌊x⌋ := by
  rw [← Int.self_sub_floor x, ← add_sub_assoc, Int.floor_sub_intCast]

theorem fract_add_fract_right (a x : K) : Int.fract (a + Int.fract x) = Int.fract (a + x) := by
  rw [← Int.self_sub_floor x, ← add_sub_assoc, Int.fract_sub_intCast]

/-- one step of the carry, both branches at once: the whole part of `skim + e` goes to the count, its fractional part is
    the new carry -/
theorem countOffspringList_cons (e : K) (es : List K) (he : 0 ≤ e) (skim : K) (h0 : 0 ≤ skim) (acc : Int) :
    countOffspringList (e :: es) skim acc = countOffspringList es (Int.fract (skim + e)) (acc + ⌊skim + e⌋) := by
  -- as the code computes it: `⌊e⌋` first, then the whole part of `skim + fract e` (zero while that stays below one)
  have hcode : countOffspringList (e :: es) skim acc =
      countOffspringList es (Int.fract (skim + Int.fract e)) (acc + ⌊e⌋ + ⌊skim + Int.fract e⌋) := by
    rw [countOffspringList]
    simp only [Exact.floorInt_eq, Exact.add_eq, Exact.ge_eq, Exact.one_eq, Exact.floor_eq, Exact.sub_eq, fmod1_nonneg e he]
    by_cases hge : (1 : K) ≤ skim + Int.fract e
    · rw [if_pos (decide_eq_true hge), Int.floor_intCast, Int.self_sub_floor]
    · rw [if_neg (by simpa using hge)]
      have hx : 0 ≤ skim + Int.fract e ∧ skim + Int.fract e < 1 := ⟨add_nonneg h0 (Int.fract_nonneg e), lt_of_not_ge hge⟩
      rw [Int.fract_eq_self.mpr hx, Int.floor_eq_zero_iff.mpr hx, Int.add_zero]
  rw [hcode, fract_add_fract_right, floor_add_fract_right, add_assoc, add_sub_cancel]

/-- **C09 (what the carry computes, Kind B).** With incoming carry in `[0,1)` and expected-offspring values `≥ 0`:
    the count grows by the floor of carry + sum, the outgoing carry is the fractional part. -/
theorem countOffspringList_eq (es : List K) (hnn : ∀ e ∈ es, 0 ≤ e) (skim : K) (h0 : 0 ≤ skim) (h1 : skim < 1) (acc : Int) :
    countOffspringList es skim acc = (acc + ⌊skim + es.sum⌋, Int.fract (skim + es.sum)) := by
  induction es generalizing skim acc with
  | nil => rw [countOffspringList, List.sum_nil, add_zero, Int.floor_eq_zero_iff.mpr ⟨h0, h1⟩, Int.fract_eq_self.mpr ⟨h0, h1⟩,
      Int.add_zero]
  | cons e es ih =>
    rw [countOffspringList_cons e es (hnn e List.mem_cons_self) skim h0,
      ih (fun x hx => hnn x (List.mem_cons_of_mem _ hx)) _ (Int.fract_nonneg _) (Int.fract_lt_one _),
      add_comm _ es.sum, floor_add_fract_right, fract_add_fract_right, add_add_sub_cancel, add_comm es.sum, add_assoc,
      List.sum_cons]

/-- **C09 (carry lemma, Kind B).** Processing the expected-offspring values `es ≥ 0` of a species with incoming
    carry `0 ≤ skim < 1`: the whole offspring counted plus the outgoing carry equals the incoming carry plus the
    sum of the expected offspring, and the outgoing carry is again in `[0,1)`. -/
theorem countOffspringList_carry (es : List K) (hnn : ∀ e ∈ es, 0 ≤ e) (skim : K) (h0 : 0 ≤ skim) (h1 : skim < 1) (acc : Int) :
    (((countOffspringList es skim acc).1 : Int) : K) + (countOffspringList es skim acc).2 = (acc : K) + skim + es.sum ∧
    0 ≤ (countOffspringList es skim acc).2 ∧ (countOffspringList es skim acc).2 < 1 := by
  rw [countOffspringList_eq es hnn skim h0 h1]
  exact ⟨by rw [Int.cast_add, add_assoc, Int.floor_add_fract, add_assoc], Int.fract_nonneg _, Int.fract_lt_one _⟩

theorem countOffspring_eq (s : Species K) (hnn : ∀ o ∈ s.orgs, 0 ≤ o.expectedOffspring) (skim : K) (h0 : 0 ≤ skim)
    (h1 : skim < 1) :
    countOffspring s skim =
      (⌊skim + (s.orgs.map (·.expectedOffspring)).sum⌋, Int.fract (skim + (s.orgs.map (·.expectedOffspring)).sum)) := by
  rw [countOffspring, countOffspringList_eq _ (List.forall_mem_map.mpr hnn) skim h0 h1, Int.zero_add]

/-- per species: the quota differs from the sum of its members' expected offspring by less than one -/
theorem species_quota_close (s : Species K) (skim : K) (h0 : 0 ≤ skim) (h1 : skim < 1)
    (hnn : ∀ o ∈ s.orgs, 0 ≤ o.expectedOffspring) :
    |(((countOffspring s skim).1 : Int) : K) - (s.orgs.map (·.expectedOffspring)).sum| < 1 := by
  rw [countOffspring_eq s hnn skim h0 h1]
  -- `⌊c + S⌋ - S = c - fract (c + S)`, two numbers of `[0,1)`
  rw [← Int.self_sub_fract, sub_right_comm, add_sub_cancel_right]
  exact abs_sub_lt_of_nonneg_of_lt h0 h1 (Int.fract_nonneg _) (Int.fract_lt_one _)

def expectedTotal (ss : List (Species K)) : K := (ss.map (fun s => (s.orgs.map (·.expectedOffspring)).sum)).sum

/-- **C09 (what the quota assignment computes, Kind B).** Over the species list: the total grows by the floor of incoming
    carry + total expected offspring, the final carry is the fractional part. -/
theorem assignQuotas_eq (ss : List (Species K)) (hnn : ∀ s ∈ ss, ∀ o ∈ s.orgs, 0 ≤ o.expectedOffspring)
    (skim : K) (h0 : 0 ≤ skim) (h1 : skim < 1) (tot : Int) :
    (assignQuotas ss skim tot).2 = (Int.fract (skim + expectedTotal ss), tot + ⌊skim + expectedTotal ss⌋) := by
  induction ss generalizing skim tot with
  | nil => rw [assignQuotas, expectedTotal, List.map_nil, List.sum_nil, add_zero, Int.floor_eq_zero_iff.mpr ⟨h0, h1⟩,
      Int.fract_eq_self.mpr ⟨h0, h1⟩, Int.add_zero]
  | cons s ss ih =>
    rw [assignQuotas, countOffspring_eq s (hnn s List.mem_cons_self) skim h0 h1]
    show (assignQuotas ss _ _).2 = _
    rw [ih (fun t ht => hnn t (List.mem_cons_of_mem _ ht)) _ (Int.fract_nonneg _) (Int.fract_lt_one _),
      add_comm _ (expectedTotal ss), floor_add_fract_right, fract_add_fract_right, add_add_sub_cancel,
      add_comm (expectedTotal ss), add_assoc]
    rfl

/-- **C09 (quotas before the fix-up, Kind B).** Over the whole species list the quotas plus the final carry equal the
    total expected offspring; the final carry is in `[0,1)`. -/
theorem assignQuotas_total (ss : List (Species K)) (hnn : ∀ s ∈ ss, ∀ o ∈ s.orgs, 0 ≤ o.expectedOffspring)
    (skim : K) (h0 : 0 ≤ skim) (h1 : skim < 1) (tot : Int) :
    (((assignQuotas ss skim tot).2.2 : Int) : K) + (assignQuotas ss skim tot).2.1 = (tot : K) + skim + expectedTotal ss ∧
    0 ≤ (assignQuotas ss skim tot).2.1 ∧ (assignQuotas ss skim tot).2.1 < 1 ∧
    (assignQuotas ss skim tot).2.2 = tot + quotaSum (assignQuotas ss skim tot).1 := by
  refine ⟨?_, ?_, ?_, assignQuotas_sumA ss skim tot⟩ <;> rw [assignQuotas_eq ss hnn skim h0 h1]
  exacts [by rw [Int.cast_add, add_assoc, Int.floor_add_fract, add_assoc], Int.fract_nonneg _, Int.fract_lt_one _]

/-- **C09 (raw total, Kind B).** If the expected offspring of all organisms sum to the population size `n`
    (they do: each is `fitness / mean fitness`), the raw quotas total exactly `n` — so in exact arithmetic the
    make-up offspring is never needed. -/
theorem quotas_total_exact (ss : List (Species K)) (hnn : ∀ s ∈ ss, ∀ o ∈ s.orgs, 0 ≤ o.expectedOffspring)
    (n : Int) (hsum : expectedTotal ss = (n : K)) :
    quotaSum (assignQuotas ss 0 0).1 = n := by
  have h := assignQuotas_sumA ss (0 : K) 0
  rw [assignQuotas_eq ss hnn 0 (le_refl 0) zero_lt_one, hsum, zero_add, Int.floor_intCast, Int.zero_add, Int.zero_add] at h
  exact h.symm

end GoNeat.C09
