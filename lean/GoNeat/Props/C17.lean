/-
  C17 — evolution is reproducible from the random seed.

  The model of spawn + k epochs (`Model/Evolve.lean: run`, over `Model/Epoch.lean: spawn, nextEpoch`) is a Lean
  FUNCTION of (options, fitness assignment, start genome, number of epochs, raw stream): by construction there is
  nothing else — no clock, no address, no map order, no earlier work — it could depend on.  What needs proof is how it
  depends on the stream:

  `prefix_determinism`      every `Rand` primitive and the whole run depend only on the prefix of the raw stream they
                            report as consumed: the consumed part is a prefix of the input, the rest is returned
                            untouched, and on ANY stream starting with that prefix the result is the same
                            (lifted through every monadic bind of the model: all mutators, all crossovers, stolen
                            babies, spawn, reproduce, the epoch, the k-epoch run)           [Proofs/PrefixDet, PrefixDet2]
  `run_reproducible`        two streams that agree on the consumed prefix give the identical population;
                            `run_trace_reproducible`: the identical population after EVERY epoch, for `evolveTrace`
                            from any population
  `run_error_reproducible`  the same for a run that fails with a model error (the `err` half of `Det`)
  `nondet_sources_allowed`  the REGENERATED table of nondeterminism sources reachable from NewPopulation /
                            SequentialPopulationEpochExecutor.NextEpoch (`Gen/NonDet.lean`) is within the committed,
                            justified allow-list — re-proved on every run

  The tie of the model to the Go code is the bit-exact multi-epoch co-simulation (`epoch`, `spawn` ops) and the twin
  runs of the real code under perturbation (`twinRun`).
-/
import GoNeat.Proofs.PrefixDet2
import GoNeat.Spec.NonDetExpect
import GoNeat.Gen.NonDet

namespace GoNeat.C17
open GoNeat

/-- every random primitive of `Model/Rand.lean` (for every scalar type) and the whole sequential run
    (`spawn` followed by `k` × (`assignFitness`; `nextEpoch`)), for all options, fitness assignments, start genomes and
    numbers of epochs, depend only on the consumed prefix of the raw stream -/
theorem prefix_determinism :
    PrefixDet Rand.int63 ∧
    (∀ (W : Type) [Scalar W], PrefixDet (Rand.float64 (W := W))) ∧
    (∀ (W : Type) [Scalar W], PrefixDet (Rand.float32Ge03 W)) ∧
    (∀ n max, PrefixDet (Rand.int31nLoop n max)) ∧
    (∀ n, PrefixDet (Rand.intn n)) ∧
    PrefixDet Rand.randSign ∧
    (∀ (W : Type) [Scalar W], PrefixDet (Rand.signedUnit (W := W))) ∧
    (∀ (W : Type) [Scalar W] (o : EpochOpts W) (g : Genome W), PrefixDet (spawn o g)) ∧
    (∀ (W : Type) [Scalar W] (o : EpochOpts W) (generation : Int) (p : Pop W), PrefixDet (nextEpoch o generation p)) ∧
    (∀ (W : Type) [Scalar W] (o : EpochOpts W) (fit : Int → Genome W → W) (g : Genome W) (k : Nat), PrefixDet (run o fit g k)) :=
  ⟨Rand.int63_det.ok, fun _ _ => Rand.float64_det.ok, fun W _ => (Rand.float32Ge03_det W).ok,
   fun n max => (Rand.int31nLoop_det n max).ok, fun n => (Rand.intn_det n).ok, Rand.randSign_det.ok,
   fun _ _ => Rand.signedUnit_det.ok, fun _ _ o g => (spawn_det o g).ok, fun _ _ o gen p => (nextEpoch_det o gen p).ok,
   fun _ _ o fit g k => (run_det o fit g k).ok⟩

/-- identical inputs + streams that agree on the consumed prefix ⇒ identical final population (every field, every
    float of every genome, registry and counters included: equality of model values) -/
theorem run_reproducible {W : Type} [Scalar W] (o : EpochOpts W) (fit : Int → Genome W → W) (g : Genome W) (k : Nat)
    {rs₁ rs₂ rest₁ rest₂ : List Nat} {p : Pop W}
    (h : run o fit g k rs₁ = .ok (p, rest₁)) (hpre : ∃ used, rs₁ = used ++ rest₁ ∧ rs₂ = used ++ rest₂) :
    run o fit g k rs₂ = .ok (p, rest₂) :=
  prefixDet_agree (run_det o fit g k).ok h hpre

/-- the same for `evolveTrace` (the list of the populations after each epoch), started from ANY population and generation
    number, not only from `spawn` -/
theorem run_trace_reproducible {W : Type} [Scalar W] (o : EpochOpts W) (fit : Int → Genome W → W) (k : Nat)
    (generation : Int) (p : Pop W) {rs₁ rs₂ rest₁ rest₂ : List Nat} {ps : List (Pop W)}
    (h : evolveTrace o fit k generation p rs₁ = .ok (ps, rest₁))
    (hpre : ∃ used, rs₁ = used ++ rest₁ ∧ rs₂ = used ++ rest₂) :
    evolveTrace o fit k generation p rs₂ = .ok (ps, rest₂) :=
  prefixDet_agree (evolveTrace_det o fit k generation p).ok h hpre

/-- a run that fails with a model error fails identically on every stream with the same determining prefix -/
theorem run_error_reproducible {W : Type} [Scalar W] (o : EpochOpts W) (fit : Int → Genome W → W) (g : Genome W) (k : Nat)
    {rs : List Nat} {e : String} (h : run o fit g k rs = .error (.error e)) :
    ∃ used tail, rs = used ++ tail ∧ ∀ rs', run o fit g k (used ++ rs') = .error (.error e) :=
  (run_det o fit g k).err rs e h

/-- the regenerated obligation: no source of nondeterminism outside the allow-list, and both roots were found -/
theorem nondet_sources_allowed :
    NonDetTable.notAllowed NonDetExpect.allowed Gen.nondetSources = [] ∧ Gen.nondetMissingRoots = [] := by
  decide +kernel

/-- non-vacuity of the hypotheses of `run_reproducible` at the level of a primitive with a rejection loop:
    `Intn(3)` rejects the first raw value, accepts the second; two streams that share these two values and differ
    afterwards give the same result and their own remainders -/
example : Rand.intn 3 [9223372032559808512, 21474836480, 7, 8] = .ok (2, [7, 8]) ∧
          Rand.intn 3 [9223372032559808512, 21474836480, 100] = .ok (2, [100]) :=
  ⟨by rfl, prefixDet_agree (Rand.intn_prefixDet 3) (rs₁ := [9223372032559808512, 21474836480, 7, 8]) (rest₁ := [7, 8])
    (by rfl) ⟨[9223372032559808512, 21474836480], rfl, rfl⟩⟩

end GoNeat.C17
