/-
  C16(b), second part — the structural mutations of the species goroutines INTERLEAVE on the shared registry at the
  granularity of the Go calls (`Innovations()` snapshot · `NextNodeId()` · `NextInnovationNumber()` · `StoreInnovation`),
  and still every genome is well-formed and C03's consistency holds, for EVERY scheduler.

  Model: Model/ParEpoch.lean — `Prog` (a thread-local computation interrupted by registry operations), the non-atomic
  `mutateAddLinkP` / `mutateAddNodeP` / `mutateConnectSensorsP`, the species goroutine `reproduceSpeciesP`, `pstep` /
  `runSched` (any scheduler list), `parEpoch` (prepare · goroutines under a schedule · arrival in any order · speciate ·
  finalize).
  Tie to the Go code: (1) `nonatomic_eq_atomic` below (without interference = the co-simulated atomic model); (2) the
  non-atomic mutators are CO-SIMULATED UNDER INTERFERENCE: op `parInterleave` (harness ops_interleave.go, driver
  `hParInterleave` in Driver/Parallel.lean) runs the real mutators nested-interleaved on one Population, records the trace
  of registry operations and every thread's random values, and steps `pstep` along that trace - same operation and value
  at every step, same genomes / flags / errors / registry at the end.
    `nonatomic_eq_atomic`, `goroutine_eq_sequential`
                              run back to back on one registry, the non-atomic mutators / the species goroutine ARE the
                              atomic model functions of Model/Mutate.lean / Model/Epoch.lean (co-simulated bit-exactly)
    `invB_frame`, `regInv_of_invB`   (Proofs/ParFrame.lean)
                              C03's `InvB` is stable under what the other threads do (append records of numbers they own,
                              raise the counters), and gives every genome its C01 `RegInv`; `regInv_frame`, the frame
                              lemma for `RegInv` itself, is stated beside them and not used by the proofs here
    `sched_sound`             (Proofs/ParFrameSound.lean) rely/guarantee: the global invariant + every thread's obligation
                              survive every step of every scheduler
    `par_mutation_wf`         for every scheduler list, any number of threads each mutating its own genome: whatever a
                              thread has returned is well-formed and keeps the IO nodes, trait ids, modules, first gene
    `par_mutation_consistent` … and when all have returned: C03's `Inv` for the final registry and the pool with all
                              results added (one number = one link, one node id = one role, records consistent and
                              pairwise distinct in their numbers, everything at most the counters), and C01's `RegInv`
                              for every genome
    `par_species_quota`       every species goroutine delivers exactly its quota of well-formed babies, any schedule
    `parEpoch_guarantees`     a whole epoch of the parallel executor: size / partition / unique ids (C02), all genomes
                              `WFT` and `PoolOk` (C01), `PopC03` for the extended history (C03) - every schedule, every
                              order of arrival; all invariants re-established
    `parEpochs_guarantees`    any number of parallel epochs with arbitrary evaluations in between
    `consecutive_breaks`      counterexample: a mutator that assumes its two numbers are consecutive (equal to the
                              atomic model when run alone!) makes one number denote two connections under an interleaving
-/
import GoNeat.Proofs.ParFrameEpoch
import GoNeat.Props.C02Epoch
import GoNeat.Proofs.ParFrameAtomic
import GoNeat.Model.LegacyParEpoch

set_option linter.unusedSectionVars false

namespace GoNeat.C16
open GoNeat GoNeat.C03 GoNeat.C01 Scalar
variable {W : Type} [Scalar W]

/-- **non-atomic = atomic when run alone.** Executing the registry operations of a structural mutator back to back
    on one registry gives exactly what the atomic model function gives: same genome, same registry, same flag, same
    rest of the random stream, same error. -/
theorem nonatomic_eq_atomic (k : MutKind W) (g : Genome W) (reg : Reg W) (rs : List Nat) :
    packM ((k.prog g rs).run reg) = k.atomic g reg rs := by
  cases k with
  | addLink o => exact mutateAddLinkP_run g reg o rs
  | addNode o => exact mutateAddNodeP_run g reg o rs
  | connectSensors => exact mutateConnectSensorsP_run g reg rs

/-- **the species goroutine run alone = `Species.reproduce` of the sequential model** (same babies, registry, allocation
    counter, rest of the random stream, error) -/
theorem goroutine_eq_sequential (o : EpochOpts W) (generation : Int) (s : Species W) (sorted : List (Species W)) (reg : Reg W)
    (nextUid : Nat) (rs : List Nat) :
    packB ((reproduceSpeciesP o generation s sorted reg nextUid rs).run reg) = reproduceSpecies o generation s sorted reg nextUid rs :=
  reproduceSpeciesP_run o generation s sorted reg nextUid rs

theorem run_step {α : Type} (p : Prog W α) (reg : Reg W) : (p.step reg).1.run (p.step reg).2 = p.run reg := by
  cases p <;> rfl

structure Job (W : Type) where
  kind : MutKind W
  g : Genome W
  rs : List Nat

def startState (reg : Reg W) (jobs : List (Job W)) : PState W (MRes W) :=
  { reg := reg, threads := jobs.map (fun j => j.kind.prog j.g j.rs) }

def results (st : PState W (MRes W)) : List (Genome W) :=
  st.threads.filterMap (fun p => match p.result? with
    | some (.ok ((g', _), _)) => some g'
    | _ => none)

/-- `par_mutation_consistent` assumes it: the thread obligations ask nothing of an error result (`MutPost`,
    Proofs/ParFrameMut.lean); that no thread returns a model error is `par_goroutine_no_error`, `parEpoch_no_error`
    (Props/C16NoError.lean) -/
def AllDone (st : PState W (MRes W)) : Prop :=
  ∀ p ∈ st.threads, ∃ g' b rs', p = .done (.ok ((g', b), rs'))

/-- `bi`: the base number of Proofs/ParFrameLogic.lean - every recorded number is above it, every job genome's first gene is
    at most it (at the start of an epoch the records are empty and the innovation counter does: `startOk_of_empty`) -/
structure StartOk (bi : Int) (reg : Reg W) (P : List (Genome W)) (jobs : List (Job W)) : Prop where
  inv : C03.Inv reg P
  mem : ∀ j ∈ jobs, j.g ∈ P
  wf : ∀ j ∈ jobs, WFT j.g
  head : ∀ j ∈ jobs, HeadLe bi j.g
  recAbove : ∀ k ∈ regInns reg, bi < k
  le : bi ≤ reg.nextInn

def jobPost (P : List (Genome W)) (jobs : List (Job W)) (t : Nat) : Local W → MRes W → Prop :=
  match jobs[t]? with
  | some j => MutPost j.g (view0 P)
  | none => fun _ _ => True

theorem start_covered {bi : Int} {reg : Reg W} {P : List (Genome W)} {jobs : List (Job W)} (h : StartOk bi reg P jobs) :
    Covered bi (jobPost P jobs) (binds P) (roles P) (startState reg jobs) := by
  refine ⟨⟨binds P, roles P, [], []⟩, fun _ => view0 P, GInv.init h.inv h.recAbove h.le, fun t p hp => ?_⟩
  simp only [startState, List.getElem?_map] at hp
  cases hj : jobs[t]? with
  | none => rw [hj] at hp; cases hp
  | some j =>
    rw [hj] at hp
    simp only [Option.map_some, Option.some.injEq] at hp
    subst hp
    have hjm : j ∈ jobs := List.mem_of_getElem? hj
    unfold jobPost
    rw [hj]
    exact mutKind_valid j.kind j.g j.rs (view0 P) (h.wf j hjm) (Within.of_mem (h.mem j hjm)) (h.head j hjm)

/-- **C16, well-formedness under interleaving.** For ANY scheduler list interleaving the registry operations of any number
    of threads, each running one structural mutation (add-link / add-node / connect-sensors, any options, any random
    numbers) on its own well-formed genome: whenever a thread has returned `(g', flag)`, `g'` is well-formed (`WFT`),
    retains the input / bias / output nodes of the genome it started from, and is a structural step of it (old nodes and
    bindings kept, new nodes hidden, trait ids / modules / first gene unchanged). -/
theorem par_mutation_wf (bi : Int) (reg : Reg W) (P : List (Genome W)) (jobs : List (Job W)) (sched : List Nat)
    (h : StartOk bi reg P jobs) (t : Nat) (j : Job W) (hj : jobs[t]? = some j) (g' : Genome W) (b : Bool) (rs' : List Nat)
    (hdone : (runSched (startState reg jobs) sched).threads[t]? = some (.done (.ok ((g', b), rs')))) :
    WFT g' ∧ Retains j.g g' ∧ LStep j.g g' := by
  obtain ⟨G, Ls, hg, hv⟩ := (sched_sound sched (start_covered h)).ex
  have ht : t < (runSched (startState reg jobs) sched).threads.length := (List.getElem?_eq_some_iff.mp hdone).1
  obtain ⟨G', L', _, hp⟩ := thread_done ht (hv t _ hdone) rfl hg rfl
  unfold jobPost at hp
  rw [hj] at hp
  exact ⟨hp.1, hp.2.1.retains, hp.2.1⟩

/-- **C16, C03's consistency under interleaving.** For ANY scheduler list after which all threads have returned without
    error: the final registry and the pool with ALL resulting genomes added satisfy C03's invariant `Inv` - an innovation
    number denotes one link and a node id one role across all genomes (`ConsistentGenes`, `ConsistentRoles`), every
    record denotes in the pool what it recorded and no two records carry the same number or node id (`RegCompat`; two
    threads that create the same link / split concurrently store two records with DIFFERENT numbers), everything held or
    recorded is at most the counters (`CounterAbove`) - and every genome satisfies C01's registry invariant `RegInv` for
    the final registry, so that the sequential theorems apply again afterwards.  (Error-free runs only, see `AllDone`.) -/
theorem par_mutation_consistent (bi : Int) (reg : Reg W) (P : List (Genome W)) (jobs : List (Job W)) (sched : List Nat)
    (h : StartOk bi reg P jobs) (hall : AllDone (runSched (startState reg jobs) sched)) :
    let st := runSched (startState reg jobs) sched
    C03.Inv st.reg (results st ++ P) ∧ (∀ g' ∈ results st ++ P, C01.RegInv st.reg g') ∧
    reg.nextInn ≤ st.reg.nextInn ∧ reg.nextNode ≤ st.reg.nextNode := by
  intro st
  obtain ⟨G, Ls, hg, hpost⟩ := threads_done (sched_sound sched (start_covered h))
  have hlen : st.threads.length = jobs.length := by
    show (runSched (startState reg jobs) sched).threads.length = _
    rw [runSched_length]; simp [startState]
  have hres : ∀ t, t < st.threads.length → ∃ j g' b rs', jobs[t]? = some j ∧
      st.threads[t]? = some (.done (.ok ((g', b), rs'))) ∧ ViewExt (view0 P) (Ls t) g' := by
    intro t ht
    have hp : st.threads[t]? = some st.threads[t] := List.getElem?_eq_getElem ht
    obtain ⟨g', b, rs', e⟩ := hall _ (List.getElem_mem ht)
    rw [e] at hp
    have := hpost t _ hp
    have hjt : t < jobs.length := hlen ▸ ht
    unfold jobPost at this
    rw [List.getElem?_eq_getElem hjt] at this
    exact ⟨jobs[t], g', b, rs', List.getElem?_eq_getElem hjt, hp, this.2.2⟩
  have hmemres : ∀ g', g' ∈ results st ↔ ∃ (t : Nat) (b : Bool) (rs' : List Nat), st.threads[t]? = some (Prog.done (Except.ok ((g', b), rs'))) := by
    intro g'
    unfold results
    rw [List.mem_filterMap]
    constructor
    · rintro ⟨p, hp, hm⟩
      obtain ⟨g1, b, rs', rfl⟩ := hall p hp
      simp only [Prog.result?, Option.some.injEq] at hm
      subst hm
      obtain ⟨t, ht, e⟩ := List.getElem_of_mem hp
      exact ⟨t, b, rs', by rw [List.getElem?_eq_getElem ht, e]⟩
    · rintro ⟨t, b, rs', ht⟩
      exact ⟨_, List.mem_of_getElem? ht, rfl⟩
  have hheld : ∀ g' ∈ results st ++ P, Within g' G.B G.R := by
    intro g' hg'
    rcases List.mem_append.mp hg' with hr | hP
    · obtain ⟨t, b', rs', ht⟩ := (hmemres g').mp hr
      obtain ⟨j, g1, b1, rs1, _, ht1, hv⟩ := hres t (List.getElem?_eq_some_iff.mp ht).1
      rw [ht] at ht1
      cases ht1
      exact hv.holds.mono (hg.loc t).subB (hg.loc t).subR
    · exact (Within.of_mem hP).mono hg.baseB hg.baseR
  obtain ⟨hB1, hR1⟩ := binds_within hheld
  have hB2 : ∀ b ∈ G.B, b ∈ binds (results st ++ P) := by
    intro b hb
    rcases hg.covB b hb with h0 | ⟨t, ht, hm⟩
    · obtain ⟨g', hg', hbg⟩ := mem_binds.mp h0
      exact mem_binds.mpr ⟨g', List.mem_append_right _ hg', hbg⟩
    · obtain ⟨j, g1, b1, rs1, _, ht1, hv⟩ := hres t ht
      rcases hv.exactB b hm with h0 | h1
      · obtain ⟨g', hg', hbg⟩ := mem_binds.mp h0
        exact mem_binds.mpr ⟨g', List.mem_append_right _ hg', hbg⟩
      · exact mem_binds.mpr ⟨g1, List.mem_append_left _ ((hmemres g1).mpr ⟨t, b1, rs1, ht1⟩), h1⟩
  have hinv : C03.Inv st.reg (results st ++ P) := hg.glob.inv.congr hB1 hB2 hR1
  refine ⟨hinv, fun g' hg' => ?_, ?_, ?_⟩
  · exact regInv_of_invB hinv (fun x hx => mem_binds_of_mem hg' hx) (fun n hn => mem_roles_of_mem hg' hn)
  · exact (runSched_mono sched (startState reg jobs)).1
  · exact (runSched_mono sched (startState reg jobs)).2.1

theorem startOk_of_empty (reg : Reg W) (P : List (Genome W)) (jobs : List (Job W)) (hinv : C03.Inv reg P)
    (hrec : reg.records = []) (hmem : ∀ j ∈ jobs, j.g ∈ P) (hwf : ∀ j ∈ jobs, WFT j.g) : StartOk reg.nextInn reg P jobs := by
  refine ⟨hinv, hmem, hwf, fun j hj h0 h0m => ?_, by simp [regInns_def, hrec], Int.le_refl _⟩
  exact hinv.above.inns _ (mem_binds_of_mem (hmem j hj) (List.mem_of_mem_take h0m))

def allDoneB (st : PState W (MRes W)) : Bool :=
  st.threads.all (fun p => match p.result? with
    | some (.ok _) => true
    | _ => false)

theorem allDone_of_B (st : PState W (MRes W)) (h : allDoneB st = true) : AllDone st := by
  intro p hp
  have := List.all_eq_true.mp h p hp
  cases p with
  | done a =>
    cases a with
    | error e => simp [Prog.result?] at this
    | ok v => obtain ⟨⟨g', b⟩, rs'⟩ := v; exact ⟨g', b, rs', rfl⟩
  | snap k => simp [Prog.result?] at this
  | nextNode k => simp [Prog.result?] at this
  | nextInn k => simp [Prog.result?] at this
  | store i k => simp [Prog.result?] at this


/-- **C16: every species goroutine delivers exactly its quota of well-formed babies** - for every scheduler list and all
    random numbers: whenever goroutine `t` has returned `babies`, their number is the `expectedOffspring` of species `t`
    and every baby genome is well-formed.  `H`, `X`: as in `parEpoch_guarantees`. -/
theorem par_species_quota (X H : List (Genome W)) (o : EpochOpts W) (generation : Int) (p1 : Pop W) (ex : ExecState)
    (streams : List (List Nat)) (sched : List Nat) (hP1 : PoolOk p1.reg (X ++ genomesOfPop p1)) (hc1 : PopC03 H p1)
    (hX : ∀ g ∈ X, GenomeIn H g) (t : Nat) (bs : List (Org W)) (uid : Nat) (rs' : List Nat)
    (hdone : (runSched ({ reg := p1.reg, threads := speciesThreads o generation p1 ex streams } : PState W (BRes W)) sched).threads[t]?
        = some (Prog.done (Except.ok ((bs, uid), rs')))) :
    ∃ s, p1.species[t]? = some s ∧ bs.length = s.expectedOffspring.toNat ∧ ∀ b ∈ bs, WFT b.genome := by
  obtain ⟨G, Ls, _, hpost⟩ := species_done X H o generation p1 ex streams sched hP1 hc1 hX
  obtain ⟨s, hs, hp⟩ := hpost t _ hdone
  exact ⟨s, hs, hp.2.2, fun b hb => (hp.2.1 b hb).wft⟩

open GoNeat.C02 in
/-- **C16: an epoch of the parallel executor gives the guarantees of the sequential one - for every schedule.**
    `parEpoch` (Model/ParEpoch.lean): sequential preparation; one goroutine per species (`reproduceSpeciesP` = the
    sequential `Species.reproduce`, `reproduceSpeciesP_run`) over the shared registry under an ARBITRARY scheduler list,
    with arbitrary random numbers per goroutine; the babies collected in an ARBITRARY order of arrival and decoded into
    fresh objects; `speciate`; `finalizeReproduction`.  If it returns (no goroutine failed), then for a population that
    satisfies the invariants of the sequential theorems (`UidInv`, `SpIdInv` of C02, `PoolOk` of C01, `PopC03` of C03):
    * **size / partition / ids (C02)**: exactly `PopSize` organisms, no duplicates, the organism list is the concatenation of
      the species' member lists, no empty species, nobody of the previous generation, unique genome ids, unique species ids;
    * **well-formed genomes (C01)**: every genome is `WFT`, and the whole pool invariant `PoolOk` holds again;
    * **innovation consistency (C03)**: `PopC03` holds for the history extended by every baby - an innovation number
      denotes one link and a node id one role across ALL genomes that ever lived (`same_number_same_link` applies), counters
      never fall, the records are cleared;
    and all invariants hold again, so the statement iterates over any number of epochs (`parEpochs_guarantees`).
    `H` is the history C03 speaks of: a list that holds every genome that ever lived in the run (`PopC03 H p`: every organism's
    genome is in it); the epoch extends it by the babies.  `X` is a list of further genomes outside the population that the
    pool invariant is to cover as well (the genome the population was spawned from, say; `[]` if there is none): `PoolOk`
    is stated for `X ++ genomesOfPop p`, and `X` has to lie in the history (`hX`). -/
theorem parEpoch_guarantees (X H : List (Genome W)) (o : EpochOpts W) (generation : Int) (p p' : Pop W) (ps : ParSchedule)
    (rs rs' : List Nat) (hu : UidInv p) (hs : SpIdInv p) (hP : PoolOk p.reg (X ++ genomesOfPop p)) (hc : PopC03 H p)
    (hX : ∀ g ∈ X, GenomeIn H g) (h : parEpoch o generation p ps rs = .ok (p', rs')) :
    (p'.organisms.length = o.popSize ∧ p'.organisms.Nodup ∧ p'.organisms = orgUids p'.species ∧
      (∀ s ∈ p'.species, s.orgs ≠ []) ∧ (∀ u ∈ p'.organisms, u ∉ p.organisms) ∧ (genomeIds p'.species).Nodup ∧
      UidInv p' ∧ SpIdInv p') ∧
    ((∀ g ∈ genomesOfPop p', WFT g) ∧ PoolOk p'.reg (X ++ genomesOfPop p')) ∧
    (∃ H', Ext H H' ∧ PopC03 H' p' ∧ CtrLe p.reg p'.reg ∧ ∀ g ∈ X, GenomeIn H' g) := by
  unfold parEpoch at h
  split at h
  · cases h
  rename_i p1 ex rs1 hprep
  split at h
  · cases h
  rename_i p2 hrep
  simp only [Except.ok.injEq, Prod.mk.injEq] at h
  obtain ⟨rfl, _⟩ := h
  obtain ⟨hsubG, hreg⟩ := prepare_genomes o p p1 ex rs rs1 hprep
  have hP1 : PoolOk p1.reg (X ++ genomesOfPop p1) := hreg ▸ hP.mono_right (genomesOfPop_sub hsubG)
  obtain ⟨hfrom, _⟩ := prepare_from o p p1 ex rs rs1 hprep
  have hc1 : PopC03 H p1 := ⟨hreg ▸ hc.inv, AllOrgs.from hc.cov hfrom, by rw [hreg]; exact hc.norec⟩
  obtain ⟨hu1, _⟩ := prepare_uidInv o p p1 ex rs rs1 hs.nodup hu hprep
  have hnu : p1.nextUid = p.nextUid := (prepare_spec o p p1 ex rs rs1 hs.nodup hprep).2.1
  have hs1 : SpIdInv p1 := (prepare_spIdInv o p p1 ex rs rs1 hs hprep).1
  obtain ⟨babies, regF, G, hlen, hspec, hglob, hbB, hbR, hbabies, hci, hcn⟩ :=
    parReproduce_facts X H o generation p1 p2 ex ps hP1 hc1 hX hrep
  obtain ⟨hdu, hdg⟩ := decodeAll_spec p1.nextUid babies
  have hsl := (speciate_ok hspec).2
  obtain ⟨hregF, _, _⟩ := join_fields hsl
  have hu1' : UidInv ({ p1 with reg := regF } : Pop W) := ⟨hu1.listed, hu1.below⟩
  have hs1' : SpIdInv ({ p1 with reg := regF } : Pop W) := ⟨hs1.nodup, hs1.le⟩
  have hfresh : ∀ u ∈ (decodeAll p1.nextUid babies).map (·.uid), p1.nextUid ≤ u := by
    rw [hdu]; exact fun u hu' => (List.mem_range'_1.mp hu').1
  have hjoin := speciate_finalize_popInv o _ p2 (decodeAll p1.nextUid babies) hu1' hs1'
    (by rw [hdu]; exact List.nodup_range') hfresh
    (by rw [← hlen]; have := congrArg List.length hdu; simpa using this) hspec
  simp only at hjoin
  obtain ⟨j1, j2, j3, j4, _, j6, j7⟩ := hjoin
  have hperm := speciateLoop_finalize o _ p2 _ p1.nextUid hu1'.listed hu1'.below hfresh hsl
  have hnewuid : ∀ u ∈ (finalizeReproduction p2).organisms, p1.nextUid ≤ u ∧ u < p1.nextUid + o.popSize := by
    intro u hu'
    have := List.mem_range'_1.mp (hdu ▸ hperm.mem_iff.mp hu')
    omega
  refine ⟨⟨j1, j2, j3, j4, ?_, j6, ⟨fun u hu' => by rw [j3]; exact hu', fun u hu' => (hnewuid u hu').2⟩, ⟨j7.nodup, j7.le⟩⟩, ?_, ?_⟩
  · intro u hu' hmem
    have := hu.below u hmem
    have := (hnewuid u hu').1
    omega
  · -- C01
    have hpool : PoolOk regF ((X ++ genomesOfPop p1) ++ babies.map (·.genome)) := by
      apply poolOk_join hglob
      intro m hm
      rcases List.mem_append.mp hm with hm0 | hmb
      · have hin : GenomeIn H m := by
          rcases List.mem_append.mp hm0 with hx | hg
          · exact hX m hx
          · obtain ⟨s, hs', x, hx, rfl⟩ := mem_genomesOfPop.mp hg
            exact hc1.cov s hs' x hx
        exact GenOk.of_fits hm0 (hP1 m hm0) ((within_iff.mpr hin).mono hbB hbR)
      · obtain ⟨b, hb, rfl⟩ := List.mem_map.mp hmb
        exact hbabies b hb
    have hfin := join_closed X hsl (hdg ▸ hpool)
    exact ⟨fun g hg => (hfin g (List.mem_append_right _ hg)).wft, hfin⟩
  · -- C03
    refine ⟨babies.map (·.genome) ++ H, ⟨_, rfl⟩, ⟨?_, ?_, by rw [hregF]⟩, ⟨?_, ?_⟩, ?_⟩
    · show C03.Inv (finalizeReproduction p2).reg _
      rw [hregF]
      refine inv_cleared hglob _ (fun g hg => ?_)
      rcases List.mem_append.mp hg with hg | hg
      · obtain ⟨x, hx, rfl⟩ := List.mem_map.mp hg
        exact (hbabies x hx).within
      · exact (Within.of_mem hg).mono hbB hbR
    · show C03.Covered _ (finalizeReproduction p2).species
      intro s hs' x hx
      obtain ⟨y, hy, e⟩ := join_from hsl x (mem_orgsOf.mpr ⟨s, hs', hx⟩)
      have hsb : SameBinds y.genome x.genome := (congrArg Org.genome e).symm ▸ (⟨rfl, rfl⟩ : SameBinds y.genome { y.genome with id := x.genome.id })
      refine AllB.same ?_ hsb
      rcases hy with hb | ⟨ho, _⟩
      · exact GenomeIn.of_mem (List.mem_append_left _ (hdg ▸ List.mem_map_of_mem hb))
      · obtain ⟨s0, hs0, hy0⟩ := mem_orgsOf.mp ho
        exact GenomeIn.mono (hc1.cov s0 hs0 y hy0) ⟨_, rfl⟩
    · show p.reg.nextInn ≤ (finalizeReproduction p2).reg.nextInn
      rw [← hreg, hregF]; exact hci
    · show p.reg.nextNode ≤ (finalizeReproduction p2).reg.nextNode
      rw [← hreg, hregF]; exact hcn
    · intro g hg
      exact GenomeIn.mono (hX g hg) ⟨_, rfl⟩

/-- `k` generations of the parallel executor: evaluate, turn over under a schedule, evaluate, … -/
def parEpochs (o : EpochOpts W) : List (ParSchedule × (Pop W → Pop W)) → Int → Pop W → Rand (Pop W)
  | [], _, p, rs => .ok (p, rs)
  | (ps, ev) :: rest, gen, p, rs =>
    match parEpoch o gen (ev p) ps rs with
    | .error e => .error e
    | .ok (p', rs') => parEpochs o rest (gen + 1) p' rs'

/-- what an evaluation between two epochs may not change: which organisms exist and where, the species' ids / ages / flags
    (`C02.SameShape`), the registry, and the genomes -/
def EvalOk (ev : Pop W → Pop W) : Prop :=
  ∀ p, C02.SameShape p (ev p) ∧ (ev p).reg = p.reg ∧ GenomesSub (ev p).species p.species

/-- the invariants of C02, C01 and C03 together; `H` the history of all genomes that ever lived, `X` further genomes outside
    the population that the pool invariant covers (see `parEpoch_guarantees`) -/
structure ParInv (X H : List (Genome W)) (p : Pop W) : Prop where
  uid : C02.UidInv p
  spid : C02.SpIdInv p
  pool : PoolOk p.reg (X ++ genomesOfPop p)
  c03 : PopC03 H p
  hX : ∀ g ∈ X, GenomeIn H g

theorem _root_.GoNeat.C03.PopC03.eval {H : List (Genome W)} {p : Pop W} (h : PopC03 H p) {ev : Pop W → Pop W} (he : EvalOk ev) :
    PopC03 H (ev p) := by
  obtain ⟨_, hreg, hsub⟩ := he p
  refine ⟨hreg ▸ h.inv, fun s hs' x hx => ?_, by rw [hreg]; exact h.norec⟩
  obtain ⟨s0, hs0, y, hy, e⟩ := hsub s hs' x hx
  rw [← e]; exact h.cov s0 hs0 y hy

theorem ParInv.eval {X H : List (Genome W)} {p : Pop W} (h : ParInv X H p) {ev : Pop W → Pop W} (he : EvalOk ev) :
    ParInv X H (ev p) :=
  have ⟨hsh, hreg, hsub⟩ := he p
  have ⟨u, sp⟩ := C02.sameShape_inv p (ev p) hsh h.uid h.spid
  ⟨u, sp, hreg ▸ h.pool.mono_right (genomesOfPop_sub hsub), h.c03.eval he, h.hX⟩

/-- **C16, any number of epochs of the parallel executor.** From a population that satisfies the invariants, after any
    number of generations - whatever the evaluations assign, whatever the schedules, the random numbers of the
    goroutines and the orders of arrival - the invariants hold again for a history that extends the old one: so every
    genome is well-formed, the population has exactly its species partition with unique ids, and an innovation number
    denotes one connection across all genomes of all generations. -/
theorem parEpochs_guarantees (X : List (Genome W)) (o : EpochOpts W) (runs : List (ParSchedule × (Pop W → Pop W))) :
    ∀ (H : List (Genome W)) (generation : Int) (p p' : Pop W) (rs rs' : List Nat), ParInv X H p →
      (∀ r ∈ runs, EvalOk r.2) → parEpochs o runs generation p rs = .ok (p', rs') →
      ∃ H', Ext H H' ∧ ParInv X H' p' ∧ (∀ g ∈ genomesOfPop p', WFT g) ∧ CtrLe p.reg p'.reg := by
  induction runs with
  | nil =>
    intro H generation p p' rs rs' hinv _ h
    simp only [parEpochs, Except.ok.injEq, Prod.mk.injEq] at h
    obtain ⟨rfl, _⟩ := h
    exact ⟨H, Ext.refl H, hinv, fun g hg => (hinv.pool g (List.mem_append_right _ hg)).wft, CtrLe.refl _⟩
  | cons r rest ih =>
    intro H generation p p' rs rs' hinv hev h
    obtain ⟨ps, ev⟩ := r
    unfold parEpochs at h
    split at h
    · cases h
    · rename_i p1 rs1 hep
      have hinv' := hinv.eval (hev (ps, ev) List.mem_cons_self)
      obtain ⟨⟨_, _, _, _, _, _, u1, s1⟩, ⟨_, pool1⟩, H1, e1, c1, ctr1, hX1⟩ :=
        parEpoch_guarantees X H o generation (ev p) p1 ps rs rs1 hinv'.uid hinv'.spid hinv'.pool hinv'.c03 hinv'.hX hep
      obtain ⟨H2, e2, inv2, w2, ctr2⟩ := ih H1 (generation + 1) p1 p' rs1 rs' ⟨u1, s1, pool1, c1, hX1⟩
        (fun r hr => hev r (List.mem_cons_of_mem _ hr)) h
      refine ⟨H2, e1.trans e2, inv2, w2, ?_⟩
      have hreg := (hev (ps, ev) List.mem_cons_self p).2.1
      exact CtrLe.trans (by rw [← hreg]; exact ctr1) ctr2

section Examples
attribute [local instance] drawScalar

/-- two threads split the SAME gene (number 4, `1 → 4`) of two sibling genomes; the registry already holds three records -/
def exJobs : List (Job Int) := [⟨.addNode mo, ev2, [2, 2, 2]⟩, ⟨.addNode mo, ev1, [2, 2, 2]⟩]
/-- strict alternation: snapshot·snapshot·NextNodeId·NextNodeId·NextInn·NextInn·NextInn·NextInn·store·store -/
def exSched : List Nat := [0, 1, 0, 1, 0, 1, 0, 1, 0, 1]

def summary (st : PState Int (MRes Int)) :
    List (List Int × List Int) × List Int × List (List Int) :=
  ((results st).map (fun g => (g.genes.map (·.inn), g.nodes.map (·.id))), [st.reg.nextInn, st.reg.nextNode],
   st.reg.records.map (fun i => [(i.typ : Int), i.inId, i.outId, i.oldInn, i.newNode, i.inn, i.inn2]))

/-- the hypotheses of `par_mutation_wf` / `par_mutation_consistent` hold for a registry WITH records of both kinds -/
theorem exStart : StartOk 3 evReg [ev1, ev2] exJobs :=
  ⟨by decide +kernel, fun j hj => by simp only [exJobs, List.mem_cons, List.not_mem_nil, or_false] at hj; rcases hj with rfl | rfl <;> simp,
   by decide +kernel, by decide +kernel, by decide +kernel, by decide +kernel⟩

theorem exDone : allDoneB (runSched (startState evReg exJobs) exSched) = true := by decide +kernel

/-- … and in this run both threads miss each other's record: two records for the same split, with different node ids
    and numbers, and neither thread's two numbers are consecutive (8, 10 and 9, 11) -/
example : allDoneB (runSched (startState evReg exJobs) exSched) = true ∧
    summary (runSched (startState evReg exJobs) exSched) =
      ([([1, 2, 4, 5, 7, 8, 10], [1, 2, 3, 4, 6]), ([1, 2, 4, 5, 6, 9, 11], [1, 2, 3, 4, 7])], [11, 7],
       [[1, 1, 3, 1, 4, 4, 5], [2, 2, 4, 0, 0, 6, 0], [2, 4, 4, 0, 0, 7, 0], [1, 1, 4, 4, 6, 8, 10], [1, 1, 4, 4, 7, 9, 11]]) :=
  ⟨exDone, by decide +kernel⟩

/-- … while under the sequential schedule the second thread reuses the first one's record -/
example : summary (runSched (startState evReg exJobs) [0, 0, 0, 0, 0, 1, 1, 1, 1, 1]) =
      ([([1, 2, 4, 5, 7, 8, 9], [1, 2, 3, 4, 6]), ([1, 2, 4, 5, 6, 8, 9], [1, 2, 3, 4, 6])], [9, 6],
       [[1, 1, 3, 1, 4, 4, 5], [2, 2, 4, 0, 0, 6, 0], [2, 4, 4, 0, 0, 7, 0], [1, 1, 4, 4, 6, 8, 9]]) := by
  decide +kernel

example : C03.Inv (runSched (startState evReg exJobs) exSched).reg
    (results (runSched (startState evReg exJobs) exSched) ++ [ev1, ev2]) :=
  (par_mutation_consistent 3 evReg [ev1, ev2] exJobs exSched exStart (allDone_of_B _ exDone)).1

/-- **counterexample (the seeded change C16-A).** A mutator that takes "the number after my first one" instead of the
    number its second `NextInnovationNumber()` call returned: under the alternating schedule thread 0 uses 8 and 9,
    thread 1 uses 9 and 10 - number 9 denotes `6 → 3` in one genome and `1 → 7` in the other. -/
theorem consecutive_breaks :
    let st := runSched ({ reg := evReg, threads := [Legacy.mutateAddNodeP_consecutive ev2 mo [2, 2, 2],
                                                      Legacy.mutateAddNodeP_consecutive ev1 mo [2, 2, 2]] } : PState Int (MRes Int)) exSched
    allDoneB st = true ∧ ¬ ConsistentGenes (results st) := by
  decide +kernel

/-- … although, run alone, it computes exactly what the atomic model computes -/
example : packM ((Legacy.mutateAddNodeP_consecutive ev2 mo [2, 2, 2]).run evReg) = mutateAddNode ev2 evReg mo [2, 2, 2] := by
  rfl

/-! a whole parallel epoch: two species of two organisms each, every baby gets an add-node mutation, the registry
    operations of the two goroutines alternate, the second goroutine's result arrives first -/
def eo : EpochOpts Int :=
  { popSize := 4, dropOffAge := 15, ageSignificance := 1, survivalThresh := 1, babiesStolen := 0, compatThreshold := 3,
    compat := ⟨1, 1, 1, false⟩, mutateOnlyProb := 100, mutateAddNodeProb := 100, mutateAddLinkProb := 0, mutateConnectSensors := 0,
    interspeciesMateRate := 0, mateMultipointProb := 0, mateMultipointAvgProb := 0, mateSinglepointProb := 0, mateOnlyProb := 0,
    mopts := C01.mo }

def mkOrg (uid : Nat) (g : Genome Int) (fit : Int) : Org Int :=
  { uid := uid, fitness := fit, genome := g, expectedOffspring := 0, generation := 1, originalFitness := 0, highestFitness := 0 }

def popE : Pop Int :=
  { species := [{ id := 1, age := 1, maxFitnessEver := 0, expectedOffspring := 0, isNovel := false, ageOfLastImprovement := 0,
                  orgs := [mkOrg 0 ev1 2, mkOrg 1 { ev1 with id := 2 } 2] },
                { id := 2, age := 1, maxFitnessEver := 0, expectedOffspring := 0, isNovel := false, ageOfLastImprovement := 0,
                  orgs := [mkOrg 2 ev2 2, mkOrg 3 { ev2 with id := 4 } 2] }],
    organisms := [0, 1, 2, 3], lastSpecies := 2, highestFitness := 0, epochsHighestLastChanged := 0,
    reg := { records := [], nextInn := 7, nextNode := 5 }, nextUid := 4 }

def psE : ParSchedule :=
  ⟨[List.replicate 30 2, List.replicate 30 2], [0,1,0,1,0,1,0,1,0,1,0,1,0,1,0,1,0,1,0,1,0,1,0,1], [1, 0]⟩

/-- one line per organism: species id, allocation id, genome id, the innovation numbers, 0, the node ids -/
def popSummary (r : Except Stop (Pop Int × List Nat)) : Option (List (List Int) × List Nat × List Int) :=
  match r with
  | .error _ => none
  | .ok (p, _) => some (p.species.flatMap (fun s => s.orgs.map (fun x =>
                          [s.id, (x.uid : Int), x.genome.id] ++ x.genome.genes.map (·.inn) ++ [0] ++ x.genome.nodes.map (·.id))),
                        p.organisms, [p.reg.nextInn, p.reg.nextNode, (p.nextUid : Int)])

/-- the hypotheses of `parEpoch_guarantees` are satisfiable … -/
theorem exParInv : ParInv [] [ev1, ev2] popE := by
  refine ⟨⟨by decide +kernel, by decide +kernel⟩, ⟨by decide +kernel, by decide +kernel⟩, by decide +kernel,
    ⟨by decide +kernel, ?_, rfl⟩, by simp⟩
  intro s hs o ho
  simp only [popE, List.mem_cons, List.not_mem_nil, or_false] at hs
  rcases hs with rfl | rfl <;> simp only [List.mem_cons, List.not_mem_nil, or_false] at ho <;> rcases ho with rfl | rfl
  · exact GenomeIn.of_mem List.mem_cons_self
  · exact AllB.same (GenomeIn.of_mem (H := [ev1, ev2]) List.mem_cons_self) ⟨rfl, rfl⟩
  · exact GenomeIn.of_mem (List.mem_cons_of_mem _ List.mem_cons_self)
  · exact AllB.same (GenomeIn.of_mem (H := [ev1, ev2]) (List.mem_cons_of_mem _ List.mem_cons_self)) ⟨rfl, rfl⟩

/-- … and the epoch returns: in species 2 the first baby drew node 7 and numbers 9, 11 while species 1 drew 6 and 8, 10 for
    the same split (two records); the later babies reuse the first record; four fresh objects 4…7 in two species -/
example : popSummary (parEpoch eo 1 popE psE (List.replicate 30 2)) =
    some ([[1, 6, 0, 1, 2, 4, 5, 6, 8, 10, 0, 1, 2, 3, 4, 6], [1, 7, 1, 1, 2, 4, 5, 6, 8, 10, 0, 1, 2, 3, 4, 6],
           [2, 4, 2, 1, 2, 4, 5, 7, 9, 11, 0, 1, 2, 3, 4, 7], [2, 5, 3, 1, 2, 4, 5, 7, 8, 10, 0, 1, 2, 3, 4, 6]],
          [6, 7, 4, 5], [11, 7, 8]) := by decide +kernel

end Examples

end GoNeat.C16
