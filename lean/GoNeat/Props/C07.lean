/-
  Property C07 — compatibility distance equals the NEAT formula under both methods.

  Kind A (every scalar type): the *counting* logic of the linear walk — for genes sorted by innovation
  number the walk counts exactly E (excess), D (disjoint) and M (matching) as defined independently from the
  sets of innovation numbers (`Spec/Compat.lean`), and the counts are symmetric in the two genomes.
  Kind B (exact ordered-field arithmetic) statements live in `Props/C07Exact.lean`.
-/
import GoNeat.Spec.Compat
import GoNeat.Spec.WF
import GoNeat.Model.Legacy
import GoNeat.Proofs.ListLemmas

namespace GoNeat.C07
open GoNeat Scalar
variable {W : Type} [Scalar W]

def inns (l : List (Gene W)) : List Int := l.map (·.inn)

def Asc (l : List Int) : Prop := l.Pairwise (· < ·)

omit [Scalar W] in
@[simp] theorem inns_nil : inns ([] : List (Gene W)) = [] := rfl
omit [Scalar W] in
@[simp] theorem inns_cons (x : Gene W) (xs : List (Gene W)) : inns (x :: xs) = x.inn :: inns xs := rfl

omit [Scalar W] in
theorem asc_of_sorted {l : List (Gene W)} (h : GenesSorted l) : Asc (inns l) := List.pairwise_map.mpr h

theorem asc_tail {x : Int} {xs : List Int} (h : Asc (x :: xs)) : Asc xs := (List.pairwise_cons.mp h).2
theorem asc_head_lt {x : Int} {xs : List Int} (h : Asc (x :: xs)) : ∀ y ∈ xs, x < y := (List.pairwise_cons.mp h).1

theorem asc_lt_all {x y : Int} {ys : List Int} (h : x < y) (hy : Asc (y :: ys)) : ∀ z ∈ y :: ys, x < z := by
  intro z hz
  rcases List.mem_cons.mp hz with rfl | hz'
  · exact h
  · exact Int.lt_trans h (asc_head_lt hy z hz')

theorem not_mem_of_lt_all (ys : List Int) (x : Int) (h : ∀ y ∈ ys, x < y) : x ∉ ys :=
  fun hx => Int.lt_irrefl x (h x hx)

theorem _root_.GoNeat.Counts.add_assoc (a b c : Counts) : (a.add b).add c = a.add (b.add c) := by
  simp only [Counts.add, Nat.add_assoc]

theorem class_cons_small (ys : List Int) (y x : Int) (h : y < x) :
    isMatch (y :: ys) x = isMatch ys x ∧ isExcess (y :: ys) x = isExcess ys x ∧ isDisjoint (y :: ys) x = isDisjoint ys x := by
  have hne : x ≠ y := by omega
  have hnlt : ¬ x < y := by omega
  refine ⟨?_, ?_, ?_⟩
  · simp [isMatch, hne]
  · simp [isExcess, hne, h]
  · simp [isDisjoint, hne, hnlt]

theorem counts_drop_small_head (xs ys : List Int) (y : Int) (h : ∀ x ∈ xs, y < x) :
    xs.countP (isMatch (y :: ys)) = xs.countP (isMatch ys) ∧
    xs.countP (isExcess (y :: ys)) = xs.countP (isExcess ys) ∧
    xs.countP (isDisjoint (y :: ys)) = xs.countP (isDisjoint ys) :=
  ⟨countP_congr' _ _ _ (fun x hx => (class_cons_small ys y x (h x hx)).1),
   countP_congr' _ _ _ (fun x hx => (class_cons_small ys y x (h x hx)).2.1),
   countP_congr' _ _ _ (fun x hx => (class_cons_small ys y x (h x hx)).2.2)⟩

/-! specification counts, unfolded one step for each shape of the two sorted lists -/

theorem spec_nil_nil : specCounts [] [] = {} := rfl

theorem spec_nil_cons (y : Int) (ys : List Int) :
    specCounts [] (y :: ys) = ({ excess := 1 } : Counts).add (specCounts [] ys) := by
  simp [specCounts, Counts.add, isExcess, isDisjoint, Nat.add_comm]

theorem spec_cons_nil (x : Int) (xs : List Int) :
    specCounts (x :: xs) [] = ({ excess := 1 } : Counts).add (specCounts xs []) := by
  simp [specCounts, Counts.add, isExcess, isDisjoint, isMatch, Nat.add_comm]

theorem spec_match (x : Int) (xs ys : List Int) (hx : Asc (x :: xs)) (hy : Asc (x :: ys)) :
    specCounts (x :: xs) (x :: ys) = ({ matching := 1 } : Counts).add (specCounts xs ys) := by
  obtain ⟨m1, e1, d1⟩ := counts_drop_small_head xs ys x (asc_head_lt hx)
  obtain ⟨_, e2, d2⟩ := counts_drop_small_head ys xs x (asc_head_lt hy)
  simp only [specCounts, Counts.add, List.countP_cons, m1, e1, d1, e2, d2]
  simp [isMatch, isExcess, isDisjoint, Nat.add_comm]

theorem class_below (l : List Int) (z x : Int) (hz : z ∈ l) (h : ∀ y ∈ l, x < y) :
    isMatch l x = false ∧ isExcess l x = false ∧ isDisjoint l x = true := by
  have hnm : x ∉ l := not_mem_of_lt_all l x h
  refine ⟨by simp [isMatch, hnm], ?_, ?_⟩
  · simp only [isExcess, hnm, decide_false, Bool.not_false, Bool.true_and]
    rw [Bool.eq_false_iff]; intro hall
    have := (List.all_eq_true.mp hall) z hz
    have := h z hz
    simp at *; omega
  · simp only [isDisjoint, hnm, decide_false, Bool.not_false, Bool.true_and]
    exact List.any_eq_true.mpr ⟨z, hz, by simp [h z hz]⟩

/-- the smaller head is disjoint: every number of the other list lies above it -/
theorem spec_lt (x y : Int) (xs ys : List Int) (hy : Asc (y :: ys)) (hlt : x < y) :
    specCounts (x :: xs) (y :: ys) = ({ disjoint := 1 } : Counts).add (specCounts xs (y :: ys)) := by
  have hall := asc_lt_all hlt hy
  obtain ⟨_, e2, d2⟩ := counts_drop_small_head (y :: ys) xs x hall
  obtain ⟨hxm, hxe, hxd⟩ := class_below (y :: ys) y x (by simp) hall
  simp only [specCounts, Counts.add, e2, d2]
  rw [List.countP_cons (l := xs), List.countP_cons (l := xs), List.countP_cons (l := xs), hxm, hxe, hxd]
  simp
  omega

theorem asc_nodup {l : List Int} (h : Asc l) : l.Nodup := h.imp Int.ne_of_lt

/-- the matching genes of either list are the same set of numbers, listed once on each side -/
theorem spec_matching_symm (a b : List Int) (ha : Asc a) (hb : Asc b) :
    (specCounts a b).matching = (specCounts b a).matching := by
  show a.countP (isMatch b) = b.countP (isMatch a)
  rw [List.countP_eq_length_filter, List.countP_eq_length_filter]
  refine List.Perm.length_eq ((List.perm_ext_iff_of_nodup ((asc_nodup ha).filter _) ((asc_nodup hb).filter _)).mpr fun x => ?_)
  simp only [List.mem_filter, isMatch, decide_eq_true_eq, and_comm]

theorem specCounts_symm (a b : List Int) (ha : Asc a) (hb : Asc b) : specCounts a b = specCounts b a := by
  have hm := spec_matching_symm a b ha hb
  simp only [specCounts] at hm ⊢
  rw [hm, Nat.add_comm (a.countP (isExcess b)), Nat.add_comm (a.countP (isDisjoint b))]

theorem spec_gt (x y : Int) (xs ys : List Int) (hx : Asc (x :: xs)) (hy : Asc (y :: ys)) (hgt : y < x) :
    specCounts (x :: xs) (y :: ys) = ({ disjoint := 1 } : Counts).add (specCounts (x :: xs) ys) := by
  rw [specCounts_symm _ _ hx hy, spec_lt y x ys xs hx hgt, specCounts_symm _ _ (asc_tail hy) hx]

/-- **C07, counting (linear method).** For gene lists sorted by innovation number the linear walk counts exactly
    the excess, disjoint and matching genes of the NEAT formula — for lists of every length and shape
    (empty overlap, interleaved genes, long excess tails, prefixes). -/
theorem linear_counts (xs ys : List (Gene W)) (a : LinAcc W) (hx : Asc (inns xs)) (hy : Asc (inns ys)) :
    (linWalk xs ys a).cnt = a.cnt.add (specCounts (inns xs) (inns ys)) := by
  fun_induction linWalk xs ys a with
  | case1 a => rfl
  | case2 y ys a ih =>
    rw [ih hx (asc_tail hy), inns_cons, inns_nil, spec_nil_cons]
    exact Counts.add_assoc a.cnt { excess := 1 } _
  | case3 x xs a ih =>
    rw [ih (asc_tail hx) hy, inns_cons, inns_nil, spec_cons_nil]
    exact Counts.add_assoc a.cnt { excess := 1 } _
  | case4 x xs y ys a heq ih =>
    rw [inns_cons] at hx hy
    rw [ih (asc_tail hx) (asc_tail hy), inns_cons, inns_cons, ← heq, spec_match _ _ _ hx (heq ▸ hy)]
    exact Counts.add_assoc a.cnt { matching := 1 } _
  | case5 x xs y ys a hne hlt ih =>
    rw [inns_cons] at hy
    rw [ih (asc_tail hx) hy, inns_cons, inns_cons, spec_lt _ _ _ _ hy hlt]
    exact Counts.add_assoc a.cnt { disjoint := 1 } _
  | case6 x xs y ys a hne hnlt ih =>
    rw [inns_cons] at hx hy
    rw [ih hx (asc_tail hy), inns_cons, inns_cons, spec_gt _ _ _ _ hx hy (by omega)]
    exact Counts.add_assoc a.cnt { disjoint := 1 } _

theorem compatLinear_counts (g og : Genome W) (hg : GenesSorted g.genes) (ho : GenesSorted og.genes) :
    (compatLinearAcc g og).cnt = specCounts (inns g.genes) (inns og.genes) := by
  unfold compatLinearAcc
  rw [linear_counts _ _ _ (asc_of_sorted hg) (asc_of_sorted ho)]
  simp [LinAcc.init, Counts.add]

/-- **C07, symmetry of the counts**: swapping the genomes leaves E, D and M unchanged -/
theorem linear_counts_symm (g og : Genome W) (hg : GenesSorted g.genes) (ho : GenesSorted og.genes) :
    (compatLinearAcc g og).cnt = (compatLinearAcc og g).cnt := by
  rw [compatLinear_counts g og hg ho, compatLinear_counts og g ho hg,
    specCounts_symm _ _ (asc_of_sorted hg) (asc_of_sorted ho)]

/-- a genome against itself (or its exact duplicate): no excess, no disjoint gene, every gene matches -/
theorem linear_counts_self (g : Genome W) (hg : GenesSorted g.genes) :
    (compatLinearAcc g g).cnt = { excess := 0, disjoint := 0, matching := g.genes.length } := by
  rw [compatLinear_counts g g hg hg]
  have key : ∀ l : List Int, l.countP (isExcess l) = 0 ∧ l.countP (isDisjoint l) = 0 ∧ l.countP (isMatch l) = l.length := by
    intro l
    refine ⟨?_, ?_, ?_⟩
    · rw [List.countP_eq_zero]; intro x hx; simp [isExcess, hx]
    · rw [List.countP_eq_zero]; intro x hx; simp [isDisjoint, hx]
    · rw [List.countP_eq_length]; intro x hx; simp [isMatch, hx]
  obtain ⟨e, d, m⟩ := key (inns g.genes)
  simp only [specCounts, e, d, m]
  simp [inns]

/-- genes [1,2,3] vs [1,2,5,6]: M = 2, D = 1 (gene 3), E = 2 (genes 5,6) -/
example : specCounts [1, 2, 3] [1, 2, 5, 6] = { excess := 2, disjoint := 1, matching := 2 } := by decide

example : Asc [1, 2, 3] ∧ Asc [1, 2, 5, 6] := by unfold Asc; decide

end GoNeat.C07

/-! ### the repaired defect (F2), machine-checked against the frozen legacy definition -/
namespace GoNeat.C07
open GoNeat

/-- pre-fix linear walk on genes [1,2,3] vs [1,2,5,6] stops after max(len)=4 steps and counts
    2 mismatching genes where the formula has 3 (D = 1, E = 2) -/
theorem C07_linear_counterexample₁ :
    (Legacy.linCounts [1, 2, 3] [1, 2, 5, 6]).excess + (Legacy.linCounts [1, 2, 3] [1, 2, 5, 6]).disjoint = 2 ∧
    (specCounts [1, 2, 3] [1, 2, 5, 6]).excess + (specCounts [1, 2, 3] [1, 2, 5, 6]).disjoint = 3 := by decide

/-- pre-fix: [1,3] vs [2,4] has no matching gene, so the unguarded `mutDiffTotal / numMatching` was 0/0 -/
theorem C07_linear_counterexample₂ : (Legacy.linCounts [1, 3] [2, 4]).matching = 0 := by decide

end GoNeat.C07
