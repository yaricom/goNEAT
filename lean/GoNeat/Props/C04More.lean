/-
  Property C04, continued (Kind A: every scalar type, all fitness values incl. ties, every random stream, parents of
  every size): the averaging multipoint crossover, the single-point crossover, the node-set clause and the trait
  clause for all three operators.  Helper lemmas: `Proofs/MateLemmas.lean`.

  Vocabulary (defined in `Proofs/MateLemmas.lean`):
  * `CopyOf nt t0 c x`   – child gene `c` is parent gene `x` verbatim (number, endpoints, recurrence flag, weight,
                           mutation number, enabled flag); only its trait pointer is redirected into the child's traits.
  * `AvgOf nt t0 x y c`  – `c` is the code's average of the matching genes `x`, `y`: `c.w = avg x.w y.w`
                           (`avg a b = div (add a b) (ofInt 2)` in the scalar's own arithmetic), mutation number
                           likewise, source / target / recurrence flag / trait each from `x` or from `y`, enabled flag
                           by `EnRule`.
  * `EnRule e1 e2 e`     – the code's `!e1 || !e2 && rand.Float64() < 0.75 ⇒ disabled`: disabled in the first
                           operand ⇒ disabled; enabled in both ⇒ enabled; enabled in the first and disabled in the
                           second ⇒ disabled exactly when a `rand.Float64()` draw is below 0.75.
-/
import GoNeat.Props.C04
import GoNeat.Proofs.WFMate2

namespace GoNeat.C04
open GoNeat Scalar
variable {W : Type} [Scalar W]

instance (l1 l2 : List (Gene W)) : Decidable (Consistent l1 l2) := by unfold Consistent Gene.link; infer_instance

/-- `g.Traits[0].Id`, the base the code subtracts to index the child's traits -/
def traitBase (g : Genome W) : Option Int := g.traits.head?.map (·.id)

theorem avgPair_heir {p1 p2 : Genome W} {nt : List (Trait W)} {t0 : Option Int} (x y : Gene W) (c : Chosen W) (dis : Bool)
    (r r' : List Nat) (hp : avgPair p1 p2 x y r = .ok ((c, dis), r')) (hxy : x.link = y.link) : c.gene.link = x.link ∧
      ∀ tr, childTraitRef nt t0 c.gene.trait = .ok tr → AvgOf nt t0 x y { c.gene with trait := tr, en := if dis then false else c.gene.en } := by
  obtain ⟨rfl, hav⟩ := avgPair_exact hp
  exact ⟨avgChosen_link hav hxy, avgOf_added nt t0 hav⟩

/-- **both multipoint operators**: the child's genes are, one for one and in order, the heirs of the slots of the
    alignment that hold a gene of the fitter parent - the alignment read with the fitter parent on the left, so when
    that is the second parent the rule `A` for a pair takes its operands in the other order -/
theorem mpCrossover_fitter {m : Gene W → Gene W → Rand (Chosen W × Bool)} {A : Gene W → Gene W → Gene W → Prop}
    {g og : Genome W} {id : Int} {f1 f2 : W} {rs rs' : List Nat} {c : Genome W}
    (hm : ∀ x y c' dis r r', m x y r = .ok ((c', dis), r') → x.link = y.link → c'.gene.link = x.link ∧
      ∀ tr, childTraitRef c.traits (traitBase g) c'.gene.trait = .ok tr →
        A x y { c'.gene with trait := tr, en := if dis then false else c'.gene.en })
    (hd1 : LinksDistinct g.genes) (hd2 : LinksDistinct og.genes) (hc : Consistent g.genes og.genes)
    (h : crossover g og id (mpPlanR g og f1 f2) (slotPick m g og) rs = .ok (c, rs')) :
    c.id = id ∧
    (p1Better f1 f2 g.genes.length og.genes.length = true →
      Aligned (Heir c.traits (traitBase g) A) c.genes (mpPlan true g.genes og.genes)) ∧
    (p1Better f1 f2 g.genes.length og.genes.length = false →
      Aligned (Heir c.traits (traitBase g) fun y x => A x y) c.genes (mpPlan true og.genes g.genes)) := by
  obtain ⟨nt, t0, io, acc, hpro, hw, rfl⟩ := mpCrossover_ok h
  obtain ⟨_, _, _, rfl⟩ := matePrologue_exact g og nt _ io hpro
  refine ⟨rfl, fun hb => ?_, fun hb => ?_⟩ <;> rw [hb] at hw
  · obtain ⟨news, hn, hal⟩ := mp_heirs hw hm hd1 hc (fun _ ha => nomatch ha)
    exact (List.nil_append news ▸ hn) ▸ hal
  · obtain ⟨news, hn, hal⟩ := mp_heirs_swap hw hm hd2 hc (fun _ ha => nomatch ha)
    exact (List.nil_append news ▸ hn) ▸ hal

/-- **both multipoint operators, whichever parent is fitter**: every gene of the child is the heir of a slot of the
    alignment of the two parents (first parent's gene on the left), for any rule `m` for a matching pair -/
theorem mpCrossover_heirs {m : Gene W → Gene W → Rand (Chosen W × Bool)} {A : Gene W → Gene W → Gene W → Prop}
    {g og : Genome W} {id : Int} {f1 f2 : W} {rs rs' : List Nat} {c : Genome W}
    (hm : ∀ x y c' dis r r', m x y r = .ok ((c', dis), r') → x.link = y.link → c'.gene.link = x.link ∧
      ∀ tr, childTraitRef c.traits (traitBase g) c'.gene.trait = .ok tr →
        A x y { c'.gene with trait := tr, en := if dis then false else c'.gene.en })
    (hd1 : LinksDistinct g.genes) (hd2 : LinksDistinct og.genes) (hc : Consistent g.genes og.genes)
    (h : crossover g og id (mpPlanR g og f1 f2) (slotPick m g og) rs = .ok (c, rs')) :
    ∀ cg ∈ c.genes, ∃ e ∈ align g.genes og.genes, Heir c.traits (traitBase g) A cg e := by
  obtain ⟨_, h1, h2⟩ := mpCrossover_fitter hm hd1 hd2 hc h
  intro cg hcg
  cases hb : p1Better f1 f2 g.genes.length og.genes.length
  · obtain ⟨e, he, hg⟩ := (h2 hb).left cg hcg
    refine ⟨e.swap, align_swap og.genes g.genes ▸ List.mem_map_of_mem (List.mem_filter.mp he).1, ?_⟩
    cases e <;> exact hg
  · obtain ⟨e, he, hg⟩ := (h1 hb).left cg hcg
    exact ⟨e, (List.mem_filter.mp he).1, hg⟩

/-- **C04 (averaging multipoint).**  For all parents with strictly ascending innovation numbers, pairwise distinct
    links and one lineage (equal number ⇒ equal link), all fitness values (ties included) and all random streams:
    the genes of a child of `mateMultipointAvg` are, one for one and in order, the genes of the fitter parent (the first
    parent iff `p1Better`: greater fitness, or equal fitness and fewer genes).  A gene the other parent does not carry
    is copied verbatim (so it keeps its enabled flag: disabled in its only carrier ⇒ disabled); a gene both carry is
    the code's average `AvgOf` of the first parent's and the second parent's gene.  Hence unmatched genes come only
    from the fitter parent, every matched gene is inherited exactly once, and the same-link conflict check is dead. -/
theorem mateMultipointAvg_spec (g og : Genome W) (id : Int) (f1 f2 : W) (rs rs' : List Nat) (c : Genome W)
    (h : mateMultipointAvg g og id f1 f2 rs = .ok (c, rs'))
    (hs1 : GenesSorted g.genes) (hs2 : GenesSorted og.genes)
    (hd1 : LinksDistinct g.genes) (hd2 : LinksDistinct og.genes) (hc : Consistent g.genes og.genes) :
    c.id = id ∧
    (p1Better f1 f2 g.genes.length og.genes.length = true →
      Aligned (InheritsAvg1 c.traits (traitBase g) og.genes) c.genes g.genes) ∧
    (p1Better f1 f2 g.genes.length og.genes.length = false →
      Aligned (InheritsAvg2 c.traits (traitBase g) g.genes) c.genes og.genes) := by
  obtain ⟨hid, h1, h2⟩ := mpCrossover_fitter avgPair_heir hd1 hd2 hc (mateMultipointAvg_eq g og id f1 f2 ▸ h)
  exact ⟨hid,
    fun hb => ((h1 hb).comp (mpPlan_true_fsts _ _)).imp fun _ _ _ _ ⟨_, he, hg, hx⟩ => hg.carrier hs1 hs2 he hx,
    fun hb => ((h2 hb).comp (mpPlan_true_fsts _ _)).imp fun _ _ _ _ ⟨_, he, hg, hy⟩ => hg.carrier hs2 hs1 he hy⟩

/-- in the words of the property: the child's innovation numbers are exactly the fitter parent's, in order -/
theorem mateMultipointAvg_inns (g og : Genome W) (id : Int) (f1 f2 : W) (rs rs' : List Nat) (c : Genome W)
    (h : mateMultipointAvg g og id f1 f2 rs = .ok (c, rs'))
    (hs1 : GenesSorted g.genes) (hs2 : GenesSorted og.genes)
    (hd1 : LinksDistinct g.genes) (hd2 : LinksDistinct og.genes) (hc : Consistent g.genes og.genes) :
    c.genes.map (·.inn) = (fitter g og f1 f2).genes.map (·.inn) := by
  obtain ⟨_, h1, h2⟩ := mateMultipointAvg_spec g og id f1 f2 rs rs' c h hs1 hs2 hd1 hd2 hc
  unfold fitter
  by_cases hb : p1Better f1 f2 g.genes.length og.genes.length = true
  · simp only [hb, ↓reduceIte]
    exact (h1 hb).map_eq _ _ (fun _ _ hr => inh1_inn hr)
  · have hb' : p1Better f1 f2 g.genes.length og.genes.length = false := by simpa using hb
    simp only [hb', Bool.false_eq_true, ↓reduceIte]
    exact (h2 hb').map_eq _ _ (fun _ _ hr => inh2_inn hr)

/-- **the single-point walk realises the plan**: the genes it appends are, one for one and in order, realisations of
    the plan's origins that survive the same-link conflict check -/
theorem spWalk_plan {q1 q2 : Genome W} {nt : List (Trait W)} {t0 : Option Int} {cp : Nat}
    {xs ys : List (Gene W)} {gc : Nat} {st : Bool} {acc acc' : MateAcc W} {rs rs' : List Nat}
    (h : walkR (spPick q1 q2) nt t0 (spPlan cp xs ys gc st) acc rs = .ok (acc', rs')) (hc : Consistent xs ys) :
    ∃ news, acc'.genes = acc.genes ++ news ∧
      Aligned (Realises nt t0) news (spKeep (acc.genes.map (·.link)) (spPlan cp xs ys gc st)) := by
  rw [spKeep_eq]
  refine walkR_plan h fun o ho c dis r r' hp => ?_
  have hf := spPlan_mem _ _ _ _ _ o ho
  cases o with
  | short x => cases hp; exact ⟨rfl, real_copy nt t0 x⟩
  | long y => cases hp; exact ⟨rfl, real_copy nt t0 y⟩
  | mean x y =>
    obtain ⟨rfl, hav⟩ := avgPair_exact hp
    exact ⟨avgChosen_link hav (hc x hf.1 y hf.2.1 hf.2.2), avgOf_added nt t0 hav⟩

/-- **C04 (single point).**  For parents of one lineage and every random stream, with `cp` the crossing point the
    code draws (`rand.Intn` of the smaller gene count, so `cp` is a position in the parent with fewer genes - the
    second parent on equal counts): the child's genes are, one for one and in order, realisations (`CopyOf` / `AvgOf`)
    of the origins of `spPlan cp shorter.genes longer.genes` that survive the same-link conflict check `spKeep`
    (an origin is dropped iff its link is already in the child).  When both parents' innovation numbers ascend strictly,
    every origin sits on its side of the crossing point (`OriginOk`): a gene copied from the parent with fewer genes is
    one of its first `cp` genes; the averaged gene is its gene number `cp` together with the matching gene of the other
    parent; a gene copied from the parent with more genes has a larger innovation number than each of the first `cp+1`
    genes of the shorter parent. -/
theorem mateSinglePoint_spec (g og : Genome W) (id : Int) (rs rs' : List Nat) (c : Genome W)
    (h : mateSinglePoint g og id rs = .ok (c, rs')) (hc : Consistent g.genes og.genes) :
    c.id = id ∧
    ∃ cp rs1, Rand.intn (shorter g og).genes.length rs = .ok (cp, rs1) ∧ cp < (shorter g og).genes.length ∧
      Aligned (Realises c.traits (traitBase g)) c.genes
        (spKeep [] (spPlan cp (shorter g og).genes (longer g og).genes 0 false)) ∧
      (GenesSorted g.genes → GenesSorted og.genes →
        ∀ o ∈ spPlan cp (shorter g og).genes (longer g og).genes 0 false,
          OriginOk cp (shorter g og).genes (longer g og).genes o) := by
  obtain ⟨nt, t0, io, cp, rs1, acc, hpro, hcp, hw, rfl⟩ := spCrossover_ok (mateSinglePoint_eq g og id ▸ h)
  obtain ⟨_, _, _, rfl⟩ := matePrologue_exact g og nt _ io hpro
  have hc' : Consistent (shorter g og).genes (longer g og).genes :=
    shorter_longer_rec (P := fun a b => Consistent a.genes b.genes) hc hc.symm
  obtain ⟨news, hn, hal⟩ := spWalk_plan hw hc'
  simp only [List.nil_append, List.map_nil] at hn hal
  refine ⟨rfl, cp, rs1, hcp, intn_lt _ _ _ _ hcp, by simp only [hn]; exact hal, ?_⟩
  intro hs1 hs2
  have hs : GenesSorted (shorter g og).genes ∧ GenesSorted (longer g og).genes :=
    shorter_longer_rec (P := fun a b => GenesSorted a.genes ∧ GenesSorted b.genes) ⟨hs1, hs2⟩ ⟨hs2, hs1⟩
  have := spPlan_sound cp [] (shorter g og).genes (longer g og).genes 0 false hs.1 hs.2 rfl (by simp)
  simpa using this

/-- in the words of the property: every gene of a single-point child is a verbatim copy of a gene of one parent, or
    the code's average of two matching genes (the shorter parent's gene as first operand) -/
theorem mateSinglePoint_gene (g og : Genome W) (id : Int) (rs rs' : List Nat) (c : Genome W)
    (h : mateSinglePoint g og id rs = .ok (c, rs')) (hc : Consistent g.genes og.genes)
    (hs1 : GenesSorted g.genes) (hs2 : GenesSorted og.genes) :
    ∀ cg ∈ c.genes,
      (∃ x ∈ (shorter g og).genes, CopyOf c.traits (traitBase g) cg x) ∨
      (∃ y ∈ (longer g og).genes, CopyOf c.traits (traitBase g) cg y) ∨
      (∃ x ∈ (shorter g og).genes, ∃ y ∈ (longer g og).genes, x.inn = y.inn ∧ AvgOf c.traits (traitBase g) x y cg) := by
  obtain ⟨_, cp, rs1, _, _, hal, hok⟩ := mateSinglePoint_spec g og id rs rs' c h hc
  intro cg hcg
  obtain ⟨o, ho, hr⟩ := hal.left cg hcg
  have hok' := hok hs1 hs2 o (spKeep_sub _ _ o ho)
  cases o with
  | short x =>
    obtain ⟨k, _, hk⟩ := hok'
    exact Or.inl ⟨x, List.mem_of_getElem? hk, hr⟩
  | mean x y => exact Or.inr (Or.inr ⟨x, List.mem_of_getElem? hok'.1, y, hok'.2.1, hok'.2.2, hr⟩)
  | long y => exact Or.inr (Or.inl ⟨y, hok'.1, hr⟩)

omit [Scalar W] in
theorem CrossDistinct.symm {l1 l2 : List (Gene W)} (h : CrossDistinct l1 l2) : CrossDistinct l2 l1 :=
  fun x hx y hy e => (h y hy x hx e.symm).symm

/-- **the conflict check is dead in the single-point crossover too** when, besides one lineage, a link carries one
    innovation number across the parents (`CrossDistinct`) and links are pairwise distinct within each: the child's genes
    are then exactly the realisations of the plan, nothing dropped.  (Under `SameLineage` alone two parents may carry
    one link under two numbers; then the later origin is dropped - that is `spKeep` in `mateSinglePoint_spec`.) -/
theorem mateSinglePoint_noconflict (g og : Genome W) (id : Int) (rs rs' : List Nat) (c : Genome W)
    (h : mateSinglePoint g og id rs = .ok (c, rs')) (hc : Consistent g.genes og.genes)
    (hs1 : GenesSorted g.genes) (hs2 : GenesSorted og.genes)
    (hd1 : LinksDistinct g.genes) (hd2 : LinksDistinct og.genes) (hx : CrossDistinct g.genes og.genes) :
    ∃ cp rs1, Rand.intn (shorter g og).genes.length rs = .ok (cp, rs1) ∧
      Aligned (Realises c.traits (traitBase g)) c.genes (spPlan cp (shorter g og).genes (longer g og).genes 0 false) := by
  obtain ⟨_, cp, rs1, hcp, _, hal, _⟩ := mateSinglePoint_spec g og id rs rs' c h hc
  refine ⟨cp, rs1, hcp, ?_⟩
  have hnc : ((spPlan cp (shorter g og).genes (longer g og).genes 0 false).map Origin.link).Pairwise (· ≠ ·) :=
    shorter_longer_rec (P := fun a b => ((spPlan cp a.genes b.genes 0 false).map Origin.link).Pairwise (· ≠ ·))
      (spPlan_links_distinct cp _ _ hs1 hs2 hd1 hd2 hx) (spPlan_links_distinct cp _ _ hs2 hs1 hd2 hd1 hx.symm)
  rw [spKeep_all [] _ hnc (by simp)] at hal
  exact hal

/-- **matched genes in the single-point child** (parents sharing their first gene - otherwise the child may be
    gene-less, known finding K1 / `C04_singlepoint_K1`): for `x` the gene at position `k` of the parent with fewer
    genes and `y` a gene of the other parent with the same number, the child holds the copy of `x` if `k` lies before
    the crossing point, their average if `k` is the crossing point, and the copy of `y` if `k` lies behind it. -/
theorem mateSinglePoint_matched (g og : Genome W) (id : Int) (rs rs' rs1 : List Nat) (c : Genome W) (cp : Nat)
    (h : mateSinglePoint g og id rs = .ok (c, rs')) (hc : Consistent g.genes og.genes)
    (hs1 : GenesSorted g.genes) (hs2 : GenesSorted og.genes)
    (hd1 : LinksDistinct g.genes) (hd2 : LinksDistinct og.genes) (hcd : CrossDistinct g.genes og.genes)
    (hh : C01.SharedHead g og)
    (hcp : Rand.intn (shorter g og).genes.length rs = .ok (cp, rs1))
    (k : Nat) (x y : Gene W) (hx : (shorter g og).genes[k]? = some x) (hy : y ∈ (longer g og).genes) (heq : x.inn = y.inn) :
    ∃ cg ∈ c.genes, (k < cp → CopyOf c.traits (traitBase g) cg x) ∧ (k = cp → AvgOf c.traits (traitBase g) x y cg) ∧
      (k > cp → CopyOf c.traits (traitBase g) cg y) := by
  have hs : GenesSorted (shorter g og).genes ∧ GenesSorted (longer g og).genes :=
    shorter_longer_rec (P := fun a b => GenesSorted a.genes ∧ GenesSorted b.genes) ⟨hs1, hs2⟩ ⟨hs2, hs1⟩
  have hhead : ∀ x0 ∈ (shorter g og).genes.head?, ∀ y0 ∈ (longer g og).genes.head?, x0.inn ≤ y0.inn := by
    intro x0 hx0 y0 hy0
    unfold C01.SharedHead at hh
    rcases shorter_longer g og with ⟨e1, e2⟩ | ⟨e1, e2⟩ <;> rw [e1] at hx0 <;> rw [e2] at hy0
    · simp only [Option.mem_def] at hx0 hy0; rw [hx0, hy0] at hh; simp at hh; omega
    · simp only [Option.mem_def] at hx0 hy0; rw [hx0, hy0] at hh; simp at hh; omega
  have hm := spPlan_matched cp _ _ 0 false hs.1 hs.2 (Or.inr hhead) k x y hx hy heq
  simp only [Nat.zero_add] at hm
  obtain ⟨cp', rs1', hcp', hal⟩ := mateSinglePoint_noconflict g og id rs rs' c h hc hs1 hs2 hd1 hd2 hcd
  rw [hcp] at hcp'
  simp only [Except.ok.injEq, Prod.mk.injEq] at hcp'
  obtain ⟨rfl, rfl⟩ := hcp'
  rcases Nat.lt_trichotomy k cp with hlt | hlt | hlt
  · obtain ⟨cg, hcg, hr⟩ := hal.right _ (hm.1 hlt)
    exact ⟨cg, hcg, fun _ => hr, fun e => by omega, fun e => by omega⟩
  · obtain ⟨cg, hcg, hr⟩ := hal.right _ (hm.2.1 hlt)
    exact ⟨cg, hcg, fun e => by omega, fun _ => hr, fun e => by omega⟩
  · obtain ⟨cg, hcg, hr⟩ := hal.right _ (hm.2.2 hlt)
    exact ⟨cg, hcg, fun e => by omega, fun e => by omega, fun _ => hr⟩

def NodeFrom (g og : Genome W) (m : Node) : Prop :=
  ∃ n, (n ∈ g.nodes ∨ n ∈ og.nodes) ∧ n.id = m.id ∧ n.kind = m.kind ∧ n.act = m.act

/-- `io` = the copies of the second parent's input/bias/output nodes made by the prologue: they stay, every node is
    a parent's node, and every other node is an endpoint of a collected gene -/
structure NodeInv (g og : Genome W) (io : List Node) (acc : MateAcc W) : Prop where
  from_ : ∀ m ∈ acc.nodes, NodeFrom g og m
  only : ∀ m ∈ acc.nodes, m ∈ io ∨ ∃ x ∈ acc.genes, m.id = x.src ∨ m.id = x.dst
  keep : ∀ m ∈ io, m ∈ acc.nodes

omit [Scalar W] in
theorem addChosen_nodeInv (g og : Genome W) (io : List Node) (nt : List (Trait W)) (t0 : Option Int)
    (c : Chosen W) (dis : Bool) (acc acc' : MateAcc W) (hc : C01.Legit g og c)
    (hinv : NodeInv g og io acc) (h : addChosen nt t0 acc c dis = .ok acc') : NodeInv g og io acc' := by
  obtain ⟨sub, new⟩ := addChosen_nodes h
  rcases addChosen_exact nt t0 acc acc' c dis h with ⟨_, rfl⟩ | ⟨_, _, _, _, tr, _, _, _, _, _, hg⟩
  · exact hinv
  · refine ⟨fun m hm => ?_, fun m hm => ?_, fun m hm => sub m (hinv.keep m hm)⟩
    · rcases new m hm with hm | ⟨n, t, hn, rfl⟩
      · exact hinv.from_ m hm
      · exact ⟨n, hn.elim (fun h => (hc.src n h).2) (fun h => (hc.dst n h).2), rfl, rfl, rfl⟩
    · rcases new m hm with hm | ⟨n, t, hn, rfl⟩
      · exact (hinv.only m hm).imp id fun ⟨x, hx, e⟩ => ⟨x, hg ▸ List.mem_append_left _ hx, e⟩
      · exact Or.inr ⟨{ c.gene with trait := tr, en := if dis then false else c.gene.en }, hg ▸ List.mem_append_right _ List.mem_cons_self,
          hn.imp (fun h => (hc.src n h).1) (fun h => (hc.dst n h).1)⟩

/-- **the node-set clause of C04** for a finished child `c` of parents `g`, `og`: ids strictly ascending (hence unique);
    every input/bias/output node of the second parent is kept with its role and activation type; every endpoint of a
    child gene is a child node; there is no other node; every node has id, role and activation type of a parent's node -/
def NodeClause (g og c : Genome W) : Prop :=
  NodesSorted c.nodes ∧
  (∀ n ∈ og.nodes, n.kind ≠ Kind.hidden → ∃ m ∈ c.nodes, m.id = n.id ∧ m.kind = n.kind ∧ m.act = n.act) ∧
  (∀ x ∈ c.genes, x.src ∈ c.nodes.map (·.id) ∧ x.dst ∈ c.nodes.map (·.id)) ∧
  (∀ m ∈ c.nodes, (∃ n ∈ og.nodes, n.kind ≠ Kind.hidden ∧ n.id = m.id) ∨ ∃ x ∈ c.genes, m.id = x.src ∨ m.id = x.dst) ∧
  (∀ m ∈ c.nodes, NodeFrom g og m)

omit [Scalar W] in
theorem nodeClause_of (g og : Genome W) (nt : List (Trait W)) (t0 : Option Int) (io : List Node) (acc : MateAcc W) (id : Int)
    (hk : C01.KindsValid og) (hio : ioNodes nt t0 og.nodes [] = .ok io) (hs : NodesSorted acc.nodes)
    (he : ∀ x ∈ acc.genes, x.src ∈ acc.nodes.map (·.id) ∧ x.dst ∈ acc.nodes.map (·.id)) (hn : NodeInv g og io acc) :
    NodeClause g og { id := id, traits := nt, nodes := acc.nodes, genes := acc.genes } := by
  refine ⟨hs, ?_, he, ?_, hn.from_⟩
  · intro n hnm hkind
    exact ⟨_, hn.keep _ ((mem_ioNodes hio _).mpr (Or.inr ⟨n, hnm, (isIO_iff n (hk n hnm)).mpr hkind, rfl⟩)), rfl, rfl, rfl⟩
  · intro m hm
    rcases hn.only m hm with h' | h'
    · rcases (mem_ioNodes hio m).mp h' with h'' | ⟨n, hnm, hio', rfl⟩
      · cases h''
      · exact Or.inl ⟨n, hnm, (isIO_iff n (hk n hnm)).mp hio', rfl⟩
    · exact Or.inr h'

omit [Scalar W] in
theorem nodeInv_start (g og : Genome W) (io : List Node) (nt : List (Trait W)) (t0 : Option Int)
    (hio : ioNodes nt t0 og.nodes [] = .ok io) : NodeInv g og io { nodes := io, genes := [] } := by
  refine ⟨?_, fun m hm => Or.inl hm, fun m hm => hm⟩
  intro m hm
  rcases (mem_ioNodes hio m).mp hm with h' | ⟨n, hnm, _, rfl⟩
  · cases h'
  · exact ⟨n, Or.inr hnm, rfl, rfl, rfl⟩

omit [Scalar W] in
theorem mateOut_shape {g og : Genome W} {id : Int} {c : Genome W} {b : Bool} (h : C01.MateOut g og id c b) :
    GenesSorted c.genes ∧ NodesSorted c.nodes ∧ ∀ x ∈ c.genes, x.src ∈ c.nodes.map (·.id) ∧ x.dst ∈ c.nodes.map (·.id) := by
  obtain ⟨nt, acc, rfl, _, hacc, hs, _⟩ := h
  exact ⟨hs, hacc.nodesSorted, hacc.endpoints⟩

theorem crossover_nodes {ε : Type} {g og : Genome W} {id : Int} {plan : Rand (List ε)} {pick : ε → Rand (Chosen W × Bool)}
    {rs rs' : List Nat} {c : Genome W} {b : Bool} (hw2 : C01.WFT og) (ho : C01.MateOut g og id c b)
    (h : crossover g og id plan pick rs = .ok (c, rs'))
    (hL : ∀ es r r', plan r = .ok (es, r') → ∀ e ∈ es, ∀ c dis r r', pick e r = .ok ((c, dis), r') → C01.Legit g og c) :
    NodeClause g og c := by
  obtain ⟨_, hs, he⟩ := mateOut_shape ho
  obtain ⟨nt, t0, io, es, rs1, acc, hpro, hpl, hw, rfl⟩ := crossover_ok h
  obtain ⟨_, _, hio, _⟩ := matePrologue_exact g og nt t0 io hpro
  exact nodeClause_of g og nt t0 io acc id hw2.kinds hio hs he
    (walkR_ind hw (hL es rs rs1 hpl) (addChosen_nodeInv g og io nt t0) (nodeInv_start g og io nt t0 hio))

theorem mateMultipoint_nodes (g og : Genome W) (id : Int) (f1 f2 : W) (rs rs' : List Nat) (c : Genome W)
    (hw1 : C01.WFT g) (hw2 : C01.WFT og) (h : mateMultipoint g og id f1 f2 rs = .ok (c, rs')) : NodeClause g og c :=
  crossover_nodes hw2 (C01.mateMultipoint_out g og id f1 f2 rs rs' c hw1 hw2 h) (mateMultipoint_eq g og id f1 f2 ▸ h)
    (C01.mp_picksLegit fun _ hx _ hy heq => C01.plainPair_legit hx hy heq)

theorem mateMultipointAvg_nodes (g og : Genome W) (id : Int) (f1 f2 : W) (rs rs' : List Nat) (c : Genome W)
    (hw1 : C01.WFT g) (hw2 : C01.WFT og) (h : mateMultipointAvg g og id f1 f2 rs = .ok (c, rs')) : NodeClause g og c :=
  crossover_nodes hw2 (C01.mateMultipointAvg_out g og id f1 f2 rs rs' c hw1 hw2 h) (mateMultipointAvg_eq g og id f1 f2 ▸ h)
    (C01.mp_picksLegit fun _ hx _ hy heq => C01.avgPair_legit hx hy heq)

/-- **C04, node set (single point)** - holds for the gene-less child of K1 too (it then has exactly the
    input/bias/output nodes) -/
theorem mateSinglePoint_nodes (g og : Genome W) (id : Int) (rs rs' : List Nat) (c : Genome W)
    (hw1 : C01.WFT g) (hw2 : C01.WFT og) (h : mateSinglePoint g og id rs = .ok (c, rs')) : NodeClause g og c :=
  crossover_nodes hw2 (C01.mateSinglePoint_out g og id rs rs' c hw1 hw2 h) (mateSinglePoint_eq g og id ▸ h) (C01.sp_picksLegit g og)

omit [Scalar W] in
/-- under the node part of `SameLineage` the input/bias/output nodes of the FIRST parent are kept as well (they are
    those of the second parent) -/
theorem nodeClause_first (g og c : Genome W) (hl : C01.NodeLineage g og) (hn : NodeClause g og c) :
    ∀ n ∈ g.nodes, n.kind ≠ Kind.hidden → ∃ m ∈ c.nodes, m.id = n.id ∧ m.kind = n.kind := by
  intro n hnm hk
  have : n.id ∈ C01.ioIds og := by rw [← hl.2.2]; exact C01.mem_ioIds.mpr ⟨n, hnm, hk, rfl⟩
  obtain ⟨n', hn', hk', e⟩ := C01.mem_ioIds.mp this
  obtain ⟨m, hm, e1, e2, _⟩ := hn.2.1 n' hn' hk'
  exact ⟨m, hm, by rw [e1, e], by rw [e2, hl.1 n hnm n' hn' e.symm]⟩

/-- **the trait clause of C04**: the child has the parents' number of traits; trait `i` carries the first parent's
    id and, parameter by parameter, the code's average `avg a b` of the two parents' values (the vectors had equal
    lengths, so none is dropped) -/
def TraitClause (g og c : Genome W) : Prop :=
  c.traits.length = g.traits.length ∧ g.traits.length = og.traits.length ∧
  c.traits = List.zipWith avgTrait g.traits og.traits ∧
  (∀ p ∈ List.zip g.traits og.traits, p.1.params.length = p.2.params.length)

theorem crossover_traits {ε : Type} {g og : Genome W} {id : Int} {plan : Rand (List ε)} {pick : ε → Rand (Chosen W × Bool)}
    {rs rs' : List Nat} {c : Genome W} (h : crossover g og id plan pick rs = .ok (c, rs')) : TraitClause g og c := by
  obtain ⟨nt, t0, io, _, _, acc, hpro, _, _, rfl⟩ := crossover_ok h
  obtain ⟨hl, hmt, _, _⟩ := matePrologue_exact g og nt t0 io hpro
  obtain ⟨e1, e2, e3⟩ := mateTraits_exact _ _ _ hmt
  exact ⟨e2, hl, e1, e3⟩

theorem mateMultipoint_traits (g og : Genome W) (id : Int) (f1 f2 : W) (rs rs' : List Nat) (c : Genome W)
    (h : mateMultipoint g og id f1 f2 rs = .ok (c, rs')) : TraitClause g og c :=
  crossover_traits (mateMultipoint_eq g og id f1 f2 ▸ h)

theorem mateMultipointAvg_traits (g og : Genome W) (id : Int) (f1 f2 : W) (rs rs' : List Nat) (c : Genome W)
    (h : mateMultipointAvg g og id f1 f2 rs = .ok (c, rs')) : TraitClause g og c :=
  crossover_traits (mateMultipointAvg_eq g og id f1 f2 ▸ h)

theorem mateSinglePoint_traits (g og : Genome W) (id : Int) (rs rs' : List Nat) (c : Genome W)
    (h : mateSinglePoint g og id rs = .ok (c, rs')) : TraitClause g og c :=
  crossover_traits (mateSinglePoint_eq g og id ▸ h)

end GoNeat.C04
