/-
  Property C10, Kind B (exact ordered-field arithmetic): the organism the PUBLIC query `Species.FindChampion` names
  before a turnover is the organism whose genome the turnover preserves.

    `findChampionPublic_fittest`    a non-empty species with non-negative fitness values: `FindChampion` answers a
                                    member that no member exceeds in fitness (the start value -1.0 is below every member);
    `fittest_unique`                with pairwise different fitness values there is one such member;
    `nextEpoch_keeps_findChampion`  END TO END: for every species of the prepared population with quota > 5, the
                                    population `nextEpoch` returns lists an organism whose genome is a structural copy of
                                    the genome of `FindChampion` of the ORIGINAL species (fitness values pairwise
                                    different inside a species - the quantifier of C10 - and non-negative).
-/
import GoNeat.Props.C10Champion
import GoNeat.Props.C10Epoch

namespace GoNeat.C10
open GoNeat Champion
variable {K : Type} [Field K] [LinearOrder K] [IsStrictOrderedRing K] [FloorRing K]

theorem minusOne_exact : (minusOne : K) = -1 := by simp [minusOne]

theorem findChampionPublic_fittest (s : Species K) (hne : s.orgs ≠ []) (hnn : ∀ x ∈ s.orgs, 0 ≤ x.fitness) :
    ∃ y, findChampionPublic s = some y ∧ y ∈ s.orgs ∧ ∀ x ∈ s.orgs, x.fitness ≤ y.fitness := by
  cases hp : findChampionPublic s with
  | none =>
    obtain ⟨x, hx⟩ := List.exists_mem_of_ne_nil _ hne
    have := (findChampionPublic_none_iff exact_strictWeak s).mp hp x hx
    rw [minusOne_exact] at this
    simp only [Exact.lt_eq, decide_eq_false_iff_not, not_lt] at this
    have := hnn x hx
    linarith
  | some y =>
    obtain ⟨hy, _, hmax, _⟩ := findChampionPublic_spec exact_strictWeak s y hp
    refine ⟨y, rfl, hy, ?_⟩
    intro x hx
    have := hmax x hx
    simpa only [Exact.lt_eq, decide_eq_false_iff_not, not_lt] using this

theorem fittest_unique (l : List (Org K))
    (hd : ∀ a ∈ l, ∀ b ∈ l, a = b ∨ a.fitness ≠ b.fitness)
    (y z : Org K) (hy : y ∈ l) (hz : z ∈ l)
    (hym : ∀ x ∈ l, x.fitness ≤ y.fitness) (hzm : ∀ x ∈ l, x.fitness ≤ z.fitness) : y = z := by
  rcases hd y hy z hz with h | h
  · exact h
  · exact absurd (le_antisymm (hzm y hy) (hym z hz)) h

theorem nextEpoch_keeps_findChampion (o : EpochOpts K) (gen : Int) (p p' p1 : Pop K) (ex : ExecState) (rs rs1 rs' : List Nat)
    (hu : C02.UidInv p) (hnd : (p.species.map (·.id)).Nodup) (hundup : (C02.orgUids p.species).Nodup)
    (hz : ScZero p) (hrefs : RefsOkPop p) (hun : ∀ s ∈ p.species, ∀ x ∈ s.orgs, x.toEliminate = false)
    (hnn : ∀ s ∈ p.species, ∀ x ∈ s.orgs, 0 ≤ x.fitness) (ha : 0 < o.ageSignificance) (hst : 0 ≤ o.survivalThresh)
    (hdist : ∀ s ∈ p.species, ∀ a ∈ s.orgs, ∀ b ∈ s.orgs, a = b ∨ a.fitness ≠ b.fitness)
    (hprep : prepareForReproduction o p rs = .ok ((p1, ex), rs1))
    (h : nextEpoch o gen p rs = .ok (p', rs')) :
    ∀ s ∈ p1.species, s.expectedOffspring > 5 →
      ∃ s0 ∈ p.species, s0.id = s.id ∧ ∃ y, findChampionPublic s0 = some y ∧
        ∃ s' ∈ p'.species, ∃ x ∈ s'.orgs, x.uid ∈ p'.organisms ∧ IsCopy y x := by
  intro s hs hq
  obtain ⟨s0, hs0, hid, y, hy, hmax, s', hs', x, hx, hlist, hcopy⟩ :=
    nextEpoch_keeps_fittest o gen p p' p1 ex rs rs1 rs' hu hnd hundup hz hrefs hun hnn ha hst hprep h s hs hq
  have hne : s0.orgs ≠ [] := List.ne_nil_of_mem hy
  obtain ⟨z, hz1, hz2, hz3⟩ := findChampionPublic_fittest s0 hne (hnn s0 hs0)
  have : y = z := fittest_unique s0.orgs (hdist s0 hs0) y z hy hz2 hmax hz3
  subst this
  exact ⟨s0, hs0, hid, y, hz1, s', hs', x, hx, hlist, hcopy⟩

end GoNeat.C10
