/-
  Property C06 — duplicating a genome gives an exact, independent copy.

  Kind A: every theorem holds for every scalar type `W` (no arithmetic law is used).
  Independence ("sharing no mutable state") is a heap property: the functional model has no sharing by
  construction; on the implementation it is decided by the ownership bits and pointer-set comparison of
  the harness dump (ops `duplicate`, `dupThenMutate`).
-/
import GoNeat.Spec.WF

namespace GoNeat.C06
open GoNeat
variable {W : Type}

/-- all references of a genome resolve inside the genome (the part of well-formedness duplication needs):
    trait references are nil or ids (≠ 0) of the genome's traits, gene and module-wire endpoints are node ids -/
structure RefsOk (g : Genome W) : Prop where
  traitRefs : TraitRefsOwned g
  endpoints : EndpointsOwned g
  modCtrl : ∀ m ∈ g.modules, TraitRefOk g m.ctrl.trait
  modWires : ∀ m ∈ g.modules, (∀ w ∈ m.ins, w.node ∈ nodeIds g) ∧ (∀ w ∈ m.outs, w.node ∈ nodeIds g)

theorem find_some_of_mem {α} (p : α → Bool) (l : List α) (h : ∃ a ∈ l, p a = true) :
    ∃ b, l.find? p = some b ∧ p b = true :=
  match hf : l.find? p with
  | some b => ⟨b, rfl, List.find?_some hf⟩
  | none => let ⟨a, ha, hpa⟩ := h; absurd hpa (List.find?_eq_none.mp hf a ha)

theorem dupTraitRef_ok (g : Genome W) (t : Option Int) (h : TraitRefOk g t) : dupTraitRef g.traits t = t := by
  cases t with
  | none => rfl
  | some id =>
    obtain ⟨h0, hmem⟩ := h
    unfold dupTraitRef traitWithId
    simp only [h0, ↓reduceIte]
    have : ∃ a ∈ g.traits, (a.id == id) = true := by
      unfold traitIds at hmem
      obtain ⟨a, ha, hid⟩ := List.mem_map.mp hmem
      exact ⟨a, ha, by simp [hid]⟩
    obtain ⟨b, hb, hpb⟩ := find_some_of_mem _ _ this
    simp only [hb, Option.map_some]
    simp at hpb
    rw [hpb]

theorem dupNode_ok (g : Genome W) (n : Node) (h : TraitRefOk g n.trait) : dupNode g.traits n = n := by
  unfold dupNode
  rw [dupTraitRef_ok g n.trait h]

theorem map_dupNode_ok (g : Genome W) (ns : List Node) (h : ∀ n ∈ ns, TraitRefOk g n.trait) :
    ns.map (dupNode g.traits) = ns := by
  induction ns with
  | nil => rfl
  | cons n ns ih =>
    simp only [List.map_cons]
    rw [dupNode_ok g n (h n (by simp)), ih (fun m hm => h m (by simp [hm]))]

theorem nodeById_some (nodes : List Node) (id : Int) (n : Node) (h : nodeById nodes id = some n) :
    n.id = id ∧ n ∈ nodes := by
  unfold nodeById at h
  have h1 := List.find?_some h
  have h2 := List.mem_of_find?_eq_some h
  exact ⟨by simpa using h1, List.mem_reverse.mp h2⟩

theorem nodeById_isSome (nodes : List Node) (id : Int) (h : id ∈ nodes.map (·.id)) : (nodeById nodes id).isSome = true := by
  unfold nodeById
  obtain ⟨a, ha, hid⟩ := List.mem_map.mp h
  obtain ⟨b, hb, _⟩ := find_some_of_mem (fun n : Node => n.id == id) nodes.reverse ⟨a, by simp [ha], by simp [hid]⟩
  simp [hb]

theorem nodeById_isNone_iff (nodes : List Node) (id : Int) : (nodeById nodes id).isNone = true ↔ id ∉ nodes.map (·.id) := by
  simp [nodeById]

theorem dupGenes_ok_iff (ts : List (Trait W)) (ns : List Node) (gs gs' : List (Gene W)) :
    dupGenes ts ns gs = .ok gs' ↔ (∀ x ∈ gs, x.src ∈ ns.map (·.id) ∧ x.dst ∈ ns.map (·.id)) ∧
      gs' = gs.map fun x => { x with trait := dupTraitRef ts x.trait } := by
  induction gs generalizing gs' with
  | nil => simp [dupGenes, eq_comm]
  | cons x xs ih =>
    unfold dupGenes
    rw [List.forall_mem_cons, List.map_cons]
    by_cases h1 : x.src ∈ ns.map (·.id)
    · by_cases h2 : x.dst ∈ ns.map (·.id)
      · rw [if_neg (mt (nodeById_isNone_iff ns _).mp (not_not_intro h1)), if_neg (mt (nodeById_isNone_iff ns _).mp (not_not_intro h2))]
        cases hr : dupGenes ts ns xs with
        | error e => exact ⟨fun h => (nomatch h), fun ⟨⟨_, hall⟩, _⟩ => nomatch hr ▸ (ih _).mpr ⟨hall, rfl⟩⟩
        | ok l =>
          obtain ⟨hall, rfl⟩ := (ih l).mp hr
          exact ⟨fun h => by cases h; exact ⟨⟨⟨h1, h2⟩, hall⟩, rfl⟩, fun ⟨_, e⟩ => e ▸ rfl⟩
      · rw [if_neg (mt (nodeById_isNone_iff ns _).mp (not_not_intro h1)), if_pos ((nodeById_isNone_iff ns _).mpr h2)]
        exact ⟨fun h => (nomatch h), fun ⟨⟨⟨_, h⟩, _⟩, _⟩ => absurd h h2⟩
    · rw [if_pos ((nodeById_isNone_iff ns _).mpr h1)]
      exact ⟨fun h => (nomatch h), fun ⟨⟨⟨h, _⟩, _⟩, _⟩ => absurd h h1⟩

theorem dupGenes_ok (g : Genome W) (gs : List (Gene W))
    (he : ∀ x ∈ gs, x.src ∈ nodeIds g ∧ x.dst ∈ nodeIds g) (ht : ∀ x ∈ gs, TraitRefOk g x.trait) :
    dupGenes g.traits g.nodes gs = .ok gs :=
  (dupGenes_ok_iff _ _ _ _).mpr ⟨he, ((List.map_congr_left fun x hx => by rw [dupTraitRef_ok g x.trait (ht x hx)]).trans (List.map_id' gs)).symm⟩

theorem dupWires_ok (g : Genome W) (err : String) (ws : List (Wire W)) (h : ∀ w ∈ ws, w.node ∈ nodeIds g) :
    dupWires g.nodes err ws = .ok ws := by
  induction ws with
  | nil => rfl
  | cons w ws ih =>
    unfold dupWires
    rw [if_neg (mt (nodeById_isNone_iff g.nodes _).mp (not_not_intro (h w List.mem_cons_self))),
      ih (fun y hy => h y (List.mem_cons_of_mem _ hy))]

theorem dupModules_ok (g : Genome W) (ms : List (Module W))
    (hc : ∀ m ∈ ms, TraitRefOk g m.ctrl.trait)
    (hw : ∀ m ∈ ms, (∀ w ∈ m.ins, w.node ∈ nodeIds g) ∧ (∀ w ∈ m.outs, w.node ∈ nodeIds g)) :
    dupModules g.traits g.nodes ms = .ok ms := by
  induction ms with
  | nil => rfl
  | cons m ms ih =>
    unfold dupModules
    rw [dupWires_ok g _ m.ins (hw m (by simp)).1, dupWires_ok g _ m.outs (hw m (by simp)).2]
    simp only
    rw [ih (fun y hy => hc y (by simp [hy])) (fun y hy => hw y (by simp [hy]))]
    simp only
    rw [dupNode_ok g m.ctrl (hc m (by simp))]

/-- **C06 (exact copy).** Duplicating a genome whose references resolve yields the same genome under the
    new id: traits, nodes (ids, roles, activation types, trait references), genes (innovation and mutation
    numbers, endpoints, weights, recurrence and enabled flags, trait references) and modules are all equal. -/
theorem duplicate_exact (g : Genome W) (newId : Int) (h : RefsOk g) :
    g.duplicate newId = .ok { g with id := newId } := by
  unfold Genome.duplicate
  have hn : g.nodes.map (dupNode g.traits) = g.nodes := map_dupNode_ok g g.nodes h.traitRefs.2
  simp only [hn]
  rw [dupGenes_ok g g.genes h.endpoints h.traitRefs.1, dupModules_ok g g.modules h.modCtrl h.modWires]

/-- the enabled flag of every gene survives duplication (the clause broken by the repaired `NewGeneCopy` defect) -/
theorem duplicate_keeps_enabled (g d : Genome W) (newId : Int) (h : RefsOk g) (hd : g.duplicate newId = .ok d) :
    d.genes.map (·.en) = g.genes.map (·.en) := by
  rw [duplicate_exact g newId h] at hd
  cases hd; rfl

/-- a gene endpoint that is not a node of the genome makes duplication fail (the model rejects what the code
    rejects); that it never errs on a genome whose references resolve is `duplicate_exact` -/
theorem duplicate_rejects_dangling (g : Genome W) (newId : Int)
    (h : ∃ x ∈ g.genes, x.src ∉ nodeIds g ∨ x.dst ∉ nodeIds g) : ∃ e, g.duplicate newId = .error e := by
  unfold Genome.duplicate
  dsimp only
  have hids : (g.nodes.map (dupNode g.traits)).map (·.id) = g.nodes.map (·.id) := by
    simp [dupNode, Function.comp_def]
  cases hr : dupGenes g.traits (g.nodes.map (dupNode g.traits)) g.genes with
  | error e => exact ⟨e, rfl⟩
  | ok l =>
    obtain ⟨x, hx, hbad⟩ := h
    have := ((dupGenes_ok_iff _ _ _ _).mp hr).1 x hx
    rw [hids] at this
    exact hbad.elim (absurd this.1) (absurd this.2)

/-! ### non-vacuity: a concrete genome with a disabled gene, a recurrent gene, a nil trait and a module
    satisfies the hypothesis -/

def sample : Genome Int :=
  { id := 7,
    traits := [⟨1, [1, 2]⟩, ⟨2, [3]⟩],
    nodes := [⟨1, Kind.bias, 4, none⟩, ⟨2, Kind.input, 4, some 1⟩, ⟨3, Kind.output, 5, some 2⟩, ⟨4, Kind.hidden, 5, some 1⟩],
    genes := [⟨1, 1, 3, false, 5, 5, true, some 1⟩, ⟨2, 2, 4, false, 6, 6, false, none⟩, ⟨5, 4, 4, true, 7, 7, true, some 2⟩],
    modules := [⟨9, 0, true, ⟨10, Kind.hidden, 20, none⟩, [⟨2, 1, false, none⟩], [⟨3, 1, false, none⟩]⟩] }

example : RefsOk sample :=
  ⟨by decide, by decide, by decide, by decide⟩

example : sample.duplicate 8 = .ok { sample with id := 8 } := duplicate_exact _ _ ⟨by decide, by decide, by decide, by decide⟩

end GoNeat.C06
