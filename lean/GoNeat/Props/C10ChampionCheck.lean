/-
  Property C10, champion queries: the MODEL's answers pass the executable predicates the driver evaluates on the
  implementation's answers (Spec/Champion.lean) - so a predicate failure on Go's output is a difference from what the
  theorems of Props/C10Champion.lean establish, never a demand beyond them.
    `publicWhy_model`   `FindChampion` (nil, or the member at the position the loop stops at)
    `damagedWhy_model`  `CheckChampionChildDamaged` of every member
-/
import GoNeat.Props.C10Champion
import GoNeat.Spec.Champion

namespace GoNeat.C10
open GoNeat Scalar Champion ChampionSpec
variable {W : Type} [Scalar W]

theorem publicWhy_model (hw : C08.StrictWeak W) (s : Species W) :
    match findChampionPublic s with
    | none => publicWhy s.orgs none = ""
    | some y => ∃ k, s.orgs[k]? = some y ∧ publicWhy s.orgs (some k) = "" := by
  cases hp : findChampionPublic s with
  | none =>
    have h := (findChampionPublic_none_iff hw s).mp hp
    show publicWhy s.orgs none = ""
    unfold publicWhy
    rw [List.any_eq_false.mpr fun x hx => Bool.eq_false_iff.mp (h x hx)]
    rfl
  | some y =>
    obtain ⟨_, _, hmax, pre, post, hl, _⟩ := findChampionPublic_spec hw s y hp
    refine ⟨pre.length, ?_, ?_⟩
    · rw [hl]; simp
    · have hk : s.orgs[pre.length]? = some y := by rw [hl]; simp
      unfold publicWhy
      simp only [hk]
      rw [List.any_eq_false.mpr fun x hx => Bool.eq_false_iff.mp (hmax x hx)]
      rfl

theorem damagedWhy_model (s : Species W) : damagedWhy s.orgs (s.orgs.map checkChampionChildDamaged) = "" := by
  unfold damagedWhy
  have : (s.orgs.map checkChampionChildDamaged) = s.orgs.map (fun o => o.isPopChampionChild && lt o.fitness o.highestFitness) := rfl
  rw [this]
  simp

end GoNeat.C10
