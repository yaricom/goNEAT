/-
  Property C09, composed over the whole preparation phase: if the raw quotas (floor + carried fraction) are
  non-negative and total at most the population size — the only facts about the rounded computation that are used —
  then after `prepareForReproduction` (fix-up, zero-quota purge, sort, stolen babies or delta coding, write-back,
  removal of marked organisms) the quotas are non-negative and total EXACTLY the population size; hence (C02
  progeny_size_exact) reproduction yields exactly PopSize babies.  Kind A.
-/
import GoNeat.Props.C09
import GoNeat.Props.C02Ids
import GoNeat.Proofs.ListLemmas

namespace GoNeat.C09
open GoNeat Scalar
variable {W : Type} [Scalar W]

theorem quota_facts_of_perm {l l' : List (Species W)} {n : Int}
    (hp : (l'.map (·.expectedOffspring)).Perm (l.map (·.expectedOffspring)))
    (h : quotaSum l = n ∧ ∀ s ∈ l, 0 ≤ s.expectedOffspring) : quotaSum l' = n ∧ ∀ s ∈ l', 0 ≤ s.expectedOffspring := by
  refine ⟨(int_sum_perm hp).trans h.1, fun s hs => ?_⟩
  obtain ⟨t, ht, e⟩ := List.mem_map.mp (hp.mem_iff.mp (List.mem_map_of_mem (f := (·.expectedOffspring)) hs))
  exact e ▸ h.2 t ht

theorem fixupQuotas_nonneg (ss : List (Species W)) (t n : Int) (hn : 0 ≤ n) (hnn : ∀ s ∈ ss, 0 ≤ s.expectedOffspring) :
    ∀ s ∈ fixupQuotas ss t n, 0 ≤ s.expectedOffspring := by
  rcases fixupQuotas_cases ss t n with ⟨e, _⟩ | ⟨b, _, _, ⟨_, e⟩ | ⟨_, e⟩⟩ <;> rw [e]
  · exact hnn
  · intro s hs
    rcases mem_modify _ _ b s hs with h | ⟨s0, h0, rfl⟩
    · exact hnn s h
    · have := hnn s0 h0; simp only; omega
  · intro s hs
    rcases mem_modify _ _ b s hs with h | ⟨s0, h0, rfl⟩
    · obtain ⟨s1, _, rfl⟩ := List.mem_map.mp h; exact Int.le_refl 0
    · exact hn

theorem deltaCoding_nonneg (sorted sorted' : List (Species W)) (o : EpochOpts W) (h : deltaCoding sorted o = .ok sorted') :
    ∀ s ∈ sorted', 0 ≤ s.expectedOffspring :=
  deltaCoding_all (P := fun _ => True) (Q := fun s => 0 ≤ s.expectedOffspring) h (fun _ _ hn _ => hn)
    (fun _ _ => Int.le_refl 0) (fun _ _ => trivial)

theorem giveBabies_quota_nonneg (sorted sorted' : List (Species W)) (o : EpochOpts W) (rs rs' : List Nat)
    (hbs : 0 ≤ o.babiesStolen) (hnn : ∀ s ∈ sorted, 0 ≤ s.expectedOffspring)
    (h : giveBabiesToTheBest sorted o rs = .ok (sorted', rs')) : ∀ s ∈ sorted', 0 ≤ s.expectedOffspring :=
  giveBabies_all (P := fun s => 0 ≤ s.expectedOffspring) (Q := fun s => 0 ≤ s.expectedOffspring) hbs h
    (fun s d _ hd _ => by show 0 ≤ s.expectedOffspring - d; omega) (fun _ hq => hq)
    (fun s b hb (hq : 0 ≤ s.expectedOffspring) => by show 0 ≤ s.expectedOffspring + b; omega)
    (fun s left hl (hq : 0 ≤ s.expectedOffspring) => by show 0 ≤ s.expectedOffspring + left; omega) hnn

theorem writeBack_quota (species U : List (Species W)) (hndU : (U.map (·.id)).Nodup)
    (hperm : (species.map (·.id)).Perm (U.map (·.id))) :
    quotaSum (writeBack species U) = quotaSum U ∧ ∀ s ∈ writeBack species U, s ∈ U :=
  ⟨quotaSum_perm (writeBack_perm species U hndU hperm), fun _ hs => (writeBack_perm species U hndU hperm).subset hs⟩

/-- the raw quota assignment of `purgeZeroOffspringSpecies`: expected offspring = fitness / mean, then floor + carried
    fraction per species in species order; returns the species with their raw quotas and the raw total -/
def rawAssign (p : Pop W) : List (Species W) × Int :=
  let orgs := p.orgList
  let total := orgs.foldl (fun acc o => add acc o.fitness) zero
  let totalOrganisms : Int := p.organisms.length
  let overallAverage := div total (ofInt totalOrganisms)
  let setExp (o : Org W) : Org W :=
    if eq overallAverage zero then o else { o with expectedOffspring := div o.fitness overallAverage }
  let species1 := p.species.map (fun s => { s with orgs := s.orgs.map setExp })
  let r := assignQuotas species1 zero 0
  (r.1, r.2.2)

theorem purgeZero_eq (p : Pop W) :
    (purgeZeroOffspringSpecies p).species =
      (fixupQuotas (rawAssign p).1 (rawAssign p).2 p.organisms.length).filter (fun s => s.expectedOffspring > 0) := rfl

theorem rawAssign_total (p : Pop W) : (rawAssign p).2 = quotaSum (rawAssign p).1 := by
  unfold rawAssign
  simp only
  rw [assignQuotas_sumA]; omega

theorem purgeZero_quota (p : Pop W) (hne : (rawAssign p).1 ≠ []) (hnn : ∀ s ∈ (rawAssign p).1, 0 ≤ s.expectedOffspring)
    (hle : (rawAssign p).2 ≤ (p.organisms.length : Int)) :
    quotaSum (purgeZeroOffspringSpecies p).species = p.organisms.length ∧
    ∀ s ∈ (purgeZeroOffspringSpecies p).species, 0 ≤ s.expectedOffspring := by
  have hfn := fixupQuotas_nonneg (rawAssign p).1 (rawAssign p).2 p.organisms.length (Int.natCast_nonneg _) hnn
  rw [purgeZero_eq]
  refine ⟨?_, fun s hs => hfn s (List.mem_filter.mp hs).1⟩
  rw [quotaSum_filter_pos _ hfn, rawAssign_total]
  exact (fixupQuotas_total _ _ hne hnn).1 (rawAssign_total p ▸ hle)

theorem redistribute_quota {sorted1 sorted2 : List (Species W)} {o : EpochOpts W} {e ehlc : Int} {rs rs1 : List Nat}
    (hbs : 0 ≤ o.babiesStolen) (htot : quotaSum sorted1 = o.popSize) (hnn : ∀ s ∈ sorted1, 0 ≤ s.expectedOffspring)
    (h : Redistributed o sorted1 e rs sorted2 ehlc rs1) :
    quotaSum sorted2 = o.popSize ∧ ∀ s ∈ sorted2, 0 ≤ s.expectedOffspring := by
  rcases h.cases with hd | ⟨_, hg⟩ | rfl
  · exact ⟨(deltaCoding_total _ _ _ hd).1, deltaCoding_nonneg _ _ _ hd⟩
  · exact ⟨by rw [giveBabies_conserves _ _ _ _ _ hbs hg]; exact htot, giveBabies_quota_nonneg _ _ _ _ _ hbs hnn hg⟩
  · exact ⟨htot, hnn⟩

/-- **C09 (quotas after the whole preparation phase).** For every population, stream and option setting: if the raw
    quotas are non-negative and total at most the number of organisms `n` (the only facts about the rounded float
    computation that are used; in exact arithmetic the raw total is exactly `n`, C09Exact), `n` is the configured
    population size, and species ids are unique, then after `prepareForReproduction` every species' quota is
    non-negative and the quotas total exactly `PopSize`. -/
theorem prepare_quota_total (o : EpochOpts W) (p p1 : Pop W) (ex : ExecState) (rs rs' : List Nat) (species1 : List (Species W))
    (hsize : p.organisms.length = o.popSize) (hnd : (p.species.map (·.id)).Nodup) (hbs : 0 ≤ o.babiesStolen)
    (hadj : adjustAll o p.species = .ok species1)
    (hraw_nn : ∀ s ∈ (rawAssign ({ p with species := species1 } : Pop W)).1, 0 ≤ s.expectedOffspring)
    (hraw_le : (rawAssign ({ p with species := species1 } : Pop W)).2 ≤ o.popSize)
    (hne : (rawAssign ({ p with species := species1 } : Pop W)).1 ≠ [])
    (h : prepareForReproduction o p rs = .ok ((p1, ex), rs')) :
    quotaSum p1.species = o.popSize ∧ ∀ s ∈ p1.species, 0 ≤ s.expectedOffspring := by
  obtain ⟨species1', best, tail, e, sorted2, ehlc, doomed, pre, hadj', hsorted, hred, hpre, _, _, hsp, _⟩ :=
    prepare_decomp o p p1 ex rs rs' h
  have e : species1 = species1' := Except.ok.inj (hadj.symm.trans hadj')
  subst e
  obtain ⟨_, _, _, _, hwp⟩ := prepare_stages_bare o p species1 best tail e rs sorted2 ehlc rs' hnd hadj hsorted hred
  have h0 := purgeZero_quota ({ p with species := species1 } : Pop W) hne hraw_nn (hsize.symm ▸ hraw_le)
  replace h0 : quotaSum _ = ((o.popSize : Nat) : Int) ∧ _ := hsize ▸ h0
  generalize purgeZeroOffspringSpecies ({ p with species := species1 } : Pop W) = pz at hsorted hwp hpre h0
  -- sorted, with the champion flag: the same quotas in another order
  have h1 := quota_facts_of_perm (l' := setTopOrg best (fun t => { t with isPopChampion := true }) :: tail) (by
    rw [List.map_cons, quota_setTopOrg]
    exact (hsorted ▸ goSort_perm _ _ : (best :: tail).Perm pz.species).map _) h0
  -- redistributed; then written back by id and the marked organisms removed: the same quotas again
  rw [hsp, hpre]
  exact quota_facts_of_perm (by rw [List.map_map]; exact hwp.map _) (redistribute_quota hbs h1.1 h1.2 hred)

/-- **C09 + C02.** Under the same hypotheses reproduction of all species after the preparation phase yields exactly
    `PopSize` babies whenever it returns: the executor's `progeny size == PopSize` sanity check cannot fire. -/
theorem prepared_progeny_exact (o : EpochOpts W) (gen : Int) (p p1 : Pop W) (ex : ExecState) (rs rs' : List Nat) (species1 : List (Species W))
    (hsize : p.organisms.length = o.popSize) (hnd : (p.species.map (·.id)).Nodup) (hbs : 0 ≤ o.babiesStolen)
    (hadj : adjustAll o p.species = .ok species1)
    (hraw_nn : ∀ s ∈ (rawAssign ({ p with species := species1 } : Pop W)).1, 0 ≤ s.expectedOffspring)
    (hraw_le : (rawAssign ({ p with species := species1 } : Pop W)).2 ≤ o.popSize)
    (hne : (rawAssign ({ p with species := species1 } : Pop W)).1 ≠ [])
    (h : prepareForReproduction o p rs = .ok ((p1, ex), rs'))
    (sorted : List (Species W)) (reg reg' : Reg W) (uid uid' : Nat) (babies : List (Org W)) (rs1 rs2 : List Nat)
    (hall : reproduceAll o gen sorted p1.species reg uid [] rs1 = .ok ((babies, reg', uid'), rs2)) :
    babies.length = o.popSize := by
  obtain ⟨ht, hn⟩ := prepare_quota_total o p p1 ex rs rs' species1 hsize hnd hbs hadj hraw_nn hraw_le hne h
  exact C02.progeny_size_exact o gen p1 sorted reg reg' uid uid' babies rs1 rs2 hn ht hall

end GoNeat.C09
