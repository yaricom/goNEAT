/-
  Property C08, consequence over a whole batch: after speciating any batch of organisms, every one of them is
  either the founder (first organism, the representative) of its species or was closer than the threshold to
  that species' representative when it was assigned — and, since organisms are only ever appended to a species,
  the representative it was compared with is still the species' first organism afterwards.
  Kind A: holds for every scalar type (no order law is needed for this consequence).
-/
import GoNeat.Props.C08
import GoNeat.Proofs.ListLemmas

namespace GoNeat.C08
open GoNeat Scalar
variable {W : Type} [Scalar W]

theorem bestCompatible_within (o : EpochOpts W) (g : Genome W) (ss : List (Species W)) (i : Nat) (best : Option Nat) (bv : W) :
    ∀ b, bestCompatible o g ss i best bv = some b →
      best = some b ∨ (i ≤ b ∧ ∃ s rep, ss[b - i]? = some s ∧ s.orgs.head? = some rep ∧
        lt (compatibility o.compat g rep.genome) o.compatThreshold = true) := by
  intro b h
  rw [bestCompatible_eq_scan] at h
  refine (scan_within _ _ _ _ _ _ h).imp_right fun ⟨hle, c, hc, hlt⟩ => ?_
  obtain ⟨s, rep, hs, hrep, rfl⟩ := (dists_getElem o g ss _ c).mp hc
  exact ⟨hle, s, rep, hs, hrep, hlt⟩

theorem speciateOne_cases (o : EpochOpts W) (p p' : Pop W) (org : Org W) (h : speciateOne o p org = .ok p') :
    (∃ i s rep, (p.species.isEmpty = false ∧ bestCompatible o org.genome p.species 0 none maxVal = some i) ∧
        p.species[i]? = some s ∧ s.orgs.head? = some rep ∧
        lt (compatibility o.compat org.genome rep.genome) o.compatThreshold = true ∧
        p'.species = p.species.modify i (fun s => { s with orgs := s.orgs ++ [org] }) ∧ p'.lastSpecies = p.lastSpecies) ∨
    ((p.species.isEmpty = true ∨ bestCompatible o org.genome p.species 0 none maxVal = none) ∧
      p'.lastSpecies = p.lastSpecies + 1 ∧
      ∃ s, p'.species = p.species ++ [s] ∧ s.id = p.lastSpecies + 1 ∧ s.orgs = [org] ∧ s.age = 1 ∧ s.isNovel = true) := by
  rcases speciateOne_spec o p p' org h with ⟨i, ⟨he, hb⟩, hsp, hlast⟩ | hf
  · rcases bestCompatible_within o org.genome p.species 0 none maxVal i hb with h0 | ⟨_, s, rep, hs, hrep, hlt⟩
    · cases h0
    · exact .inl ⟨i, s, rep, ⟨he, hb⟩, hs, hrep, hlt, hsp, hlast⟩
  · exact .inr hf

theorem head?_append_of_head? {α} {l : List α} {a : α} (t : List α) (h : l.head? = some a) : (l ++ t).head? = some a := by
  cases l with
  | nil => cases h
  | cons b l' => exact h

/-- organism `x` sits in a species of which it is the representative or to whose representative it is closer than
    the threshold -/
def Placed (o : EpochOpts W) (species : List (Species W)) (x : Org W) : Prop :=
  ∃ s ∈ species, x ∈ s.orgs ∧ ∃ rep, s.orgs.head? = some rep ∧
    (rep = x ∨ lt (compatibility o.compat x.genome rep.genome) o.compatThreshold = true)

theorem speciateOne_placed (o : EpochOpts W) (p p' : Pop W) (org : Org W) (h : speciateOne o p org = .ok p') :
    Placed o p'.species org ∧ ∀ x, Placed o p.species x → Placed o p'.species x := by
  rcases speciateOne_cases o p p' org h with ⟨i, s, rep, _, hs, hrep, hlt, hsp, _⟩ | ⟨_, _, s, hsp, _, horgs, _, _⟩
  · refine ⟨⟨_, hsp ▸ modify_getElem_mem _ _ _ s hs, by simp, rep, head?_append_of_head? _ hrep, Or.inr hlt⟩, ?_⟩
    rintro x ⟨s0, hs0, hx, rep0, hrep0, hor⟩
    rcases mem_modify_of_mem p.species i (fun s => { s with orgs := s.orgs ++ [org] }) s0 hs0 with h1 | h1
    · exact ⟨s0, hsp ▸ h1, hx, rep0, hrep0, hor⟩
    · exact ⟨_, hsp ▸ h1, List.mem_append_left _ hx, rep0, head?_append_of_head? _ hrep0, hor⟩
  · refine ⟨⟨s, by rw [hsp]; simp, by rw [horgs]; simp, org, by rw [horgs]; rfl, Or.inl rfl⟩, ?_⟩
    rintro x ⟨s0, hs0, hx, rep0, hrep0, hor⟩
    exact ⟨s0, by rw [hsp]; exact List.mem_append_left _ hs0, hx, rep0, hrep0, hor⟩

/-- **C08 (consequence, whole batch).** After speciating any batch, every organism of the batch — and every organism
    that was placed before — is the founder of its species or within the threshold of that species' representative. -/
theorem speciateLoop_placed (o : EpochOpts W) (p p' : Pop W) (orgs : List (Org W)) (h : speciateLoop o p orgs = .ok p') :
    (∀ x ∈ orgs, Placed o p'.species x) ∧ ∀ x, Placed o p.species x → Placed o p'.species x := by
  have key := speciateLoop_induct (o := o)
    (fun done q => (∀ x ∈ done, Placed o q.species x) ∧ ∀ x, Placed o p.species x → Placed o q.species x)
    ?_ (orgs := orgs) (done := []) (p := p) (p' := p') ⟨fun _ hx => absurd hx List.not_mem_nil, fun _ hx => hx⟩ h
  · rwa [List.nil_append] at key
  intro done q org q' hi h1
  obtain ⟨hnew, hold⟩ := speciateOne_placed o q q' org h1
  refine ⟨fun x hx => ?_, fun x hx => hold x (hi.2 x hx)⟩
  rcases List.mem_append.mp hx with hx | hx
  · exact hold x (hi.1 x hx)
  · rw [List.mem_singleton.mp hx]; exact hnew

end GoNeat.C08
