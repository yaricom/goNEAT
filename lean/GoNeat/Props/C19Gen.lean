/-
  Property C19, recording a generation: `Generation.FillPopulationStatistics`, `Generation.Average`,
  `Generation.ChampionComplexity` (model: Model/GenerationStats.lean) produce the per-generation series that the
  trial / experiment statistics (Props/C19.lean, Props/C19Exact.lean) aggregate.

  Order actually used: `sort.Sort(sort.Reverse(Organisms))` with `Organisms.Less` = fitness, ties by the organism's
  highest fitness (`orgLess`).  "Fittest" below therefore is: no member of the species is strictly greater in the
  (fitness, highest fitness) order - in particular none has a strictly greater fitness.  These clauses hold for every
  scalar type whose `<` is a strict weak order and whose `==` is its incomparability (`C08.StrictWeak`, `C10.EqLaw`:
  float64 without NaN, every ordered field) - Kind A with the order laws as hypotheses, no arithmetic law.
  The clauses about Diversity, lengths, ages, the permutation and the unchanged rest need no hypothesis at all.
-/
import GoNeat.Model.GenerationStats
import GoNeat.Props.C10Champion
import GoNeat.Props.C02Epoch
import GoNeat.Props.C11

namespace GoNeat.C19
open GoNeat Scalar GoNeat.GenStatsModel

variable {W : Type} [Scalar W]

def sortSpecies (s : Species W) : Species W := { s with orgs := sortOrgsDesc s.orgs }

/-- the species bests in species order: the first organism of every (non-empty) sorted member list -/
def bests (ss : List (Species W)) : List (Org W) := ss.filterMap (fun s => (sortOrgsDesc s.orgs).head?)

theorem bests_cons {s : Species W} {top : Org W} {rest : List (Org W)} (hs : sortOrgsDesc s.orgs = top :: rest)
    (ss : List (Species W)) : bests (s :: ss) = top :: bests ss := by
  simp only [bests, List.filterMap_cons, hs, List.head?_cons]

theorem fillLoop_eq (solved : Bool) (ss : List (Species W)) (mx : W) (ch : Option (Org W)) :
    fillLoop solved ss mx ch =
      if ss.all (fun s => !s.orgs.isEmpty) then
        .ok { fitness := (bests ss).map (·.fitness), age := ss.map (fun s => ofInt s.age),
              complexity := (bests ss).map (fun t => ofInt (organismComplexity t)),
              champion := if solved then ch else Champion.findLoop (bests ss) mx ch, species := ss.map sortSpecies }
      else .error (.error "panic:index") := by
  induction ss generalizing mx ch with
  | nil => cases solved <;> rfl
  | cons s ss ih =>
    rw [fillLoop]
    cases hs : sortOrgsDesc s.orgs with
    | nil => simp [(C10.sortOrgsDesc_eq_nil s.orgs).mp hs]
    | cons top rest =>
      have hne : s.orgs.isEmpty = false := by
        cases h : s.orgs with
        | nil => rw [(C10.sortOrgsDesc_eq_nil s.orgs).mpr h] at hs; cases hs
        | cons _ _ => rfl
      dsimp only
      rw [ih, List.all_cons, hne, bests_cons hs]
      by_cases hall : ss.all (fun s => !s.orgs.isEmpty) = true
      · simp only [hall, Bool.not_false, Bool.and_self, if_true, List.map_cons, sortSpecies, hs]
        cases solved
        · by_cases hg : gt top.fitness mx = true <;> simp [Champion.findLoop, hg]
        · rfl
      · simp [hall]

omit [Scalar W] in
theorem all_nonempty_iff (ss : List (Species W)) : ss.all (fun s => !s.orgs.isEmpty) = true ↔ ∀ s ∈ ss, s.orgs ≠ [] := by
  simp

theorem bests_some (ss : List (Species W)) (hne : ∀ s ∈ ss, s.orgs ≠ []) :
    (bests ss).map some = ss.map (fun s => (sortOrgsDesc s.orgs).head?) := by
  rw [bests, List.map_filterMap_some_eq_filter_map_isSome, List.filter_eq_self]
  intro o ho
  obtain ⟨s, hs, rfl⟩ := List.mem_map.mp ho
  rw [List.isSome_head?]
  exact mt (C10.sortOrgsDesc_eq_nil s.orgs).mp (hne s hs)

theorem bests_length (ss : List (Species W)) (hne : ∀ s ∈ ss, s.orgs ≠ []) : (bests ss).length = ss.length := by
  simpa using congrArg List.length (bests_some ss hne)

theorem fillFrom_spec (solved : Bool) (ch0 : Option (Org W)) (p p' : Pop W) (st : GenStats W)
    (h : fillFrom solved ch0 p = .ok (st, p')) :
    (∀ s ∈ p.species, s.orgs ≠ []) ∧ p' = { p with species := p.species.map sortSpecies } ∧
    st.diversity = p.species.length ∧ st.age = p.species.map (fun s => ofInt s.age) ∧
    st.fitness = (bests p.species).map (·.fitness) ∧
    st.complexity = (bests p.species).map (fun t => ofInt (organismComplexity t)) ∧
    st.champion = (if solved then ch0 else Champion.findLoop (bests p.species) minInt64W ch0) ∧
    (bests p.species).length = p.species.length := by
  rw [fillFrom, fillLoop_eq] at h
  by_cases hall : p.species.all (fun s => !s.orgs.isEmpty) = true
  · rw [if_pos hall] at h
    simp only [Except.ok.injEq, Prod.mk.injEq] at h
    obtain ⟨rfl, rfl⟩ := h
    have hne := (all_nonempty_iff p.species).mp hall
    exact ⟨hne, rfl, rfl, rfl, rfl, rfl, rfl, bests_length p.species hne⟩
  · rw [if_neg hall] at h
    cases h

theorem bests_getElem (ss : List (Species W)) (hne : ∀ s ∈ ss, s.orgs ≠ []) (i : Nat) (s : Species W)
    (hi : ss[i]? = some s) : ∃ top rest, sortOrgsDesc s.orgs = top :: rest ∧ (bests ss)[i]? = some top := by
  have h := congrArg (·[i]?) (bests_some ss hne)
  simp only [List.getElem?_map, hi, Option.map_some, Option.map_eq_some_iff] at h
  obtain ⟨top, hb, ht⟩ := h
  obtain ⟨rest, hr⟩ := List.head?_eq_some_iff.mp ht.symm
  exact ⟨top, rest, hr, hb⟩

theorem bests_mem (ss : List (Species W)) (b : Org W) (hb : b ∈ bests ss) :
    ∃ s ∈ ss, (sortOrgsDesc s.orgs).head? = some b ∧ b ∈ s.orgs := by
  simp only [bests, List.mem_filterMap] at hb
  obtain ⟨s, hs, hh⟩ := hb
  refine ⟨s, hs, hh, ?_⟩
  have : b ∈ sortOrgsDesc s.orgs := List.mem_of_mem_head? hh
  exact (C10.sortOrgsDesc_perm s.orgs).mem_iff.mp this

theorem findLoop_first (hw : C08.StrictWeak W) (ts : List (Org W)) (mx : W) (ch : Option (Org W)) :
    ((∀ t ∈ ts, lt mx t.fitness = false) ∧ Champion.findLoop ts mx ch = ch) ∨
    (∃ (k : Nat) (top : Org W), ts[k]? = some top ∧ Champion.findLoop ts mx ch = some top ∧ lt mx top.fitness = true ∧
       (∀ b ∈ ts, lt top.fitness b.fitness = false) ∧
       (∀ (j : Nat) (b : Org W), j < k → ts[j]? = some b → lt b.fitness top.fitness = true)) := by
  rcases C10.findLoop_spec hw ts mx ch with ⟨h, hall⟩ | ⟨pre, top, post, hl, h, hlt, hpre, hpost⟩
  · exact .inl ⟨hall, h⟩
  · refine .inr ⟨pre.length, top, by rw [hl]; simp, h, hlt, ?_, ?_⟩
    · intro b hb
      rw [hl] at hb
      rcases List.mem_append.mp hb with hb | hb
      · exact C10.lt_asymm hw _ _ (hpre b hb)
      · rcases List.mem_cons.mp hb with rfl | hb
        · exact hw.irrefl _
        · exact hpost b hb
    · intro j b hj hjb
      rw [hl, List.getElem?_append_left hj] at hjb
      exact hpre b (List.mem_of_getElem? hjb)

/-- **C19 (recording is defined exactly on populations without empty species).** `FillPopulationStatistics` returns
    (does not index into an empty member list) iff no species is empty - the invariant C02 establishes. -/
theorem fill_defined_iff (solved : Bool) (ch0 : Option (Org W)) (p : Pop W) :
    (∃ r, fillFrom solved ch0 p = .ok r) ↔ ∀ s ∈ p.species, s.orgs ≠ [] := by
  rw [← all_nonempty_iff, fillFrom, fillLoop_eq]
  by_cases hall : p.species.all (fun s => !s.orgs.isEmpty) = true
  · rw [if_pos hall]
    exact ⟨fun _ => hall, fun _ => ⟨_, rfl⟩⟩
  · rw [if_neg hall]
    exact ⟨by rintro ⟨_, ⟨⟩⟩, fun h => absurd h hall⟩

/-- **C19 (Diversity and the shape of the series).** Diversity is the number of species; the Fitness, Age and
    Complexity series have exactly that length; the Age series lists the species' ages in species order. -/
theorem fill_diversity_ages (solved : Bool) (ch0 : Option (Org W)) (p p' : Pop W) (st : GenStats W)
    (h : fillFrom solved ch0 p = .ok (st, p')) :
    st.diversity = p.species.length ∧ st.fitness.length = p.species.length ∧ st.age.length = p.species.length ∧
    st.complexity.length = p.species.length ∧ st.age = p.species.map (fun s => ofInt s.age) := by
  obtain ⟨_, _, h1, h2, h3, h4, _, h6⟩ := fillFrom_spec solved ch0 p p' st h
  refine ⟨h1, ?_, ?_, ?_, h2⟩
  · rw [h3, List.length_map, h6]
  · rw [h2, List.length_map]
  · rw [h4, List.length_map, h6]

/-- **C19 (per-species entries).** For every species `i`: after the call its member list starts with an organism `top`
    of that species which no member exceeds in the order actually used (fitness, ties by highest fitness) - in particular
    no member has a strictly greater fitness -, `Fitness[i]` is `top`'s fitness, `Complexity[i]` its complexity and
    `Age[i]` the species' age. -/
theorem fill_species_best (hw : C08.StrictWeak W) (he : C10.EqLaw W) (solved : Bool) (ch0 : Option (Org W))
    (p p' : Pop W) (st : GenStats W) (h : fillFrom solved ch0 p = .ok (st, p')) (i : Nat) (s : Species W)
    (hi : p.species[i]? = some s) :
    ∃ top rest, p'.species[i]? = some { s with orgs := top :: rest } ∧ top ∈ s.orgs ∧
      (∀ x ∈ s.orgs, orgLess top x = false ∧ lt top.fitness x.fitness = false) ∧
      st.fitness[i]? = some top.fitness ∧ st.complexity[i]? = some (ofInt (organismComplexity top)) ∧
      st.age[i]? = some (ofInt s.age) := by
  obtain ⟨hne, hp', _, h2, h3, h4, _, _⟩ := fillFrom_spec solved ch0 p p' st h
  obtain ⟨top, rest, hs, hb⟩ := bests_getElem p.species hne i s hi
  refine ⟨top, rest, ?_, ?_, C10.sortOrgsDesc_head_fittest hw he s.orgs top rest hs, ?_, ?_, ?_⟩
  · rw [hp']
    simp only [List.getElem?_map, hi, Option.map_some, sortSpecies, hs]
  · exact (C10.sortOrgsDesc_perm s.orgs).mem_iff.mp (hs ▸ List.mem_cons_self ..)
  · rw [h3, List.getElem?_map, hb]; rfl
  · rw [h4, List.getElem?_map, hb]; rfl
  · rw [h2, List.getElem?_map, hi]; rfl

/-- **C19 (champion of a generation that is not marked solved).**  GUARD: some species-best fitness exceeds
    `float64(math.MinInt64)` (the initial value of the running maximum).  Then a champion is recorded; it is the best
    organism of species `k`, the FIRST species (in species order) whose best attains the maximal species-best fitness
    (every earlier species best is strictly smaller: strict `>`), an organism of the population, no species-best fitness
    exceeds its fitness, and - with the per-species clause - no organism of the population has a greater fitness. -/
theorem fill_champion (hw : C08.StrictWeak W) (he : C10.EqLaw W) (p p' : Pop W) (st : GenStats W)
    (h : fillPopulationStatistics p = .ok (st, p'))
    (hguard : ∃ f ∈ st.fitness, lt minInt64W f = true) :
    ∃ (k : Nat) (c : Org W) (s : Species W), st.champion = some c ∧ p.species[k]? = some s ∧ c ∈ s.orgs ∧
      ((p'.species[k]?).bind (fun s' => s'.orgs.head?)) = some c ∧ st.fitness[k]? = some c.fitness ∧
      (∀ f ∈ st.fitness, lt c.fitness f = false) ∧
      (∀ (j : Nat) (f : W), j < k → st.fitness[j]? = some f → lt f c.fitness = true) ∧
      (∀ s' ∈ p.species, ∀ x ∈ s'.orgs, lt c.fitness x.fitness = false) := by
  obtain ⟨hne, hp', _, _, h3, _, h5, h6⟩ := fillFrom_spec false none p p' st h
  rw [h3] at hguard ⊢
  rcases findLoop_first hw (bests p.species) minInt64W none with ⟨hall, _⟩ | ⟨k, c, hk, heq, _, hmax, hearly⟩
  · obtain ⟨f, hf, hlt⟩ := hguard
    obtain ⟨b, hb, rfl⟩ := List.mem_map.mp hf
    rw [hall b hb] at hlt; cases hlt
  · have hklt : k < p.species.length := h6 ▸ (List.getElem?_eq_some_iff.mp hk).1
    obtain ⟨s, hs⟩ : ∃ s, p.species[k]? = some s := ⟨_, List.getElem?_eq_getElem hklt⟩
    obtain ⟨top, rest, hsort, hb⟩ := bests_getElem p.species hne k s hs
    obtain rfl : c = top := Option.some.inj (hk.symm.trans hb)
    refine ⟨k, c, s, h5.trans heq, hs, ?_, ?_, ?_, List.forall_mem_map.mpr hmax, ?_, ?_⟩
    · exact (C10.sortOrgsDesc_perm s.orgs).mem_iff.mp (hsort ▸ List.mem_cons_self ..)
    · rw [hp']
      simp only [List.getElem?_map, hs, Option.map_some, sortSpecies, hsort, Option.bind_some, List.head?_cons]
    · rw [List.getElem?_map, hk]; rfl
    · intro j f hj hjf
      rw [List.getElem?_map, Option.map_eq_some_iff] at hjf
      obtain ⟨b, hbj, rfl⟩ := hjf
      exact hearly j b hj hbj
    · intro s' hs' x hx
      -- the best of species s' is not exceeded by x, and the champion is not exceeded by that best
      obtain ⟨i, hi⟩ := List.getElem?_of_mem hs'
      obtain ⟨t', r', hsort', hb'⟩ := bests_getElem p.species hne i s' hi
      have h1 := (C10.sortOrgsDesc_head_fittest hw he s'.orgs t' r' hsort' x hx).2
      have h2 := hmax t' (List.mem_of_getElem? hb')
      exact C10.lt_negTrans hw _ _ _ h2 h1

/-- **C19 (below the guard: observation).** If NO species-best fitness exceeds `float64(math.MinInt64)` - every
    organism's fitness is at or below -2^63 - a fresh generation record gets NO champion (`Champion` stays nil,
    `ChampionComplexity` is `math.MaxInt`), although Fitness / Age / Complexity are filled as usual. -/
theorem fill_no_champion_below_guard (p p' : Pop W) (st : GenStats W)
    (h : fillPopulationStatistics p = .ok (st, p'))
    (hbelow : ∀ f ∈ st.fitness, lt minInt64W f = false) :
    st.champion = none ∧ championComplexity st = maxInt := by
  obtain ⟨_, _, _, _, h3, _, h5, _⟩ := fillFrom_spec false none p p' st h
  rw [h3] at hbelow
  have hnone : st.champion = none := by
    rw [h5, if_neg Bool.false_ne_true, C10.findLoop_eq_keepBest, keepBest_of_none_better]
    exact fun t ht => Bool.eq_false_iff.mp (hbelow _ (List.mem_map_of_mem ht))
  exact ⟨hnone, by simp [championComplexity, hnone]⟩

/-- **C19 (solved generation).** When the record is already marked `Solved` the champion the evaluator stored is kept. -/
theorem fill_solved_keeps_champion (ch0 : Option (Org W)) (p p' : Pop W) (st : GenStats W)
    (h : fillFrom true ch0 p = .ok (st, p')) : st.champion = ch0 := by
  obtain ⟨_, _, _, _, _, _, h5, _⟩ := fillFrom_spec true ch0 p p' st h
  simpa using h5

/-- **C19 (the population after the call).** Nothing changes except the ORDER of each species' member list: the
    population record keeps every other field, the species list keeps its length and order, every species keeps every
    field but `orgs`, and the new member list is a permutation of the old one. -/
theorem fill_population (solved : Bool) (ch0 : Option (Org W)) (p p' : Pop W) (st : GenStats W)
    (h : fillFrom solved ch0 p = .ok (st, p')) :
    p' = { p with species := p'.species } ∧ p'.species.length = p.species.length ∧
    ∀ (i : Nat) (s : Species W), p.species[i]? = some s →
      ∃ s' : Species W, p'.species[i]? = some s' ∧ s' = { s with orgs := s'.orgs } ∧ s'.orgs.Perm s.orgs := by
  obtain ⟨_, hp', _⟩ := fillFrom_spec solved ch0 p p' st h
  subst hp'
  refine ⟨rfl, by simp, ?_⟩
  intro i s hi
  refine ⟨sortSpecies s, by simp [hi], rfl, C10.sortOrgsDesc_perm s.orgs⟩

/-- **C19 / C02 (recording a generation keeps the population invariant).** C02's invariants that do not depend on the
    ORDER inside a species survive `FillPopulationStatistics`: the allocation discipline (`UidInv`: every listed organism
    is in the population's organism list, ids below the counter), unique species ids not above `LastSpecies`
    (`SpIdInv`), no empty species, the same organism list, the same species ids / ages / novel flags in the same order;
    the species' member ids and genome ids are the same up to a permutation (so "each organism is listed by exactly
    one species" and "genome ids unique" are preserved).  Hence `NextEpoch` may follow (`C02.nextEpoch_popInv` needs
    `UidInv` and `SpIdInv` only).  The one order-SENSITIVE clause, `organisms = orgUids species`, becomes a permutation
    (`fill_breaks_listing_order` below shows that equality itself is lost - also in the Go code, harmlessly). -/
theorem fill_preserves_popInv (solved : Bool) (ch0 : Option (Org W)) (p p' : Pop W) (st : GenStats W)
    (h : fillFrom solved ch0 p = .ok (st, p')) (hu : C02.UidInv p) (hs : C02.SpIdInv p) :
    C02.UidInv p' ∧ C02.SpIdInv p' ∧ (∀ s ∈ p'.species, s.orgs ≠ []) ∧ p'.organisms = p.organisms ∧
    p'.species.map C02.skey = p.species.map C02.skey ∧
    (C02.orgUids p'.species).Perm (C02.orgUids p.species) ∧
    (C02.genomeIds p'.species).Perm (C02.genomeIds p.species) := by
  obtain ⟨hne, hp', _⟩ := fillFrom_spec solved ch0 p p' st h
  subst hp'
  -- the sort is a within-species permutation: all but the genome ids is what C02 proves of `SameShapePerm`
  have hsp : C02.SameShapePerm p { p with species := p.species.map sortSpecies } :=
    ⟨rfl, rfl, rfl, C02.forall₂_map_self sortSpecies (fun s => ⟨rfl, (C10.sortOrgsDesc_perm s.orgs).map _⟩) p.species⟩
  obtain ⟨hu', hs'⟩ := C02.sameShapePerm_inv _ _ hsp hu hs
  refine ⟨hu', hs', hsp.nonempty hne, rfl, hsp.skeys, hsp.uids, ?_⟩
  exact C02.forall₂_flatMap_perm (R := fun s s' : Species W => s'.orgs.Perm s.orgs) (fun _ _ hp => hp.map _)
    (C02.forall₂_map_self sortSpecies (fun s => C10.sortOrgsDesc_perm s.orgs) p.species)

/-- **C19 (`Generation.Average`).** The three values are the means (`Floats.Mean`: `none` = NaN for a population
    without species) of the recorded Fitness, Age and Complexity series - the `fMean` of Props/C19 (`mean_eq` in
    Props/C19Exact.lean: = Σ x / n in exact arithmetic) - and `Trial.Average` lists exactly these per generation. -/
theorem generationAverage_eq (solved : Bool) (g : GenStats W) (p' : Pop W) :
    generationAverage g = (Stats.fMean g.fitness, Stats.fMean g.age, Stats.fMean g.complexity) ∧
    Stats.average ⟨[toGen solved g p']⟩ = ([(generationAverage g).1], [(generationAverage g).2.1], [(generationAverage g).2.2]) :=
  ⟨rfl, rfl⟩

/-- **C19 (complexity).** The complexity of an organism whose genome `Genesis` accepts is the number of nodes plus the
    number of links of the expressed network: genome nodes + enabled modules + enabled genes + the module wires
    (C11's `genesis_counts`); `math.MaxInt` otherwise.  `ChampionComplexity` is the champion's complexity, `math.MaxInt`
    without a champion. -/
theorem complexity_spec (g : GenStats W) :
    (∀ (o : Org W) (net : Net W), Genesis.genesis o.genome o.genome.id = .ok net →
        organismComplexity o = ((Genesis.specNodeCount o.genome + Genesis.specLinkCount o.genome : Nat) : Int)) ∧
    (∀ (o : Org W) (e : Stop), Genesis.genesis o.genome o.genome.id = .error e → organismComplexity o = maxInt) ∧
    (g.champion = none → championComplexity g = maxInt) ∧
    (∀ c, g.champion = some c → championComplexity g = organismComplexity c) := by
  refine ⟨?_, ?_, ?_, ?_⟩
  · intro o net hnet
    have := (C11.genesis_counts o.genome o.genome.id net hnet).2.2
    simp only [organismComplexity, hnet, this]
  · intro o e he
    simp only [organismComplexity, he]
  · intro hc; simp [championComplexity, hc]
  · intro c hc; simp [championComplexity, hc]

/-- **C19 (what a trial reads).** Through a one-generation trial the record yields: Diversity = the number of species,
    the champion's fitness (0 without champion). -/
theorem trial_reads_record (solved : Bool) (g : GenStats W) (p' : Pop W) :
    Stats.diversity ⟨[toGen solved g p']⟩ = [ofInt (g.diversity : Int)] ∧
    Stats.championsFitness ⟨[toGen solved g p']⟩ = [match g.champion with | some c => c.fitness | none => zero] := by
  refine ⟨rfl, ?_⟩
  cases hc : g.champion <;> simp [Stats.championsFitness, toGen, hc]

section NonVacuity
open GoNeat.ExactInt
attribute [local instance] intScalar

def demoOrg (uid : Nat) (fit high : Int) : Org Int :=
  { uid := uid, fitness := fit, genome := C02.tinyG uid, expectedOffspring := 0, generation := 0, originalFitness := 0,
    highestFitness := high }

def demoSpecies (id age : Int) (orgs : List (Org Int)) : Species Int :=
  { id := id, age := age, maxFitnessEver := 0, expectedOffspring := 0, isNovel := false, orgs := orgs, ageOfLastImprovement := 0 }

/-- three species; the bests of species 2 and 3 tie at the maximum 7 (the FIRST must win); inside species 2 the
    fitness tie 7 = 7 is decided by the highest-fitness key; species 1 holds a negative value -/
def demoPop : Pop Int :=
  { species := [demoSpecies 1 3 [demoOrg 0 (-4) 0, demoOrg 1 5 0],
                demoSpecies 2 1 [demoOrg 2 7 1, demoOrg 3 2 0, demoOrg 4 7 9],
                demoSpecies 5 2 [demoOrg 5 7 0]],
    organisms := [0, 1, 2, 3, 4, 5], lastSpecies := 5, highestFitness := 0, epochsHighestLastChanged := 0,
    reg := { records := [], nextInn := 1, nextNode := 2 }, nextUid := 6 }

/-- the hypotheses of the theorems hold for `demoPop` (no empty species, guard, invariants), and the record is the
    expected one: Fitness 5,7,7; Age 3,1,2; Complexity 3 each (2 nodes + 1 link); champion = organism 4 (species 2, the
    first of the two species attaining 7; inside it the member with the greater highest fitness); lists re-sorted -/
example :
    (match fillPopulationStatistics demoPop with
     | .ok (st, p') =>
       st.diversity == 3 && st.fitness == [5, 7, 7] && st.age == [3, 1, 2] && st.complexity == [3, 3, 3] &&
       st.champion.map (·.uid) == some 4 && championComplexity st == 3 &&
       st.fitness.any (fun f => lt (minInt64W : Int) f) &&
       p'.species.map (fun s => s.orgs.map (·.uid)) == [[1, 0], [4, 2, 3], [5]] &&
       generationAverage st == (some 6, some 2, some 3)
     | .error _ => false) = true := by decide +kernel

example : C08.StrictWeak Int ∧ C10.EqLaw Int := C10.int_order_laws

example : C02.UidInv demoPop ∧ C02.SpIdInv demoPop ∧ demoPop.organisms = C02.orgUids demoPop.species :=
  ⟨⟨by decide, by decide⟩, ⟨by decide, by decide⟩, by decide⟩

/-- **observation: the listing order.** Before the call `organisms` is the concatenation of the species' member ids
    (C02's strongest form); after it the concatenation is only a permutation of `organisms` -/
theorem fill_breaks_listing_order :
    demoPop.organisms = C02.orgUids demoPop.species ∧
    (match fillPopulationStatistics demoPop with
     | .ok (_, p') => p'.organisms != C02.orgUids p'.species && (p'.organisms.isPerm (C02.orgUids p'.species))
     | .error _ => false) = true := ⟨by decide, by decide +kernel⟩

/-- every fitness at or below -2^63 = float64(math.MinInt64) -/
def lowPop : Pop Int :=
  { species := [demoSpecies 1 3 [demoOrg 0 (-9223372036854775808) 0, demoOrg 1 (-9223372036854775813) 0],
                demoSpecies 2 1 [demoOrg 2 (-9223372036854775809) 0]],
    organisms := [0, 1, 2], lastSpecies := 2, highestFitness := 0, epochsHighestLastChanged := 0,
    reg := { records := [], nextInn := 1, nextNode := 2 }, nextUid := 3 }

/-- **observation: below the guard.** With every fitness ≤ float64(math.MinInt64) the series are filled (species bests
    -2^63 and -2^63-1) but NO champion is recorded and `ChampionComplexity` answers `math.MaxInt`; a trial then reads
    champion fitness 0. -/
theorem fill_below_guard_example :
    (match fillPopulationStatistics lowPop with
     | .ok (st, p') =>
       st.fitness == [-9223372036854775808, -9223372036854775809] && st.champion.isNone &&
       championComplexity st == maxInt && !st.fitness.any (fun f => lt (minInt64W : Int) f) &&
       Stats.championsFitness ⟨[toGen false st p']⟩ == [0]
     | .error _ => false) = true := by decide +kernel

/-- an empty species makes the call stop (index panic) -/
example : (match fillPopulationStatistics { demoPop with species := demoSpecies 9 1 [] :: demoPop.species } with
           | .error (.error "panic:index") => true
           | _ => false) = true := by decide +kernel

end NonVacuity

end GoNeat.C19
