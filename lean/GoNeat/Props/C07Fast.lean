/-
  Property C07, fast method — the backward walk with the four-state excess/disjoint switch counts exactly the
  excess, disjoint and matching genes of the NEAT formula, hence the same counts as the linear method.
  Kind A: for all gene lists sorted by innovation number, of every length and shape.
-/
import GoNeat.Props.C07

namespace GoNeat.C07
open GoNeat Scalar
variable {W : Type} [Scalar W]

/-- strictly descending innovation numbers (the walk runs over the reversed lists) -/
def Desc (l : List Int) : Prop := l.Pairwise (· > ·)

/-- classification of the remaining genes once the walk is under way: `c` = "a gene of the OTHER genome has
    already been consumed" (all consumed genes are greater than every remaining one) -/
def excR (c : Bool) (others : List Int) (x : Int) : Bool := !c && !decide (x ∈ others) && others.all (fun y => decide (y < x))
def disR (c : Bool) (others : List Int) (x : Int) : Bool := !decide (x ∈ others) && (c || others.any (fun y => decide (x < y)))

/-- counts still to be added, given what was consumed of genome 1 (`c1`) and of genome 2 (`c2`) -/
def restCounts (c1 c2 : Bool) (xs ys : List Int) : Counts :=
  { excess := xs.countP (excR c2 ys) + ys.countP (excR c1 xs),
    disjoint := xs.countP (disR c2 ys) + ys.countP (disR c1 xs),
    matching := xs.countP (isMatch ys) }

/-- the switch encodes which genomes have had a gene consumed: 0 none, 1 only genome 1, 2 only genome 2, 3 both -/
def sw1 (sw : Nat) : Bool := sw == 1 || sw == 3
def sw2 (sw : Nat) : Bool := sw == 2 || sw == 3

theorem excR_false : excR false = isExcess := by funext o x; simp [excR, isExcess]
theorem disR_false : disR false = isDisjoint := by funext o x; simp [disR, isDisjoint]
theorem disR_true_nil (x : Int) : disR true [] x = true := by simp [disR]
theorem excR_true (o : List Int) (x : Int) : excR true o x = false := by simp [excR]

theorem restCounts_ff (xs ys : List Int) : restCounts false false xs ys = specCounts xs ys := by
  simp [restCounts, specCounts, excR_false, disR_false]

theorem desc_tail {x : Int} {xs : List Int} (h : Desc (x :: xs)) : Desc xs := (List.pairwise_cons.mp h).2
theorem desc_head_gt {x : Int} {xs : List Int} (h : Desc (x :: xs)) : ∀ y ∈ xs, y < x := (List.pairwise_cons.mp h).1

theorem desc_gt_all {x y : Int} {xs : List Int} (h : x < y) (hx : Desc (x :: xs)) : ∀ z ∈ x :: xs, z < y := by
  intro z hz
  rcases List.mem_cons.mp hz with rfl | hz'
  · exact h
  · exact Int.lt_trans (desc_head_gt hx z hz') h

theorem not_mem_of_all_gt (l : List Int) (k : Int) (h : ∀ z ∈ l, z < k) : k ∉ l :=
  fun hm => Int.lt_irrefl k (h k hm)

theorem rest_consume_other (c : Bool) (xs ys : List Int) (y : Int) (h : ∀ x ∈ xs, x < y) :
    xs.countP (excR c (y :: ys)) = 0 ∧ xs.countP (excR true ys) = 0 ∧
    xs.countP (disR c (y :: ys)) = xs.countP (disR true ys) ∧ xs.countP (isMatch (y :: ys)) = xs.countP (isMatch ys) := by
  refine ⟨?_, ?_, ?_, ?_⟩
  · rw [List.countP_eq_zero]; intro x hx
    have := h x hx
    have hnlt : ¬ y < x := by omega
    simp [excR, hnlt]
  · rw [List.countP_eq_zero]; intro x _; simp [excR]
  · apply countP_congr'; intro x hx
    have := h x hx
    have hne : x ≠ y := by omega
    simp [disR, hne, this]
  · apply countP_congr'; intro x hx
    have := h x hx
    have hne : x ≠ y := by omega
    simp [isMatch, hne]

theorem head_class_unmatched (c : Bool) (xs : List Int) (y : Int) (h : ∀ x ∈ xs, x < y) :
    excR c xs y = !c ∧ disR c xs y = c ∧ isMatch xs y = false := by
  have hnm : y ∉ xs := not_mem_of_all_gt xs y h
  refine ⟨?_, ?_, by simp [isMatch, hnm]⟩
  · simp only [excR, hnm, decide_false, Bool.not_false, Bool.and_true]
    have : xs.all (fun x => decide (x < y)) = true := by simpa using h
    simp [this]
  · simp only [disR, hnm, decide_false, Bool.not_false, Bool.true_and]
    have : xs.any (fun x => decide (y < x)) = false := by
      rw [List.any_eq_false]; intro x hx; have := h x hx; simp; omega
    simp [this]

/-! what remains to be counted, one step of the walk at a time: the larger head is consumed and classified by
    whether the other genome has had a gene consumed -/

theorem restCounts_consume_right (c1 c2 : Bool) (xs ys : List Int) (y : Int) (h : ∀ x ∈ xs, x < y) :
    restCounts c1 c2 xs (y :: ys) =
      (if c1 then { disjoint := 1 } else { excess := 1 } : Counts).add (restCounts c1 true xs ys) := by
  obtain ⟨e1, e2, e3, e4⟩ := rest_consume_other c2 xs ys y h
  obtain ⟨k1, k2, _⟩ := head_class_unmatched c1 xs y h
  simp only [restCounts, List.countP_cons, e1, e2, e3, e4, k1, k2]
  cases c1 <;> simp [Counts.add] <;> omega

theorem restCounts_consume_left (c1 c2 : Bool) (xs ys : List Int) (x : Int) (h : ∀ y ∈ ys, y < x) :
    restCounts c1 c2 (x :: xs) ys =
      (if c2 then { disjoint := 1 } else { excess := 1 } : Counts).add (restCounts true c2 xs ys) := by
  obtain ⟨e1, e2, e3, _⟩ := rest_consume_other c1 ys xs x h
  obtain ⟨k1, k2, k3⟩ := head_class_unmatched c2 ys x h
  simp only [restCounts, List.countP_cons, e1, e2, e3, k1, k2, k3]
  cases c2 <;> simp [Counts.add] <;> omega

theorem restCounts_match (c1 c2 : Bool) (xs ys : List Int) (x : Int) (hx : ∀ z ∈ xs, z < x) (hy : ∀ z ∈ ys, z < x) :
    restCounts c1 c2 (x :: xs) (x :: ys) = ({ matching := 1 } : Counts).add (restCounts true true xs ys) := by
  obtain ⟨e1, e2, e3, e4⟩ := rest_consume_other c2 xs ys x hx
  obtain ⟨f1, f2, f3, _⟩ := rest_consume_other c1 ys xs x hy
  simp only [restCounts, List.countP_cons, e1, e2, e3, e4, f1, f2, f3]
  simp [excR, disR, isMatch, Counts.add, Nat.add_comm]

theorem restCounts_nil_left (c2 : Bool) (ys : List Int) : restCounts true c2 [] ys = { disjoint := ys.length } := by
  simp [restCounts, excR_true, List.countP_eq_length.mpr (fun x _ => disR_true_nil x)]

theorem restCounts_nil_right (c1 : Bool) (xs : List Int) : restCounts c1 true xs [] = { disjoint := xs.length } := by
  simp [restCounts, excR_true, isMatch, List.countP_eq_length.mpr (fun x _ => disR_true_nil x)]

/-- the last remaining gene of genome 2 goes unmatched: disjoint if a gene of genome 1 was consumed before it, else excess -/
def skip2 (o : CompatOpts W) (a : FastAcc W) : FastAcc W :=
  { a with sw := if sw1 a.sw then 3 else 2,
           compat := add a.compat (if sw1 a.sw then o.disjointCoeff else o.excessCoeff),
           cnt := a.cnt.add (if sw1 a.sw then { disjoint := 1 } else { excess := 1 }) }

/-- the last remaining gene of genome 1 goes unmatched -/
def skip1 (o : CompatOpts W) (a : FastAcc W) : FastAcc W :=
  { a with sw := if sw2 a.sw then 3 else 1,
           compat := add a.compat (if sw2 a.sw then o.disjointCoeff else o.excessCoeff),
           cnt := a.cnt.add (if sw2 a.sw then { disjoint := 1 } else { excess := 1 }) }

/-- the last remaining genes of the two genomes match -/
def matched (x y : Gene W) (a : FastAcc W) : FastAcc W :=
  { a with sw := 3, mutDiff := add a.mutDiff (abs (sub x.mnum y.mnum)), numMatching := a.numMatching + 1,
           cnt := a.cnt.add { matching := 1 } }

theorem fastWalk_right {x y : Gene W} (xs ys : List (Gene W)) (o : CompatOpts W) (a : FastAcc W) (h : x.inn < y.inn) :
    fastWalk (x :: xs) (y :: ys) o a = fastWalk (x :: xs) ys o (skip2 o a) := by
  rw [fastWalk, if_pos h]
  congr 1
  obtain ⟨sw, c, m, n, cnt⟩ := a
  match sw with
  | 0 | 1 | 2 | 3 | _ + 4 => rfl

theorem fastWalk_both {x y : Gene W} (xs ys : List (Gene W)) (o : CompatOpts W) (a : FastAcc W) (h : x.inn = y.inn) :
    fastWalk (x :: xs) (y :: ys) o a = fastWalk xs ys o (matched x y a) := by
  rw [fastWalk, if_neg (by omega), if_pos h]
  rfl

theorem fastWalk_left {x y : Gene W} (xs ys : List (Gene W)) (o : CompatOpts W) (a : FastAcc W) (h : y.inn < x.inn) :
    fastWalk (x :: xs) (y :: ys) o a = fastWalk xs (y :: ys) o (skip1 o a) := by
  rw [fastWalk, if_neg (by omega), if_neg (by omega)]
  congr 1
  obtain ⟨sw, c, m, n, cnt⟩ := a
  match sw with
  | 0 | 1 | 2 | 3 | _ + 4 => rfl

/-- induction along a walk that compares the heads of two lists and consumes the larger one (both when equal) -/
theorem descWalk_induction {α : Type} (key : α → Int) {motive : List α → List α → Prop}
    (nil_left : ∀ ys, motive [] ys) (nil_right : ∀ x xs, motive (x :: xs) [])
    (right : ∀ x xs y ys, key x < key y → motive (x :: xs) ys → motive (x :: xs) (y :: ys))
    (both : ∀ x xs y ys, key x = key y → motive xs ys → motive (x :: xs) (y :: ys))
    (left : ∀ x xs y ys, key y < key x → motive xs (y :: ys) → motive (x :: xs) (y :: ys)) :
    ∀ xs ys, motive xs ys := by
  intro xs
  induction xs with
  | nil => exact nil_left
  | cons x xs ihx =>
    intro ys
    induction ys with
    | nil => exact nil_right x xs
    | cons y ys ihy =>
      rcases Int.lt_trichotomy (key x) (key y) with h | h | h
      · exact right x xs y ys h ihy
      · exact both x xs y ys h (ihx ys)
      · exact left x xs y ys h (ihx (y :: ys))

/-- the counts of the backward walk from any state of the switch (a value outside `0 … 3` behaves like `0`) -/
theorem fastWalk_counts (xs ys : List (Gene W)) (o : CompatOpts W) (a : FastAcc W)
    (hx : Desc (inns xs)) (hy : Desc (inns ys)) (h1 : sw1 a.sw = false → xs ≠ []) (h2 : sw2 a.sw = false → ys ≠ []) :
    (fastWalk xs ys o a).cnt = a.cnt.add (restCounts (sw1 a.sw) (sw2 a.sw) (inns xs) (inns ys)) := by
  induction xs, ys using descWalk_induction Gene.inn generalizing a with
  | nil_left ys =>
    have hc1 : sw1 a.sw = true := eq_true_of_ne_false fun hc => h1 hc rfl
    rw [hc1, inns_nil, restCounts_nil_left, fastWalk]
    simp [Counts.add, inns]
  | nil_right x xs =>
    have hc2 : sw2 a.sw = true := eq_true_of_ne_false fun hc => h2 hc rfl
    rw [hc2, inns_nil, restCounts_nil_right, fastWalk]
    simp [Counts.add, inns]
  | right x xs y ys hlt ih =>
    simp only [inns_cons] at hx hy ⊢
    have s1 : sw1 (skip2 o a).sw = sw1 a.sw := by unfold skip2; cases sw1 a.sw <;> rfl
    have s2 : sw2 (skip2 o a).sw = true := by unfold skip2; cases sw1 a.sw <;> rfl
    rw [fastWalk_right xs ys o a hlt, ih (skip2 o a) hx (desc_tail hy) (s1 ▸ h1) (by simp [s2]), s1, s2, inns_cons,
      restCounts_consume_right _ _ _ _ _ (desc_gt_all hlt hx)]
    exact Counts.add_assoc _ _ _
  | both x xs y ys heq ih =>
    simp only [inns_cons] at hx hy ⊢
    rw [fastWalk_both xs ys o a heq, ih (matched x y a) (desc_tail hx) (desc_tail hy) (by simp [matched, sw1]) (by simp [matched, sw2]),
      ← heq, restCounts_match _ _ _ _ _ (desc_head_gt hx) (heq ▸ desc_head_gt hy)]
    exact Counts.add_assoc _ _ _
  | left x xs y ys hlt ih =>
    simp only [inns_cons] at hx hy ⊢
    have s1 : sw1 (skip1 o a).sw = true := by unfold skip1; cases sw2 a.sw <;> rfl
    have s2 : sw2 (skip1 o a).sw = sw2 a.sw := by unfold skip1; cases sw2 a.sw <;> rfl
    rw [fastWalk_left xs ys o a hlt, ih (skip1 o a) (desc_tail hx) hy (by simp [s1]) (s2 ▸ h2), s1, s2, inns_cons,
      restCounts_consume_left _ _ _ _ _ (desc_gt_all hlt hy)]
    exact Counts.add_assoc _ _ _

/-- **C07, counting (fast method).** From any reachable state of the switch, for descending lists of every length, the
    backward walk adds exactly the excess, disjoint and matching counts that remain. -/
theorem fast_counts (xs ys : List (Gene W)) (o : CompatOpts W) (a : FastAcc W)
    (hx : Desc (inns xs)) (hy : Desc (inns ys)) (hsw : a.sw ≤ 3)
    (h1 : sw1 a.sw = false → xs ≠ []) (h2 : sw2 a.sw = false → ys ≠ []) :
    (fastWalk xs ys o a).cnt = a.cnt.add (restCounts (sw1 a.sw) (sw2 a.sw) (inns xs) (inns ys)) :=
  have _ := hsw
  fastWalk_counts xs ys o a hx hy h1 h2

theorem isExcess_reverse (ys : List Int) : isExcess ys.reverse = isExcess ys := by funext x; simp [isExcess]
theorem isDisjoint_reverse (ys : List Int) : isDisjoint ys.reverse = isDisjoint ys := by funext x; simp [isDisjoint]
theorem isMatch_reverse (ys : List Int) : isMatch ys.reverse = isMatch ys := by funext x; simp [isMatch]

theorem specCounts_reverse (a b : List Int) : specCounts a.reverse b.reverse = specCounts a b := by
  simp only [specCounts, isExcess_reverse, isDisjoint_reverse, isMatch_reverse, List.countP_reverse]

omit [Scalar W] in
theorem inns_reverse (l : List (Gene W)) : inns l.reverse = (inns l).reverse := List.map_reverse

omit [Scalar W] in
theorem desc_reverse_of_sorted {l : List (Gene W)} (h : GenesSorted l) : Desc (inns l.reverse) := by
  rw [inns_reverse]
  exact List.pairwise_reverse.mpr (asc_of_sorted h)

/-- **C07, counting (fast method, whole genomes).** For two non-empty genomes with genes sorted by innovation number
    the fast method counts exactly E, D and M of the NEAT formula. -/
theorem compatFast_counts (o : CompatOpts W) (g og : Genome W) (hg : GenesSorted g.genes) (ho : GenesSorted og.genes)
    (hg0 : g.genes ≠ []) (ho0 : og.genes ≠ []) :
    (compatFastAcc o g og).cnt = specCounts (inns g.genes) (inns og.genes) := by
  unfold compatFastAcc
  rw [fast_counts _ _ _ _ (desc_reverse_of_sorted hg) (desc_reverse_of_sorted ho) (by simp)
        (by intro _; simpa using hg0) (by intro _; simpa using ho0)]
  show ({} : Counts).add (restCounts false false _ _) = _
  rw [restCounts_ff, inns_reverse, inns_reverse, specCounts_reverse]
  simp [Counts.add]

/-- **C07 (the two methods count alike).** On sorted non-empty genomes the fast and the linear method count the
    same numbers of excess, disjoint and matching genes. -/
theorem fast_counts_eq_linear (o : CompatOpts W) (g og : Genome W) (hg : GenesSorted g.genes) (ho : GenesSorted og.genes)
    (hg0 : g.genes ≠ []) (ho0 : og.genes ≠ []) :
    (compatFastAcc o g og).cnt = (compatLinearAcc g og).cnt := by
  rw [compatFast_counts o g og hg ho hg0 ho0, compatLinear_counts g og hg ho]

/-- with no gene on one side the specification counts every gene of the other as excess - what `compatFast` charges
    in that case (`compatFast_nil_left`, `compatFast_nil_right`, Props/C07FastExact.lean) -/
theorem specCounts_nil_left (b : List Int) : specCounts [] b = { excess := b.length, disjoint := 0, matching := 0 } := by
  simp [specCounts, isExcess, isDisjoint]
theorem specCounts_nil_right (a : List Int) : specCounts a [] = { excess := a.length, disjoint := 0, matching := 0 } := by
  simp [specCounts, isExcess, isDisjoint, isMatch]

end GoNeat.C07
