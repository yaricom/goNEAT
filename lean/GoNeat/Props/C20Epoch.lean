/-
  Property C20 composed with C01 / C02 / C06: the experiment protocol over the REAL population steps.

  Model: `Model/ExperimentEpoch.lean` (`executeReal`): the two loops of `Experiment.Execute` running the model of
  `NewPopulation` (`spawn`) at the head of every trial and the model of `NextEpoch` (`nextEpoch`) after every
  unsolved generation, the raw random stream threaded through the whole run; the evaluator is an arbitrary function.

  (1) `executeReal_refines`   the observable output (events, recorded trials, error) of every run of `executeReal` is
                              the output of the scripted `execute` for the script read off the run, so every C20
                              theorem transfers (`executeReal_complete`, `executeReal_abort`, `executeReal_nodup`,
                              `executeReal_chronological`, `executeReal_check`).
  (2) `executeReal_evaluated_inv`   every population handed to the evaluator satisfies the C02 population invariant
                              (exactly `PopSize` organisms partitioned into non-empty species, consistent allocation,
                              unique species ids) and holds only well-formed genomes that retain the start genome's
                              interface (C01); generation 0 of every trial is handed the population `spawn` returned
                              (`executeReal_gen0_spawned`), which has the start genome's topology (`executeReal_gen0_topology`).
  (3) `executeReal_no_epoch_error`  under the hypotheses of `C02.nextEpoch_no_error` (option facts, float facts, quota
                              facts at the evaluated populations) no run ends with a spawn or epoch error.

  (2) and (3) are proved for evaluators that may also re-order the organisms inside each species (`C02.EvalOkPerm`, what
  every shipped evaluator does through `FillPopulationStatistics`: the `_perm` theorems); the statements for
  order-preserving evaluators (`C02.EvalOk`) are their instances.

  Kind A: every scalar type, every stream, every evaluator.  A finite stream may run out (`.error .outOfRandom`);
  all statements are about runs that return (`= .ok (out, rs')`), and `executeReal_never_error` excludes `.error (.error _)`.
-/
import GoNeat.Model.ExperimentEpoch
import GoNeat.Props.C20
import GoNeat.Props.C02Perm
import GoNeat.Props.C06Spawn

set_option linter.unusedSectionVars false

namespace GoNeat.C20
open GoNeat GoNeat.Experiment
variable {W : Type} [Scalar W]

structure CtlOf (s : Script) (c : Ctl) : Prop where
  observer : s.observer = c.observer
  execOk : s.execOk = c.execOk
  maxGen : s.maxGen = c.maxGen
  evalCancels : s.evalCancels = c.evalCancels
  startedCancels : s.startedCancels = c.startedCancels
  evaluatedCancels : s.evaluatedCancels = c.evaluatedCancels
  finishedCancels : s.finishedCancels = c.finishedCancels

/-- script `s` answers generations `g, g+1, …` of trial `t` as the log says -/
def GenMatches (s : Script) (t g : Nat) (l : List (GenLog W)) : Prop :=
  ∀ k gl, l[k]? = some gl → s.evalRes t (g + k) = gl.outcome ∧ s.epochFails t (g + k) = gl.epochFailed

/-- script `s` answers trials `t, t+1, …` as the log says -/
def TrialMatches (s : Script) (t : Nat) (l : List (TrialLog W)) : Prop :=
  ∀ k tl, l[k]? = some tl → s.spawnOk (t + k) = tl.spawnOk ∧ GenMatches s (t + k) 0 tl.gens

theorem GenMatches.head {s : Script} {t g : Nat} {gl : GenLog W} {l : List (GenLog W)} (h : GenMatches s t g (gl :: l)) :
    s.evalRes t g = gl.outcome ∧ s.epochFails t g = gl.epochFailed := by
  simpa using h 0 gl rfl

theorem GenMatches.tail {s : Script} {t g : Nat} {gl : GenLog W} {l : List (GenLog W)} (h : GenMatches s t g (gl :: l)) :
    GenMatches s t (g + 1) l := by
  intro k x hx
  have := h (k + 1) x (by simpa using hx)
  rwa [show g + (k + 1) = g + 1 + k by omega] at this

theorem TrialMatches.head {s : Script} {t : Nat} {tl : TrialLog W} {l : List (TrialLog W)} (h : TrialMatches s t (tl :: l)) :
    s.spawnOk t = tl.spawnOk ∧ GenMatches s t 0 tl.gens := by
  simpa using h 0 tl rfl

theorem TrialMatches.tail {s : Script} {t : Nat} {tl : TrialLog W} {l : List (TrialLog W)} (h : TrialMatches s t (tl :: l)) :
    TrialMatches s (t + 1) l := by
  intro k x hx
  have := h (k + 1) x (by simpa using hx)
  rwa [show t + (k + 1) = t + 1 + k by omega] at this

theorem obs_eq {s : Script} {c : Ctl} (hc : CtlOf s c) (e : Event) : obs s e = obsC c e := by
  simp [obs, obsC, hc.observer]

theorem genLoopR_refines (s : Script) (c : Ctl) (hc : CtlOf s c) (o : EpochOpts W) (eval : Nat → Nat → Pop W → EvalResult W)
    (t : Nat) (fuel g pe : Nat) (cn : Bool) (p : Pop W) (rs : List Nat) (r : GenOutR W) (rs' : List Nat)
    (h : genLoopR c o eval t fuel g pe cn p rs = .ok (r, rs')) (hm : GenMatches s t g r.log) :
    genLoop s t fuel g pe cn = ⟨r.events, r.gens, r.exit⟩ := by
  -- the cases of `genLoopR`: 1 no fuel left; 2 cancelled at the loop head; 3 the evaluator failed; 4 solved; 5 cancelled inside
  -- the evaluator (no turnover); 6 the stream ran out inside `nextEpoch`; 7 `nextEpoch` failed by an error of its own; 8 the
  -- stream ran out in a later generation; 9 turned over, next generation
  fun_induction genLoopR c o eval t fuel g pe cn p rs generalizing r rs' with
  | case1 => cases h; rfl
  | case2 => cases h; rfl
  | case3 fuel g pe cn p rs hcn =>
    cases h
    simp only [genLoop, hcn, Bool.false_eq_true, if_false, hm.head.1]
  | case4 fuel g pe cn p rs hcn =>
    cases h
    simp only [genLoop, hcn, Bool.false_eq_true, if_false, hm.head.1, obs_eq hc, hc.observer, hc.evalCancels, hc.evaluatedCancels]
    rfl
  | case5 fuel g pe cn p rs hcn c1 ev hout hc1 =>
    cases h
    have hc1 : c.evalCancels t g = true := hc1
    simp only [genLoop, hcn, Bool.false_eq_true, if_false, hm.head.1, hc.evalCancels, hc1, if_true]
  | case6 => cases h
  | case7 fuel g pe cn p rs hcn c1 ev hout hc1 =>
    cases h
    have hc1 : ¬ c.evalCancels t g = true := hc1
    simp only [genLoop, hcn, Bool.false_eq_true, if_false, hm.head.1, hm.head.2, hc.evalCancels, hc1, if_true]
  | case8 => cases h
  | case9 fuel g pe cn p rs hcn c1 ev hout hc1 p' rs1 hne r2 rs2 hrec ih =>
    cases h
    have hc1 : ¬ c.evalCancels t g = true := hc1
    have h2 := ih r2 rs2 hrec hm.tail
    simp only [genLoop, hcn, Bool.false_eq_true, if_false, hm.head.1, hm.head.2, hc.evalCancels, hc1, Bool.false_eq_true]
    rw [hc.observer, hc.evaluatedCancels, h2]
    simp only [obs_eq hc]

theorem trialLoopR_refines (s : Script) (c : Ctl) (hc : CtlOf s c) (o : EpochOpts W) (g0 : Genome W)
    (eval : Nat → Nat → Pop W → EvalResult W) (fuel t : Nat) (cn : Bool) (rs : List Nat) (r : RunOutR W) (rs' : List Nat)
    (h : trialLoopR c o g0 eval fuel t cn rs = .ok (r, rs')) (hm : TrialMatches s t r.log) :
    trialLoop s fuel t cn = ⟨r.events, r.trials, r.err⟩ := by
  -- the cases of `trialLoopR`: 1 no run left; 2 the stream ran out inside `spawn`; 3 `spawn` failed by an error of its own;
  -- 4 `Verify` failed; 5 unsupported executor; 6 the stream ran out inside the generation loop; 7 the generation loop ended the
  -- run with an error; 8 the stream ran out in a later trial; 9 trial completed, next trial
  fun_induction trialLoopR c o g0 eval fuel t cn rs generalizing r rs' with
  | case1 => cases h; rfl
  | case2 => cases h
  | case3 =>
    cases h
    simp [trialLoop, hm.head.1]
  | case4 =>
    cases h
    simp [trialLoop, hm.head.1]
  | case5 =>
    cases h
    have hx' : s.execOk = false := by rw [hc.execOk]; simpa using ‹(!c.execOk) = true›
    simp [trialLoop, hm.head.1, hx']
  | case6 => cases h
  | case7 =>
    cases h
    have hx' : s.execOk = true := by rw [hc.execOk]; simpa using ‹¬(!c.execOk) = true›
    have h1 := genLoopR_refines s c hc o eval _ _ _ _ _ _ _ _ _ ‹_› hm.head.2
    have he : _ = Except.error _ := ‹_›
    unfold trialLoop
    rw [hc.maxGen, hc.observer, hc.startedCancels, h1]
    simp [hm.head.1, hx', he, obs_eq hc]
  | case8 => cases h
  | case9 _ _ _ _ _ _ _ _ _ _ _ _ _ _ rest rs3 hrest ih =>
    cases h
    have hx' : s.execOk = true := by rw [hc.execOk]; simpa using ‹¬(!c.execOk) = true›
    have h1 := genLoopR_refines s c hc o eval _ _ _ _ _ _ _ _ _ ‹_› hm.head.2
    have he : _ = Except.ok _ := ‹_ = Except.ok (_ : Bool)›
    have h2 := ih rest rs3 hrest hm.tail
    unfold trialLoop
    rw [hc.maxGen, hc.observer, hc.startedCancels, h1]
    simp only [hm.head.1, hx', he, Bool.not_true, Bool.false_eq_true, if_false]
    rw [hc.finishedCancels, h2]
    simp only [obs_eq hc]

theorem ctlOf_induced (c : Ctl) (log : List (TrialLog W)) : CtlOf (inducedScript c log) c :=
  ⟨rfl, rfl, rfl, rfl, rfl, rfl, rfl⟩

theorem trialMatches_induced (c : Ctl) (log : List (TrialLog W)) : TrialMatches (inducedScript c log) 0 log := by
  intro k tl hk
  simp only [Nat.zero_add]
  refine ⟨by simp [inducedScript, hk], ?_⟩
  intro j gl hj
  simp [inducedScript, hk, hj]

theorem executeReal_ok {c : Ctl} {o : EpochOpts W} {g0 : Genome W} {eval : Nat → Nat → Pop W → EvalResult W}
    {rs rs' : List Nat} {out : RealOut W} (h : executeReal c o g0 eval rs = .ok (out, rs')) :
    (c.hasOptions = false ∧ out = ⟨[], ⟨[], some .noOptions⟩, []⟩) ∨
    (c.hasOptions = true ∧ ∃ r, trialLoopR c o g0 eval c.runs 0 c.preCancelled rs = .ok (r, rs') ∧
      out = ⟨r.events, ⟨r.trials, r.err⟩, r.log⟩) := by
  unfold executeReal at h
  split at h
  · next ho =>
    simp only [Except.ok.injEq, Prod.mk.injEq] at h
    exact .inl ⟨by simpa using ho, h.1.symm⟩
  · next ho =>
    split at h
    · cases h
    · next r rs1 hr =>
      simp only [Except.ok.injEq, Prod.mk.injEq] at h
      obtain ⟨rfl, rfl⟩ := h
      exact .inr ⟨by simpa using ho, r, hr, rfl⟩

/-- **C20 over the real population steps, (1) refinement.**  For every control part (runs, generations, observer,
    cancellation points), option setting, start genome, evaluator and stream: the events, recorded trials and returned
    error of a run of `executeReal` are exactly the output of the scripted model `execute` for the script read off the
    run (the evaluator's answers, whether `spawn` and `nextEpoch` succeeded). -/
theorem executeReal_refines (c : Ctl) (o : EpochOpts W) (g0 : Genome W) (eval : Nat → Nat → Pop W → EvalResult W)
    (rs rs' : List Nat) (out : RealOut W) (h : executeReal c o g0 eval rs = .ok (out, rs')) :
    execute (inducedScript c out.log) = (out.events, out.result) := by
  rcases executeReal_ok h with ⟨ho, rfl⟩ | ⟨ho, r, hr, rfl⟩
  · exact execute_no_options (s := inducedScript c ([] : List (TrialLog W))) ho
  · have h1 : trialLoop (inducedScript c r.log) (inducedScript c r.log).runs 0 (inducedScript c r.log).preCancelled =
        ⟨r.events, r.trials, r.err⟩ :=
      trialLoopR_refines (inducedScript c r.log) c (ctlOf_induced c r.log) o g0 eval c.runs 0 c.preCancelled
        rs r rs' hr (trialMatches_induced c r.log)
    rw [execute_of_options (s := inducedScript c r.log) ho, h1]

/-- every `.error` the generation loop returns is `outOfRandom` or the error of its recursive call: an error of
    `nextEpoch`'s own ends the loop with `.ok` and exit `epochFailed` -/
theorem genLoopR_never_error (c : Ctl) (o : EpochOpts W) (eval : Nat → Nat → Pop W → EvalResult W) (msg : String)
    (t fuel g pe : Nat) (cn : Bool) (p : Pop W) (rs : List Nat) :
    genLoopR c o eval t fuel g pe cn p rs ≠ .error (.error msg) := by
  fun_induction genLoopR c o eval t fuel g pe cn p rs
  -- the one branch that returns an error other than `outOfRandom`: that of the recursive call (cases numbered as in `genLoopR_refines`)
  case case8 hrec ih => intro h; cases h; exact ih hrec
  all_goals nofun

theorem trialLoopR_never_error (c : Ctl) (o : EpochOpts W) (g0 : Genome W) (eval : Nat → Nat → Pop W → EvalResult W)
    (msg : String) (fuel t : Nat) (cn : Bool) (rs : List Nat) :
    trialLoopR c o g0 eval fuel t cn rs ≠ .error (.error msg) := by
  fun_induction trialLoopR c o g0 eval fuel t cn rs
  -- the two branches that pass on an error: of the generation loop, of the recursive call (cases numbered as in `trialLoopR_refines`)
  case case6 hgen => intro h; cases h; exact genLoopR_never_error c o eval msg _ _ _ _ _ _ _ hgen
  case case8 hrest ih => intro h; cases h; exact ih hrest
  all_goals nofun

/-- a finite stream may run out; an error of `spawn` / `nextEpoch` is never passed on as a model error (it is the
    `Err` the run ends with) -/
theorem executeReal_never_error (c : Ctl) (o : EpochOpts W) (g0 : Genome W) (eval : Nat → Nat → Pop W → EvalResult W)
    (rs : List Nat) (msg : String) : executeReal c o g0 eval rs ≠ .error (.error msg) := by
  unfold executeReal
  split
  · simp
  · split
    · next e he =>
      intro h
      cases h
      exact trialLoopR_never_error c o g0 eval msg _ _ _ _ he
    · simp

section Transfer
variable (c : Ctl) (o : EpochOpts W) (g0 : Genome W) (eval : Nat → Nat → Pop W → EvalResult W)
  (rs rs' : List Nat) (out : RealOut W) (h : executeReal c o g0 eval rs = .ok (out, rs'))
include h

/-- the executable protocol specification holds of every run over the real population steps -/
theorem executeReal_check : Protocol.check (inducedScript c out.log) out.events out.result = true := by
  have := execute_check (inducedScript c out.log)
  rwa [executeReal_refines c o g0 eval rs rs' out h] at this

/-- **normal return**: a run over the real population steps that returns no error recorded exactly `runs` trials,
    trial `t` with generations `0 .. trialLen-1`, and its events are those of `runs` completed trials
    (`execute_complete` transferred) -/
theorem executeReal_complete (he : out.result.err = none) :
    out.result.trials = (List.range' 0 c.runs).map (expectedTrial (inducedScript c out.log)) ∧
    out.events = trialsEvents (inducedScript c out.log) 0 c.runs := by
  have := execute_complete (inducedScript c out.log)
  rw [executeReal_refines c o g0 eval rs rs' out h] at this
  exact this he

/-- **error return** (`execute_abort` transferred): `k < runs` completed trials, then the aborted trial, in which no
    event follows the failing evaluator call / the cancellation check -/
theorem executeReal_abort (ho : c.hasOptions = true) (e : Err) (he : out.result.err = some e) :
    ∃ k, k < c.runs ∧ out.result.trials = (List.range' 0 k).map (expectedTrial (inducedScript c out.log)) ∧
      ∃ tail, out.events = trialsEvents (inducedScript c out.log) 0 k ++ tail ∧ TrialAbort (inducedScript c out.log) k tail e := by
  have := execute_abort (inducedScript c out.log) ho e
  rw [executeReal_refines c o g0 eval rs rs' out h] at this
  exact this he

/-- **exactly once, in order** (`execute_chronological` transferred) -/
theorem executeReal_chronological : out.events.Pairwise (Before (inducedScript c out.log)) := by
  have := execute_chronological (inducedScript c out.log)
  rwa [executeReal_refines c o g0 eval rs rs' out h] at this

/-- **no duplicate notification, evaluation or turnover** (`execute_nodup` transferred) -/
theorem executeReal_nodup : out.events.Nodup := by
  have := execute_nodup (inducedScript c out.log)
  rwa [executeReal_refines c o g0 eval rs rs' out h] at this

/-- **the evaluator is never called once the context is cancelled** (`execute_cancel` transferred) -/
theorem executeReal_cancel :
    noEvalAfterCancel (inducedScript c out.log) out.events c.preCancelled = true ∧
    (out.result.err = some .cancelled → flagAfter (inducedScript c out.log) c.preCancelled out.events = true) := by
  have := execute_cancel (inducedScript c out.log)
  rwa [executeReal_refines c o g0 eval rs rs' out h] at this

end Transfer

/-! generic induction over both loops.
`I p rs`: invariant of (population handed to the evaluator, stream at that point); `V rs`: what is known of the stream
between trials; `Q`: what is assumed of every evaluated population of the log; `E`: what follows if `spawn` or
`nextEpoch` returns an error of its own. -/

section Generic
variable (c : Ctl) (o : EpochOpts W) (g0 : Genome W) (eval : Nat → Nat → Pop W → EvalResult W)
  (I : Pop W → List Nat → Prop) (V : List Nat → Prop) (Q : Pop W → Prop) (E : Prop)

theorem genLoopR_inv (hIV : ∀ p rs, I p rs → V rs)
    (hstep : ∀ t g p rs, I p rs → Q (eval t g p).pop →
      ((∃ msg, nextEpoch o (g : Int) (eval t g p).pop rs = .error (.error msg)) → E) ∧
      ∀ p' rs', nextEpoch o (g : Int) (eval t g p).pop rs = .ok (p', rs') → I p' rs')
    (t fuel g pe : Nat) (cn : Bool) (p : Pop W) (rs : List Nat) (r : GenOutR W) (rs' : List Nat)
    (hi : I p rs) (h : genLoopR c o eval t fuel g pe cn p rs = .ok (r, rs')) (hq : ∀ gl ∈ r.log, Q gl.after) :
    (∀ gl ∈ r.log, ∃ rs0, I gl.pop rs0) ∧ V rs' ∧ (r.exit = .error .epochFailed → E) ∧ r.exit ≠ .error .spawnFailed ∧
    (∀ gl, r.log.head? = some gl → gl.pop = p) := by
  -- a loop that ends in this generation logs the one population it was handed
  have hone : ∀ (p : Pop W) (rs : List Nat) (x : GenLog W), I p rs → x.pop = p →
      (∀ gl ∈ [x], ∃ rs0, I gl.pop rs0) ∧ (∀ gl, [x].head? = some gl → gl.pop = p) := by
    intro p rs x hi hx
    refine ⟨fun gl hgl => ?_, fun gl hgl => ?_⟩
    · simp only [List.mem_singleton] at hgl; subst hgl; exact ⟨rs, hx ▸ hi⟩
    · simp only [List.head?_cons, Option.some.injEq] at hgl; subst hgl; exact hx
  -- cases numbered as in `genLoopR_refines`: 3-5 and 7 end the loop in this generation, 9 is the step
  fun_induction genLoopR c o eval t fuel g pe cn p rs generalizing r rs' with
  | case1 => cases h; exact ⟨by simp, hIV _ _ hi, by simp, by simp, by simp⟩
  | case2 => cases h; exact ⟨by simp, hIV _ _ hi, by simp, by simp, by simp⟩
  | case3 | case4 | case5 =>
    cases h
    exact ⟨(hone _ _ _ hi rfl).1, hIV _ _ hi, by simp, by simp, (hone _ _ _ hi rfl).2⟩
  | case6 => cases h
  | case7 fuel g pe cn p rs _ _ _ _ _ msg hne =>
    cases h
    have hQ : Q (eval t g p).pop := hq _ List.mem_cons_self
    exact ⟨(hone _ _ _ hi rfl).1, hIV _ _ hi, fun _ => (hstep t g p rs hi hQ).1 ⟨msg, hne⟩, by simp, (hone _ _ _ hi rfl).2⟩
  | case8 => cases h
  | case9 fuel g pe cn p rs _ _ _ _ _ p' rs1 hne r2 rs2 hrec ih =>
    cases h
    have hQ : Q (eval t g p).pop := hq _ List.mem_cons_self
    have hi' := (hstep t g p rs hi hQ).2 p' rs1 hne
    obtain ⟨a1, a2, a3, a4, _⟩ := ih r2 rs2 hi' hrec (fun gl hgl => hq gl (List.mem_cons_of_mem _ hgl))
    refine ⟨fun gl hgl => ?_, a2, a3, a4, fun gl hgl => ?_⟩
    · rcases List.mem_cons.mp hgl with rfl | hgl
      · exact ⟨rs, hi⟩
      · exact a1 gl hgl
    · simp only [List.head?_cons, Option.some.injEq] at hgl; subst hgl; rfl

/-- what the induction over the trial loop shows of one entry of the log: every population handed to the evaluator
    satisfies `I`; a spawned population is what `spawn` returned and is the one generation 0 evaluates; without a
    spawned population nothing was evaluated -/
def TrialOk (tl : TrialLog W) : Prop :=
  (∀ gl ∈ tl.gens, ∃ rs0, I gl.pop rs0) ∧
  (∀ p, tl.spawned = some p → (∃ rs0 rs1, spawn o g0 rs0 = .ok (p, rs1)) ∧ ∀ gl, tl.gens.head? = some gl → gl.pop = p) ∧
  (tl.spawned = none → tl.gens = [])

theorem trialLoopR_inv (hIV : ∀ p rs, I p rs → V rs)
    (hstep : ∀ t g p rs, I p rs → Q (eval t g p).pop →
      ((∃ msg, nextEpoch o (g : Int) (eval t g p).pop rs = .error (.error msg)) → E) ∧
      ∀ p' rs', nextEpoch o (g : Int) (eval t g p).pop rs = .ok (p', rs') → I p' rs')
    (hspawn : ∀ rs, V rs → ((∃ msg, spawn o g0 rs = .error (.error msg)) → E) ∧
      ∀ p rs', spawn o g0 rs = .ok (p, rs') → I p rs')
    (fuel t : Nat) (cn : Bool) (rs : List Nat) (r : RunOutR W) (rs' : List Nat)
    (hv : V rs) (h : trialLoopR c o g0 eval fuel t cn rs = .ok (r, rs')) (hq : ∀ tl ∈ r.log, ∀ gl ∈ tl.gens, Q gl.after) :
    (∀ tl ∈ r.log, TrialOk o g0 I tl) ∧ (r.err = some .epochFailed → E) ∧
    (r.err = some .spawnFailed → E ∨ ∃ t, c.verifyOk t = false) := by
  -- a trial whose population `p` was spawned and whose generation loop (if it ran) gave `gens`
  have hone : ∀ (rs : List Nat) (p : Pop W) (rs1 : List Nat) (b : Bool) (gens : List (GenLog W)),
      spawn o g0 rs = .ok (p, rs1) → (∀ gl ∈ gens, ∃ rs0, I gl.pop rs0) → (∀ gl, gens.head? = some gl → gl.pop = p) →
      ∀ tl ∈ [(⟨some p, b, gens⟩ : TrialLog W)], TrialOk o g0 I tl := by
    intro rs p rs1 b gens hsp h1 h2 tl htl
    rw [List.mem_singleton.mp htl]
    refine ⟨h1, ?_, by simp⟩
    intro q hq'
    simp only [Option.some.injEq] at hq'; subst hq'
    exact ⟨⟨rs, rs1, hsp⟩, h2⟩
  -- cases numbered as in `trialLoopR_refines`: 3-5 end the run before the trial starts, 7 inside it, 9 is the step
  fun_induction trialLoopR c o g0 eval fuel t cn rs generalizing r rs' with
  | case1 => cases h; exact ⟨by simp, by simp, by simp⟩
  | case2 => cases h
  | case3 _ _ _ rs msg hsp =>
    cases h
    refine ⟨?_, by simp, fun _ => .inl ((hspawn rs hv).1 ⟨msg, hsp⟩)⟩
    intro tl htl
    rw [List.mem_singleton.mp htl]
    exact ⟨by simp, by simp, fun _ => rfl⟩
  | case4 _ t _ rs p rs1 hsp hver =>
    cases h
    exact ⟨hone rs p rs1 _ [] hsp (by simp) (by simp), by simp, fun _ => .inr ⟨t, by simpa using hver⟩⟩
  | case5 _ _ _ rs p rs1 hsp =>
    cases h
    exact ⟨hone rs p rs1 _ [] hsp (by simp) (by simp), by simp, by simp⟩
  | case6 => cases h
  | case7 _ t _ rs p rs1 hsp _ _ r1 rs2 hgen e he =>
    cases h
    obtain ⟨a1, _, a3, a4, a5⟩ := genLoopR_inv c o eval I V Q E hIV hstep t _ _ _ _ _ _ _ _ ((hspawn rs hv).2 p rs1 hsp) hgen
      (fun gl hgl => hq _ List.mem_cons_self gl hgl)
    refine ⟨hone rs p rs1 true r1.log hsp a1 a5, ?_, ?_⟩
    · intro h'; simp only [Option.some.injEq] at h'; subst h'; exact a3 he
    · intro h'; simp only [Option.some.injEq] at h'; subst h'; exact absurd he a4
  | case8 => cases h
  | case9 _ t _ rs p rs1 hsp _ _ r1 rs2 hgen c2 he rest rs3 hrest ih =>
    cases h
    obtain ⟨a1, a2, _, _, a5⟩ := genLoopR_inv c o eval I V Q E hIV hstep t _ _ _ _ _ _ _ _ ((hspawn rs hv).2 p rs1 hsp) hgen
      (fun gl hgl => hq _ List.mem_cons_self gl hgl)
    obtain ⟨b1, b2, b3⟩ := ih rest rs3 a2 hrest (fun tl htl => hq tl (List.mem_cons_of_mem _ htl))
    refine ⟨?_, b2, b3⟩
    intro tl htl
    rcases List.mem_cons.mp htl with rfl | htl
    · exact hone rs p rs1 true r1.log hsp a1 a5 _ List.mem_cons_self
    · exact b1 tl htl

end Generic

open GoNeat.C01 GoNeat.C02 GoNeat.NoErr Scalar

/-- what holds of every population handed to the evaluator: the C02 population invariant — consistent allocation,
    unique species ids not above `LastSpecies`, exactly `PopSize` organisms, each listed by exactly one species
    (the species lists are a duplicate-free rearrangement of `Organisms`), no empty species — and the C01 pool
    invariant of its genomes together with the start genome -/
structure EvalInv (o : EpochOpts W) (g0 : Genome W) (p : Pop W) : Prop where
  uid : UidInv p
  spid : SpIdInv p
  size : p.organisms.length = o.popSize
  perm : (orgUids p.species).Perm p.organisms
  nodup : p.organisms.Nodup
  nonempty : ∀ s ∈ p.species, s.orgs ≠ []
  pool : PoolOk p.reg ([g0] ++ genomesOfPop p)

/-- every genome of such a population is well-formed, retains the start genome's input/bias/output nodes, passes
    every error exit of `Genesis` and shares the start genome's first gene (as `C01.evolution_wf`) -/
theorem EvalInv.genomes {o : EpochOpts W} {g0 : Genome W} {p : Pop W} (h : EvalInv o g0 p) :
    ∀ x ∈ genomesOfPop p, WFT x ∧ Retains g0 x ∧ genesisErr x = none ∧ SharedHead x g0 := by
  intro x hx
  have f := h.pool x (List.mem_append_right _ hx)
  exact ⟨f.wft, retains_of_nodeLineage g0 x (f.nodes g0 (by simp)), genesis_ok x f.wft.wf, f.head g0 (by simp)⟩

theorem evalInv_spawn (o : EpochOpts W) (g0 : Genome W) (rs rs' : List Nat) (p : Pop W) (hw : WFT g0) (hm : g0.modules = [])
    (h : spawn o g0 rs = .ok (p, rs')) : EvalInv o g0 p :=
  have k := spawn_popOk o g0 rs rs' p hw hm h
  ⟨k.uid, k.spid, k.size, k.perm, k.nodup, k.nonempty, spawn_poolOk o g0 rs rs' p hw hm h⟩

theorem evalInv_step_perm (o : EpochOpts W) (g0 : Genome W) (gen : Int) (q q' p' : Pop W) (rs rs' : List Nat)
    (hi : EvalInv o g0 q) (he : EvalOkPerm q q') (h : nextEpoch o gen q' rs = .ok (p', rs')) : EvalInv o g0 p' := by
  obtain ⟨⟨a1, a2, a3, a4, _, _⟩, hu1, hs1⟩ := nextEpoch_popInv_perm o gen q q' p' rs rs' hi.uid hi.spid he.1 h
  exact ⟨hu1, hs1, a1, a3 ▸ List.Perm.refl _, a2, a4, nextEpoch_closed [g0] o gen q' p' rs rs' (pool_evalPerm hi.pool he) h⟩

section WeakPerm
variable (c : Ctl) (o : EpochOpts W) (g0 : Genome W) (eval : Nat → Nat → Pop W → EvalResult W)
  (hw : WFT g0) (hm : g0.modules = []) (hev : ∀ t g q, EvalOkPerm q (eval t g q).pop)
  (rs rs' : List Nat) (out : RealOut W) (h : executeReal c o g0 eval rs = .ok (out, rs'))
include hw hm hev h

theorem executeReal_weak_perm :
    (∀ tl ∈ out.log, ∀ gl ∈ tl.gens, EvalInv o g0 gl.pop) ∧
    (∀ tl ∈ out.log, ∀ p, tl.spawned = some p → (∃ rs0 rs1, spawn o g0 rs0 = .ok (p, rs1)) ∧
      ∀ gl, tl.gens.head? = some gl → gl.pop = p) ∧
    (∀ tl ∈ out.log, tl.spawned = none → tl.gens = []) := by
  rcases executeReal_ok h with ⟨_, rfl⟩ | ⟨_, r, hr, rfl⟩
  · exact ⟨by simp, by simp, by simp⟩
  · obtain ⟨a, _, _⟩ := trialLoopR_inv c o g0 eval (fun p _ => EvalInv o g0 p) (fun _ => True) (fun _ => True) True
      (fun _ _ _ => trivial)
      (fun t g p rs hi _ => ⟨fun _ => trivial, fun p' rs' he => evalInv_step_perm o g0 _ p _ p' rs rs' hi (hev t g p) he⟩)
      (fun rs _ => ⟨fun _ => trivial, fun p rs' he => evalInv_spawn o g0 rs rs' p hw hm he⟩)
      c.runs 0 c.preCancelled rs r rs' trivial hr (fun _ _ _ _ => trivial)
    exact ⟨fun tl htl gl hgl => ((a tl htl).1 gl hgl).elim (fun _ x => x), fun tl htl => (a tl htl).2.1,
      fun tl htl => (a tl htl).2.2⟩

/-- **C20 over the real population steps, (2) the invariant at every evaluation - evaluators may re-order inside the
    species.**  For every control part, option setting, well-formed non-modular start genome, stream, and every
    evaluator that touches no genome, not the registry, not `Organisms`, and moves no organism to another species
    (`EvalOkPerm`: it assigns fitness values and may re-order each species' organism list, as
    `Generation.FillPopulationStatistics` does): EVERY population handed to the evaluator - in every generation of every
    trial - satisfies the C02 population invariant (`EvalInv`) and all its genomes are well-formed (C01). -/
theorem executeReal_evaluated_inv_perm : ∀ tl ∈ out.log, ∀ gl ∈ tl.gens,
    EvalInv o g0 gl.pop ∧ ∀ x ∈ genomesOfPop gl.pop, WFT x ∧ Retains g0 x ∧ genesisErr x = none ∧ SharedHead x g0 :=
  fun tl htl gl hgl =>
    have k := (executeReal_weak_perm c o g0 eval hw hm hev rs rs' out h).1 tl htl gl hgl
    ⟨k, k.genomes⟩

/-- generation 0 of every trial is evaluated on the freshly spawned population (as `executeReal_gen0_spawned`) -/
theorem executeReal_gen0_spawned_perm : ∀ tl ∈ out.log, ∀ gl, tl.gens.head? = some gl →
    tl.spawned = some gl.pop ∧ ∃ rs0 rs1, spawn o g0 rs0 = .ok (gl.pop, rs1) := by
  intro tl htl gl hgl
  obtain ⟨_, a, b⟩ := executeReal_weak_perm c o g0 eval hw hm hev rs rs' out h
  cases hs : tl.spawned with
  | none => rw [b tl htl hs] at hgl; cases hgl
  | some p =>
    obtain ⟨hsp, hp⟩ := a tl htl p hs
    rw [hp gl hgl]; exact ⟨rfl, hsp⟩

/-- C06 applies to generation 0 (as `executeReal_gen0_topology`) -/
theorem executeReal_gen0_topology_perm : ∀ tl ∈ out.log, ∀ gl, tl.gens.head? = some gl →
    (∀ s ∈ gl.pop.species, ∀ m ∈ s.orgs, C06.SameTopology g0 m.genome) ∧
    ∃ orgs : List (Org W), orgs.length = o.popSize ∧
      orgs.map (·.genome.id) = (List.range o.popSize).map (fun (i : Nat) => (i : Int)) ∧
      (∀ x ∈ orgs, ∃ s ∈ gl.pop.species, x ∈ s.orgs) ∧ (∀ s ∈ gl.pop.species, ∀ m ∈ s.orgs, m ∈ orgs) := by
  intro tl htl gl hgl
  obtain ⟨_, rs0, rs1, hsp⟩ := executeReal_gen0_spawned_perm c o g0 eval hw hm hev rs rs' out h tl htl gl hgl
  exact C06.spawn_topology o g0 (refsOk_of_wft hw hm) gl.pop rs0 rs1 hsp

end WeakPerm

section Weak
variable (c : Ctl) (o : EpochOpts W) (g0 : Genome W) (eval : Nat → Nat → Pop W → EvalResult W)
  (hw : WFT g0) (hm : g0.modules = []) (hev : ∀ t g q, EvalOk q (eval t g q).pop)
  (rs rs' : List Nat) (out : RealOut W) (h : executeReal c o g0 eval rs = .ok (out, rs'))
include hw hm hev h

/-- **C20 over the real population steps, (2) the invariant at every evaluation.**  For every control part, option
    setting, well-formed non-modular start genome, stream, and every evaluator that touches no genome, not the
    registry and not which organisms sit where (`EvalOk`: it assigns fitness values and the like): EVERY population
    handed to the evaluator — in every generation of every trial — satisfies the C02 population invariant (`EvalInv`)
    and all its genomes are well-formed (C01).  No float fact is needed. -/
theorem executeReal_evaluated_inv : ∀ tl ∈ out.log, ∀ gl ∈ tl.gens,
    EvalInv o g0 gl.pop ∧ ∀ x ∈ genomesOfPop gl.pop, WFT x ∧ Retains g0 x ∧ genesisErr x = none ∧ SharedHead x g0 :=
  executeReal_evaluated_inv_perm c o g0 eval hw hm (fun t g q => (hev t g q).toPerm) rs rs' out h

/-- **generation 0 of every trial is evaluated on the freshly spawned population**: the population handed to the
    first evaluator call of a trial is what `spawn` returned from the start genome for some stream (the ghost
    field `spawned` holds it) — no trial inherits a population -/
theorem executeReal_gen0_spawned : ∀ tl ∈ out.log, ∀ gl, tl.gens.head? = some gl →
    tl.spawned = some gl.pop ∧ ∃ rs0 rs1, spawn o g0 rs0 = .ok (gl.pop, rs1) :=
  executeReal_gen0_spawned_perm c o g0 eval hw hm (fun t g q => (hev t g q).toPerm) rs rs' out h

/-- **C06 applies to generation 0**: every organism evaluated in generation 0 of a trial has exactly the start
    genome's traits, nodes and genes up to weights, and there are exactly `PopSize` of them, genome ids `0 … PopSize-1` -/
theorem executeReal_gen0_topology : ∀ tl ∈ out.log, ∀ gl, tl.gens.head? = some gl →
    (∀ s ∈ gl.pop.species, ∀ m ∈ s.orgs, C06.SameTopology g0 m.genome) ∧
    ∃ orgs : List (Org W), orgs.length = o.popSize ∧
      orgs.map (·.genome.id) = (List.range o.popSize).map (fun (i : Nat) => (i : Int)) ∧
      (∀ x ∈ orgs, ∃ s ∈ gl.pop.species, x ∈ s.orgs) ∧ (∀ s ∈ gl.pop.species, ∀ m ∈ s.orgs, m ∈ orgs) :=
  executeReal_gen0_topology_perm c o g0 eval hw hm (fun t g q => (hev t g q).toPerm) rs rs' out h

end Weak

theorem safe_spawnLoop (g : Genome W) (hw : WFT g) (hm : g.modules = []) :
    ∀ (n : Nat) (count : Int) (uid : Nat) (rs : List Nat), Safe (fun orgs => orgs.length = n) (spawnLoop g n count uid rs) := by
  intro n
  induction n with
  | zero => intro count uid rs; simp [spawnLoop, Safe]
  | succ n ih =>
    intro count uid rs
    unfold spawnLoop
    obtain ⟨d, hd, hde, _⟩ := duplicate_wf g count hw hm
    rw [hd]
    simp only
    have h1 := safe_mutateLinkWeights d one one .gaussian rs (by rw [hde]; exact hw.wf.hasGene)
    split
    · next e he => rw [he] at h1; exact h1.of_error
    · next d' rs1 he =>
      have h2 := ih (count + 1) (uid + 1) rs1
      split
      · next e he2 => rw [he2] at h2; exact h2.of_error
      · next rest rs2 hr =>
        rw [hr] at h2
        simp only [Safe] at h2 ⊢
        simp [h2]

/-- **`NewPopulation` never fails** on a well-formed non-modular start genome with `PopSize ≥ 1` and a non-zero
    compatibility threshold (running out of a finite stream aside) -/
theorem safe_spawn (o : EpochOpts W) (g0 : Genome W) (ho : OptsOk o) (hw : WFT g0) (hm : g0.modules = []) (rs : List Nat) :
    Safe (fun _ => True) (spawn o g0 rs) := by
  unfold spawn
  rw [if_neg (by have := ho.popSize; omega)]
  have h1 := safe_spawnLoop g0 hw hm o.popSize 0 0 rs
  split
  · next e he => rw [he] at h1; exact h1.of_error
  · next orgs rs1 he =>
    rw [he] at h1
    have hlen : orgs.length = o.popSize := h1
    split
    · next e hl =>
      exfalso
      unfold Genome.lastNodeId at hl
      split at hl
      · next hnone =>
        obtain ⟨n, hn, _⟩ := hw.wf.hasOutput
        rw [List.getLast?_eq_none_iff] at hnone
        rw [hnone] at hn; cases hn
      · cases hl
    · split
      · next e hl =>
        exfalso
        unfold Genome.nextGeneInnov at hl
        split at hl
        · next hnone =>
          rw [List.getLast?_eq_none_iff] at hnone
          exact hw.wf.hasGene hnone
        · cases hl
      · simp only
        have hne : orgs ≠ [] := by intro e; rw [e] at hlen; have := ho.popSize; simp at hlen; omega
        split
        · next e hs =>
          have h2 : ∀ p, SafeE (fun _ => True) (speciate o p orgs) := fun p => safe_speciate o p orgs hne ho.compat
          exact (hs ▸ h2 _ : SafeE (fun _ => True) (Except.error e : Except Stop (Pop W))).of_error
        · trivial

section StrongPerm
variable (hff : FloatFacts W) (c : Ctl) (o : EpochOpts W) (g0 : Genome W) (eval : Nat → Nat → Pop W → EvalResult W)
  (ho : OptsOk o) (hw : WFT g0) (hm : g0.modules = []) (hev : ∀ t g q, EvalOkPerm q (eval t g q).pop)
  (rs rs' : List Nat) (hv : Valid rs) (out : RealOut W) (h : executeReal c o g0 eval rs = .ok (out, rs'))
  (hq : ∀ tl ∈ out.log, ∀ gl ∈ tl.gens, QuotaOk o gl.after)
include hff ho hw hm hev hv h hq

theorem executeReal_strong_perm :
    (∀ tl ∈ out.log, ∀ gl ∈ tl.gens, PopOk (shape g0) o gl.pop) ∧ out.result.err ≠ some .epochFailed ∧
    (out.result.err = some .spawnFailed → ∃ t, c.verifyOk t = false) := by
  rcases executeReal_ok h with ⟨_, rfl⟩ | ⟨_, r, hr, rfl⟩
  · exact ⟨by simp, by simp, by simp⟩
  · obtain ⟨a1, a2, a3⟩ := trialLoopR_inv c o g0 eval (fun p rs => PopOk (shape g0) o p ∧ Valid rs) Valid (QuotaOk o) False
      (fun _ _ hi => hi.2)
      (fun t g p rs ⟨hp, hvr⟩ hQ =>
        have hyp : Hyp (shape g0) o (eval t g p).pop := ⟨ho, popOk_evalPerm _ o p _ hp (hev t g p), hQ⟩
        ⟨fun ⟨msg, hm'⟩ => nextEpoch_no_error hff _ o _ hyp _ rs hvr msg hm', fun p' rs' he =>
          ⟨nextEpoch_popOk hff _ o _ hyp _ rs rs' hvr p' he, (nextEpoch_det o _ _).valid hvr he⟩⟩)
      (fun rs hvr => ⟨fun ⟨msg, hm'⟩ => (safe_spawn o g0 ho hw hm rs).ne msg hm', fun p rs' he =>
        ⟨spawn_popOk o g0 rs rs' p hw hm he, (spawn_det o g0).valid hvr he⟩⟩)
      c.runs 0 c.preCancelled rs r rs' hv hr hq
    refine ⟨fun tl htl gl hgl => ((a1 tl htl).1 gl hgl).elim (fun _ x => x.1), fun e => a2 e, fun e => ?_⟩
    rcases a3 e with f | f
    · exact f.elim
    · exact f

/-- **C20 over the real population steps, (3) no spawn / epoch error - evaluators may re-order inside the species.**
    Under the hypotheses of `C02.nextEpoch_no_error` - `OptsOk`, the float facts, a stream of 63-bit values, the C09
    quota facts at every population the evaluator RETURNED in this run (so: at the re-ordered populations that really
    enter `NextEpoch`; decidable on the log) - with a well-formed non-modular start genome, an evaluator that assigns
    fitness values and may re-order the organisms inside each species (`EvalOkPerm`; e.g. one that calls
    `FillPopulationStatistics`: `evalOkPerm_fill`), and `Verify` succeeding: NO run ends with a spawn error or an epoch
    error, and every population handed to the evaluator satisfies `PopOk`. -/
theorem executeReal_no_epoch_error_perm (hver : ∀ t, c.verifyOk t = true) :
    out.result.err ≠ some .epochFailed ∧ out.result.err ≠ some .spawnFailed ∧
    ∀ tl ∈ out.log, ∀ gl ∈ tl.gens, PopOk (shape g0) o gl.pop := by
  obtain ⟨a, b, d⟩ := executeReal_strong_perm hff c o g0 eval ho hw hm hev rs rs' hv out h hq
  refine ⟨b, fun e => ?_, a⟩
  obtain ⟨t, ht⟩ := d e
  rw [hver t] at ht; cases ht

/-- **how a run can end** (as `executeReal_ends`), evaluators may re-order inside the species -/
theorem executeReal_ends_perm (hver : ∀ t, c.verifyOk t = true) (hopt : c.hasOptions = true) (hex : c.execOk = true) :
    (out.result.err = none ∧ out.result.trials.length = c.runs) ∨ out.result.err = some .cancelled ∨
    ∃ t g, out.result.err = some (.evalFailed t g) ∧ (inducedScript c out.log).evalRes t g = .fail := by
  obtain ⟨n1, n2, _⟩ := executeReal_no_epoch_error_perm hff c o g0 eval ho hw hm hev rs rs' hv out h hq hver
  cases he : out.result.err with
  | none =>
    have := (executeReal_complete c o g0 eval rs rs' out h he).1
    exact .inl ⟨rfl, by rw [this]; simp⟩
  | some e =>
    obtain ⟨k, _, _, tail, _, hab⟩ := executeReal_abort c o g0 eval rs rs' out h hopt e he
    rcases hab with ⟨rfl, _⟩ | ⟨_, hx, _⟩ | ⟨m, _, evs, hga, _⟩
    · exact absurd he n2
    · have : c.execOk = false := hx
      rw [hex] at this; cases this
    · rcases hga with ⟨rfl, _⟩ | ⟨rfl, hf, _⟩ | ⟨rfl, _⟩
      · exact .inr (.inl rfl)
      · exact .inr (.inr ⟨k, 0 + m, rfl, hf⟩)
      · exact absurd he n1

end StrongPerm

section Strong
variable (hff : FloatFacts W) (c : Ctl) (o : EpochOpts W) (g0 : Genome W) (eval : Nat → Nat → Pop W → EvalResult W)
  (ho : OptsOk o) (hw : WFT g0) (hm : g0.modules = []) (hev : ∀ t g q, EvalOk q (eval t g q).pop)
  (rs rs' : List Nat) (hv : Valid rs) (out : RealOut W) (h : executeReal c o g0 eval rs = .ok (out, rs'))
  (hq : ∀ tl ∈ out.log, ∀ gl ∈ tl.gens, QuotaOk o gl.after)
include hff ho hw hm hev hv h hq

/-- **C20 over the real population steps, (3) no spawn / epoch error.**  Under the hypotheses of
    `C02.nextEpoch_no_error` — the option facts `OptsOk`, the float facts, a stream of 63-bit values, the C09 quota
    facts at every population the evaluator returned in this run (what non-negative finite fitness values give in
    exact arithmetic; decidable on the log) — with a well-formed non-modular start genome, an evaluator that only
    assigns fitness values (`EvalOk`), and `Verify` succeeding: NO run ends with a spawn error or an epoch error, and
    every population handed to the evaluator satisfies the full hypothesis `PopOk` of the C02 no-error theorem. -/
theorem executeReal_no_epoch_error (hver : ∀ t, c.verifyOk t = true) :
    out.result.err ≠ some .epochFailed ∧ out.result.err ≠ some .spawnFailed ∧
    ∀ tl ∈ out.log, ∀ gl ∈ tl.gens, PopOk (shape g0) o gl.pop :=
  executeReal_no_epoch_error_perm hff c o g0 eval ho hw hm (fun t g q => (hev t g q).toPerm) rs rs' hv out h hq hver

/-- **how a run can end**: with options present, a supported executor type and the hypotheses above, a run of
    `Execute` over the real population steps ends in exactly one of three ways — all `runs` trials completed and
    recorded (nil), the context's error (cancellation), or the evaluator's own error for the generation it failed in -/
theorem executeReal_ends (hver : ∀ t, c.verifyOk t = true) (hopt : c.hasOptions = true) (hex : c.execOk = true) :
    (out.result.err = none ∧ out.result.trials.length = c.runs) ∨ out.result.err = some .cancelled ∨
    ∃ t g, out.result.err = some (.evalFailed t g) ∧ (inducedScript c out.log).evalRes t g = .fail :=
  executeReal_ends_perm hff c o g0 eval ho hw hm (fun t g q => (hev t g q).toPerm) rs rs' hv out h hq hver hopt hex

end Strong

theorem evalOk_fitnessEval (fit : Nat → Nat → Org W → W) (solved : Nat → Nat → Pop W → Bool) (t g : Nat) (q : Pop W) :
    EvalOk q (fitnessEval fit solved t g q).pop :=
  ⟨sameShape_mapOrgs (u := fun x => { x with fitness := fit t g x }) (fun _ => ⟨rfl, rfl⟩) q,
    fun _ hx => C01.genomesOfPop_mapOrgs (u := fun x => { x with fitness := fit t g x }) (fun _ => rfl) q ▸ hx, rfl⟩

/-! ### non-vacuity: a concrete run of 2 trials x 2 generations over the toy integer scalar satisfies every hypothesis

Three organisms spawned from the evolved genome `C01.ev1`; fitness by allocation id, trial and generation; trial 0
runs both generations unsolved (two turnovers), trial 1 is solved in its generation 0 (no turnover). -/
section NonVacuity
open GoNeat.ExactInt
attribute [local instance] intScalar

def exOpts : EpochOpts Int :=
  { popSize := 3, dropOffAge := 15, ageSignificance := 1, survivalThresh := 1, babiesStolen := 0, compatThreshold := 3,
    compat := ⟨1, 1, 1, false⟩, mutateOnlyProb := 100, mutateAddNodeProb := 100, mutateAddLinkProb := 0,
    mutateConnectSensors := 0, interspeciesMateRate := 0, mateMultipointProb := 0, mateMultipointAvgProb := 0,
    mateSinglepointProb := 0, mateOnlyProb := 0, mopts := C01.mo }

def exCtl : Ctl := { runs := 2, maxGen := 2, observer := true }

def exEval : Nat → Nat → Pop Int → EvalResult Int :=
  fitnessEval (fun t g x => 8 * (((x.uid % 3 : Nat) : Int) + 1) + t + g) (fun t g _ => t == 1 && g == 0)

def exStream : List Nat := List.replicate 300 2

def exRun : R (RealOut Int) := executeReal exCtl exOpts C01.ev1 exEval exStream

theorem floatFacts_int : FloatFacts Int := C02.floatFacts_int

theorem ev1_wft : WFT C01.ev1 := by decide

theorem exOpts_ok : OptsOk exOpts := by decide +kernel

theorem exStream_valid : Valid exStream := by
  intro x hx
  obtain ⟨_, rfl⟩ := List.mem_replicate.mp hx
  decide

/-- the run returns: its events, its result, and the quota facts hold at every evaluated population (kernel evaluation) -/
theorem exRun_view :
    (match exRun with
     | .ok (out, _) =>
       decide (out.events = [.started 0, .eval 0 0 0 0, .epoch 0 0, .evaluated 0 0, .eval 0 1 0 1, .epoch 0 1, .evaluated 0 1,
                             .finished 0, .started 1, .eval 1 0 1 0, .evaluated 1 0, .finished 1]) &&
       decide (out.result = ⟨[⟨0, [⟨0, 0, false⟩, ⟨1, 0, false⟩]⟩, ⟨1, [⟨0, 1, true⟩]⟩], none⟩) &&
       decide (∀ tl ∈ out.log, ∀ gl ∈ tl.gens, QuotaOk exOpts gl.after) &&
       decide (out.log.map (fun (tl : TrialLog Int) => tl.gens.map (fun (gl : GenLog Int) => gl.pop.organisms)) = [[[0, 1, 2], [3, 4, 5]], [[0, 1, 2]]])
     | .error _ => false) = true := by decide +kernel

/-- every hypothesis of `executeReal_ends` / `executeReal_no_epoch_error` / `executeReal_evaluated_inv` holds of this
    run, and the conclusions are instantiated: it completes both trials without error, and each of the three
    populations handed to the evaluator satisfies `PopOk` and `EvalInv` -/
example : ∃ out rs', exRun = .ok (out, rs') ∧ out.result.err = none ∧ out.result.trials.length = 2 ∧
    (out.log.map (fun (tl : TrialLog Int) => tl.gens.length)) = [2, 1] ∧
    (∀ tl ∈ out.log, ∀ gl ∈ tl.gens, PopOk (shape C01.ev1) exOpts gl.pop ∧ EvalInv exOpts C01.ev1 gl.pop) := by
  have hview := exRun_view
  cases hrun : exRun with
  | error e => rw [hrun] at hview; cases hview
  | ok v =>
    obtain ⟨out, rs'⟩ := v
    rw [hrun] at hview
    simp only [Bool.and_eq_true, decide_eq_true_eq] at hview
    obtain ⟨⟨⟨_, hres⟩, hq⟩, hlog⟩ := hview
    have hw := ev1_wft
    have hev : ∀ t g q, EvalOk q (exEval t g q).pop := fun t g q => evalOk_fitnessEval _ _ t g q
    have hopts := exOpts_ok
    have hvs := exStream_valid
    have hno := executeReal_no_epoch_error floatFacts_int exCtl exOpts C01.ev1 exEval hopts hw rfl hev exStream rs'
      hvs out hrun hq (fun _ => rfl)
    have hinv := executeReal_evaluated_inv exCtl exOpts C01.ev1 exEval hw rfl hev exStream rs' out hrun
    have _hends := executeReal_ends floatFacts_int exCtl exOpts C01.ev1 exEval hopts hw rfl hev exStream rs'
      hvs out hrun hq (fun _ => rfl) rfl rfl
    refine ⟨out, rs', rfl, by rw [hres], by rw [hres]; rfl, ?_, fun tl htl gl hgl => ⟨hno.2.2 tl htl gl hgl, (hinv tl htl gl hgl).1⟩⟩
    have := congrArg (List.map (fun l => l.length)) hlog
    simpa [List.map_map, Function.comp_def] using this

end NonVacuity

end GoNeat.C20
